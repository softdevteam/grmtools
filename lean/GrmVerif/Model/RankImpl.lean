import GrmVerif.Model.Recover
import GrmVerif.Model.Out
/-!
Faithful model of the POST-PROCESSING of `lrpar/src/lib/cpctplus.rs`: what `CPCTPlus::recover` does
with the success nodes of the search before it reports them:

* `collect_repairs` expands the merged nodes into explicit sequences and names the lexemes
  (`repair_to_parse_repair`, here `attach`); its output — one group of sequences per success node —
  is the INPUT of this model (`List (List Seq)`);
* `rank_cnds` (`rankCnds`): replay the FIRST sequence of every group with `apply_repairs`, parse on
  with `lr_upto` up to `in_laidx + TRY_PARSE_AT_MOST`, keep the groups that got furthest, flatten;
* `simplify_repairs` (`simplify`): pop trailing Shifts, deduplicate through a `HashSet`, sort by
  (contains an `%avoid_insert` Insert, length, content).

The parser table is a parameter (`Grammar`, `Automaton`, the token vector `w`); `Rec.feed` is the
run of reductions `lr_upto` performs under one lookahead. In `applyRepairs`/`lrUpto`/`rankCnds` panics
(`rpr_seqs[0]` on an empty group, `unwrap` of a missing goto, stack underflow) and fuel exhaustion are
both `none`; their refinements `applyRepairsO`/`lrUptoO`/`rankCndsO` (second half of the file) keep the
two apart (`Out.panic` / `Out.fuelOut`) — these are what `SearchImpl.recoverTail` runs, and
`Lemmas/RankOut.lean` shows that forgetting the difference gives back the former. The deadline
(`finish_by`: a timed-out `rank_cnds` reports no repairs at all) is not modelled. The order in which a
`HashSet` hands its elements back is an explicit parameter (`hs`). Core Lean only.
-/
namespace GrmVerif.RankImpl
open GrmVerif LR Rec

/-- `lrpar::ParseRepair`: Delete and Shift carry the lexeme they name — here its index in the input;
its span start (`l.span().start()`) is a parameter `start : Nat → Nat` of the functions below -/
inductive PRepair where
  | insert (t : Nat)
  | delete (lex : Nat)
  | shift (lex : Nat)
deriving Repr, DecidableEq, Inhabited

abbrev Seq := List PRepair

/-- forget the lexemes: the repair as the search (and `Model/Recover.lean`) sees it -/
def PRepair.erase : PRepair → Repair
  | .insert t => .insert t
  | .delete _ => .delete
  | .shift _ => .shift

/-- `repair_to_parse_repair`: name the lexemes, counting from `laidx` -/
def attach : Nat → List Repair → Seq
  | _, [] => []
  | la, .insert t :: rs => .insert t :: attach la rs
  | la, .delete :: rs => .delete la :: attach (la + 1) rs
  | la, .shift :: rs => .shift la :: attach (la + 1) rs

/-- the lexemes named by a sequence are the input lexemes from `la` on, in order (what `attach`
produces) -/
def WellLexed : Nat → Seq → Bool
  | _, [] => true
  | la, .insert _ :: rs => WellLexed la rs
  | la, .delete l :: rs => l == la && WellLexed (la + 1) rs
  | la, .shift l :: rs => l == la && WellLexed (la + 1) rs

/-! ### `simplify_repairs` -/

def isShift : PRepair → Bool
  | .shift _ => true
  | _ => false

/-- the `while` loop that pops Shifts from the end of one sequence -/
def stripTrailing (rs : Seq) : Seq :=
  (rs.reverse.dropWhile isShift).reverse

/-- remove duplicates, keeping the last occurrence of each element (one possible `HashSet` order) -/
def dedup {α : Type} [DecidableEq α] : List α → List α
  | [] => []
  | a :: l => if a ∈ dedup l then dedup l else a :: dedup l

/-- the closure `contains_avoid_insert` -/
def containsAvoidInsert (avoid : Nat → Bool) (rs : Seq) : Bool :=
  rs.any (fun r => match r with | .insert t => avoid t | _ => false)

/-- the closure `content_key`: `(u8, usize)` -/
def contentKey (start : Nat → Nat) : PRepair → Nat × Nat
  | .insert t => (0, t)
  | .delete l => (1, start l)
  | .shift l => (2, start l)

/-- `Ord` of the tuple `(u8, usize)` -/
def keyCmp (a b : Nat × Nat) : Ordering :=
  (compare a.1 b.1).then (compare a.2 b.2)

/-- `Iterator::cmp`: lexicographic; a proper prefix is smaller -/
def lexCmp : List (Nat × Nat) → List (Nat × Nat) → Ordering
  | [], [] => .eq
  | [], _ :: _ => .lt
  | _ :: _, [] => .gt
  | a :: as, b :: bs => (keyCmp a b).then (lexCmp as bs)

/-- the comparison closure handed to `sort_unstable_by` -/
def cmpSeq (avoid : Nat → Bool) (start : Nat → Nat) (x y : Seq) : Ordering :=
  let xc := containsAvoidInsert avoid x
  let yc := containsAvoidInsert avoid y
  if xc && !yc then .gt
  else if !xc && yc then .lt
  else (compare x.length y.length).then (lexCmp (x.map (contentKey start)) (y.map (contentKey start)))

/-- "`x` may stand before `y`": the closure does not answer `Greater` -/
def seqLe (avoid : Nat → Bool) (start : Nat → Nat) (x y : Seq) : Bool :=
  (cmpSeq avoid start x y).isLE

/-- insert into a sorted list, before the first element that may stand after `a` -/
def insertSeq (le : Seq → Seq → Bool) (a : Seq) : List Seq → List Seq
  | [] => [a]
  | b :: bs => if le a b then a :: b :: bs else b :: insertSeq le a bs

/-- `sort_unstable_by`: SOME sorting algorithm (here: insertion sort, structurally recursive so that
the kernel can evaluate it); whenever no two distinct elements compare `Equal` the result does not
depend on the algorithm (`C06.simplify_ranked`, last clause) -/
def sortSeqs (avoid : Nat → Bool) (start : Nat → Nat) (l : List Seq) : List Seq :=
  l.foldr (insertSeq (seqLe avoid start)) []

/-- `simplify_repairs`. `hs` is "collect into a `HashSet`, then drain it": the distinct elements in
whatever order the hasher produces (contract: `HashSetLike`). -/
def simplify (hs : List Seq → List Seq) (avoid : Nat → Bool) (start : Nat → Nat) (all : List Seq) : List Seq :=
  sortSeqs avoid start (hs (all.map stripTrailing))

/-- what `all_rprs.drain(..).collect::<HashSet<_>>()` followed by `hs.drain()` guarantees -/
def HashSetLike (hs : List Seq → List Seq) : Prop :=
  ∀ l, (hs l).Nodup ∧ ∀ x, x ∈ hs l ↔ x ∈ l

/-! ### `apply_repairs` and `lr_upto` without action/span stacks -/

/-- one iteration of the `for` loop of `apply_repairs`. An Insert runs `lr_upto(Some(lexeme), laidx,
laidx + 1, …)` and IGNORES the index it returns; a Shift runs `lr_upto(None, laidx, laidx + 1, …)`.
Neither fails when the table refuses the token: the reductions made so far stay on the stack.
Past the end-of-input position (reachable only through Deletes the search never makes) an Insert
panics in `next_lexeme` (`debug_assert!(laidx <= llen)`, `self.lexemes[laidx - 1]`) and a Shift does
nothing (the loop guard `laidx <= self.lexemes.len()`). -/
def applyOne (G : Grammar) (A : Automaton) (w : List Nat) (c : Pos) : PRepair → Option Pos
  | .insert t =>
    if c.pos > w.length then none
    else
      match feed G A t FUEL c.stack with
      | .shifted s => some ⟨s, c.pos⟩
      | .accept s => some ⟨s, c.pos⟩
      | .error s => some ⟨s, c.pos⟩
      | _ => none
  | .delete _ => some ⟨c.stack, c.pos + 1⟩
  | .shift _ =>
    if c.pos > w.length then some c
    else
      match feed G A (nextTok G w c.pos) FUEL c.stack with
      | .shifted s => some ⟨s, c.pos + 1⟩
      | .accept s => some ⟨s, c.pos⟩
      | .error s => some ⟨s, c.pos⟩
      | _ => none

/-- `apply_repairs` -/
def applyRepairs (G : Grammar) (A : Automaton) (w : List Nat) : Pos → Seq → Option Pos
  | c, [] => some c
  | c, r :: rs =>
    match applyOne G A w c r with
    | none => none
    | some c' => applyRepairs G A w c' rs

/-- `lr_upto(None, laidx, end_laidx, pstack, None, None)`: `while laidx != end_laidx && laidx <=
lexemes.len()`; stops at Accept and Error -/
def lrUpto (G : Grammar) (A : Automaton) (w : List Nat) (endIdx : Nat) : Nat → Pos → Option Pos
  | 0, _ => none
  | fuel + 1, c =>
    if c.pos == endIdx || c.pos > w.length then some c
    else
      match feed G A (nextTok G w c.pos) FUEL c.stack with
      | .shifted s => lrUpto G A w endIdx fuel ⟨s, c.pos + 1⟩
      | .accept s => some ⟨s, c.pos⟩
      | .error s => some ⟨s, c.pos⟩
      | _ => none

/-! ### `rank_cnds` -/

/-- how far one sequence lets parsing continue: the `laidx` `rank_cnds` computes for it -/
def reach (G : Grammar) (A : Automaton) (w : List Nat) (win : Nat) (start : Pos) (seq : Seq) : Option Nat :=
  match applyRepairs G A w start seq with
  | none => none
  | some c => (lrUpto G A w (start.pos + win) (w.length + 2) c).map (·.pos)

/-- `rank_cnds` looks at `rpr_seqs[0]` only (a panic on an empty group) -/
def groupReach (G : Grammar) (A : Automaton) (w : List Nat) (win : Nat) (start : Pos) : List Seq → Option Nat
  | [] => none
  | s :: _ => reach G A w win start s

/-- the first loop of `rank_cnds`: `cnds.push((pstack, laidx, rpr_seqs))` -/
def scoreCnds (G : Grammar) (A : Automaton) (w : List Nat) (win : Nat) (start : Pos) :
    List (List Seq) → Option (List (Nat × List Seq))
  | [] => some []
  | g :: gs =>
    match groupReach G A w win start g with
    | none => none
    | some d =>
      match scoreCnds G A w win start gs with
      | none => none
      | some r => some ((d, g) :: r)

/-- `let mut furthest = 0; … if laidx >= furthest { furthest = laidx; }` -/
def furthest (scored : List (Nat × List Seq)) : Nat :=
  scored.foldl (fun f p => if p.1 ≥ f then p.1 else f) 0

/-- `rank_cnds` -/
def rankCnds (G : Grammar) (A : Automaton) (w : List Nat) (win : Nat) (start : Pos)
    (cnds : List (List Seq)) : Option (List Seq) :=
  match scoreCnds G A w win start cnds with
  | none => none
  | some scored => some ((scored.filter (fun p => p.1 == furthest scored)).flatMap (·.2))

/-- the tail of `CPCTPlus::recover`: `rank_cnds`, then (unless nothing is left) `simplify_repairs` -/
def postProcess (hs : List Seq → List Seq) (avoid : Nat → Bool) (lexStart : Nat → Nat)
    (G : Grammar) (A : Automaton) (w : List Nat) (win : Nat) (start : Pos)
    (cnds : List (List Seq)) : Option (List Seq) :=
  match rankCnds G A w win start cnds with
  | none => none
  | some r => if r.isEmpty then some [] else some (simplify hs avoid lexStart r)

/-! ### the same functions with a PANIC of the real code kept apart from the MODEL's fuel

`feed … FUEL` answers `.crash` where `lr_upto` would panic (`pstack.last().unwrap()` on an empty stack,
the subtraction `pstack.len() - prod.len()` underflowing, `goto(..).unwrap()` on `None`) and `.fuelOut`
when more than `FUEL` reductions under one lookahead would be needed — the real loop would still be
running. `applyOne`/`lrUpto`/`rankCnds` above answer `none` in both cases; here the first is
`Out.panic`, the second `Out.fuelOut`. Nothing else differs (`Lemmas/RankOut.lean`:
`Out.toOption` of each function below is the function above). -/

open _root_.GrmVerif.SearchImpl (Out)

/-- `applyOne` with panic and fuel kept apart -/
def applyOneO (G : Grammar) (A : Automaton) (w : List Nat) (c : Pos) : PRepair → Out Pos
  | .insert t =>
    if c.pos > w.length then .panic
    else
      match feed G A t FUEL c.stack with
      | .shifted s => .ok ⟨s, c.pos⟩
      | .accept s => .ok ⟨s, c.pos⟩
      | .error s => .ok ⟨s, c.pos⟩
      | .crash => .panic
      | .fuelOut => .fuelOut
  | .delete _ => .ok ⟨c.stack, c.pos + 1⟩
  | .shift _ =>
    if c.pos > w.length then .ok c
    else
      match feed G A (nextTok G w c.pos) FUEL c.stack with
      | .shifted s => .ok ⟨s, c.pos + 1⟩
      | .accept s => .ok ⟨s, c.pos⟩
      | .error s => .ok ⟨s, c.pos⟩
      | .crash => .panic
      | .fuelOut => .fuelOut

/-- `apply_repairs` -/
def applyRepairsO (G : Grammar) (A : Automaton) (w : List Nat) : Pos → Seq → Out Pos
  | c, [] => .ok c
  | c, r :: rs =>
    match applyOneO G A w c r with
    | .ok c' => applyRepairsO G A w c' rs
    | .panic => .panic
    | .fuelOut => .fuelOut

/-- `lr_upto(None, laidx, end_laidx, pstack, None, None)`; the loop fuel running out is `.fuelOut` -/
def lrUptoO (G : Grammar) (A : Automaton) (w : List Nat) (endIdx : Nat) : Nat → Pos → Out Pos
  | 0, _ => .fuelOut
  | fuel + 1, c =>
    if c.pos == endIdx || c.pos > w.length then .ok c
    else
      match feed G A (nextTok G w c.pos) FUEL c.stack with
      | .shifted s => lrUptoO G A w endIdx fuel ⟨s, c.pos + 1⟩
      | .accept s => .ok ⟨s, c.pos⟩
      | .error s => .ok ⟨s, c.pos⟩
      | .crash => .panic
      | .fuelOut => .fuelOut

def reachO (G : Grammar) (A : Automaton) (w : List Nat) (win : Nat) (start : Pos) (seq : Seq) : Out Nat :=
  match applyRepairsO G A w start seq with
  | .ok c => (lrUptoO G A w (start.pos + win) (w.length + 2) c).map (·.pos)
  | .panic => .panic
  | .fuelOut => .fuelOut

/-- `rank_cnds` looks at `rpr_seqs[0]` only: an empty group is an index-out-of-range PANIC -/
def groupReachO (G : Grammar) (A : Automaton) (w : List Nat) (win : Nat) (start : Pos) : List Seq → Out Nat
  | [] => .panic
  | s :: _ => reachO G A w win start s

/-- the first loop of `rank_cnds`, group by group in order: the first group that panics (or exhausts
the model's fuel) decides -/
def scoreCndsO (G : Grammar) (A : Automaton) (w : List Nat) (win : Nat) (start : Pos) :
    List (List Seq) → Out (List (Nat × List Seq))
  | [] => .ok []
  | g :: gs =>
    match groupReachO G A w win start g with
    | .panic => .panic
    | .fuelOut => .fuelOut
    | .ok d =>
      match scoreCndsO G A w win start gs with
      | .panic => .panic
      | .fuelOut => .fuelOut
      | .ok r => .ok ((d, g) :: r)

/-- `rank_cnds` -/
def rankCndsO (G : Grammar) (A : Automaton) (w : List Nat) (win : Nat) (start : Pos)
    (cnds : List (List Seq)) : Out (List Seq) :=
  (scoreCndsO G A w win start cnds).map
    (fun scored => (scored.filter (fun p => p.1 == furthest scored)).flatMap (·.2))

end GrmVerif.RankImpl
