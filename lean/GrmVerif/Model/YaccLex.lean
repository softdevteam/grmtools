/-
Model of the lexical helpers of `YaccParser` in `cfgrammar/src/lib/yacc/parser.rs`:
`parse_ws`, `parse_to_eol`, `parse_to_single_colon`, `parse_int`, `parse_string`, `parse_action`,
`lookahead_is`.

The Rust functions take a BYTE offset `i` into `self.src` and return a new byte offset. Here a text
is a `List Char`; every function is given the SUFFIX of the text that starts at `i` and returns the
number of BYTES it consumed (a sum of `Char.utf8Size`) together with the suffix that remains, so
`newpos = i + consumed`. The offset of an error is relative to the start of the suffix passed in
(the Rust code reports `i + that`). `self.num_newlines += 1` is modelled by returning the number of
increments.

`parseWs` is the code AFTER the repair of the block-comment loop: in the loop that looks for `*/`, the
`'\n' | '\r'` arm `continue`s after counting the line (before the repair it fell through to the
"is the next character `/`" test, so `"\n/"` inside a comment closed it). Everything else is as in the
source. Core Lean only.
-/
namespace GrmVerif.YaccLex

inductive Err
  | reachedEOL | incompleteComment | invalidString | illegalInteger | incompleteAction
deriving DecidableEq, Repr

/-- length in bytes of the UTF-8 encoding -/
def byteLen : List Char → Nat
  | [] => 0
  | c :: cs => c.utf8Size + byteLen cs

/-- `' ' | '\t'` -/
def isBlank (c : Char) : Bool := c == ' ' || c == '\t'

/-- `'\n' | '\r'` -/
def isEol (c : Char) : Bool := c == '\n' || c == '\r'

/-- the result of a skipping function: `(bytes consumed, newlines counted, rest)` or
`(error kind, byte offset)` -/
abbrev WsRes := Except (Err × Nat) (Nat × Nat × List Char)

/-- account for `k` bytes and `m` counted newlines in front of what `r` describes -/
def shiftRes (k m : Nat) : WsRes → WsRes
  | .ok (n, nl, r) => .ok (k + n, m + nl, r)
  | .error (e, p) => .error (e, k + p)

/-- the `for c in self.src[i..].chars()` loop after `//`: up to and INCLUDING the first `\n`/`\r`
(or to the end of the text) -> `(bytes, newlines counted (0 or 1), rest)` -/
def lineScan : List Char → Nat × Nat × List Char
  | [] => (0, 0, [])
  | c :: cs =>
    if isEol c then (c.utf8Size, 1, cs)
    else (c.utf8Size + (lineScan cs).1, (lineScan cs).2.1, (lineScan cs).2.2)

/-- outcome of looking for `*/` -/
inductive BlockRes
  /-- end of text reached (`found == false`) -/
  | unterminated
  /-- a line terminator met while `inc_newlines == false` -/
  | eol
  /-- `*/` found: bytes up to and including it, newlines counted, what follows it -/
  | closed (n nl : Nat) (rest : List Char)
deriving DecidableEq, Repr

def BlockRes.shift (k m : Nat) : BlockRes → BlockRes
  | .closed n nl r => .closed (k + n) (m + nl) r
  | .unterminated => .unterminated
  | .eol => .eol

/-- `if k < len { if next char == '/' ...` -/
def afterSlash : List Char → Option (List Char)
  | [] => none
  | d :: rest => if d = '/' then some rest else none

/-- the `while k < self.src.len()` loop after `/*` (REPAIRED: the line-terminator arm `continue`s).
Only a `*` reaches the test for a following `/`; when that test fails the character after the `*` is
not consumed, it is read by the next iteration (so `**/` closes). -/
def blockScan (inc : Bool) : List Char → BlockRes
  | [] => .unterminated
  | c :: cs =>
    if isEol c then
      if inc then (blockScan inc cs).shift c.utf8Size 1 else .eol
    else if c = '*' then
      match afterSlash cs with
      | some rest => .closed 2 0 rest
      | none => (blockScan inc cs).shift c.utf8Size 0
    else (blockScan inc cs).shift c.utf8Size 0

theorem lineScan_length (s : List Char) : (lineScan s).2.2.length ≤ s.length := by
  induction s with
  | nil => simp [lineScan]
  | cons c cs ih =>
    simp only [lineScan]
    split
    · simp
    · simp only [List.length_cons]; omega

theorem BlockRes.shift_closed {k m : Nat} {r : BlockRes} {n nl : Nat} {rest : List Char}
    (h : r.shift k m = .closed n nl rest) :
    ∃ n' nl', r = .closed n' nl' rest ∧ n = k + n' ∧ nl = m + nl' := by
  cases r with
  | unterminated => exact nomatch h
  | eol => exact nomatch h
  | closed a b r =>
    obtain ⟨h1, h2, h3⟩ := BlockRes.closed.inj h
    exact ⟨a, b, h3 ▸ rfl, h1.symm, h2.symm⟩

theorem afterSlash_some {s rest : List Char} (h : afterSlash s = some rest) : s = '/' :: rest := by
  cases s with
  | nil => simp [afterSlash] at h
  | cons d ds =>
    simp only [afterSlash] at h
    split at h
    · simp only [Option.some.injEq] at h; subst h; simp [*]
    · simp at h

theorem blockScan_length (inc : Bool) (s : List Char) {n nl : Nat} {rest : List Char}
    (h : blockScan inc s = .closed n nl rest) : rest.length < s.length := by
  induction s generalizing n nl with
  | nil => exact nomatch h
  | cons c cs ih =>
    have step : ∀ {k m}, (blockScan inc cs).shift k m = .closed n nl rest →
        rest.length < (c :: cs).length := fun h' =>
      let ⟨_, _, h'', _⟩ := BlockRes.shift_closed h'
      Nat.lt_succ_of_lt (ih h'')
    rw [blockScan] at h
    split at h
    · split at h
      · exact step h
      · exact nomatch h
    · split at h
      · split at h
        · next r hr =>
          rw [afterSlash_some hr, ← (BlockRes.closed.inj h).2.2]
          exact Nat.lt_succ_of_lt (Nat.lt_succ_self _)
        · exact step h
      · exact step h

/-- `parse_ws(i, inc_newlines)` on the suffix `s` starting at `i`:
`.ok (consumed bytes, newlines counted, rest)` or `.error (kind, offset relative to s)`. -/
def parseWs (inc : Bool) (s : List Char) : WsRes :=
  match s with
  | [] => .ok (0, 0, [])
  | c :: cs =>
    if isBlank c then shiftRes c.utf8Size 0 (parseWs inc cs)
    else if isEol c then
      if inc then shiftRes c.utf8Size 1 (parseWs inc cs) else .error (.reachedEOL, 0)
    else if c = '/' then
      match cs with
      | [] => .ok (0, 0, c :: cs)                       -- `/` is the last character: `break`
      | d :: ds =>
        if d = '/' then
          shiftRes (2 + (lineScan ds).1) (lineScan ds).2.1 (parseWs inc (lineScan ds).2.2)
        else if d = '*' then
          match h : blockScan inc ds with
          | .unterminated => .error (.incompleteComment, 0)   -- `mk_error(IncompleteComment, i)`
          | .eol => .error (.reachedEOL, 0)                   -- `mk_error(ReachedEOL, i)`, `i` = the `/`
          | .closed n nl rest => shiftRes (2 + n) nl (parseWs inc rest)
        else .ok (0, 0, c :: cs)                        -- `_ => break`
    else .ok (0, 0, c :: cs)                            -- `_ => break`
termination_by s.length
decreasing_by
  · simp only [List.length_cons]; omega
  · simp only [List.length_cons]; omega
  · have := lineScan_length ds; simp only [List.length_cons]; omega
  · have := blockScan_length inc ds h; simp only [List.length_cons]; omega

/-- `parse_to_eol`: up to but excluding the first `\n`/`\r` -> `(bytes, text taken, rest)` -/
def parseToEol : List Char → Nat × List Char × List Char
  | [] => (0, [], [])
  | c :: cs =>
    if isEol c then (0, [], c :: cs)
    else (c.utf8Size + (parseToEol cs).1, c :: (parseToEol cs).2.1, (parseToEol cs).2.2)

/-- `parse_to_single_colon`: up to but excluding the first `:` that is not followed by `:`; `::` is
skipped as a pair. `.ok (bytes, newlines counted, text taken (the Rust code trims it), rest)` with
`rest` starting at the colon. NOTE: in spite of the doc comment ("Errors if EOL encountered") a line
terminator is counted and skipped; `ReachedEOL` is only reported at the END OF THE TEXT. -/
def parseToSingleColon : List Char → Except (Err × Nat) (Nat × Nat × List Char × List Char)
  | [] => .error (.reachedEOL, 0)
  | c :: cs =>
    if c = ':' then
      match cs with
      | [] => .ok (0, 0, [], c :: cs)
      | d :: ds =>
        if d = ':' then
          match parseToSingleColon ds with
          | .ok (n, nl, t, r) => .ok (2 + n, nl, c :: d :: t, r)
          | .error (e, p) => .error (e, 2 + p)
        else .ok (0, 0, [], c :: cs)
    else
      match parseToSingleColon cs with
      | .ok (n, nl, t, r) => .ok (c.utf8Size + n, (if isEol c then 1 else 0) + nl, c :: t, r)
      | .error (e, p) => .error (e, c.utf8Size + p)

/-- the value of a run of ASCII digits -/
def digitsVal (ds : List Char) : Nat := ds.foldl (fun a c => 10 * a + (c.toNat - 48)) 0

/-- `parse_int`: the maximal run of `'0'..'9'` -> `(bytes, value, rest)`; an empty run is
`IllegalInteger` at 0. NOTE: `str::parse::<T>` also fails when the value does not fit `T` (reported
as `IllegalInteger` at 0 too); the model uses unbounded naturals and ignores that. -/
def parseInt (s : List Char) : Except (Err × Nat) (Nat × Nat × List Char) :=
  let ds := s.takeWhile Char.isDigit
  if ds.isEmpty then .error (.illegalInteger, 0)
  else .ok (ds.length, digitsVal ds, s.dropWhile Char.isDigit)

def shiftStr (k : Nat) (c : Char) :
    Except Nat (Nat × List Char × List Char) → Except Nat (Nat × List Char × List Char)
  | .ok (n, v, r) => .ok (k + n, c :: v, r)
  | .error p => .error (k + p)

/-- the `while` loop of `parse_string` after the opening quote `qc`:
`.ok (bytes up to and including the closing quote, value, rest)` or the offset of the error -/
def strScan (qc : Char) : List Char → Except Nat (Nat × List Char × List Char)
  | [] => .error 0                                 -- no closing quote: error at the end of the text
  | c :: cs =>
    if isEol c then .error 0
    else if c = qc then .ok (1, [], cs)
    else if c = '\\' then
      match cs with
      | [] => .error 0
      | d :: ds =>
        -- either quote may be escaped, whichever opened the string; the backslash is dropped
        if d = '\'' ∨ d = '"' then shiftStr 2 d (strScan qc ds) else .error 0
    else shiftStr c.utf8Size c (strScan qc cs)

/-- `parse_string` -> `(bytes incl. both quotes, value, rest)` -/
def parseString (s : List Char) : Except (Err × Nat) (Nat × List Char × List Char) :=
  match s with
  | [] => .error (.invalidString, 0)
  | q :: cs =>
    if q = '\'' ∨ q = '"' then
      match strScan q cs with
      | .ok (n, v, r) => .ok (1 + n, v, r)
      | .error p => .error (.invalidString, 1 + p)
    else .error (.invalidString, 0)

def shiftAct (c : Char) :
    Option (Nat × Nat × List Char × List Char) → Option (Nat × Nat × List Char × List Char)
  | some (n, nl, t, r) => some (c.utf8Size + n, (if isEol c then 1 else 0) + nl, c :: t, r)
  | none => none

/-- the loop of `parse_action` after the first `{`, with `c ≥ 1` open braces:
`(bytes before the matching '}', newlines, text before it, rest after it)`; `none` = end of text -/
def actScan : Nat → List Char → Option (Nat × Nat × List Char × List Char)
  | _, [] => none
  | c, ch :: cs =>
    if ch = '{' then shiftAct ch (actScan (c + 1) cs)
    else if ch = '}' then
      if c = 1 then some (0, 0, [], cs) else shiftAct ch (actScan (c - 1) cs)
    else shiftAct ch (actScan c cs)

/-- `parse_action` (the text starts with `{`, as `debug_assert`ed) ->
`(bytes incl. both braces, newlines counted, text between the outer braces UNtrimmed, rest)`.
Braces inside string or character literals or comments of the action code are counted too. -/
def parseAction (s : List Char) : Except (Err × Nat) (Nat × Nat × List Char × List Char) :=
  match s with
  | [] => .error (.incompleteAction, 0)             -- excluded by the precondition
  | b :: cs =>
    if b = '{' then
      match actScan 1 cs with
      | some (n, nl, t, r) => .ok (1 + n + 1, nl, t, r)
      | none => .error (.incompleteAction, 0)
    else .error (.incompleteAction, 0)              -- excluded by the precondition

/-- `lookahead_is(p, i)`: bytes of `p` and the rest if the text starts with `p` -/
def lookaheadIs : List Char → List Char → Option (Nat × List Char)
  | [], s => some (0, s)
  | _ :: _, [] => none
  | a :: p, c :: s =>
    if a = c then
      match lookaheadIs p s with
      | some (n, r) => some (a.utf8Size + n, r)
      | none => none
    else none

end GrmVerif.YaccLex
