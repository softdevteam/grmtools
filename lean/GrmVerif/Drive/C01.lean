import GrmVerif.Model.Cert
import GrmVerif.Model.CertLA
import GrmVerif.Model.Recog
import GrmVerif.Model.Term
import GrmVerif.Drive.Util
import GrmVerif.Model.LR
/-!
Driver for C01 (and the shared part of C04). Request: `<grammar> <automaton> ninputs (len tok…)*
ninputs×accepted` (`accepted`: 1 the implementation accepted, 0 rejected, 2 not parsed because the
plain LR loop does not terminate on this table and input).
Reply: `V` verdict of the validator `Cert.check`; one `M k …` line per input from the LR driver model;
`V fail sentence-rejected …` when a conflict-free table's parser rejected an input that the (sound)
bounded recogniser derives from the start rule; `V fail termination-certificate-fails state=… below=…
lookahead=… loop-after=… top=… period=…` when a conflict-free table without precedence-resolved cells
fails the termination certificate `Term.termCheckAdj` at a pair whose local run provably loops
(`Term.findCycle`; `C01.cert_cycle_parse_diverges`); `C termination_…` counters otherwise.
-/
namespace GrmVerif.Drive.C01
open GrmVerif GrmVerif.Drive GrmVerif.LR GrmVerif.Ref

partial def treeToks : Tree → List String
  | .leaf t i => [s!"L {t} {i}"]
  | .node p kids => s!"N {p} {kids.length}" :: kids.flatMap treeToks

def outcomeStr : Outcome → String
  | .accept t => "acc " ++ " ".intercalate (treeToks t)
  | .error i s => s!"err {i} {s}"
  | .crash n => s!"crash {n}"
  | .fuelOut => "div"

def parseInputs : Nat → List Nat → Option (List (List Nat) × List Nat)
  | 0, rest => some ([], rest)
  | n + 1, rest =>
    match takeList rest with
    | none => none
    | some (w, rest') =>
      match parseInputs n rest' with
      | none => none
      | some (ws, r) => some (w :: ws, r)

structure Parsed where
  G : Grammar
  A : Automaton
  inputs : List (List Nat)
  accepted : List Nat

def parseReq (args : List Nat) : Option Parsed := do
  let (G, rest) ← parseGrammar args
  let (A, rest) ← parseAutomaton G rest
  match rest with
  | n :: rest =>
    let (inputs, rest) ← parseInputs n rest
    some ⟨G, A, inputs, rest.take n⟩
  | [] => none

/-- some cell had both a shift edge and a reduction candidate but no reported shift/reduce
conflict, or several reduction candidates… i.e. precedence/associativity decided it silently -/
def precResolved (G : Grammar) (A : Automaton) : Bool :=
  (List.range A.nstates).any (fun s => (List.range G.ntoks).any (fun t =>
    let cands := (A.closed s).filter (fun i => i.dot ≥ (G.rhs i.p).length && i.la.contains t)
    !cands.isEmpty && (A.edge s (.tok t)).isSome && !A.sr.any (fun c => c.1 == t && c.2.2 == s)))

/-- fuel of the termination certificate: linear in the table, generous (the longest local run seen on
a certified table of the generators is far below it) -/
def termFuel (G : Grammar) (A : Automaton) : Nat := 4 * (A.nstates + G.nrules) + 40

/-- `(lookahead, state, below)` of a failing local run and, if `Term.findCycle` finds one, the loop
`(reductions before it, states of the top part that recurs, period)`. A run that only fails because it is long (no cycle within the
search) is looked at again with 64 times the fuel. -/
def termFailure (G : Grammar) (A : Automaton) : Option ((Nat × Nat × Option Nat) × Option (Nat × Nat × Nat)) × Bool :=
  let cyc := fun (t : Nat × Nat × Option Nat) =>
    Term.findCycle G A t.1 (4 * termFuel G A) (4 * termFuel G A) 0
      (match t.2.2 with | some b => [t.2.1, b] | none => [t.2.1])
  match Term.failAdj G A (termFuel G A) with
  | none => (none, false)
  | some t1 =>
    match cyc t1 with
    | some c => (some (t1, some c), false)
    | none =>
      match Term.failAdj G A (64 * termFuel G A) with
      | none => (none, true)
      | some t2 => (some (t2, cyc t2), false)

/-- verdict lines and counter lines of the termination certificate. `strict`: the table is
conflict-free and no cell was settled by precedence — then a pair whose local run provably cycles
(`C01.cert_cycle_feed_diverges_partial`: `feed` never ends on a real stack) is a defect of the table;
for other tables (Yacc-resolved conflicts may legitimately loop: known finding under C07) and for
failures without a cycle witness it is only counted. -/
def termVerdict (G : Grammar) (A : Automaton) (strict : Bool) : List String × List String :=
  match termFailure G A with
  | (none, false) => ([], ["C termination_certified 1"])
  | (none, true) => ([], ["C termination_certified 1", "C termination_certified_with_64x_fuel 1"])
  | (some ((la, s, below), cyc), _) =>
    if !strict then
      ([], ["C termination_not_certified_table_with_conflicts 1"] ++
        (if cyc.isSome then ["C termination_cycle_table_with_conflicts 1"] else []))
    else
      let belowOk := match below with | some b => (Term.reachable A).contains b | none => true
      let belowStr := match below with | some b => toString b | none => "none"
      match cyc with
      | some (pre, m, k) =>
        if belowOk then
          ([s!"V fail termination-certificate-fails state={s} below={belowStr} lookahead={la} loop-after={pre} top={m} period={k}"],
            ["C termination_not_certified_conflict_free_table 1"])
        else ([], ["C termination_not_certified_conflict_free_table 1", "C termination_cycle_below_unreachable_state 1"])
      | none => ([], ["C termination_not_certified_conflict_free_table 1", "C termination_failure_without_cycle_witness 1"])

def fuelFor (A : Automaton) (w : List Nat) : Nat := 400 * (w.length + 2)

def handle (args : List Nat) : String :=
  match parseReq args with
  | none => "bad-request"
  | some P =>
    let bad := Cert.failing P.G P.A
    let v1 := if bad.isEmpty then [] else [s!"V fail cert clauses={bad}"]
    let ms := (List.range P.inputs.length).map (fun k =>
      let w := P.inputs.getD k []
      s!"M {k} {outcomeStr (parse P.G P.A w (fuelFor P.A w))}")
    let conflictFree := P.A.rr.isEmpty && P.A.sr.isEmpty
    let maxRhs := (P.G.prods.map (fun pr => pr.2.length)).foldl max 0
    let v2 := if !conflictFree then [] else
      (List.range P.inputs.length).filterMap (fun k =>
        let w := P.inputs.getD k []
        if P.accepted.getD k 1 == 0 && w.length ≤ 6 &&
            recogSym P.G (fun _ => true) (P.G.nrules * (maxRhs + 2) + 2 * w.length + 4) (.rule P.G.startRule) w
        then some (if precResolved P.G P.A
              then s!"V fail sentence-rejected-precedence-resolved input={w}"
              else s!"V fail sentence-rejected input={w}") else none)
    -- lookahead half + table completeness: demanded when construction reported no conflict and no
    -- cell was settled silently by precedence
    let v3 := if !conflictFree || precResolved P.G P.A then [] else
      match Ref.analyses P.G with
      | none => ["V fail analyses: fuel exhausted"]
      | some An =>
        let badLA := Cert.failingLA P.G P.A (An.nullable.contains ·) (An.first.contains ·)
        if badLA.isEmpty then [] else [s!"V fail certLA clauses={badLA}"]
    let vs := v1 ++ v3 ++ v2
    -- termination certificate over adjacent pairs (premise of `C01.lr_terminates`)
    let term := termVerdict P.G P.A (conflictFree && !precResolved P.G P.A)
    "\n".intercalate ((let vs := vs ++ term.1; if vs.isEmpty then ["V ok"] else vs) ++ ms ++ term.2)

end GrmVerif.Drive.C01
