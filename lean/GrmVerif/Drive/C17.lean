import GrmVerif.Model.AnalysesRef
import GrmVerif.Model.FirstsFollowsImpl
import GrmVerif.Model.CostsImpl
import GrmVerif.Lemmas.MinSentenceSpec
import GrmVerif.Model.Recog
import GrmVerif.Drive.Util
/-!
Driver for C17. Request: `<grammar> ntoks×cost nrules×mincost nrules×maxcost nrules×minsent nrules×minsents`
(answers of the implementation; 70001 = did not return, 70002 = panicked, 70003 = `None`).
Reply: `S eps … first … follow … path …` from the verified reference analyses (compared for equality
with the implementation's `I` line), `Mf eps … first … follow …` from the faithful models of
`YaccFirsts::new` / `YaccFollows::new` (`Model/FirstsFollowsImpl.lean`, run with the fuel that
`firsts_impl_exact` / `follows_impl_exact` prove sufficient; compared with the implementation's `If`
line), `Mc path … mincost … maxcost … minsent … minsents …` from the faithful models of `has_path`,
`rule_min_costs`, `rule_max_costs`, `min_sentence` and `min_sentences` (`Model/CostsImpl.lean`,
`Model/MinSentencesImpl.lean`; compared with the implementation's `Ic` line), and `V` verdicts on the cost
answers. Every `V fail` is backed by a
verified certificate (`min_cost_exact`, `max_cost_upper_bound`, `recog_sound`); only the *acceptance*
of a `None` maximal cost rests on the unproved growth analysis below.
-/
namespace GrmVerif.Drive.C17
open GrmVerif GrmVerif.Ref GrmVerif.Drive GrmVerif.Fix

def bitsOf (l : List Bool) : String := String.ofList (l.map (fun b => if b then '1' else '0'))

def HUNG := 70001
def PANIC := 70002
def NONE := 70003
/-- sentence query skipped by the harness because the implementation itself says the rule derives
no sentence (min cost `u16::MAX`) -/
def SKIPPED := 70004

/-- `nrules ×` sentence answers: `70001 | 70002 | 0 len tok…` -/
def parseSents : Nat → List Nat → Option (List (Sum Nat (List Nat)) × List Nat)
  | 0, rest => some ([], rest)
  | n + 1, 0 :: rest =>
    match takeList rest with
    | none => none
    | some (w, rest') =>
      match parseSents n rest' with
      | none => none
      | some (ws, r) => some (.inr w :: ws, r)
  | n + 1, c :: rest =>
    match parseSents n rest with
    | none => none
    | some (ws, r) => some (.inl c :: ws, r)
  | _, [] => none

def parseMany : Nat → List Nat → Option (List (List Nat) × List Nat)
  | 0, rest => some ([], rest)
  | n + 1, rest =>
    match takeList rest with
    | none => none
    | some (w, rest') =>
      match parseMany n rest' with
      | none => none
      | some (ws, r) => some (w :: ws, r)

/-- `nrules ×` sentence-set answers: `70001 | 70002 | 0 count (len tok…)*` -/
def parseSentSets : Nat → List Nat → Option (List (Sum Nat (List (List Nat))) × List Nat)
  | 0, rest => some ([], rest)
  | n + 1, 0 :: k :: rest =>
    match parseMany k rest with
    | none => none
    | some (ws, rest') =>
      match parseSentSets n rest' with
      | none => none
      | some (xs, r) => some (.inr ws :: xs, r)
  | n + 1, c :: rest =>
    match parseSentSets n rest with
    | none => none
    | some (xs, r) => some (.inl c :: xs, r)
  | _, [] => none

def costOf (tc : Nat → Nat) (w : List Nat) : Nat := (w.map tc).sum

/-! ### growth analysis for "unbounded" (reference only, not proved) -/

def posSet (G : Grammar) (tc : Nat → Nat) (prodv : Nat → Bool) : List Nat :=
  (lfp (List.range G.nrules) (posDerive G tc prodv) (G.nrules + 1) []).getD []

def symPos (tc : Nat → Nat) (pos : Nat → Bool) : Sym → Bool
  | .tok t => tc t > 0
  | .rule q => pos q

/-- rule symbols of usable production `p` with whether the rest of the production can grow -/
def prodEdges (G : Grammar) (tc : Nat → Nat) (pos : Nat → Bool) (p : Nat) : List (Nat × Bool) :=
  let rhs := G.rhs p
  (List.range rhs.length).filterMap (fun i =>
    match (rhs[i]? : Option Sym) with
    | some (Sym.rule y) =>
      some (y, (List.range rhs.length).any (fun j => j != i && symPos tc pos (rhs.getD j (.tok 0))))
    | _ => none)

def usableEdges (G : Grammar) (tc : Nat → Nat) (prodv pos : Nat → Bool) (x : Nat) : List (Nat × Bool) :=
  (G.prodsOf x).flatMap (fun p => if usableProd G prodv p then prodEdges G tc pos p else [])

def reachStarDerive (G : Grammar) (tc : Nat → Nat) (prodv pos : Nat → Bool) (a : Nat) (S : Nat → Bool) (b : Nat) : Bool :=
  b == a || (List.range G.nrules).any (fun c => S c && (usableEdges G tc prodv pos c).any (fun e => e.1 == b))

def reachStar (G : Grammar) (tc : Nat → Nat) (prodv pos : Nat → Bool) (a : Nat) : List Nat :=
  (lfp (List.range G.nrules) (reachStarDerive G tc prodv pos a) (G.nrules + 2) []).getD []

def cycGrowing (G : Grammar) (tc : Nat → Nat) (prodv pos : Nat → Bool) (x : Nat) : Bool :=
  (usableEdges G tc prodv pos x).any (fun e => e.2 && (reachStar G tc prodv pos e.1).contains x)

def unboundedRef (G : Grammar) (tc : Nat → Nat) (prodv pos : Nat → Bool) (r : Nat) : Bool :=
  prodv r && (reachStar G tc prodv pos r).any (cycGrowing G tc prodv pos)

/-! ### the "tight" graph: which rules a minimal derivation of `r` can visit -/

def ruleSyms (l : List Sym) : List Nat :=
  l.filterMap (fun s => match s with | .rule q => some q | .tok _ => none)

/-- productions of `r` whose cost equals the minimal cost of `r` -/
def tightProds (G : Grammar) (tc : Nat → Nat) (c : Nat → Option Nat) (r : Nat) : List Nat :=
  (G.prodsOf r).filter (fun p => (c r).isSome && seqCost tc c (G.rhs p) == c r)

/-- `first = true`: only the first cheapest production of each rule (what `min_sentence` follows);
`false`: every cheapest production (what `min_sentences` follows) -/
def tightSucc (G : Grammar) (tc : Nat → Nat) (c : Nat → Option Nat) (first : Bool) (r : Nat) : List Nat :=
  let ps := tightProds G tc c r
  ((if first then ps.take 1 else ps).flatMap (fun p => ruleSyms (G.rhs p)))

def tightReachDerive (G : Grammar) (tc : Nat → Nat) (c : Nat → Option Nat) (first : Bool) (a : Nat)
    (S : Nat → Bool) (b : Nat) : Bool :=
  (tightSucc G tc c first a).contains b ||
  (List.range G.nrules).any (fun x => S x && (tightSucc G tc c first x).contains b)

def tightReach (G : Grammar) (tc : Nat → Nat) (c : Nat → Option Nat) (first : Bool) (a : Nat) : List Nat :=
  (lfp (List.range G.nrules) (tightReachDerive G tc c first a) (G.nrules + 2) []).getD []

/-- a minimal derivation of `r` (following first / all cheapest productions) can revisit a rule -/
def tightCycle (G : Grammar) (tc : Nat → Nat) (c : Nat → Option Nat) (first : Bool) (r : Nat) : Bool :=
  (r :: tightReach G tc c first r).any (fun x => (tightReach G tc c first x).contains x)

/-- the `Mf` line: epsilon, FIRST and FOLLOW bits as computed by the models of the Rust loops -/
def modelLine (G : Grammar) : String :=
  let rules := List.range G.nrules
  let toks := List.range G.ntoks
  match Impl.firstsNew G (Impl.firstsFuel G) with
  | .panic => "Mf firsts-panic"
  | .fuelOut => "Mf firsts-fuel-exhausted"
  | .done fst =>
    match Impl.followsNew G fst (Impl.followsFuel G) with
    | .panic => "Mf follows-panic"
    | .fuelOut => "Mf follows-fuel-exhausted"
    | .done w =>
      let eps := rules.map (fun r => fst.isEpsilonSet r)
      let first := rules.flatMap (fun r => toks.map (fun t => fst.isSet r t))
      let follow := rules.flatMap (fun r => toks.map (fun t => Impl.mget w r t))
      s!"Mf eps {bitsOf eps} first {bitsOf first} follow {bitsOf follow}"

def showOutcomeBit : Impl.Outcome Bool → String
  | .done true => "1"
  | .done false => "0"
  | .panic => "P"
  | .fuelOut => "H"

def showSent (w : List Nat) : String := "[" ++ ",".intercalate (w.map toString) ++ "]"

/-- the `Mc` line: `has_path` bits, `rule_min_costs`, `rule_max_costs` (as `max_sentence_cost` reports
them), `min_sentence` and `min_sentences` of every rule as computed by the models of `Model/CostsImpl.lean`
and `Model/MinSentencesImpl.lean`, each run with
the fuel the theorems of `Props/C17.lean` prove sufficient; `dbg = true` because the harness builds
cfgrammar with its debug assertions on -/
def costModelLine (G : Grammar) (tc : List Nat) : String :=
  let rules := List.range G.nrules
  let path := String.join (rules.flatMap (fun a => rules.map (fun b =>
    showOutcomeBit (Impl.hasPath G a b (Impl.hasPathFuel G)))))
  let mcO := Impl.ruleMinCosts G tc (Impl.minCostsFuel G)
  let minc := match mcO with
    | .done v => " ".intercalate (v.map toString)
    | .panic => " ".intercalate (rules.map (fun _ => "P"))
    | .fuelOut => " ".intercalate (rules.map (fun _ => "H"))
  let maxc := match Impl.ruleMaxCosts G tc true (Impl.maxCostsFuel G) with
    | .done v => " ".intercalate (v.map (fun x => if x = Impl.U16MAX then "N" else toString x))
    | .panic => " ".intercalate (rules.map (fun _ => "P"))
    | .fuelOut => " ".intercalate (rules.map (fun _ => "H"))
  -- `min_sentence_impl_terminates_iff`: when `tightInf` holds the model runs out of every fuel (`H` without
  -- running it), otherwise `minSentenceFuel` iterations suffice
  let sentOf (mc : Option (List Nat)) (r : Nat) : String :=
    if mc.isSome && Impl.tightInf G tc mc r then "H" else
    match Impl.minSentenceWith G tc mc r (Impl.minSentenceFuel G) with
    | .done w => showSent w
    | .panic => "P"
    | .fuelOut => "H"
  -- the harness first asks `min_sentence_cost(r)`: `u16::MAX` = no sentence to generate (`U`); if that
  -- call panics it still asks for the sentence (`rule_min_costs` is only run when a cost is needed)
  let sent := match mcO with
    | .done mc => " ".intercalate (rules.map (fun r =>
        if mc.getD r 0 = Impl.U16MAX then "U" else sentOf (some mc) r))
    | .panic => " ".intercalate (rules.map (sentOf none))
    | .fuelOut => " ".intercalate (rules.map (fun _ => "H"))
  -- `min_sentences_impl_terminates_iff`: when `tightInfAll` holds the model of `min_sentences` runs out of
  -- every recursion depth (`H` without running it), otherwise the depth `minSentencesFuel` suffices; the
  -- harness records the first 40 sentences of the returned vector and the count capped at 40
  let sentsOf (mc : Option (List Nat)) (r : Nat) : String :=
    if mc.isSome && Impl.tightInfAll G tc mc r then "H" else
    match Impl.minSentencesWith G tc mc (Impl.minSentencesFuel G) r with
    | .done ws => toString (min ws.length 40) ++ ":" ++ String.join ((ws.take 40).map showSent)
    | .panic => "P"
    | .fuelOut => "H"
  let sents := match mcO with
    | .done mc => " ".intercalate (rules.map (fun r =>
        if mc.getD r 0 = Impl.U16MAX then "U" else sentsOf (some mc) r))
    | .panic => " ".intercalate (rules.map (sentsOf none))
    | .fuelOut => " ".intercalate (rules.map (fun _ => "H"))
  s!"Mc path {path} mincost {minc} maxcost {maxc} minsent {sent} minsents {sents}"

def handle (args : List Nat) : String :=
  match parseGrammar args with
  | none => "bad-request"
  | some (G, rest) =>
    if !G.wf then "V fail dumped grammar is not well-formed (index out of range)" else
    let costs := rest.take G.ntoks
    let rest := rest.drop G.ntoks
    let minI := rest.take G.nrules
    let rest := rest.drop G.nrules
    let maxI := rest.take G.nrules
    let rest := rest.drop G.nrules
    match parseSents G.nrules rest with
    | none => "bad-request"
    | some (sentI, rest) =>
    match parseSentSets G.nrules rest with
    | none => "bad-request"
    | some (sentsI, _) =>
    let tc : Nat → Nat := fun t => costs.getD t 1
    let rules := List.range G.nrules
    -- exact analyses
    let sLine :=
      match analyses G with
      | none => "S fuel-exhausted"
      | some A =>
        let eps := rules.map (fun r => A.nullable.contains r)
        let first := rules.flatMap (fun r => (List.range G.ntoks).map (fun t => A.first.contains (r, t)))
        let follow := rules.flatMap (fun r => (List.range G.ntoks).map (fun t => A.follow.contains (r, t)))
        let path := rules.flatMap (fun a =>
          match reach G a with
          | none => rules.map (fun _ => false)
          | some R => rules.map (fun b => R.contains b))
        s!"S eps {bitsOf eps} first {bitsOf first} follow {bitsOf follow} path {bitsOf path}"
    let sLine := sLine ++ "\n" ++ modelLine G ++ "\n" ++ costModelLine G costs
    -- costs
    match minCosts G tc with
    | none => sLine ++ "\nV fail reference minimal costs: fuel exhausted"
    | some c =>
      let prodv : Nat → Bool := fun q => (look c q).isSome
      let anyUnprod := rules.any (fun r => !prodv r)
      let maxRhs := (G.prods.map (fun pr => pr.2.length)).foldl max 0
      let fuel := G.nrules * (maxRhs + 2) + 4
      -- a minimal sentence can only use productions whose cost is the minimal cost of their rule
      let tightTbl := (List.range G.nprods).map (fun p => seqCost tc (look c) (G.rhs p) == look c (G.lhs p))
      let tight : Nat → Bool := fun p => tightTbl.getD p false
      let anyProd : Nat → Bool := fun _ => true
      -- every minimal cost fits a `u16`, yet the model of `rule_min_costs` panics (a sum overflows)
      let minAllFit := c.all (fun o => match o with | some v => v < Impl.U16MAX | none => true)
      let modelMinPanics := match Impl.ruleMinCosts G costs (Impl.minCostsFuel G) with
        | .panic => true
        | _ => false
      let minV := rules.filterMap (fun r =>
        let a := minI.getD r HUNG
        match look c r with
        | none => if a == HUNG then some s!"V fail mincost-hang rule={r} (rule derives no string)" else none
        | some v =>
          if a == HUNG then some s!"V fail mincost-hang rule={r} true={v}"
          else if a == PANIC then
            some (if anyUnprod then s!"V fail mincost-panic-unproductive-elsewhere rule={r} true={v}"
                  else if minAllFit && modelMinPanics then
                    s!"V fail mincost-overflow-dearer-production rule={r} true={v}"
                  else s!"V fail mincost-panic rule={r} true={v}")
          else if a != v then some s!"V fail mincost-wrong rule={r} impl={a} true={v}"
          else none)
      -- maximal costs
      let pos := posSet G tc prodv
      let posf : Nat → Bool := fun q => pos.contains q
      -- tables (computed once per request)
      let starTbl := rules.map (reachStar G tc prodv posf)
      let cycTbl := rules.map (fun x =>
        (usableEdges G tc prodv posf x).any (fun e => e.2 && (starTbl.getD e.1 []).contains x))
      let unbTbl := rules.map (fun r => prodv r && (starTbl.getD r []).any (fun x => cycTbl.getD x false))
      let unb : Nat → Bool := fun r => unbTbl.getD r false
      let m := maxIter G tc (G.nrules + 3) (List.replicate G.nrules none)
      let refTbl := rules.map (fun r => if unb r then none else (lookM m r).map (·.1))
      let refUb : Nat → Option Nat := fun r => (refTbl[r]?).getD none
      let refCertOk := upperBoundOk G tc prodv refUb
      let implUb : Nat → Option Nat := fun r =>
        let a := maxI.getD r HUNG
        if a ≥ HUNG then none else some a
      let implCertOk := upperBoundOk G tc prodv implUb
      let reachTbl := rules.map (fun r => (reach G r).getD [])
      let recTbl := rules.map (fun r =>
        (reachTbl.getD r []).any (fun x => x == r || (reachTbl.getD x []).contains x))
      let recursive : Nat → Bool := fun r => recTbl.getD r false
      let maxV := rules.filterMap (fun r =>
        let a := maxI.getD r HUNG
        if !prodv r then (if a == HUNG then some s!"V fail maxcost-hang rule={r}" else none)
        else if a == HUNG then some s!"V fail maxcost-hang rule={r}"
        else if a == PANIC then some s!"V fail maxcost-panic rule={r}"
        else if a == NONE then
          match refUb r with
          | none => none
          | some v =>
            if refCertOk then
              some (if recursive r then s!"V fail maxcost-none-for-bounded-recursive rule={r} true-max<={v}"
                    else s!"V fail maxcost-none-for-bounded rule={r} true-max<={v}")
            else none
        else
          -- a finite claim: refute with a witness string of larger cost, or with a smaller proven bound
          match lookM m r with
          | some (v, w) =>
            if v > a && w.length ≤ 40 && recogSym G anyProd (fuel + w.length) (.rule r) w && costOf tc w == v then
              some s!"V fail maxcost-too-small rule={r} impl={a} witness-cost={v}"
            else if v < a && refCertOk && refUb r == some v then
              some s!"V fail maxcost-too-big rule={r} impl={a} true-max<={v}"
            else if v == a && !implCertOk && !refCertOk then none
            else none
          | none => none)
      -- generated sentences
      let sentV := rules.filterMap (fun r =>
        match look c r, sentI.getD r (.inl HUNG) with
        | none, .inl a => if a == HUNG then some s!"V fail minsent-hang-for-underivable rule={r}" else none
        | none, .inr w => some s!"V fail minsent-for-underivable rule={r} sentence={w}"
        | some v, .inl a =>
          if a == SKIPPED then none
          else some (if a == HUNG then
                  (if tightCycle G tc (look c) true r then s!"V fail minsent-hang-tight-cycle rule={r}"
                   else s!"V fail minsent-hang rule={r}")
                else if minAllFit && modelMinPanics then
                  s!"V fail mincost-overflow-dearer-production rule={r} true={v} (min_sentence asks for a cost)"
                else s!"V fail minsent-panic rule={r}")
        | some v, .inr w =>
          if costOf tc w != v then some s!"V fail minsent-cost rule={r} sentence={w} cost={costOf tc w} min={v}"
          else if !recogSym G tight (fuel + w.length) (.rule r) w then some s!"V fail minsent-not-derivable rule={r} sentence={w}"
          else none)
      let sentsV := rules.filterMap (fun r =>
        match look c r, sentsI.getD r (.inl HUNG) with
        | none, .inl a => if a == HUNG then some s!"V fail minsents-hang-for-underivable rule={r}" else none
        | none, .inr ws => if ws.isEmpty then none else some s!"V fail minsents-for-underivable rule={r}"
        | some v, .inl a =>
          if a == SKIPPED then none
          else some (if a == HUNG then
                  (if tightCycle G tc (look c) false r then s!"V fail minsents-hang-tight-cycle rule={r}"
                   else s!"V fail minsents-hang rule={r}")
                else if minAllFit && modelMinPanics then
                  s!"V fail mincost-overflow-dearer-production rule={r} true={v} (min_sentences asks for a cost)"
                else s!"V fail minsents-panic rule={r}")
        | some v, .inr ws =>
          if ws.isEmpty then some s!"V fail minsents-empty rule={r}"
          else
            match ws.find? (fun w => costOf tc w != v || !recogSym G tight (fuel + w.length) (.rule r) w) with
            | some w => some s!"V fail minsents-wrong rule={r} sentence={w} min={v}"
            | none => none)
      let vs := minV ++ maxV ++ sentV ++ sentsV
      let info := s!"X mincost {c.map optNat} maxref {rules.map (fun r => optNat (refUb r))} unproductive={anyUnprod} refCert={refCertOk} implCert={implCertOk}"
      sLine ++ "\n" ++ (if vs.isEmpty then "V ok" else "\n".intercalate vs) ++ "\n" ++ info

end GrmVerif.Drive.C17
