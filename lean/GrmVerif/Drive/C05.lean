import GrmVerif.Extracted
import GrmVerif.Model.Recover
import GrmVerif.Model.RecLive
import GrmVerif.Model.RankImpl
import GrmVerif.Lemmas.RunSpec
import GrmVerif.Model.SearchImpl
import GrmVerif.Model.Cpct
import GrmVerif.Drive.C08
import GrmVerif.Drive.C01
/-!
Driver for C05, C06, C07 (error recovery). Request:
`<grammar> <automaton> ntoks×cost ntoks×avoid stride toklen cap which ninputs` then per input
`len tok… kind` and, when `kind = 1`, `hasValue [tree] nerr (laidx state nseq (len (op arg)…)…)…`
(`op` 0 insert t / 1 delete idx / 2 shift idx; trees as in C08). `which` selects the verdicts:
5 = C05 (every sequence repairs; the parse is the plain parse of the edited input; per table the decidable
    hypotheses of the certified whole-run theorems, `C05.wholeRunCert`, are evaluated and counted:
    `C tables_within_the_hypotheses_of_the_whole_run_theorems` / `…_outside_…`),
6 = C06 (the reported set is the reference minimum-cost set, ranked as documented; the reported list
    is a fixed point of the model of `simplify_repairs`, `RankImpl.simplify`; and the FULL model of
    `CPCTPlus::recover` — `SearchImpl.recoverImpl`: Dijkstra buckets with node merging, `collect_repairs`,
    `rank_cnds`, `simplify_repairs`, `apply_repairs` — is run on the driver's own configuration at every
    error: one `Mr` line per error, compared with the harness' `Ir` line, exactly and in order),
7 = C07 (progress and shape of the error list; per automaton the hypotheses of the liveness theorem
    `C07.recovering_parse_returns` — `Cert.check` and the termination certificate `Term.termCheckAdj` —
    are evaluated and counted (`C liveness_…`), and per input the instrumented driver model `recRunO`
    is run with the recoverer "continue from the first reported sequence if it repairs": it must
    return within `2·|w| + 2` iterations when the hypotheses hold, and what it returns must be the
    reported value flag and error list).
-/
namespace GrmVerif.Drive.C05
open GrmVerif GrmVerif.Rec GrmVerif.Drive GrmVerif.LR GrmVerif.Drive.C08

structure ErrD where
  laidx : Nat
  state : Nat
  seqs : List (List (Nat × Nat))     -- (op, arg)

structure Inp where
  w : List Nat
  kind : Nat
  tree : Option Tree
  errs : List ErrD

def parseOps : Nat → List Nat → Option (List (Nat × Nat) × List Nat)
  | 0, r => some ([], r)
  | n + 1, op :: a :: r => (parseOps n r).map (fun (xs, r') => ((op, a) :: xs, r'))
  | _, _ => none

def parseSeqs : Nat → List Nat → Option (List (List (Nat × Nat)) × List Nat)
  | 0, r => some ([], r)
  | n + 1, len :: r =>
    match parseOps len r with
    | none => none
    | some (s, r') => (parseSeqs n r').map (fun (ss, r'') => (s :: ss, r''))
  | _, _ => none

def parseErrs : Nat → List Nat → Option (List ErrD × List Nat)
  | 0, r => some ([], r)
  | n + 1, la :: st :: ns :: r =>
    match parseSeqs ns r with
    | none => none
    | some (ss, r') => (parseErrs n r').map (fun (es, r'') => (⟨la, st, ss⟩ :: es, r''))
  | _, _ => none

partial def parseInps : Nat → List Nat → Option (List Inp)
  | 0, _ => some []
  | n + 1, rest =>
    match takeList rest with
    | some (w, kind :: r) =>
      if kind != 1 then (parseInps n r).map (fun is => ⟨w, kind, none, []⟩ :: is)
      else
        match r with
        | hv :: r1 =>
          let tr : Option (Option Tree × List Nat) :=
            if hv == 1 then (parseTree r1).map (fun (t, r2) => (some t, r2)) else some (none, r1)
          match tr with
          | some (t, ne :: r2) =>
            match parseErrs ne r2 with
            | some (es, r3) => (parseInps n r3).map (fun is => ⟨w, kind, t, es⟩ :: is)
            | none => none
          | _ => none
        | [] => none
    | _ => none

def toRepair (x : Nat × Nat) : Repair :=
  match x.1 with
  | 0 => .insert x.2
  | 1 => .delete
  | _ => .shift

/-- a reported repair with the lexeme it names (`lrpar::ParseRepair`) -/
def toPRepair (x : Nat × Nat) : RankImpl.PRepair :=
  match x.1 with
  | 0 => .insert x.2
  | 1 => .delete x.2
  | _ => .shift x.2

def prepStr : RankImpl.PRepair → String
  | .insert t => s!"I{t}"
  | .delete l => s!"D{l}"
  | .shift l => s!"S{l}"

/-- the lexemes named by the Delete/Shift entries of a reported sequence are the input lexemes from
the error position onwards, in order -/
def lexemesOk : Nat → List (Nat × Nat) → Bool
  | _, [] => true
  | pos, (0, _) :: rs => lexemesOk pos rs
  | pos, (_, x) :: rs => x == pos && lexemesOk (pos + 1) rs

def repStr : Repair → String
  | .insert t => s!"I{t}"
  | .delete => "D"
  | .shift => "S"

/-- run the plain driver to its end, returning the outcome and the configuration it stopped in -/
def runCfg (G : Grammar) (A : Automaton) (w : List Nat) : Nat → Cfg → Outcome × Cfg
  | 0, c => (.fuelOut, c)
  | fuel + 1, c =>
    match step G A w c with
    | .done o => (o, c)
    | .cont c' => runCfg G A w fuel c'

/-- the token of an item of the edited input: the definition the theorems of `Props/C05.lean` use -/
abbrev itemTok := GrmVerif.C05.itemTok

/-- leaves of a tree parsed over the items `E`, as text in the harness' format -/
def leafOf (stride toklen : Nat) (w : List Nat) (E : List EItem) (pos tok : Nat) : Tree :=
  match E.getD pos (EItem.real 0) with
  | .real i => .leaf tok i
  | .ins _ before =>
    let start := if before < w.length then stride * before + 1
      else if w.length == 0 then 0 else stride * (w.length - 1) + 1 + toklen
    .leaf tok (FAULTY + start)

mutual
partial def relabel (stride toklen : Nat) (w : List Nat) (E : List EItem) : Tree → Tree
  | .leaf t i => leafOf stride toklen w E i t
  | .node p ks => .node p (relabels stride toklen w E ks)
partial def relabels (stride toklen : Nat) (w : List Nat) (E : List EItem) : List Tree → List Tree
  | [] => []
  | k :: ks => relabel stride toklen w E k :: relabels stride toklen w E ks
end

structure Ctx where
  G : Grammar
  A : Automaton
  cost : Nat → Nat
  avoid : Nat → Bool
  stride : Nat
  toklen : Nat
  cap : Nat
  /-- the automaton passes `Cert.check` and `Term.termCheckAdj`: hypotheses of `C07.recovering_parse_returns` -/
  live : Bool := false
  /-- every token costs at least 1 -/
  costsOk : Bool := true
  /-- the hypotheses on table and costs of the capstone theorems (`C05.cpct_recovering_parse_is_plain_parse_of_edited_input`,
  `C07.cpct_recovering_parse_result`, …): `C05.wholeRunCert`, `SearchImpl.stateActionsExactB`, costs ≥ 1
  (evaluated once per table, for `which = 6`) -/
  capTable : Bool := false
  /-- the hypotheses on table and costs of `C06.recover_never_panics` (`Cpct.noPanicTableB`: `Cert.check`,
  `stateActionsExactB`, `PARSE_AT_LEAST ≥ 1`; costs ≥ 1), evaluated once per table, for `which = 6` -/
  npTable : Bool := false

def N_SHIFTS := 3

/-- the recoverer of the liveness theorem instantiated with what the real recoverer reported for this
input: at the position of a reported error whose first sequence inserts only tokens of the grammar and
repairs (`validSeq`), report its sequences and continue from where `applySeq` of the first leaves the
parser; give up otherwise. It satisfies `C07.ContinuesFromValid` by construction, hence the
hypotheses of `C07.recovering_parse_returns` (`C07.valid_recoverer_ok`). -/
def replayRecoverer (X : Ctx) (w : List Nat) (errs : List ErrD) (c : Pos) : Option (Pos × List (List Repair)) :=
  match errs.find? (fun e => e.laidx == c.pos) with
  | none => none
  | some e =>
    match e.seqs.map (fun s => s.map toRepair) with
    | [] => none
    | s0 :: rest =>
      if s0.all (fun r => match r with | .insert t => t < X.G.ntoks | _ => true) && validSeq X.G X.A w N_SHIFTS c s0 then
        (applySeq X.G X.A w c s0).map (fun c' => (c', s0 :: rest))
      else none

/-- C07 liveness, per input: run `recRunO` with the replayed recoverer for `2·|w| + 2` iterations (the
bound of `C07.recovering_parse_returns`; `feed` gets 64·FUEL) and compare with the reported result -/
def liveVerdict (X : Ctx) (k : Nat) (i : Inp) : List String :=
  let w := i.w
  match recRunO X.G X.A w (replayRecoverer X w i.errs) (64 * FUEL) (2 * w.length + 2) ⟨[X.A.start], 0⟩ [] with
  | none =>
    if X.live then [s!"V fail model-of-the-recovering-driver-does-not-return-within-its-bound input={k} w={w}"]
    else ["C liveness_model_run_without_answer_outside_hypotheses 1"]
  | some (v, errs) =>
    let got := errs.map (fun e => (e.pos, e.repairs.length))
    let want := i.errs.map (fun e => (e.laidx, e.seqs.length))
    if v == i.tree.isSome && got == want then ["C liveness_model_run_is_the_reported_result 1"]
    else [s!"V fail model-of-the-recovering-driver-differs-from-the-reported-result input={k} w={w} model-value={v} model-errors={got} reported-value={i.tree.isSome} reported-errors={want}"]

/-! ### the full model of `recover`, error by error (C06 tie) -/

def seqStr (s : RankImpl.Seq) : String := " ".intercalate (s.map prepStr)
def seqsStr (l : List RankImpl.Seq) : String := if l.isEmpty then "none" else " ; ".intercalate (l.map seqStr)

/-- loop iterations of the modelled search per error -/
def SEARCH_FUEL : Nat := 6000
/-- sequences `collect_repairs` may expand per error -/
def EXPAND_LIMIT : Nat := 3000

/-- `Parser::lr` between two errors, on state stacks: (accepted?, configuration) -/
def advanceTo (G : Grammar) (A : Automaton) (w : List Nat) : Nat → Pos → Option (Bool × Pos)
  | 0, _ => none
  | steps + 1, c =>
    match feed G A (nextTok G w c.pos) FUEL c.stack with
    | .shifted s => if c.pos < w.length then advanceTo G A w steps ⟨s, c.pos + 1⟩ else none
    | .accept s => some (true, ⟨s, c.pos⟩)
    | .error s => some (false, ⟨s, c.pos⟩)
    | _ => none

/-- the model's own recovering parse: at every error run `SearchImpl.recoverImpl` from the model's own
configuration and print what it reports (`Mr input error position state : sequences`). An error whose
search exceeds the budget is counted, the reported list is echoed and its first sequence is used to go
on. -/
def modelWalk (X : Ctx) (k : Nat) (w : List Nat) : Nat → Pos → List ErrD → Nat → List String
  | 0, _, _, _ => []
  | budget + 1, c, errs, n =>
    match advanceTo X.G X.A w (w.length + 2) c with
    | none => [s!"Mr {k} {n} the-model-of-the-plain-parse-crashes-or-spins"]
    | some (true, _) => []
    | some (false, ce) =>
      let E : SearchImpl.Env := ⟨X.G, X.A, w, X.cost, GrmVerif.Extracted.PARSE_AT_LEAST⟩
      let hdr := s!"Mr {k} {n} {ce.pos} {ce.stack.headD 0} : "
      -- the hypotheses of the search theorems (`C06.hyps_decidable`) at this error
      let hyp := if X.costsOk && SearchImpl.checkHyps E ce then "C errors_within_the_hypotheses_of_the_search_theorems 1"
        else "C errors_outside_the_hypotheses_of_the_search_theorems 1"
      -- the hypotheses of the capstone theorems at this error: those on table and costs (`capTable`), and
      -- the error configuration is one `Parser::lr` calls `recover` at (`Cpct.errCfg`; proved of every
      -- call in a run: `C05.cpct_restriction_invisible`); separately, the sufficient condition for the
      -- window hypothesis of `C06.cpct_reports_minimum_cost_repairs_at_every_error`
      let cap := (if X.capTable && Cpct.errCfg X.G X.A w ce then "C errors_within_the_hypotheses_of_the_capstone_theorems 1"
        else "C errors_outside_the_hypotheses_of_the_capstone_theorems 1") ::
        (if Cpct.errCfg X.G X.A w ce then [] else ["C errors_at_a_configuration_that_is_not_an_error_configuration 1"]) ++
        (if w.length ≤ ce.pos + GrmVerif.Extracted.TRY_PARSE_AT_MOST then ["C errors_within_the_window_hypothesis 1"] else [])
      -- the hypotheses of `C06.recover_never_panics` at this error (`C06.recover_never_panics_checked`):
      -- table part `npTable`; the input consists of real tokens, the configuration is an error
      -- configuration, its stack is a path of the automaton (`Cpct.noPanicCfgB`)
      let nopanic := X.npTable && Cpct.noPanicCfgB X.G X.A w ce
      let np := if nopanic then "C errors_where_the_model_of_recover_cannot_panic_by_theorem 1"
        else "C errors_outside_the_hypotheses_of_the_no_panic_theorem 1"
      let skip (why : String) : List String :=
        match errs with
        | [] => [hdr ++ why]
        | e :: rest =>
          let r := e.seqs.map (fun s => s.map toPRepair)
          [hdr ++ seqsStr r, s!"C errors_where_the_model_search_was_skipped_{why} 1", np] ++
          (match r with
           | [] => []
           | s0 :: _ =>
             match RankImpl.applyRepairs X.G X.A w ce s0 with
             | none => []
             | some c' => modelWalk X k w budget c' rest (n + 1))
      match SearchImpl.dijkstra E SEARCH_FUEL ce with
      | .fuelOut => skip "over_the_node_budget"
      | .panic => [hdr ++ "model-search-panics", np] ++
          (if nopanic then [s!"V fail model-of-recover-panics-inside-the-hypotheses-of-the-no-panic-theorem input={k} w={w} error={n}"] else [])
      | .ok cnds =>
        if (cnds.map (fun m => SearchImpl.countSeqs m.repairs)).sum > EXPAND_LIMIT then skip "over_the_expansion_budget"
        else
          match SearchImpl.recoverTail E RankImpl.dedup X.avoid (fun i => X.stride * i + 1)
              GrmVerif.Extracted.TRY_PARSE_AT_MOST ce cnds with
          | .ok (c', seqs) =>
            [hdr ++ seqsStr seqs, "C errors_where_the_full_model_of_recover_ran 1", hyp, np] ++ cap ++
            (if cnds.any (fun m => match m.repairs with | .merge _ _ _ => true | _ => false)
              then ["C errors_with_merged_success_nodes 1"] else []) ++
            (if seqs.isEmpty then [] else modelWalk X k w budget c' errs.tail (n + 1))
          | .fuelOut => [hdr ++ "model-post-processing-out-of-model-fuel", np]
          | .panic => [hdr ++ "model-post-processing-panics", np] ++
            (if nopanic then [s!"V fail model-of-recover-panics-inside-the-hypotheses-of-the-no-panic-theorem input={k} w={w} error={n}"] else [])

/-- the verdicts for one input; `which` ∈ {5, 6, 7} -/
partial def judge (X : Ctx) (which : Nat) (k : Nat) (i : Inp) : List String :=
  let w := i.w
  let fuel := 400 * (w.length + 6)
  -- C07: shape of the error list
  let v7 : List String :=
    if which != 7 then [] else
    let las := i.errs.map (·.laidx)
    let incr := (List.range (las.length - 1)).all (fun j => las.getD j 0 + N_SHIFTS ≤ las.getD (j + 1) 0)
    let allButLast := (i.errs.take (i.errs.length - 1)).all (fun e => !e.seqs.isEmpty)
    let allRepaired := i.errs.all (fun e => !e.seqs.isEmpty)
    (if incr then [] else [s!"V fail errors-not-progressing input={k} w={w} positions={las}"]) ++
    (if allButLast then [] else [s!"V fail error-without-repairs-is-not-last input={k} w={w}"]) ++
    (if i.tree.isSome == allRepaired then [] else [s!"V fail value-iff-all-repaired input={k} w={w} value={i.tree.isSome} allRepaired={allRepaired}"]) ++
    (if las.all (· ≤ w.length) then [] else [s!"V fail error-position-out-of-range input={k} w={w}"]) ++
    (if i.errs.length ≤ w.length / N_SHIFTS + 1 then [] else [s!"V fail too-many-errors input={k} w={w}"]) ++
    liveVerdict X k i
  -- walk through the errors, keeping the edited input
  -- `E` is always `C05.editedItems w.length 0 done` — the edited input the theorems
  -- `recRun_is_plain_parse_of_edited_input` / `returned_tree_spells_edited_input` speak about — for the
  -- errors `done` processed so far
  let rec go (E : List EItem) (done : List Err) (errs : List ErrD) (acc : List String) (n : Nat) : List String :=
    let toks := E.map (itemTok w)
    let (o, c) := runCfg X.G X.A toks fuel (init X.A)
    match errs with
    | [] =>
      match o with
      | .accept t =>
        if which != 5 then acc else
        let t' := relabel X.stride X.toklen w E t
        match i.tree with
        | some it =>
          if Act.treeEq it t' then acc
          else
            -- both trees valid derivations of the same edited input: the grammar is ambiguous (its table
            -- has conflicts); reductions made under the lexeme that was then found to be in error are kept
            let sameLeaves := Tree.leafIdxs it == Tree.leafIdxs t' && Tree.yield it == Tree.yield t'
            let label := if sameLeaves && Tree.valid X.G it && Tree.valid X.G t' && (!X.A.sr.isEmpty || !X.A.rr.isEmpty || C01.precResolved X.G X.A)
              then "value-differs-both-valid-derivations-of-the-edited-input-conflicting-grammar"
              else "value-differs-from-plain-parse-of-edited-input"
            acc ++ [s!"V fail {label} input={k} w={w} impl=[{" ".intercalate (C01.treeToks it)}] plain=[{" ".intercalate (C01.treeToks t')}]"]
        | none => acc ++ [s!"V fail no-value-although-edited-input-parses input={k} w={w}"]
      | .error _ _ =>
        if i.errs.all (fun e => !e.seqs.isEmpty) && which == 5 then acc ++ [s!"V fail edited-input-still-has-an-error-not-reported input={k} w={w}"] else acc
      | _ => acc
    | e :: rest =>
      match o with
      | .error j st =>
        let la := match E.getD j (EItem.real w.length) with | .real idx => idx | .ins _ b => b
        let la := if j ≥ E.length then w.length else la
        let acc := if (la != e.laidx || st != e.state) && which == 5
          then acc ++ [s!"V fail error-{n}-not-where-the-plain-parse-of-the-edited-input-fails input={k} w={w} reported={e.laidx},{e.state} plain={la},{st}"] else acc
        if la != e.laidx then acc else
        let start : Pos := ⟨c.pstack, e.laidx⟩
        let seqs := e.seqs.map (fun s => s.map toRepair)
        -- C05: every sequence repairs
        let acc := if which != 5 then acc else
          acc ++ (seqs.filterMap (fun s =>
            if validSeq X.G X.A w N_SHIFTS start s then none
            else some s!"V fail repair-does-not-repair input={k} w={w} error={n} at={e.laidx} seq={s.map repStr}")) ++
          (e.seqs.filterMap (fun s =>
            if lexemesOk e.laidx s then none
            else some s!"V fail repair-names-the-wrong-lexeme input={k} w={w} error={n} at={e.laidx} seq={s}"))
        -- C06: the set and its order
        let acc := if which != 6 || seqs.isEmpty then acc else
          let costs := seqs.map (seqCost w X.cost e.laidx)
          let c0 := costs.headD 0
          let sameCost := costs.all (· == c0)
          let noTrailingShift := seqs.all (fun s => s.getLast? != some .shift)
          let nodup := seqs.eraseDups.length == seqs.length
          let noEof := seqs.all (fun s => !s.contains (.insert X.G.eof))
          let hasAvoid := fun (s : List Repair) => s.any (fun r => match r with | .insert t => X.avoid t | _ => false)
          let keys := seqs.map (fun s => ((if hasAvoid s then 1 else 0), s.length))
          let sorted := (List.range (keys.length - 1)).all (fun j =>
            let a := keys.getD j (0, 0); let b := keys.getD (j + 1) (0, 0)
            a.1 < b.1 || (a.1 == b.1 && a.2 ≤ b.2))
          let basic :=
            (if sameCost then [] else [s!"V fail repairs-of-different-cost input={k} w={w} error={n} costs={costs}"]) ++
            (if noTrailingShift then [] else [s!"V fail repair-ends-in-shift input={k} w={w} error={n}"]) ++
            (if nodup then [] else [s!"V fail repair-reported-twice input={k} w={w} error={n}"]) ++
            (if noEof then [] else [s!"V fail eof-inserted input={k} w={w} error={n}"]) ++
            (if sorted then [] else [s!"V fail repairs-not-ranked-as-documented input={k} w={w} error={n} keys={keys}"])
          -- the model of `simplify_repairs` on the reported list: stripping, deduplicating and sorting a
          -- list that `simplify_repairs` produced gives it back in the same order (`C06.simplify_fixed_point`);
          -- lexeme `i` of the harness' lexer starts at byte `stride * i + 1`
          let reported := e.seqs.map (fun s => s.map toPRepair)
          let resimplified := RankImpl.simplify RankImpl.dedup X.avoid (fun i => X.stride * i + 1) reported
          let fixedPoint :=
            (if reported.length ≥ 2 then ["C errors_with_several_sequences_resimplified 1"] else []) ++
            (if resimplified == reported then [] else
              [s!"V fail reported-list-is-not-what-simplify_repairs-makes-of-it input={k} w={w} error={n} at={e.laidx} reported={reported.map (·.map prepStr)} model={resimplified.map (·.map prepStr)}"])
          let refv := if c0 > X.cap then ["C errors_above_the_cost_cap 1"] else
            "C errors_decided_by_the_reference 1" ::
            match refRepairs X.G X.A w X.cost N_SHIFTS GrmVerif.Extracted.TRY_PARSE_AT_MOST start c0 with
            | none => [s!"V fail reported-cost-below-every-valid-repair?? input={k} w={w} error={n} cost={c0}"]
            | some (cm, rs) =>
              if cm < c0 then [s!"V fail cheaper-repair-exists input={k} w={w} error={n} at={e.laidx} reported-cost={c0} min-cost={cm} e.g.={(rs.headD []).map repStr}"]
              else
                let missing := rs.filter (fun r => !seqs.contains r)
                let extra := seqs.filter (fun r => !rs.contains r)
                (if missing.isEmpty then [] else [s!"V fail minimum-cost-repair-not-reported input={k} w={w} error={n} at={e.laidx} cost={c0} missing={(missing.headD []).map repStr}"]) ++
                (if extra.isEmpty then [] else [s!"V fail reported-repair-not-in-reference-set input={k} w={w} error={n} at={e.laidx} cost={c0} extra={(extra.headD []).map repStr}"])
          acc ++ basic ++ fixedPoint ++ refv
        -- next edited input: the first sequence applied
        match seqs with
        | [] => acc
        | s0 :: _ =>
          let (items, after) := editSeq e.laidx s0
          let cut := E.take j ++ items ++ ((List.range (w.length - after)).map (fun d => EItem.real (after + d)))
          let done' := done ++ [⟨e.laidx, seqs⟩]
          let E' := GrmVerif.C05.editedItems w.length 0 done'
          -- cutting the previous edited input at the failing item gives the same list unless the error lies
          -- inside an earlier first sequence (only possible in a case that fails anyway); counted
          let acc := if which == 5 && E' != cut then acc ++ ["C edited_input_differs_from_cut_at_failing_item 1"] else acc
          go E' done' rest acc (n + 1)
      | .accept _ =>
        if which == 5 then acc ++ [s!"V fail error-{n}-reported-but-the-edited-input-parses input={k} w={w} at={e.laidx}"] else acc
      | _ => acc
  let E0 := GrmVerif.C05.editedItems w.length 0 []
  -- The driver's OWN semantics on state stacks: parse the real input until the table refuses a lexeme
  -- (the reductions made under that lexeme are kept), check the reported error is there, check every
  -- reported sequence from THAT stack, apply the first one, go on. On a table without conflicts this
  -- coincides with the plain parse of the edited input (the strict reading `go`); on a table with
  -- conflicts the kept reductions can make the two differ (known finding), and then this reading decides.
  let rec advance (c : Pos) (steps : Nat) : Option (Bool × Pos) :=   -- (accepted?, configuration)
    match steps with
    | 0 => none
    | steps + 1 =>
      match feed X.G X.A (nextTok X.G w c.pos) FUEL c.stack with
      | .shifted s => if c.pos < w.length then advance ⟨s, c.pos + 1⟩ steps else none
      | .accept s => some (true, ⟨s, c.pos⟩)
      | .error s => some (false, ⟨s, c.pos⟩)
      | _ => none
  let rec realWalk (c : Pos) (errs : List ErrD) (n : Nat) (budget : Nat) : List String :=
    match budget with
    | 0 => []
    | budget + 1 =>
    match advance c (w.length + 2) with
    | none => [s!"V fail own-semantics: the driver model crashes or spins input={k} w={w}"]
    | some (true, _) =>
      if errs.isEmpty then (if i.tree.isSome then [] else [s!"V fail own-semantics: accepted but no value reported input={k} w={w}"])
      else [s!"V fail own-semantics: error {n} reported but the driver's own run accepts input={k} w={w}"]
    | some (false, ce) =>
      match errs with
      | [] =>
        if i.errs.all (fun e => !e.seqs.isEmpty) then
          [s!"V fail own-semantics: a further error at {ce.pos} is not reported input={k} w={w}"] else []
      | e :: rest =>
        if ce.pos != e.laidx || ce.stack.headD 0 != e.state then
          [s!"V fail own-semantics: error {n} reported at {e.laidx},{e.state} but the driver's own run stops at {ce.pos},{ce.stack.headD 0} input={k} w={w}"]
        else
          let seqs := e.seqs.map (fun s => s.map toRepair)
          let bad := seqs.filterMap (fun s =>
            if validSeq X.G X.A w N_SHIFTS ce s then none
            else some s!"V fail own-semantics: repair-does-not-repair input={k} w={w} error={n} at={e.laidx} seq={s.map repStr}")
          if !bad.isEmpty then bad else
          match seqs with
          | [] => []
          | s0 :: _ =>
            match applySeq X.G X.A w ce s0 with
            | none => [s!"V fail own-semantics: first sequence does not apply input={k} w={w} error={n}"]
            | some c' => realWalk c' rest (n + 1) budget
  let hasConflicts := !X.A.sr.isEmpty || !X.A.rr.isEmpty || C01.precResolved X.G X.A
  let strict := if which == 7 then [] else go E0 [] i.errs [] 0
  let relaxed :=
    if which != 5 || !hasConflicts || strict.all (fun l => l.startsWith "C ") then strict
    else
      let own := realWalk ⟨[X.A.start], 0⟩ i.errs 0 (w.length + 3)
      if !own.isEmpty then own
      else
        -- the strict reading fails only because of reductions kept on a table with conflicts
        strict.map (fun l =>
          if l.startsWith "V fail " && !(((l.splitOn " ").getD 2 "").endsWith "-conflicting-grammar") then
            match l.splitOn " " with
            | v :: fl :: label :: tl => " ".intercalate (v :: fl :: (label ++ "-on-a-table-with-conflicts-conflicting-grammar") :: tl)
            | _ => l
          else l)
  let mw := if which != 6 then [] else modelWalk X k w (w.length + 3) ⟨[X.A.start], 0⟩ i.errs 0
  v7 ++ relaxed ++ mw

def handle (args : List Nat) : String :=
  match parseGrammar args with
  | none => "bad-request"
  | some (G, rest) =>
    match parseAutomaton G rest with
    | none => "bad-request"
    | some (A, rest) =>
      let costs := rest.take G.ntoks
      let rest := rest.drop G.ntoks
      let avoid := rest.take G.ntoks
      match rest.drop G.ntoks with
      | stride :: toklen :: cap :: which :: n :: rest =>
        match parseInps n rest with
        | none => "bad-request"
        | some inps =>
          -- hypotheses of `C07.recovering_parse_returns` on this automaton: `Cert.check`, and the
          -- termination certificate (`failAdj … = none ↔ termCheckAdj … = true`, `Term.failAdj_none_iff`)
          let certOk := which != 7 || (Cert.failing G A).isEmpty
          let termOk := which != 7 || (C01.termFailure G A).1.isNone
          let liveCnt := if which != 7 then [] else
            (if certOk && termOk then ["C liveness_hypotheses_hold 1"] else ["C liveness_outside_hypotheses 1"]) ++
            (if certOk then [] else ["C liveness_outside_certificate_fails 1"]) ++
            (if termOk then [] else ["C liveness_outside_termination_not_certified 1"])
          let X : Ctx := ⟨G, A, fun t => costs.getD t 1, fun t => avoid.getD t 0 != 0, stride, toklen, cap,
            which == 7 && certOk && termOk, costs.all (· ≥ 1),
            which == 6 && costs.all (· ≥ 1) && A.sr.isEmpty && A.rr.isEmpty && !C01.precResolved G A &&
              Cpct.tableOkB G A && GrmVerif.C05.wholeRunCert G A,
            which == 6 && costs.all (· ≥ 1) && Cpct.noPanicTableB G A GrmVerif.Extracted.PARSE_AT_LEAST⟩
          let vs := (List.range inps.length).flatMap (fun k =>
            let i := inps.getD k ⟨[], 0, none, []⟩
            if i.kind != 1 then [] else judge X which k i)
          let fails := vs.filter (fun l => !l.startsWith "C " && !l.startsWith "Mr ")
          -- the decidable hypothesis of the whole-run theorems of C05, evaluated on the dumped table
          let eofc := if which != 5 then [] else
            if GrmVerif.C05.eofOk G A then ["C tables_within_the_end_of_input_discipline 1"]
            else ["C tables_OUTSIDE_the_end_of_input_discipline 1"]
          -- the decidable hypotheses of the certified whole-run theorems (`C05.wholeRunCert`: `Cert.check`,
          -- `Cert.checkLA`, `Cert.vpClosed`, `colsOk`), evaluated on the dumped table; a table with
          -- conflicts or precedence-resolved cells cannot pass L4 and is counted without evaluating
          let certc := if which != 5 then [] else
            if !A.sr.isEmpty || !A.rr.isEmpty || C01.precResolved G A then
              ["C tables_outside_the_hypotheses_of_the_whole_run_theorems 1",
               "C tables_outside_because_of_conflicts_or_precedence 1"]
            else if GrmVerif.C05.wholeRunCert G A then
              ["C tables_within_the_hypotheses_of_the_whole_run_theorems 1"]
            else
              ["C tables_outside_the_hypotheses_of_the_whole_run_theorems 1",
               "C tables_conflict_free_but_a_certificate_fails 1"]
          let cnts := vs.filter (fun l => l.startsWith "C ") ++ eofc ++ certc
          let ms := vs.filter (fun l => l.startsWith "Mr ")
          "\n".intercalate ((if fails.isEmpty then ["V ok"] else fails) ++ ms ++ cnts ++ liveCnt)
      | _ => "bad-request"

end GrmVerif.Drive.C05
