import GrmVerif.Model.YaccBuild
import GrmVerif.Lemmas.YaccBuild
import GrmVerif.Model.YaccLex
import GrmVerif.Extracted
import GrmVerif.Drive.C10T
/-!
Driver for C10.

Request `0 <kind> <ast>`: the abstract AST of a generated grammar (what the generator's text-layer
oracle says the parser must have produced), `kind` 0-2 Original (GenericParseTree / NoAction / UserAction) / 3 Grmtools / 4 Eco; the AST is followed
by harness-only extras (defining-text ends, `%parse-param`, programs, the source text) that make the
request replayable and are not read here. Reply `M …`: every
field of `buildGrammar` in the format of the harness' `I` line (which is read off the real
`YaccGrammar` through its public accessors).

    str   = len cp…            span = start end          opt x = 0 | 1 x
    ast   = opt(str span)                                   start
            n × (str span  k pidx…  opt str)                rules
            n × (k × (tag str span)  opt str  opt(str span)  span)   prods (tag 0 rule, 1 token)
            n × (str span)                                   tokens
            n × (str level kind)                             precs
            opt(n × str)  opt(n × str)                       avoid_insert, implicit_tokens (iteration order)
            n × (str str)                                    epp
            opt nat  opt nat                                 expect, expect-rr
-/
namespace GrmVerif.Drive.C10
open GrmVerif GrmVerif.YaccBuild GrmVerif.Drive

abbrev P := StateT (List Nat) Option

def nat : P Nat := fun s => match s with | [] => none | x :: r => some (x, r)
def str : P Str := fun s => match s with
  | [] => none
  | n :: r => if r.length < n then none else some (r.take n, r.drop n)
def span : P Span := do let a ← nat; let b ← nat; pure (a, b)
def opt {α : Type} (p : P α) : P (Option α) := do
  let t ← nat
  if t == 0 then pure none else do let x ← p; pure (some x)
def many {α : Type} (p : P α) : Nat → P (List α)
  | 0 => pure []
  | n + 1 => do let x ← p; let xs ← many p n; pure (x :: xs)
def listOf {α : Type} (p : P α) : P (List α) := do let n ← nat; many p n

def sym : P ASym := do
  let t ← nat; let n ← str; let sp ← span
  pure (if t == 0 then .rule n sp else .tok n sp)

def prod : P AProd := do
  let syms ← listOf sym
  let prec ← opt str
  let action ← opt (do let s ← str; let sp ← span; pure (s, sp))
  let sp ← span
  pure { syms, prec, action, span := sp }

def rule : P ARule := do
  let name ← str; let nameSpan ← span; let pidxs ← listOf nat; let actiont ← opt str
  pure { name, nameSpan, pidxs, actiont }

def ast : P AST := do
  let start ← opt (do let s ← str; let sp ← span; pure (s, sp))
  let rules ← listOf rule
  let prods ← listOf prod
  let tokens ← listOf (do let s ← str; let sp ← span; pure (s, sp))
  let precs ← listOf (do let s ← str; let l ← nat; let k ← nat; pure (s, (⟨l, k⟩ : Prec)))
  let avoidInsert ← opt (listOf str)
  let implicitTokens ← opt (listOf str)
  let epp ← listOf (do let k ← str; let v ← str; pure (k, v))
  let expect ← opt nat
  let expectrr ← opt nat
  pure { start, rules, prods, tokens, precs, avoidInsert, implicitTokens, epp, expect, expectrr }

def realCfg : Cfg :=
  { startRule := Extracted.YACC_START_RULE, implicitRule := Extracted.YACC_IMPLICIT_RULE,
    implicitStartRule := Extracted.YACC_IMPLICIT_START_RULE }

def fStr (s : Str) : String := "s" ++ ".".intercalate (s.map toString)
def fOpt {α : Type} (f : α → String) : Option α → String
  | none => "N"
  | some x => f x
def fSpan (s : Span) : String := s!"{s.1}-{s.2}"
def fPrec (p : Prec) : String := s!"p{p.level},{p.kind}"
def fSym : Sym → String
  | .tok t => s!"t{t}"
  | .rule r => s!"r{r}"

def fGrammar (g : IGrammar) : String :=
  let hd := s!"nr {g.rulesLen} nt {g.tokensLen} np {g.prodsLen} eof {g.eof} sp {g.startProd} " ++
    s!"sr {(g.prodsRules[g.startProd]?).elim "X" toString} ir {fOpt toString g.implicitRule} " ++
    s!"ex {fOpt toString g.expect} err {fOpt toString g.expectrr}"
  let rs := (List.range g.rulesLen).map (fun r =>
    let nm := g.ruleNames[r]?
    s!"R {fOpt (fun x => fStr x.1) nm} {fOpt (fun x => fSpan x.2) nm} at {(g.actiontypes[r]?).elim "X" (fOpt fStr)} " ++
    s!"ps {(g.rulesProds[r]?).elim "X" (fun l => " ".intercalate (toString l.length :: l.map toString))}")
  let ts := (List.range g.tokensLen).map (fun t =>
    let nm := (g.tokenNames[t]?).getD none
    s!"T {fOpt (fun x => fStr x.2) nm} {fOpt (fun x => fSpan x.1) nm} {(g.tokenPrecs[t]?).elim "X" (fOpt fPrec)} " ++
    s!"{(g.tokenEpp[t]?).elim "X" (fOpt fStr)} {match g.avoidInsert with | none => "0" | some v => (v[t]?).elim "X" (fun b => if b then "1" else "0")}")
  let ps := (List.range g.prodsLen).map (fun p =>
    match g.recs[p]? with
    | none => "P X"
    | some r =>
      s!"P {r.rule} {" ".intercalate (toString r.rhs.length :: r.rhs.map fSym)} {fOpt fPrec r.prec} " ++
      s!"{fOpt fStr r.action} {fOpt (fun _ => "A") r.actionSpan} {fSpan r.span}")
  " ".intercalate (hd :: rs ++ ts ++ ps)

/-! ### what the PROPERTY prescribes, read off the AST directly (not through the model of the builder):
the multiset of productions as (rule name, symbol names, precedence of the `%prec` token, else of the
LAST token) and the token list in source order with declared precedence and `%avoid_insert` flag -/

def symName : ASym → String
  | .tok n _ => "t" ++ fStr n
  | .rule n _ => "r" ++ fStr n

def specProds (a : AST) : String :=
  let items := a.rules.flatMap (fun r => r.pidxs.filterMap (fun i => (a.prods[i]?).map (fun p =>
    let pr : Option Prec := match p.prec with
      | some n => assoc a.precs n
      | none => (lastTok p.syms).bind (assoc a.precs)
    s!"{fStr r.name} {p.syms.length} {" ".intercalate (p.syms.map symName)} {fOpt fPrec pr}")))
  ";".intercalate (items.mergeSort (fun x y => x < y || x == y))

def specToks (a : AST) : String :=
  ";".intercalate (a.tokens.map (fun t =>
    s!"{fStr t.1} {fOpt fPrec (assoc a.precs t.1)} {if (a.avoidInsert.getD []).contains t.1 then 1 else 0}"))

def handleBuild (args : List Nat) : String :=
  match args with
  | k :: rest =>
    match (ast.run rest) with
    | some (a, _) =>
      let kind := if k < 3 then Kind.original else if k == 3 then Kind.grmtools else Kind.eco
      let spec := if k == 4 then "" else s!"\nSpp {specProds a}\nStk {specToks a}"
      match buildGrammar realCfg a kind with
      | some g => "M " ++ fGrammar g ++ spec
      | none => "M panic"
    | _ => "bad-request"
  | _ => "bad-request"

/-! Request `3 …` (text → AST stage: rendered rules section, model parse, image) is handled by
`Drive/C10T.lean`. -/

/-- Request `2 inc <layout> <post>`: the model of `parse_ws` on `layout ++ post`, expressed as what a
whole parse shows of it. `inc = 1`: the layout stands between `A:` and `'a';` — `ok j` (the production
starts at `j`) when exactly the layout is skipped, `Illegal string` at the stopping offset when
skipping stops early, the skipper's own error otherwise. `inc = 0`: between `%start` and the name. -/
def handleWs (args : List Nat) : String :=
  match args with
  | inc :: rest =>
    match (do let w ← str; let post ← str; pure (w, post)).run rest with
    | some ((w, post), _) =>
      let wl := w.map Char.ofNat
      let text := wl ++ post.map Char.ofNat
      match YaccLex.parseWs (inc == 1) text with
      | .ok (n, _, _) =>
        if n == YaccLex.byteLen wl then s!"M ok {n}"
        else if inc == 1 && n == YaccLex.byteLen text then s!"M err Incomplete_rule {n}"
        else if inc == 1 then s!"M err Illegal_string {n}" else s!"M err Illegal_name {n}"
      | .error (.incompleteComment, p) => s!"M err Incomplete_comment {p}"
      | .error (.reachedEOL, p) => s!"M err Reached_end_of_line_without_finding_expected_content {p}"
      | .error (_, p) => s!"M err other {p}"
    | none => "bad-request"
  | _ => "bad-request"

def handle (args : List Nat) : String :=
  match args with
  | 0 :: rest => handleBuild rest
  | 1 :: _ => "X witness (harness-side metamorphic check)"
  | 2 :: rest => handleWs rest
  | 3 :: rest => C10T.handle rest
  | 4 :: rest => C10T.handleFile rest
  | _ => "bad-request"

end GrmVerif.Drive.C10
