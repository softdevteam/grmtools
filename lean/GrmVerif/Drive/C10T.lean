import GrmVerif.Lemmas.YaccRender
import GrmVerif.Lemmas.YaccDeclRender
/-!
Driver for C10, text → AST stage (request `3` of C10).

Request `3 <kind> <pre> <post> <rules>`: an abstract description of a rules section (the harness derives
it from a generated grammar that falls inside the hypotheses of `C10.parse_rules_roundtrip`), the
declarations text `pre` that precedes the `%%` and the text `post` that follows the rules (empty, or
`%%` + programs).

    str   = len cp…                tok = 0 0 str (bare) | 1 quote-cp str (quoted)     opt x = 0 | 1 x
    prod  = empty(0|1)  n × tok  opt tok (%prec)  opt str (action text)
    rule  = str (name)  str (Grmtools action type, else empty)  prod  n × prod
    rules = n × rule

The text is `pre ++ "%%\n" ++ renderRules rules ++ post` (rendered HERE; the harness renders it too and
feeds it to the real parser). Reply:
  `M …`  the model of the whole parser (`YaccParse.parse`) on that text;
  `S …`  the image `runRules` of the description (no parsing of the rules) applied to the state the model
         of `parse_declarations` reaches on `pre`;
  `V ok` the hypotheses of the theorem hold for this case (`wfRules`, kind, what follows the rules, the
         declarations end where `pre` ends without error, every `%token` name is in the token set).
-/
namespace GrmVerif.Drive.C10T
open GrmVerif GrmVerif.YaccParse GrmVerif.YaccRender GrmVerif.Drive
open GrmVerif.Header (byteLen)

abbrev P := StateT (List Nat) Option

def nat : P Nat := fun s => match s with | [] => none | x :: r => some (x, r)
def str : P (List Char) := fun s => match s with
  | [] => none
  | n :: r => if r.length < n then none else some ((r.take n).map Char.ofNat, r.drop n)
def opt {α : Type} (p : P α) : P (Option α) := do
  let t ← nat
  if t == 0 then pure none else do let x ← p; pure (some x)
def many {α : Type} (p : P α) : Nat → P (List α)
  | 0 => pure []
  | n + 1 => do let x ← p; let xs ← many p n; pure (x :: xs)
def listOf {α : Type} (p : P α) : P (List α) := do let n ← nat; many p n

def tok : P RTok := do
  let t ← nat; let q ← nat; let s ← str
  pure (if t == 0 then .bare s else .quoted (Char.ofNat q) s)

def rprod : P RProd := do
  let e ← nat; let syms ← listOf tok; let prec ← opt tok; let action ← opt str
  pure { empty := e == 1, syms, prec, action }

def rrule : P RRule := do
  let name ← str; let ty ← str; let first ← rprod; let more ← listOf rprod
  pure { name, ty, first, more }

def fStr (s : List Char) : String := "s" ++ ".".intercalate (s.map (fun c => toString c.toNat))
def fSpan (s : Header.Span) : String := s!"{s.1}-{s.2}"
def fNS (x : Name × Header.Span) : String := s!"{fStr x.1} {fSpan x.2}"
def fSym (s : Sym) : String := s!"{if s.isTok then "t" else "r"}{fStr s.name} {fSpan s.span}"
def fProd (p : Prod) : String :=
  s!"P {fStr p.rule} {" ".intercalate (toString p.syms.length :: p.syms.map fSym)} " ++
  s!"{match p.prec with | none => "N" | some n => fStr n} {if p.action then 1 else 0} {fSpan p.span}"

/-- start, rules, productions, token set -/
def fAst (a : Ast) : String :=
  s!"st {match a.start with | none => "N" | some x => fNS x} " ++
  s!"R {" ".intercalate (toString a.rules.length :: a.rules.map fNS)} " ++
  s!"{" ".intercalate (a.prods.map fProd)} " ++
  s!"T {" ".intercalate (toString a.tokens.length :: a.tokens.map fNS)}"

def handle (args : List Nat) : String :=
  match args with
  | k :: rest =>
    match (do let pre ← str; let post ← str; let rs ← listOf rrule; pure (pre, post, rs)).run rest with
    | some ((pre, post, rs), _) =>
      let kind := if k < 3 then Kind.original else if k == 3 then Kind.grmtools else Kind.eco
      let g := k == 3
      let src := pre ++ '%' :: '%' :: '\n' :: (renderRules g rs ++ post)
      let fuel := byteLen src + 1
      let m := match YaccParse.parse src kind with
        | .ok (i, a) => s!"ok {i} {fAst a}"
        | .err (es, _) => s!"err {es.length}"
        | .panic => "panic"
        | .fuelOut => "fuelOut"
      let postOk := match post with
        | [] => true
        | '%' :: '%' :: _ => true
        | _ => false
      let sv : String × String := match Header.parseWith src false fuel with
        | .ok (_, pos) =>
          match parseDeclarations src kind fuel pos {} with
          | .ok (i, st) =>
            let r := runRules g (i + 3) rs (St.incNl 1 st)
            let why :=
              (if wfRules g rs then [] else ["wfRules"]) ++
              (if postOk then [] else ["post"]) ++ (if i == byteLen pre then [] else ["declarations-end"]) ++
              (if st.errs.isEmpty then [] else ["declaration-errors"]) ++
              (if st.ast.tokenDirs.all st.ast.hasToken then [] else ["token-directives"]) ++
              (if r.1 + byteLen post == byteLen src then [] else ["image-end"])
            (s!"ok {byteLen src} {fAst r.2.ast}", if why.isEmpty then "ok" else "fail hypothesis " ++ " ".intercalate why)
          | _ => ("declarations-fail", "fail hypothesis declarations")
        | _ => ("header-fail", "fail hypothesis header")
      s!"M {m}\nS {sv.1}\nV {sv.2}"
    | none => "bad-request"
  | _ => "bad-request"

/-! ### request `4`: a whole file `declarations %% rules [%% programs]`

    decl  = 0 str (%start) | 1 n × tok (%token, n ≥ 1) | 2 kind(0 left,1 right,2 nonassoc) n × tok
          | 3 n × tok (%avoid_insert) | 4 n × tok (%implicit_tokens) | 5 str (%expect digits)
          | 6 str (%expect-rr digits) | 7 str (%actiontype) | 8 str str (%parse-param name type)
          | 9 tok str (%epp token, unescaped text)
    request = 4 kind  n × decl  n × rule  opt str (programs text)

`M` the model of the whole parser on the text rendered here, `S` the image `runFile` of the
description (no parsing at all), `V ok` when the hypotheses of `C10.parse_roundtrip_partial` hold. -/

def toks1 : P (Option (RTok × List RTok)) := do
  let l ← listOf tok
  pure (match l with | [] => none | t :: ts => some (t, ts))

def rdecl : P (Option RDecl) := do
  let tag ← nat
  match tag with
  | 0 => do let n ← str; pure (some (.start n))
  | 1 => do let l ← toks1; pure (l.map fun (t, ts) => .token t ts)
  | 2 => do
    let k ← nat
    let l ← toks1
    pure (l.map fun (t, ts) => .prec (if k == 0 then .left else if k == 1 then .right else .nonassoc) t ts)
  | 3 => do let l ← toks1; pure (l.map fun (t, ts) => .avoidInsert t ts)
  | 4 => do let l ← toks1; pure (l.map fun (t, ts) => .implicitTokens t ts)
  | 5 => do let n ← str; pure (some (.expect n))
  | 6 => do let n ← str; pure (some (.expectRR n))
  | 7 => do let n ← str; pure (some (.actiontype n))
  | 8 => do let n ← str; let ty ← str; pure (some (.parseParam n ty))
  | 9 => do let t ← tok; let v ← str; pure (some (.epp t v))
  | _ => pure none

def sortStrs (l : List String) : List String := l.mergeSort (fun x y => x < y || x == y)

def fAssoc : Assoc → Nat
  | .left => 0
  | .right => 1
  | .nonassoc => 2

def fONS (o : Option (List (Name × Header.Span))) : String :=
  match o with
  | none => "N"
  | some l => " ".intercalate (toString l.length :: sortStrs (l.map fNS))

def fONat (o : Option (Nat × Header.Span)) : String :=
  match o with
  | none => "N"
  | some (n, sp) => s!"{n} {fSpan sp}"

/-- every field of the model's AST that the declarations and the programs section fill -/
def fAstFull (a : Ast) : String :=
  fAst a ++ s!" TD {" ".intercalate (toString a.tokenDirs.length :: sortStrs (a.tokenDirs.map fStr))}" ++
  s!" PR {" ".intercalate (toString a.precs.length ::
      sortStrs (a.precs.map fun (n, l, k, sp) => s!"{fStr n} {l} {fAssoc k} {fSpan sp}"))}" ++
  s!" AV {fONS a.avoidInsert} IM {fONS a.implicitTokens} EX {fONat a.expect} ER {fONat a.expectrr}" ++
  s!" PP {match a.parseParam with | none => "N" | some t => fStr t}" ++
  s!" EP {" ".intercalate (toString a.epp.length ::
      sortStrs (a.epp.map fun (n, sp, v, vsp) => s!"{fStr n} {fSpan sp} {fStr v} {fSpan vsp}"))}" ++
  s!" PG {match a.programs with | none => "N" | some n => toString n}"

def postOf (prog : Option (List Char)) : List Char :=
  match prog with
  | none => []
  | some p => '%' :: '%' :: '\n' :: p

def handleFile (args : List Nat) : String :=
  match args with
  | k :: rest =>
    match (do let ds ← listOf rdecl; let rs ← listOf rrule; let prog ← opt str; pure (ds, rs, prog)).run rest with
    | some ((ods, rs, prog), _) =>
      if ods.any Option.isNone then "bad-request" else
      let ds := ods.filterMap id
      let kind := if k < 3 then Kind.original else if k == 3 then Kind.grmtools else Kind.eco
      let g := k == 3
      let post := postOf prog
      let src := renderFile g ds rs post
      let m := match YaccParse.parse src kind with
        | .ok (i, a) => s!"ok {i} {fAstFull a}"
        | .err (es, _) => s!"err {es.length}"
        | .panic => "panic"
        | .fuelOut => "fuelOut"
      let progOk := match prog with
        | none => true
        | some [] => true
        | some (c :: _) => !(YaccLex.isBlank c || YaccLex.isEol c || c == '/')
      let img := runFile g ds rs post
      let why :=
        (if wfDecls kind ds then [] else ["wfDecls"]) ++ (if wfRules g rs then [] else ["wfRules"]) ++
        (if progOk then [] else ["programs-begin-with-layout"]) ++ (if img.isSome then [] else ["repeated-declaration"])
      let s := match img with
        | some st => s!"ok {byteLen src} {fAstFull st.ast}"
        | none => "no-image"
      s!"M {m}\nS {s}\nV {if why.isEmpty then "ok" else "fail hypothesis " ++ " ".intercalate why}"
    | none => "bad-request"
  | _ => "bad-request"

end GrmVerif.Drive.C10T
