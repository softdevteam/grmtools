import GrmVerif.Model.Width
/-!
Driver for C20.  Requests (see `harness/src/props/c20.rs`):

* `0 fam p0…p7  eco hasImpl k nrules ntokens  nruns (cnt nsyms ntoksyms)*  stages nstates terr  acc8 acc16 acc32`
  — a grammar: generator descriptor (ignored here), the source counts, the productions run-length
  encoded, how many stages were attempted (1 grammar, 3 grammar+state graph+table), the state count
  and `StateTableError` flag of the widest (u32) build, and how many stages each width *accepted*;
* `1 n acc8 acc16 acc32` — a lexer definition with `n` rules;
* `2` — compare the guard conditions extracted from the sources with the shapes the model transcribes.

Reply: `M …` the faithful model's prediction (`Model/Width.lean`: guards as written, `as_()` as
truncation) and `S …` the specification's answer *given what each width accepted*: an accepted stage
must report the true sizes (`trueSizes`, the true state count) and these must fit `w` bits
(`must-refuse` otherwise); a refusal is always allowed.  `Props/C20.lean` equates the two.
-/
namespace GrmVerif.Drive.C20
open GrmVerif.Width GrmVerif.Drive

def expandRuns : List Nat → Nat → Option (List (Nat × Nat) × List Nat)
  | rest, 0 => some ([], rest)
  | cnt :: n :: t :: rest, k + 1 =>
    match expandRuns rest k with
    | some (l, r) => some (List.replicate cnt (n, t) ++ l, r)
    | none => none
  | _, _ + 1 => none

def fmtSizes (r : Sizes) : String :=
  s!"g:ok {r.rulesLen} {r.tokensLen} {r.prodsLen} {r.eofIdx} {r.startProd} {r.prodLens.foldl max 0} {r.prodLens.foldl (· + ·) 0}"

/-- decidable form of `Src.Fits`, written from the true sizes only (not from the guards) -/
def fitsB (w : Nat) (s : Src) : Bool :=
  decide (s.rulesTrue ≤ maxVal w) && decide (s.tokensTrue ≤ maxVal w) && decide (s.prodsTrue ≤ maxVal w) &&
    s.prodLens.all (fun l => decide (l ≤ maxVal w))

/-- faithful model, one width -/
def modelWidth (w : Nat) (s : Src) (stages nstates : Nat) (terr : Bool) : String :=
  match build w s with
  | none => s!"w{w} g:refused sg:- t:-"
  | some r =>
    let g := s!"w{w} {fmtSizes r}"
    if stages < 2 then g ++ " sg:- t:-"
    else
      -- the families of the harness create no unreachable states: pre = post = the u32 count
      match stategraph w nstates nstates with
      | none => g ++ " sg:refused t:-"
      | some n =>
        if stages < 3 then g ++ s!" sg:ok {n} t:-"
        else if tableOk w n r.rulesLen then g ++ s!" sg:ok {n} " ++ (if terr then "t:err" else "t:ok")
        else g ++ " sg:ok * t:refused"

/-- specification, one width, given how many stages the implementation accepted there -/
def specWidth (w : Nat) (s : Src) (stages nstates : Nat) (terr : Bool) (acc : Nat) : String :=
  if acc = 0 then s!"w{w} g:refused sg:- t:-"
  else
    let g := if fitsB w s then s!"w{w} {fmtSizes (trueSizes s)}" else s!"w{w} g:must-refuse"
    if stages < 2 then g ++ " sg:- t:-"
    else if acc = 1 then g ++ " sg:refused t:-"
    else
      let fits := decide (nstates ≤ maxVal w)
      if stages < 3 then g ++ (if fits then s!" sg:ok {nstates} t:-" else " sg:must-refuse t:-")
      else if acc = 2 then g ++ " sg:ok * t:refused"
      else g ++ (if fits then s!" sg:ok {nstates} " else " sg:must-refuse ") ++ (if terr then "t:err" else "t:ok")

def lexModel (w n : Nat) : String :=
  match lexIds w n with
  | some ids => s!"w{w} l:ok {ids.length} {ids.getLast?.getD 0}"
  | none => s!"w{w} l:refused"

def lexSpec (w n acc : Nat) : String :=
  if acc = 0 then s!"w{w} l:refused"
  else if n ≤ 2 ^ w then s!"w{w} l:ok {n} {n - 1}" else s!"w{w} l:must-refuse"

/-- The guard conditions that `Model/Width.lean` transcribes (`guardsPass`, `pagerPushOk`, `gcOk`,
`sgNewOk`, `tableOk`, `lexTokId`), in the form `tools/extract.py` copies them out of the Rust sources
into `Extracted.C20_GUARDS` on every run.  A difference means a guard was edited: the tie is broken
(the differential run then says whether behaviour changed). -/
def expectedGuards : List (String × String) :=
  [("grammar:this grammar's rules", "rule_names.len()+ast.rules.len()>max_len"),
   ("grammar:this grammar's tokens", "ast.tokens.len()+1>max_len"),
   ("grammar:this grammar's productions", "ast.prods.len()+extra_prods>max_len"),
   ("grammar:the symbols of at least one of this grammar's productions", "len>max_len"),
   ("pager:this stategraph", "core_states.len()>=num_traits::cast(StorageT::max_value()).unwrap()"),
   ("pager:this stategraph", "gc_states.len()>num_traits::cast(StorageT::max_value()).unwrap()"),
   ("stategraph:assert", "states.len()<num_traits::cast(StorageT::max_value()).unwrap()"),
   ("statetable:assert", "sg.all_states_len().as_storaget()<StorageT::max_value()-StorageT::one()"),
   ("lexer:tok_id", "LexerTypesT::StorageT::try_from(rules_len)")]

def shapeReply : String :=
  if Extracted.C20_GUARDS = expectedGuards then "M shape ok"
  else
    let diff := (Extracted.C20_GUARDS.zip expectedGuards).find? (fun (a, b) => a != b)
    match diff with
    | some (a, b) => s!"M shape differs: source has [{a.1}] {a.2} / model transcribes [{b.1}] {b.2}"
    | none => s!"M shape differs: {Extracted.C20_GUARDS.length} guards in the source, {expectedGuards.length} transcribed"

def handle (args : List Nat) : String :=
  match args with
  | [2] => shapeReply
  | 1 :: n :: a8 :: a16 :: a32 :: _ =>
    s!"M {lexModel 8 n} {lexModel 16 n} {lexModel 32 n}\nS {lexSpec 8 n a8} {lexSpec 16 n a16} {lexSpec 32 n a32}"
  | 0 :: _fam :: _ :: _ :: _ :: _ :: _ :: _ :: _ :: _ :: eco :: hasImpl :: k :: nrules :: ntokens :: nruns :: rest =>
    match expandRuns rest nruns with
    | some (prods, stages :: nstates :: terr :: a8 :: a16 :: a32 :: _) =>
      let s : Src := { rules := nrules, tokens := ntokens, prods := prods, eco := eco != 0,
                       implicit := if hasImpl != 0 then some k else none }
      let te := terr != 0
      let m := s!"M {modelWidth 8 s stages nstates te} {modelWidth 16 s stages nstates te} {modelWidth 32 s stages nstates te}"
      let sp := s!"S {specWidth 8 s stages nstates te a8} {specWidth 16 s stages nstates te a16} {specWidth 32 s stages nstates te a32}"
      m ++ "\n" ++ sp ++
        s!"\nX true-sizes rules {s.rulesTrue} tokens {s.tokensTrue} prods {s.prodsTrue} fits8 {fitsB 8 s} fits16 {fitsB 16 s} fits32 {fitsB 32 s} old-guards8 {guardsPassOld 8 s} old-guards16 {guardsPassOld 16 s}"
    | _ => "bad-request"
  | _ => "bad-request"

end GrmVerif.Drive.C20
