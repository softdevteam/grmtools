import GrmVerif.Lemmas.TableSpec
import GrmVerif.Model.Cert
import GrmVerif.Model.Closure
import GrmVerif.Model.CloseImpl
import GrmVerif.Model.Table
/-!
Drivers for C03 (conflict resolution and reporting) and C16 (table/graph views agree).
Request: `<grammar+precs> <automaton> expect expectrr errOnConflicts` (`expect` = 0 absent | n+1).
-/
namespace GrmVerif.Drive.Table
open GrmVerif GrmVerif.Table GrmVerif.Drive

def actStr : Act → String
  | .error => "e"
  | .shift s => s!"s{s}"
  | .reduce p => s!"r{p}"
  | .accept => "a"

def tokEdge (st : StateD) (t : Nat) : Option Nat := ((st.edges.find? (fun e => e.1 == Sym.tok t)).map (·.2))

structure Parsed where
  G : Grammar
  A : Automaton
  expect : Option Nat
  expectrr : Option Nat
  errOnConflicts : Bool
  /-- per production: the token named by `%prec`, as read off the source -/
  explicitPrec : Option (List (Option Nat)) := none

def parse (args : List Nat) : Option Parsed := do
  let (G, rest) ← parseGrammarPrec args
  let (A, rest) ← parseAutomaton G rest
  match rest with
  | e :: er :: eoc :: rest =>
    let ep := match rest with
      | 1 :: l => some ((l.take G.nprods).map (fun x => if x = 0 then none else some (x - 1)))
      | _ => none
    some ⟨G, A, if e = 0 then none else some (e - 1), if er = 0 then none else some (er - 1), eoc != 0, ep⟩
  | _ => none

def sortQuads (l : List (Nat × Nat × Nat × Nat)) : List (Nat × Nat × Nat × Nat) :=
  l.mergeSort (fun a b => decide (a.1 < b.1) || (a.1 == b.1 && (decide (a.2.1 < b.2.1) || (a.2.1 == b.2.1 &&
    (decide (a.2.2.1 < b.2.2.1) || (a.2.2.1 == b.2.2.1 && decide (a.2.2.2 ≤ b.2.2.2)))))))

def quadStr (q : Nat × Nat × Nat × Nat) : String := s!"{q.1},{q.2.1},{q.2.2.1},{q.2.2.2}"

/-- all cells of the faithful model: per state, per token -/
def modelCells (P : Parsed) : List (List Cell) :=
  P.A.states.map (fun st => (List.range P.G.ntoks).map (fun t => cellOf P.G st.closed (tokEdge st t) t))

def cellAct : Cell → String
  | .ok a _ _ _ => actStr a
  | .acceptReduce _ => "AR"
  | .panic => "P"

/-- `cells … sa … ss … ro … cr … rr … sr …` in the format of the harness' `I` line -/
def modelLine (P : Parsed) : String :=
  let cells := modelCells P
  let rows : List (List Act) := cells.map (fun row => row.map (fun c => match c with | .ok a _ _ _ => a | _ => .error))
  let cellsS := " ".intercalate (cells.map (fun row => ",".intercalate (row.map cellAct)))
  let sa := " ".intercalate (cells.map (fun row =>
    ",".intercalate (((List.range row.length).filter (fun t => match row.getD t .panic with | .ok _ _ _ b => b | _ => false)).map toString) ++ ";"))
  let ss := " ".intercalate (rows.map (fun row => ",".intercalate ((stateShifts row).map toString) ++ ";"))
  let ro := " ".intercalate (rows.map (fun row => if reduceOnly P.G row then "1" else "0"))
  let cr := " ".intercalate (rows.map (fun row => ",".intercalate ((coreReduces P.G row).map toString) ++ ";"))
  let rr := (List.range cells.length).flatMap (fun s => (List.range P.G.ntoks).flatMap (fun t =>
    match (cells.getD s []).getD t .panic with
    | .ok _ recs _ _ => recs.map (fun (k, d) => (t, k, d, s))
    | _ => []))
  let sr := (List.range cells.length).flatMap (fun s => (List.range P.G.ntoks).flatMap (fun t =>
    match (cells.getD s []).getD t .panic with
    | .ok _ _ (some r) _ => [(t, r, s, 0)]
    | _ => []))
  s!"cells {cellsS} sa {sa} ss {ss} ro {ro} cr {cr} rr {" ".intercalate ((sortQuads rr).map quadStr)} sr {" ".intercalate ((sortQuads sr).map quadStr)}"

/-- the specification's cells: candidate reductions as a *set* (sorted, so no dependence on the
iteration order), Yacc's rules -/
def specCells (P : Parsed) : List (List (Option (Act × Nat × Option Nat))) :=
  P.A.states.map (fun st => (List.range P.G.ntoks).map (fun t =>
    let R := (reduceCands P.G st.closed t).mergeSort (fun a b => decide (a ≤ b)) |>.eraseDups
    specCell P.G R (tokEdge st t) t))

def specLine (P : Parsed) : String :=
  let cells := specCells P
  let act : Option (Act × Nat × Option Nat) → Act := fun c => match c with | some (a, _, _) => a | none => .error
  let rows := cells.map (fun row => row.map act)
  let cellsS := " ".intercalate (cells.map (fun row => ",".intercalate (row.map (fun c => match c with | some (a, _, _) => actStr a | none => "AR"))))
  let sa := " ".intercalate (rows.map (fun row =>
    ",".intercalate (((List.range row.length).filter (fun t => row.getD t .error != .error)).map toString) ++ ";"))
  let ss := " ".intercalate (rows.map (fun row =>
    ",".intercalate (((List.range row.length).filter (fun t => isShift (row.getD t .error))).map toString) ++ ";"))
  let ro := " ".intercalate (rows.map (fun row =>
    let keys := (row.filterMap (fun a => match a with | .reduce p => some (rkey P.G p) | _ => none)).eraseDups
    if row.all (fun a => !isShift a && a != .accept) && keys.length == 1 then "1" else "0"))
  let rrsum := (List.range cells.length).flatMap (fun s => (List.range P.G.ntoks).flatMap (fun t =>
    match (cells.getD s []).getD t none with
    | some (_, n, _) => if n > 0 then [s!"{s},{t},{n}"] else []
    | none => []))
  let sr := (List.range cells.length).flatMap (fun s => (List.range P.G.ntoks).flatMap (fun t =>
    match (cells.getD s []).getD t none with
    | some (_, _, some r) => [(t, r, s, 0)]
    | _ => []))
  s!"cells {cellsS} sa {sa} ss {ss} ro {ro} rrsum {" ".intercalate rrsum} sr {" ".intercalate ((sortQuads sr).map quadStr)}"

/-- numbers of reported conflicts according to the specification -/
def specCounts (P : Parsed) : Nat × Nat :=
  let cells := (specCells P).flatten
  (cells.foldl (fun acc c => match c with | some (_, _, some _) => acc + 1 | _ => acc) 0,
   cells.foldl (fun acc c => match c with | some (_, n, _) => acc + n | _ => acc) 0)

/-- Yacc's rule for the precedence of a production: that of the token named by `%prec`, else that of
the LAST token of the right-hand side (none if it has no token or that token has no precedence) -/
def specProdPrec (G : Grammar) (explicit : Option Nat) (p : Nat) : Option Prec :=
  match explicit with
  | some t => (G.tokPrec[t]?).getD none
  | none =>
    match ((G.rhs p).filterMap (fun X => match X with | .tok t => some t | .rule _ => none)).getLast? with
    | some t => (G.tokPrec[t]?).getD none
    | none => none

/-- productions whose dumped precedence differs from Yacc's rule -/
def badProdPrecs (P : Parsed) : List Nat :=
  match P.explicitPrec with
  | none => []
  | some ep => (List.range P.G.nprods).filter (fun p =>
      (P.G.prodPrec[p]?).getD none != specProdPrec P.G (ep.getD p none) p)

/-- must a compile-time build fail? (`%expect`/`%expect-rr` default 0) -/
def specBuildFails (P : Parsed) : Bool :=
  let (sr, rr) := specCounts P
  P.errOnConflicts && (sr != P.expect.getD 0 || rr != P.expectrr.getD 0)

end GrmVerif.Drive.Table

namespace GrmVerif.Drive.C03
open GrmVerif GrmVerif.Table GrmVerif.Drive GrmVerif.Drive.Table

def handle (args : List Nat) : String :=
  match parse args with
  | none => "bad-request"
  | some P =>
    if !P.G.wf then "V fail dumped grammar is not well-formed" else
    let anyAR := (specCells P).flatten.any (·.isNone)
    let v1 := (if precConsistent P.G then [] else ["V fail precedence levels inconsistent: equal level with different kinds"]) ++
      (match badProdPrecs P with
       | [] => []
       | ps => [s!"V fail production-precedence-is-not-that-of-its-%prec-or-last-token productions={ps}"])
    let lines := [s!"M {modelLine P}", s!"S2 {specLine P}",
      s!"SE arconflict={if anyAR then 1 else 0} fails={if specBuildFails P then 1 else 0}"]
    "\n".intercalate (lines ++ (if v1.isEmpty then ["V ok"] else v1))

end GrmVerif.Drive.C03

namespace GrmVerif.Drive.C16
open GrmVerif GrmVerif.Table GrmVerif.Drive GrmVerif.Drive.Table

/-- the dumped `core_reduces` of a state satisfy the specification for the dumped row -/
def coreReducesOk (G : Grammar) (st : StateD) : Bool :=
  let reds := st.actions.filterMap (fun a => match a with | .reduce p => some p | _ => none)
  st.coreReduces.all (fun q => reds.contains q) &&
  reds.all (fun p => (st.coreReduces.filter (fun q => rkey G q == rkey G p)).length == 1)

/-- the MODEL of `Itemset::close` (`Model/CloseImpl.lean`) evaluated on every dumped core state, in
the dumped (= hash map's) key order, against the dumped closed state. By `C16.close_impl_exact` the
model's answer is the LR(1) closure of the core, so a difference is a closed state that is not the
closure of its core (and, on a tree where the reference comparison passes, a model that no longer
describes the code). -/
def modelCloseFails (G : Grammar) (An : Ref.Analyses) (A : Automaton) : List String :=
  let N : Nat → Bool := (An.nullable.contains ·)
  let F : Nat × Nat → Bool := (An.first.contains ·)
  let U := (Closure.factUniverse G).length
  (List.range A.nstates).filterMap (fun s =>
    let core := A.core s
    let order := CloseImpl.keysOf core
    match CloseImpl.close G N F core order (order.length + U + 1) with
    | .done R =>
      if CloseImpl.sameItems R (A.closed s) then none
      else some s!"V fail model-of-Itemset::close-differs-from-the-dumped-closed-state state={s}"
    | .panic => some s!"V fail model-of-Itemset::close-panics-on-the-dumped-core state={s}"
    | .fuelOut => some s!"V fail model-of-Itemset::close-runs-out-of-fuel-on-the-dumped-core state={s}")

def handle (args : List Nat) : String :=
  match parse args with
  | none => "bad-request"
  | some P =>
    if !P.G.wf then "V fail dumped grammar is not well-formed" else
    let G := P.G
    let A := P.A
    let bad := (Cert.failing G A).filter (fun c => c == "itemsOk" || c == "K3'" || c == "K4" || c == "K5" || c == "K2")
    let v1 := if bad.isEmpty then [] else [s!"V fail graph/table disagree clauses={bad}"]
    let v2 := match Closure.reachableStates A with
      | none => ["V fail reachability: fuel exhausted"]
      | some R =>
        match (List.range A.nstates).find? (fun s => !R.contains s) with
        | some s => [s!"V fail unreachable-state state={s}"]
        | none => []
    let v3 := match Ref.analyses G with
      | none => ["V fail analyses: fuel exhausted"]
      | some An =>
        (List.range A.nstates).filterMap (fun s =>
          match Closure.close1 G (An.nullable.contains ·) (An.first.contains ·) (A.core s) with
          | none => some s!"V fail closure: fuel exhausted state={s}"
          | some S => if Closure.sameAs G S (A.closed s) then none else some s!"V fail closed-state-is-not-the-closure-of-its-core state={s}")
    let v4 := (List.range A.nstates).filterMap (fun s =>
      match A.states[s]? with
      | some st => if coreReducesOk G st then none else some s!"V fail core-reduces state={s}"
      | none => none)
    let v5 := match Ref.analyses G with
      | none => []
      | some An => modelCloseFails G An A
    let vs := v1 ++ v2 ++ v3 ++ v4 ++ v5
    let counts := [s!"C closure_states_vs_reference {A.nstates}", s!"C closure_reference_differs {v3.length}",
      s!"C closure_states_vs_model_of_close {A.nstates}", s!"C closure_model_of_close_differs {v5.length}"]
    "\n".intercalate ([s!"M {modelLine P}", s!"S2 {specLine P}"] ++ (if vs.isEmpty then ["V ok"] else vs) ++ counts)

end GrmVerif.Drive.C16
