import GrmVerif.Model.PagerImpl
/-!
Driver part for the tie of `Model/PagerImpl.lean` with `pager_stategraph` (C02). The request carries,
after the C01-style payload, `maxStates niters (ncore (p d)* nclosed (p d)*)*`: the hash-map iteration
orders the hook (`cfg(grmtools_verif)`) recorded. The model replays them; its `Mg` lines must equal the
harness' `Ig` lines: the sequence of `state_i`s with the symbols pushed, the pre-gc state list and
edges, the final `StateGraph` (state numbers included). Item sets are printed sorted (they come out of
hash maps); state numbers are determined once the orders are given, so they ARE compared.
-/
namespace GrmVerif.Drive.Pager
open GrmVerif GrmVerif.Drive GrmVerif.PagerImpl

def parseKeys : Nat → List Nat → Option (List (Nat × Nat) × List Nat)
  | 0, rest => some ([], rest)
  | n + 1, p :: d :: rest => (parseKeys n rest).map (fun r => ((p, d) :: r.1, r.2))
  | _, _ => none

def parseKeyList : List Nat → Option (List (Nat × Nat) × List Nat)
  | n :: rest => parseKeys n rest
  | [] => none

def parseOrders : Nat → List Nat → Option (List Order × List Nat)
  | 0, rest => some ([], rest)
  | n + 1, rest =>
    match parseKeyList rest with
    | none => none
    | some (ck, rest1) =>
      match parseKeyList rest1 with
      | none => none
      | some (clk, rest2) => (parseOrders n rest2).map (fun r => (⟨ck, clk⟩ :: r.1, r.2))

def encSym : Sym → Nat
  | .tok t => 2 * t
  | .rule r => 2 * r + 1

def sortNats (l : List Nat) : List Nat := l.mergeSort (fun a b => decide (a ≤ b))

def itemLe (a b : Item) : Bool := decide (a.p < b.p) || (a.p == b.p && decide (a.dot ≤ b.dot))

def itemStr (i : Item) : String := s!"{i.p}.{i.dot}:" ++ ".".intercalate ((sortNats i.la).map toString)

def itemsStr (is : List Item) : String := ",".intercalate ((is.mergeSort itemLe).map itemStr)

def edgesStr (es : List (Sym × Nat)) : String :=
  ",".intercalate (((es.map (fun e => (encSym e.1, e.2))).mergeSort (fun a b => decide (a.1 ≤ b.1))).map
    (fun e => s!"{e.1}>{e.2}"))

def stateStr (core closed : List Item) (es : List (Sym × Nat)) : String :=
  "core{" ++ itemsStr core ++ "}closed{" ++ itemsStr closed ++ "}edges{" ++ edgesStr es ++ "}"

def statesStr (states : List (List Item × List Item)) (edges : List (List (Sym × Nat))) : String :=
  s!"n={states.length} " ++ " ".intercalate ((List.range states.length).map (fun s =>
    match states[s]? with
    | some st => stateStr st.1 st.2 (edges.getD s [])
    | none => "?"))

def seqStr (log : List (Nat × List Sym)) : String :=
  " ".intercalate (log.map (fun e => s!"{e.1}:" ++ ",".intercalate (e.2.map (fun s => toString (encSym s)))))

def preStates (st : St) : List (List Item × List Item) :=
  (List.range st.core.length).map (fun s => (st.core.getD s [], (st.closed.getD s none).getD []))

/-- the `Mg` and counter lines for one grammar -/
def lines (G : Grammar) (N : Nat → Bool) (F : Nat × Nat → Bool) (rest : List Nat) : List String :=
  match rest with
  | maxStates :: n :: rest =>
    match parseOrders n rest with
    | none => ["Mg bad-trace"]
    | some (orders, _) =>
      match pager G N F maxStates orders with
      | .panic => ["Mg panic"]
      | .fuelOut => ["Mg fuelOut"]
      | .badOrder => ["Mg badOrder"]
      | .ok o =>
        [s!"Mg seq {seqStr o.log}", s!"Mg pre {statesStr (preStates o.pre) o.pre.edges}",
         s!"Mg post {statesStr o.states o.edges}",
         "C pager_grammars 1", s!"C pager_iterations {o.log.length}", s!"C pager_pre_gc_states {o.pre.core.length}",
         s!"C pager_reopened_states {o.pre.nreopen}", s!"C pager_weakly_compatible_matches {o.pre.nweak}",
         s!"C pager_merges_that_grew_a_core {o.pre.nmerge}", s!"C pager_exact_equality_hits {o.pre.nexact}",
         s!"C pager_states_collected_by_gc {o.pre.core.length - o.states.length}",
         s!"C pager_grammars_with_reopened_states {if o.pre.nreopen > 0 then 1 else 0}",
         s!"C pager_grammars_with_gc {if o.pre.core.length > o.states.length then 1 else 0}"]
  | _ => []

end GrmVerif.Drive.Pager
