import GrmVerif.Model.CertVP
import GrmVerif.Drive.C01
import GrmVerif.Model.Canon
/-!
Driver for C04. Everything the C01 driver answers (validators `check`/`checkLA`, LR driver model),
plus, for conflict-free tables without precedence-resolved cells over grammars whose rules are all
productive (the property's hypothesis):
* `V fail certVP …` when a closed state holds an item outside the closure of its core
  (`Cert.checkVP`, the premise of `C04.error_prefix_is_viable`);
* `Sp k err i | acc` — the error position the PROPERTY prescribes, computed by a canonical LR(1)
  parser that itself passed all three validators (`C04.error_position_unique`: every certified
  automaton of the grammar reports this position). The harness sends `Ip k …` (position only).
-/
namespace GrmVerif.Drive.C04
open GrmVerif GrmVerif.Drive GrmVerif.LR GrmVerif.Ref

def posOnly : Outcome → String
  | .accept _ => "acc"
  | .error i _ => s!"err {i}"
  | .crash n => s!"crash {n}"
  | .fuelOut => "div"

/-- the C01 driver's answer without its language-level verdicts (`sentence-rejected…`: a table whose
conflicts were settled by precedence rejects sentences on purpose — C01's known finding, not a matter
of error positions) -/
def baseFor (args : List Nat) : String :=
  let ls := (C01.handle args).splitOn "\n"
  let kept := ls.filter (fun l => !l.startsWith "V fail sentence-rejected")
  let hasV := kept.any (fun l => l.startsWith "V ")
  "\n".intercalate (if hasV then kept else "V ok" :: kept)

def handle (args : List Nat) : String :=
  let base := baseFor args
  match C01.parseReq args with
  | none => base
  | some P =>
    let conflictFree := P.A.rr.isEmpty && P.A.sr.isEmpty
    if !conflictFree || C01.precResolved P.G P.A then base ++ "\nC outside_hypothesis_conflicts_or_precedence 1"
    else if !Cert.allProductive P.G then base ++ "\nC outside_hypothesis_unproductive_rule 1"
    else
      let vp := if Cert.vpClosed P.G P.A then [] else ["V fail certVP closed-item-outside-closure-of-core"]
      let spec : List String :=
        match analyses P.G with
        | none => []
        | some An =>
          let N : Nat → Bool := fun x => An.nullable.contains x
          let F : Nat × Nat → Bool := fun x => An.first.contains x
          match Canon.canonical P.G N F 300 with
          | none => ["C canonical_too_big 1"]
          | some (Ac, cf) =>
            if !cf then ["C canonical_has_conflicts 1"]
            else if !(Cert.failing P.G Ac ++ Cert.failingLA P.G Ac N F ++ Cert.failingVP P.G Ac).isEmpty then
              ["C canonical_not_certified 1"]
            else
              (List.range P.inputs.length).map (fun k =>
                let w := P.inputs.getD k []
                s!"Sp {k} {posOnly (parse P.G Ac w (400 * (w.length + 2)))}") ++ ["C spec_from_certified_canonical 1"]
      "\n".intercalate (vp ++ [base] ++ spec ++ ["C within_hypothesis 1"])

end GrmVerif.Drive.C04
