import GrmVerif.Lemmas.FirstsImpl
/-! The model of `YaccFollows::new` (`Impl.followsNew`), run on a `Firsts` table that is exact:
invariant, `Step` property of every loop level together with what a pass without change has checked, exactness. -/
namespace GrmVerif.Impl
open GrmVerif Spec Ref

/-- epsilon bits / FIRST bits of `fst` and the bits of the table `W` as the functions the reference definitions take -/
abbrev epsF (fst : Firsts) : Nat → Bool := fun r => vget fst.epsilons r
abbrev firstF (fst : Firsts) : Nat × Nat → Bool := fun x => mget fst.firsts x.1 x.2
abbrev followF (W : List (List Bool)) : Nat × Nat → Bool := fun x => mget W x.1 x.2

structure WInv (G : Grammar) (W : List (List Bool)) : Prop where
  dims : MDims G.nrules G.ntoks W
  snd : ∀ A t, mget W A t = true → FollowP G A t

abbrev WStep (G : Grammar) (C : List (List Bool) → Prop) (a b : WS) : Prop :=
  Step followF (pairs G.nrules G.ntoks) (WInv G) C a b

theorem setFollow_step (G : Grammar) {q t : Nat} (hq : q < G.nrules) (ht : t < G.ntoks)
    (hf : FollowP G q t) (s : WS) (hI : WInv G s.1) :
    WStep G (fun W => mget W q t = true) s (setFollow q t s) :=
  Step.set (bit := followF) (q, t) (fun W => mset W q t) (mem_pairs.mpr ⟨hq, ht⟩) hI
    ⟨mdims_mset hI.dims hq _, mget_mset_elim hI.dims hq ht hf hI.snd⟩ (by simp [followF, mget_mset hI.dims hq ht])
    fun _ hi => mget_mset_mono hI.dims hq ht hi

theorem inheritTok_step (G : Grammar) {ridx q t : Nat} (hq : q < G.nrules) (ht : t < G.ntoks)
    (hf : FollowP G ridx t → FollowP G q t) (s : WS) (hI : WInv G s.1) :
    WStep G (fun W => mget W ridx t = true → mget W q t = true) s (inheritTok ridx q s t) := by
  unfold inheritTok
  exact Step.guard (fun W : List (List Bool) => mget W ridx t) hI fun h =>
    setFollow_step G hq ht (hf (hI.snd ridx t h)) s hI

theorem inheritRow_step (G : Grammar) {ridx q : Nat} (hq : q < G.nrules)
    (hf : ∀ t, FollowP G ridx t → FollowP G q t) (s : WS) (hI : WInv G s.1) :
    WStep G (fun W => ∀ t, t < G.ntoks → mget W ridx t = true → mget W q t = true) s (inheritRow G ridx q s) :=
  foldl_step (inheritTok ridx q) _ s hI G.ntoks fun t ht s hI => inheritTok_step G hq ht (hf t) s hI

theorem orFirsts_step (G : Grammar) (fst : Firsts) {q n : Nat} (hq : q < G.nrules)
    (hf : ∀ t, mget fst.firsts n t = true → FollowP G q t) (s : WS) (hI : WInv G s.1) :
    WStep G (fun W => ∀ t, t < G.ntoks → mget fst.firsts n t = true → mget W q t = true) s
      (orFirsts G fst q n s) :=
  foldl_step _ _ s hI G.ntoks fun t ht s hI =>
    Step.guard (fun _ : List (List Bool) => mget fst.firsts n t) hI fun h => setFollow_step G hq ht (hf t h) s hI

theorem nxtSyms_step (G : Grammar) (fst : Firsts) (hx : FExact G fst) {q : Nat} (hq : q < G.nrules)
    (β : List Sym) (hfol : ∀ t, FirstSeqP G β t → FollowP G q t) :
    ∀ (rest γ : List Sym) (s : WS), β = γ ++ rest → NullableSeq G γ →
      (∀ x ∈ rest, G.symOk x = true) → WInv G s.1 →
      ∃ s', nxtSyms G fst q rest s = some s' ∧
        WStep G (fun W => ∀ t, t < G.ntoks → firstSeq (epsF fst) (firstF fst) rest t = true → mget W q t = true)
          s s' := by
  intro rest
  induction rest with
  | nil => intro γ s _ _ _ hI; exact ⟨s, rfl, Step.refl hI fun t _ h => by simp [firstSeq] at h⟩
  | cons x rest ih =>
    intro γ s hβ hγ hok hI
    cases x with
    | tok t =>
      have ht : t < G.ntoks := symOk_tok.mp (hok (.tok t) (by simp))
      refine ⟨setFollow q t s, by simp [nxtSyms, ht],
        (setFollow_step G hq ht (hfol t ⟨γ, .tok t, rest, hβ, hγ, Or.inl rfl⟩) s hI).imp fun _ c t' _ hf => ?_⟩
      simp only [firstSeq, beq_iff_eq] at hf
      subst hf; exact c
    | rule n =>
      have hn : n < G.nrules := symOk_rule.mp (hok (.rule n) (by simp))
      have st1 := orFirsts_step G fst hq
        (fun t ht => hfol t ⟨γ, .rule n, rest, hβ, hγ, Or.inr ⟨n, rfl, (hx.first n t).mp ht⟩⟩) s hI
      simp only [nxtSyms, hn, if_true]
      split
      · next he =>
        have hnn : NullableR G n := (hx.eps n).mp he
        obtain ⟨s', h1, h2⟩ := ih (γ ++ [.rule n]) _ (by rw [hβ]; simp) (nullableSeq_snoc hnn γ hγ)
          (fun x hx => hok x (by simp [hx])) st1.inv
        refine ⟨s', h1, (st1.trans h2).imp fun _ ⟨c, d⟩ t ht hf => ?_⟩
        simp only [firstSeq, Bool.or_eq_true, Bool.and_eq_true] at hf
        exact hf.elim (c t ht) fun hf => d t ht hf.2
      · next he =>
        refine ⟨_, rfl, st1.imp fun _ c t ht hf => ?_⟩
        simp only [firstSeq, Bool.or_eq_true, Bool.and_eq_true] at hf
        exact hf.elim (c t ht) fun hf => absurd hf.1 he

/-- what a pass over the symbols `l` of a production of `B` that changes nothing has checked: the table is
closed under `followOcc` on `l` -/
def FollowClosed (G : Grammar) (fst : Firsts) (W : List (List Bool)) (B : Nat) (l : List Sym) : Prop :=
  ∀ A t, t < G.ntoks → followOcc (epsF fst) (firstF fst) (followF W) B A t l = true → mget W A t = true

/-- the pass over a production from its end: it succeeds, the local `epsilon` it leaves says whether all of `rest` is nullable,
and a pass that changes nothing has found the table closed under `followOcc` on `rest` -/
theorem followSyms_step (G : Grammar) (fst : Firsts) (hx : FExact G fst) {p : Nat} (hp : p < G.nprods) :
    ∀ (rest pre : List Sym) (s : WS), G.rhs p = pre ++ rest → (∀ x ∈ rest, G.symOk x = true) →
      WInv G s.1 → ∃ se, followSyms G fst (G.lhs p) rest s = some se ∧ se.2 = seqNullable (epsF fst) rest ∧
        WStep G (fun W => FollowClosed G fst W (G.lhs p) rest) s se.1 := by
  intro rest
  induction rest with
  | nil =>
    intro pre s _ _ hI
    exact ⟨(s, true), rfl, rfl, Step.refl hI fun A t _ h => by simp [followOcc] at h⟩
  | cons x rest ih =>
    intro pre s hrhs hok hI
    obtain ⟨se1, h1, e1, st1⟩ := ih (pre ++ [x]) s (by rw [hrhs]; simp) (fun y hy => hok y (by simp [hy])) hI
    simp only [followSyms, h1]
    cases x with
    | tok t => exact ⟨_, rfl, (seqNullable_tok _ t rest).symm, st1⟩
    | rule q =>
      have hq : q < G.nrules := symOk_rule.mp (hok (.rule q) (by simp))
      have st2 := Step.guard (fun _ : List (List Bool) => se1.2) st1.inv fun he =>
        inheritRow_step G hq (fun t hf =>
          .inherit p pre q rest t hp hrhs ((seqNullable_iff hx.eps rest).mp (e1 ▸ he)) hf) se1.1 st1.inv
      obtain ⟨s3, h3, st3⟩ := nxtSyms_step G fst hx hq rest
        (fun t hfs => .first p pre q rest t hp hrhs hfs) rest [] _ rfl .nil
        (fun y hy => hok y (by simp [hy])) st2.inv
      simp only [followSym, hq, if_true, h3]
      refine ⟨_, rfl, ?_, ((st1.trans st2).trans st3).imp fun _ ⟨⟨c1, c2⟩, c3⟩ A t ht ho => ?_⟩
      · rw [seqNullable_rule, ← e1]
        cases hv : vget fst.epsilons q <;> simp [epsF, hv]
      · simp only [followOcc, Bool.or_eq_true, Bool.and_eq_true, beq_iff_eq] at ho
        rcases ho with ⟨rfl, ho | ⟨hn, hb⟩⟩ | ho
        · exact c3 t ht ho
        · exact c2 (e1.trans hn) t ht hb
        · exact c1 A t ht ho

theorem followProd_step (G : Grammar) (fst : Firsts) (hx : FExact G fst) (hwf : G.wf = true) {p : Nat}
    (hp : p < G.nprods) (s : WS) (hI : WInv G s.1) :
    ∃ s', followProd G fst s p = some s' ∧ WStep G (fun W => FollowClosed G fst W (G.lhs p) (G.rhs p)) s s' := by
  obtain ⟨se, h1, _, st⟩ := followSyms_step G fst hx hp (G.rhs p) [] s rfl (fun x hx => wf_sym hwf hp hx) hI
  exact ⟨se.1, by simp [followProd, h1], st⟩

theorem followRound_step (G : Grammar) (fst : Firsts) (hx : FExact G fst) (hwf : G.wf = true)
    (W : List (List Bool)) (hI : WInv G W) :
    ∃ r, followRound G fst W = some r ∧
      WStep G (fun W => ∀ p, p < G.nprods → FollowClosed G fst W (G.lhs p) (G.rhs p)) (W, false) r := by
  obtain ⟨r, h, hs⟩ := iterM_step (followProd G fst) _ (List.range G.nprods) (W, false)
    (fun p hp s hI => followProd_step G fst hx hwf (List.mem_range.mp hp) s hI) hI
  exact ⟨r, h, hs.imp fun _ c p hp => c p (List.mem_range.mpr hp)⟩

theorem closed_follow {G : Grammar} (hwf : G.wf = true) {fst : Firsts} (hx : FExact G fst)
    {W : List (List Bool)} (hstart : mget W G.startRule G.eof = true)
    (hcl : ∀ p, p < G.nprods → FollowClosed G fst W (G.lhs p) (G.rhs p)) {A t : Nat} (h : FollowP G A t) :
    mget W A t = true :=
  followP_complete hwf (N := epsF fst) (F := firstF fst) (S := followF W) hx.eps hx.first hstart
    (fun p hp α A β t hrhs ht hocc =>
      hcl p hp A t ht ((followOcc_iff _ _ _ _ _ _ _).mpr ⟨α, β, hrhs, hocc⟩)) h

theorem followsNew_exact (G : Grammar) (hwf : G.wf = true) (fst : Firsts) (hx : FExact G fst) :
    ∃ W, (∀ fuel, followsFuel G ≤ fuel → followsNew G fst fuel = .done W) ∧
      ∀ A t, mget W A t = true ↔ FollowP G A t := by
  have hs := wf_startRule hwf
  have he := wf_eof hwf
  have hd := mdims_mnew G.nrules G.ntoks
  have h0 : WInv G (mset (mnew G.nrules G.ntoks) G.startRule G.eof) :=
    ⟨mdims_mset hd hs _, mget_mset_elim hd hs he .start fun A t h => by rw [mget_mnew] at h; cases h⟩
  have hbit : mget (mset (mnew G.nrules G.ntoks) G.startRule G.eof) G.startRule G.eof = true := by
    rw [mget_mset hd hs he]; simp
  obtain ⟨W, ⟨h2, h3, h4⟩, h1⟩ := runLoop_spec followF (pairs G.nrules G.ntoks) (WInv G) (followRound G fst)
    (fun s hI => followRound_step G fst hx hwf s hI) _ h0
  refine ⟨W, fun fuel hf => ?_, fun A t => ⟨h2.snd A t, closed_follow hwf hx (h3 (G.startRule, G.eof) hbit) h4⟩⟩
  simp only [followsNew, hs, he, decide_true, Bool.and_self, if_true]
  apply h1
  rw [Total.pairs_length]
  exact hf

end GrmVerif.Impl
