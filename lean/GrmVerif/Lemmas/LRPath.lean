import GrmVerif.Lemmas.CertProps
import GrmVerif.Lemmas.LRStep
import GrmVerif.Lemmas.RecBasics
/-! The path lemma: items of the top state of a parse stack describe what is on the stack. Hence what the
table prescribes in the top state of a path can be carried out, and leaves a path (`Path.shift`, `Path.reduce`,
`accept_path`): the state-stack half of soundness, shared by the driver with trees, `feed` and the termination proof. -/
namespace GrmVerif.Cert
open GrmVerif Spec

variable {G : Grammar} {A : Automaton}

/-- `states` (top first) is a path of the automaton from the start state whose edge labels,
top first, are `labels` -/
inductive Path (A : Automaton) : List Nat → List Sym → Prop
  | base : Path A [A.start] []
  | step (s t : Nat) (rest : List Nat) (labels : List Sym) (X : Sym) :
      Path A (s :: rest) labels → A.edge s X = some t → Path A (t :: s :: rest) (X :: labels)

theorem Path.length_eq {A : Automaton} {states : List Nat} {labels : List Sym} (h : Path A states labels) :
    states.length = labels.length + 1 := by
  induction h with
  | base => rfl
  | step s t rest labels X _ _ ih => simp [ih]

theorem Path.states_lt (P : Props G A) {states : List Nat} {labels : List Sym}
    (h : Path A states labels) : ∀ s ∈ states, s < A.nstates := by
  induction h with
  | base => intro s hs; simp at hs; subst hs; exact P.startLt
  | step s t rest labels X hp he ih =>
    intro x hx
    rcases List.mem_cons.mp hx with rfl | hx
    · exact (P.edgeTarget s (ih s (by simp)) _ (edge_mem he)).1
    · exact ih x hx

/-- **The path lemma.** An item `[p, d]` of the top state says what the stack holds: its top `d` edge labels spell the
first `d` symbols of `rhs p`, and the state `d` below the top holds `[p, 0]`. Induction on `d`: an item with the dot
past the start is a kernel item (K2), a kernel item of an edge target comes from the item with the dot one to the left
in the source (K3′). -/
theorem path_item (P : Props G A) :
    ∀ (d : Nat) (s : Nat) (rest : List Nat) (labels : List Sym) (p : Nat),
      Path A (s :: rest) labels → HasItem (A.closed s) p d →
      d ≤ labels.length ∧ (labels.take d).reverse = (G.rhs p).take d ∧
        ∃ s', (s :: rest)[d]? = some s' ∧ HasItem (A.closed s') p 0 := by
  intro d
  induction d with
  | zero =>
    intro s rest labels p _ hi
    exact ⟨Nat.zero_le _, by simp, s, by simp, hi⟩
  | succ d ih =>
    intro s rest labels p hpath hi
    have hs : s < A.nstates := hpath.states_lt P s (by simp)
    obtain ⟨i, him, hip, hid⟩ := hi
    obtain ⟨k, hkm, hkp, hkd⟩ := P.kernelOfDot s hs i him (hid ▸ Nat.succ_pos d)
    have hkd' : k.dot = d + 1 := hkd.trans hid
    have hkp' : k.p = p := hkp.trans hip
    cases hpath with
    | base => exact absurd (hkd'.symm.trans (P.startCore k hkm).2) (Nat.succ_ne_zero d)
    | step s1 _ rest1 labels1 X hp1 he =>
      obtain ⟨_, _, hcore⟩ := P.edgeTarget s1 (hp1.states_lt P s1 (by simp)) _ (edge_mem he)
      obtain ⟨-, hksym, hkprev⟩ := hcore k hkm
      rw [hkd', hkp'] at hksym hkprev
      simp only [Nat.add_sub_cancel] at hksym hkprev
      obtain ⟨h1, h2, s', h3, h4⟩ := ih s1 rest1 labels1 p hp1 hkprev
      refine ⟨Nat.succ_le_succ h1, ?_, s', by simpa using h3, h4⟩
      simp only [List.take_succ_cons, List.reverse_cons, h2]
      unfold symAt at hksym
      rw [List.take_add_one, hksym]
      simp

theorem Path.drop {A : Automaton} {states : List Nat} {labels : List Sym} (h : Path A states labels) :
    ∀ n, n ≤ labels.length → Path A (states.drop n) (labels.drop n) := by
  induction h with
  | base => intro n hn; simp at hn; subst hn; exact .base
  | step s t rest labels X hp he ih =>
    intro n hn
    cases n with
    | zero => exact .step s t rest labels X hp he
    | succ m => simpa using ih m (by simpa using hn)

theorem kernel0_bottom (P : Props G A) {s : Nat} {rest : List Nat}
    {labels : List Sym} {p : Nat} (hpath : Path A (s :: rest) labels) (hi : HasItem (A.core s) p 0) :
    rest = [] ∧ labels = [] ∧ s = A.start := by
  cases hpath with
  | base => exact ⟨rfl, rfl, rfl⟩
  | step s1 _ rest1 labels1 X hp1 he =>
    obtain ⟨i, him, _, hid⟩ := hi
    obtain ⟨_, _, hcore⟩ := P.edgeTarget s1 (hp1.states_lt P s1 (by simp)) _ (edge_mem he)
    exact absurd (hid ▸ (hcore i him).1) (Nat.lt_irrefl 0)

/-- `path_item`, and how the exposed state comes to hold `[p, 0]`: as a kernel item only at the bottom
of the stack, where `p` is the start production; otherwise it was added for an item with `lhs p` after
the dot -/
theorem exposed_state (P : Props G A) {st : Nat} {tl : List Nat} {labels : List Sym}
    (hpath : Path A (st :: tl) labels) {p d : Nat} (hitem : HasItem (A.closed st) p d) :
    d ≤ labels.length ∧ (labels.take d).reverse = (G.rhs p).take d ∧
    ∃ s', (st :: tl).drop d = s' :: (st :: tl).drop (d + 1) ∧ s' < A.nstates ∧
      (((st :: tl).drop d = [A.start] ∧ p = G.startProd) ∨
        ∃ j ∈ A.closed s', symAt G j.p j.dot = some (.rule (G.lhs p))) := by
  obtain ⟨h1, h2, s', h3, i, him, hip, hid⟩ := path_item P d st tl labels p hpath hitem
  have hdrop : (st :: tl).drop d = s' :: (st :: tl).drop (d + 1) := by
    rw [List.drop_eq_getElem?_toList_append, h3]; rfl
  have hs'lt : s' < A.nstates := hpath.states_lt P s' (List.mem_of_getElem? h3)
  refine ⟨h1, h2, s', hdrop, hs'lt, (P.justified s' hs'lt i him hid).imp (fun hk => ?_) (hip ▸ id)⟩
  obtain ⟨hr, _, hs'⟩ := kernel0_bottom P (hdrop ▸ hpath.drop d h1) hk
  obtain ⟨k, hkm, hkp, _⟩ := hk
  exact ⟨by rw [hdrop, hr, hs'], hip ▸ hkp ▸ (P.startCore k (hs' ▸ hkm)).1⟩

theorem no_eof_edge (P : Props G A) {s t : Nat} (hs : s < A.nstates)
    (he : A.edge s (.tok G.eof) = some t) : False := by
  obtain ⟨ht, hne, hcore⟩ := P.edgeTarget s hs _ (edge_mem he)
  obtain ⟨i, hi⟩ := List.exists_mem_of_ne_nil _ hne
  obtain ⟨_, hsym, _⟩ := hcore i hi
  exact P.noEofRhs i.p (P.itemOk t ht i (List.mem_append_right _ hi)).1 (symAt_mem hsym)

/-- the end-of-input discipline that the recovery theorems assume of a table follows from the certificate: a shift is an
edge (K4) and no edge carries end-of-input -/
theorem eofNeverShifted_of_props (P : Props G A) : RankImpl.EofNeverShifted G A := by
  intro st s' h
  by_cases hs : st < A.nstates
  · exact no_eof_edge P hs (P.actShift st G.eof s' hs (wf_eof P.wf) h)
  · have : A.action st G.eof = .error := by
      unfold Automaton.action
      rw [List.getElem?_eq_none (Nat.le_of_not_lt hs)]
      rfl
    rw [this] at h
    cases h

theorem Path.shift (P : Props G A) {la : Nat} (hla : la < G.ntoks) {st s' : Nat} {rest : List Nat}
    {labels : List Sym} (hpath : Path A (st :: rest) labels) (hact : A.action st la = .shift s') :
    la ≠ G.eof ∧ Path A (s' :: st :: rest) (.tok la :: labels) := by
  have hst : st < A.nstates := hpath.states_lt P st (by simp)
  have hedge := P.actShift st _ s' hst hla hact
  exact ⟨fun h => no_eof_edge P hst (h ▸ hedge), .step st s' rest _ _ hpath hedge⟩

theorem Path.reduce (P : Props G A) {la : Nat} (hla : la < G.ntoks) {st p : Nat} {rest : List Nat}
    {labels : List Sym} (hpath : Path A (st :: rest) labels) (hact : A.action st la = .reduce p) :
    p < G.nprods ∧ (labels.take (G.rhs p).length).reverse = G.rhs p ∧
    ∃ g, Rec.Red G A la (st :: rest) p g ∧
      Path A (Rec.red G p g (st :: rest)) (.rule (G.lhs p) :: labels.drop (G.rhs p).length) := by
  obtain ⟨hpne, hplt, hitem⟩ := P.actReduce st la p (hpath.states_lt P st (by simp)) hla hact
  obtain ⟨h1, h2, s', hdrop, hs'lt, hex⟩ := exposed_state P hpath hitem
  -- `[p → . α]` in the exposed state is a closure item: its rule has a goto
  obtain ⟨j, hjm, hj⟩ := hex.resolve_left fun h => hpne h.2
  obtain ⟨g, hg, _⟩ := P.edgeExists s' hs'lt j hjm _ hj
  have hgo : A.goto s' (G.lhs p) = some g := by rw [P.gotoEdge s' _ hs'lt (wf_lhs P.wf hplt)]; exact hg
  refine ⟨hplt, by rw [h2, List.take_of_length_le (Nat.le_refl _)], g,
    ⟨st, rest, s', _, rfl, hact, hdrop, hgo⟩, ?_⟩
  rw [Rec.red, hdrop]
  exact .step s' g _ _ _ (hdrop ▸ hpath.drop _ h1) hg

/-- the item `[^ → S .]` of an accepting state leads back to `[^ → . S]`, which only the start state's kernel holds -/
theorem accept_path (P : Props G A) {st t : Nat} {rest : List Nat}
    {labels : List Sym} (hpath : Path A (st :: rest) labels) (ht : t < G.ntoks)
    (hact : A.action st t = .accept) :
    t = G.eof ∧ rest = [A.start] ∧ ∃ S, G.rhs G.startProd = [.rule S] ∧ labels = [.rule S] := by
  obtain ⟨heof, hitem⟩ := P.actAccept st t (hpath.states_lt P st (by simp)) ht hact
  obtain ⟨S, hS⟩ := P.startShape
  obtain ⟨-, h2, s', -, hs'lt, hex⟩ := exposed_state P hpath hitem
  rcases hex with ⟨hbot, -⟩ | ⟨j, hjm, hj⟩
  · obtain rfl : rest = [A.start] := hbot
    cases hpath with
    | step _ _ _ _ X hp1 _ =>
      cases hp1
      rw [hS] at h2
      exact ⟨heof, rfl, S, hS, by simpa using h2⟩
  · exact absurd (symAt_mem hj) (P.noStartRhs j.p (P.itemOk s' hs'lt j (List.mem_append_left _ hjm)).1)

end GrmVerif.Cert
