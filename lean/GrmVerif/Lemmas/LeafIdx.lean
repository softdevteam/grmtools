import GrmVerif.Lemmas.LRSound
/-!
The lexeme indices on the leaves of the trees the LR driver builds: read left to right over the tree
stack (bottom to top) they are `0, 1, …, laidx - 1`. Hence the `k`-th leaf of an accepted tree carries
index `k`. Used by C05 to say which item of the edited input a leaf of the returned tree stands for.
-/
namespace GrmVerif.Cert
open GrmVerif LR

variable {G : Grammar} {A : Automaton}

/-- the leaves on the tree stack, bottom to top, carry the indices of the lexemes read so far -/
def IdxInv (c : Cfg) : Prop := Tree.leafIdxsList c.astack.reverse = List.range c.laidx

theorem idxInv_init (A : Automaton) : IdxInv (init A) := by
  simp [IdxInv, init, Tree.leafIdxsList]

theorem step_idxInv {w : List Nat} {c c' : Cfg} (hinv : IdxInv c)
    (h : step G A w c = .cont c') : IdxInv c' := by
  rw [IdxInv, leafIdxsList_eq] at hinv ⊢
  obtain ⟨_, _, s', _, _, rfl⟩ | ⟨p, s', _, rfl⟩ := step_cont_inv h
  · simp only [shifted, List.reverse_cons, List.flatMap_append, hinv, List.flatMap_singleton, Tree.leafIdxs,
      List.range_succ]
  · simp only [reduced, List.reverse_cons, List.flatMap_append, List.flatMap_singleton, Tree.leafIdxs, leafIdxsList_eq]
    rw [← List.flatMap_append, ← List.reverse_append, List.take_append_drop]
    exact hinv

theorem steps_idxInv {w : List Nat} {a b : Cfg} (h : Steps G A w a b)
    (hinv : IdxInv a) : IdxInv b :=
  h.keeps (fun _ _ => step_idxInv) hinv

theorem accept_leafIdxs (P : Props G A) {w : List Nat} (hw : InputOk G w)
    {c : Cfg} (hs : Steps G A w (init A) c) (t : Tree) (h : step G A w c = .done (.accept t)) :
    Tree.leafIdxs t = List.range c.laidx := by
  have h1 := accept_stack P hw (steps_inv P hw hs (inv_init w)) t h
  have h2 := steps_idxInv hs (idxInv_init A)
  unfold IdxInv at h2
  rw [h1] at h2
  simpa [Tree.leafIdxsList] using h2

end GrmVerif.Cert
