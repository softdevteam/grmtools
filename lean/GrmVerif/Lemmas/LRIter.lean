import GrmVerif.Lemmas.LRStep
import GrmVerif.Lemmas.RecBasics
/-!
The LR machine under one lookahead, in closed form. First `Cert.Steps`, reachability for the driver: `run` ends with an
outcome iff some steps lead to a configuration whose step ends with it. Then `Rec.Reds`, the closure of `Rec.Red` (one
reduction on a state stack), carrying the productions in order; `reds_cases` is the one induction on fuel. The loops
are readings: `feed` makes the reductions and then answers `stop` (`feed_inv`, `feed_eq_stop`), for the driver the tree
stack is a fold over the productions (`steps_of_reds`), `localIter` counts the reductions, `localRun` runs out of fuel
exactly when `feed` does. No certificate is assumed here.
-/
namespace GrmVerif.Cert
open GrmVerif LR

variable {G : Grammar} {A : Automaton} {w : List Nat}

inductive Steps (G : Grammar) (A : Automaton) (w : List Nat) : Cfg → Cfg → Prop
  | refl (c : Cfg) : Steps G A w c c
  | step (c c' c'' : Cfg) : LR.step G A w c = .cont c' → Steps G A w c' c'' → Steps G A w c c''

theorem Steps.trans {a b c : Cfg}
    (h1 : Steps G A w a b) (h2 : Steps G A w b c) : Steps G A w a c := by
  induction h1 with
  | refl _ => exact h2
  | step x y z hs _ ih => exact .step x y c hs (ih h2)

theorem Steps.keeps {Q : Cfg → Prop} (hQ : ∀ c c', Q c → LR.step G A w c = .cont c' → Q c') {a b : Cfg}
    (h : Steps G A w a b) (ha : Q a) : Q b := by
  induction h with
  | refl _ => exact ha
  | step x y _ hs _ ih => exact ih (hQ x y ha hs)

theorem Steps.single {G : Grammar} {A : Automaton} {w : List Nat} {a b : Cfg}
    (h : LR.step G A w a = .cont b) : Steps G A w a b := .step a b b h (.refl b)

theorem run_of_steps' {a b : Cfg} (h : Steps G A w a b) :
    ∀ f, ∃ f', run G A w f' a = run G A w f b := by
  induction h with
  | refl c => intro f; exact ⟨f, rfl⟩
  | step x y z hs _ ih =>
    intro f
    obtain ⟨f', hf⟩ := ih f
    exact ⟨f' + 1, by simp [run, hs, hf]⟩

theorem run_of_steps {a b : Cfg} {o : Outcome}
    (h : Steps G A w a b) (hd : LR.step G A w b = .done o) : ∃ fuel, run G A w fuel a = o := by
  obtain ⟨f', hf⟩ := run_of_steps' h 1
  exact ⟨f', by rw [hf]; simp [run, hd]⟩

theorem steps_of_run :
    ∀ (fuel : Nat) (c : Cfg) (o : Outcome), run G A w fuel c = o → o ≠ .fuelOut →
      ∃ c', Steps G A w c c' ∧ LR.step G A w c' = .done o := by
  intro fuel
  induction fuel with
  | zero => intro c o h hne; exact absurd h.symm hne
  | succ k ih =>
    intro c o h hne
    simp only [run] at h
    cases hs : LR.step G A w c with
    | cont c' =>
      rw [hs] at h
      obtain ⟨c'', h1, h2⟩ := ih c' o h hne
      exact ⟨c'', .step c c' c'' hs h1, h2⟩
    | done o' => rw [hs] at h; exact ⟨c, .refl c, h ▸ hs⟩

theorem steps_diverge {a b : Cfg} (h : Steps G A w a b)
    (hb : ∀ fuel, run G A w fuel b = .fuelOut) : ∀ fuel, run G A w fuel a = .fuelOut := by
  induction h with
  | refl _ => exact hb
  | step x y z hs _ ih =>
    intro fuel
    cases fuel with
    | zero => simp [run]
    | succ f => simp only [run, hs]; exact ih hb f

theorem run_fuel_mono :
    ∀ (fuel : Nat) (c : Cfg) (o : Outcome), run G A w fuel c = o → o ≠ .fuelOut →
      ∀ extra, run G A w (fuel + extra) c = o := by
  intro fuel
  induction fuel with
  | zero => intro c o h hne; simp [run] at h; exact absurd h.symm hne
  | succ k ih =>
    intro c o h hne extra
    rw [Nat.add_right_comm]
    simp only [run] at h ⊢
    cases hs : step G A w c with
    | cont c' => rw [hs] at h; simpa using ih c' o h hne extra
    | done o' => rw [hs] at h; simpa using h

theorem run_deterministic {f1 f2 : Nat} {c : Cfg} {o1 o2 : Outcome}
    (h1 : run G A w f1 c = o1) (hn1 : o1 ≠ .fuelOut) (h2 : run G A w f2 c = o2) (hn2 : o2 ≠ .fuelOut) :
    o1 = o2 := by
  have e1 := run_fuel_mono f1 c o1 h1 hn1 f2
  have e2 := run_fuel_mono f2 c o2 h2 hn2 f1
  rw [Nat.add_comm, e1] at e2
  exact e2

end GrmVerif.Cert

namespace GrmVerif.Rec
open GrmVerif LR Term Cert

section
variable {G : Grammar} {A : Automaton} {la : Nat}

/-- `a` reduces under `la` by the productions `ps` (with their goto states), in this order, to `b` -/
inductive Reds (G : Grammar) (A : Automaton) (la : Nat) : List Nat → List (Nat × Nat) → List Nat → Prop
  | nil (a : List Nat) : Reds G A la a [] a
  | cons {a b : List Nat} {p s' : Nat} {ps : List (Nat × Nat)} :
      Red G A la a p s' → Reds G A la (red G p s' a) ps b → Reds G A la a ((p, s') :: ps) b

/-- a reduction that a top part of the stack can make is made by the whole stack -/
theorem Red.append {xs : List Nat} {p s' : Nat} (h : Red G A la xs p s') (ys : List Nat) :
    Red G A la (xs ++ ys) p s' ∧ red G p s' (xs ++ ys) = red G p s' xs ++ ys := by
  obtain ⟨st, tl, prior, rest, rfl, hact, hd, hg⟩ := h
  have hle := Nat.le_of_not_le (length_of_drop_cons hd)
  exact ⟨⟨st, tl ++ ys, prior, rest ++ ys, rfl, hact, by rw [List.drop_append_of_le_length hle, hd]; rfl, hg⟩,
    by rw [red, red, List.drop_append_of_le_length hle]; rfl⟩

/-- a reduction that the known part `xs` of the stack cannot make but the whole stack can pops all of
`xs`: what it leaves is not longer than the unknown part plus the goto state -/
theorem Stuck.append {xs ys : List Nat} {p s' : Nat} (hn : Stuck G A la xs)
    (h : Red G A la (xs ++ ys) p s') : (red G p s' (xs ++ ys)).length ≤ ys.length + 1 ∧ ys ≠ [] := by
  obtain ⟨st, tl, prior, rest, hxs, hact, hd, hg⟩ := h
  rw [red, hd]
  by_cases hle : xs.length ≤ (G.rhs p).length
  · rw [List.drop_append, List.drop_eq_nil_of_le hle, List.nil_append] at hd
    have hlen : (prior :: rest).length ≤ ys.length := by rw [← hd, List.length_drop]; exact Nat.sub_le _ _
    refine ⟨by simpa using hlen, ?_⟩
    rintro rfl
    simp at hd
  · exfalso
    rw [List.drop_append_of_le_length (Nat.le_of_not_le hle)] at hd
    cases hx : xs.drop (G.rhs p).length with
    | nil => exact hle (List.drop_eq_nil_iff.mp hx)
    | cons a r =>
      rw [hx, List.cons_append, List.cons.injEq] at hd
      cases xs with
      | nil => simp at hle
      | cons x tl' =>
        rw [List.cons_append, List.cons.injEq] at hxs
        obtain ⟨rfl, -⟩ := hxs
        obtain ⟨rfl, -⟩ := hd
        exact hn p s' ⟨x, tl', a, r, rfl, hact, hx, hg⟩

theorem Reds.trans {a b c : List Nat} {ps qs : List (Nat × Nat)} (h1 : Reds G A la a ps b)
    (h2 : Reds G A la b qs c) : Reds G A la a (ps ++ qs) c := by
  induction h1 with
  | nil _ => exact h2
  | cons hr _ ih => exact .cons hr (ih h2)

theorem Reds.keeps {Q : List Nat → Prop} (hQ : ∀ a p s', Q a → Red G A la a p s' → Q (red G p s' a))
    {a b : List Nat} {ps : List (Nat × Nat)} (h : Reds G A la a ps b) (ha : Q a) : Q b := by
  induction h with
  | nil _ => exact ha
  | cons hr _ ih => exact ih (hQ _ _ _ ha hr)

theorem Reds.append {xs xs' : List Nat} {ps : List (Nat × Nat)} (h : Reds G A la xs ps xs') (ys : List Nat) :
    Reds G A la (xs ++ ys) ps (xs' ++ ys) := by
  induction h with
  | nil _ => exact .nil _
  | cons hr _ ih => obtain ⟨h1, h2⟩ := hr.append ys; exact .cons h1 (h2 ▸ ih)

/-- the run of reductions is determined: any reductions from `a` are the first of those that lead to a stuck stack -/
theorem Reds.stuck_ext {a b b' : List Nat} {ps ps' : List (Nat × Nat)} (h : Reds G A la a ps b)
    (hb : Stuck G A la b) (h' : Reds G A la a ps' b') : ∃ qs, ps = ps' ++ qs ∧ Reds G A la b' qs b := by
  induction h' generalizing ps with
  | nil _ => exact ⟨ps, rfl, h⟩
  | cons hr' _ ih =>
    cases h with
    | nil _ => exact absurd hr' (hb _ _)
    | cons hr h =>
      obtain ⟨rfl, rfl⟩ := hr.det hr'
      obtain ⟨qs, rfl, hq⟩ := ih h
      exact ⟨qs, rfl, hq⟩

/-- **with fuel `f`** the run of reductions from `a` either comes to a stack from which none can be made
within fewer than `f` reductions, or makes `f` of them: the one induction on fuel -/
theorem reds_cases (G : Grammar) (A : Automaton) (la : Nat) :
    ∀ (f : Nat) (a : List Nat),
      (∃ ps b, Reds G A la a ps b ∧ Stuck G A la b ∧ ps.length < f) ∨
      (∃ ps b, Reds G A la a ps b ∧ ps.length = f)
  | 0, a => Or.inr ⟨[], a, .nil a, rfl⟩
  | f + 1, a => by
    rcases red_or_stuck G A la a with ⟨p, s', hr⟩ | hs
    · rcases reds_cases G A la f (red G p s' a) with ⟨ps, b, h, hb, hl⟩ | ⟨ps, b, h, hl⟩
      · exact Or.inl ⟨_, b, .cons hr h, hb, Nat.succ_lt_succ hl⟩
      · exact Or.inr ⟨_, b, .cons hr h, congrArg Nat.succ hl⟩
    · exact Or.inl ⟨[], a, .nil a, hs, Nat.succ_pos f⟩

theorem feed_reds {a b : List Nat} {ps : List (Nat × Nat)} (h : Reds G A la a ps b) (f : Nat) :
    feed G A la (ps.length + f) a = feed G A la f b := by
  induction h with
  | nil _ => rw [List.length_nil, Nat.zero_add]
  | cons hr _ ih => rw [List.length_cons, Nat.add_right_comm, feed_red hr, ih]

/-- **closed form of `feed`**: with more fuel than reductions it answers what the table says at the
stack the reductions end in -/
theorem feed_eq_stop {a b : List Nat} {ps : List (Nat × Nat)} (h : Reds G A la a ps b)
    (hb : Stuck G A la b) {f : Nat} (hf : ps.length < f) : feed G A la f a = stop A la b := by
  obtain ⟨k, rfl⟩ := Nat.exists_eq_add_of_lt hf
  rw [Nat.add_assoc, feed_reds h, feed_stuck hb]

theorem feed_eq_fuelOut {f : Nat} {a : List Nat} :
    feed G A la f a = .fuelOut ↔ ∃ ps b, Reds G A la a ps b ∧ ps.length = f := by
  constructor
  · intro h
    rcases reds_cases G A la f a with ⟨ps, b, hr, hb, hl⟩ | h'
    · exact absurd ((feed_eq_stop hr hb hl).symm.trans h) (stop_ne_fuelOut A la b)
    · exact h'
  · rintro ⟨ps, b, hr, rfl⟩
    exact feed_reds hr 0

/-- **`feed` read backwards**: an answer other than `fuelOut` is the table's answer at the end of a
complete run of reductions -/
theorem feed_inv {f : Nat} {a : List Nat} (h : feed G A la f a ≠ .fuelOut) :
    ∃ ps b, Reds G A la a ps b ∧ Stuck G A la b ∧ ps.length < f ∧ feed G A la f a = stop A la b := by
  rcases reds_cases G A la f a with ⟨ps, b, hr, hb, hl⟩ | h'
  · exact ⟨ps, b, hr, hb, hl, feed_eq_stop hr hb hl⟩
  · exact absurd (feed_eq_fuelOut.mpr h') h

/-- **what an answer of `feed` means**: the reductions lead to a stack whose top cell holds that answer -/
theorem feed_spec {f : Nat} {a : List Nat} {r : Fed} (h : feed G A la f a = r) :
    match (generalizing := false) r with
    | .shifted s => ∃ ps st rest s', Reds G A la a ps (st :: rest) ∧ s = s' :: st :: rest ∧ A.action st la = .shift s'
    | .accept s => ∃ ps st rest, Reds G A la a ps s ∧ s = st :: rest ∧ A.action st la = .accept
    | .error s => ∃ ps st rest, Reds G A la a ps s ∧ s = st :: rest ∧ A.action st la = .error
    | _ => True := by
  subst h
  by_cases hf : feed G A la f a = .fuelOut
  · rw [hf]; trivial
  · obtain ⟨ps, b, hr, -, -, he⟩ := feed_inv hf
    rw [he]
    cases b with
    | nil => trivial
    | cons st tl =>
      cases hact : A.action st la with
      | shift s' => simp only [stop, hact]; exact ⟨ps, st, tl, s', hr, rfl, hact⟩
      | accept => simp only [stop, hact]; exact ⟨ps, st, tl, hr, rfl, hact⟩
      | error => simp only [stop, hact]; exact ⟨ps, st, tl, hr, rfl, hact⟩
      | reduce p => simp only [stop, hact]

theorem feed_accept_top {la f : Nat} {stack s : List Nat} (h : feed G A la f stack = .accept s) :
    ∃ st rest, s = st :: rest ∧ A.action st la = .accept := by
  obtain ⟨_, st, rest, _, hs, ha⟩ := feed_spec h
  exact ⟨st, rest, hs, ha⟩

end

section
variable {G : Grammar} {A : Automaton} {w : List Nat}

/-- the tree stack after the reductions `ps` -/
def redsT (G : Grammar) (ps : List (Nat × Nat)) (as : List Tree) : List Tree :=
  ps.foldl (fun as q => .node q.1 (as.take (G.rhs q.1).length).reverse :: as.drop (G.rhs q.1).length) as

theorem steps_of_reds {i : Nat} {a b : List Nat} {ps : List (Nat × Nat)}
    (h : Reds G A (nextTok G w i) a ps b) (as : List Tree) :
    Steps G A w ⟨a, as, i⟩ ⟨b, redsT G ps as, i⟩ := by
  induction h generalizing as with
  | nil _ => exact .refl _
  | cons hr _ ih => exact .step _ _ _ (step_red (c := ⟨_, as, i⟩) hr) (ih _)

theorem run_reds {i : Nat} {a b : List Nat} {ps : List (Nat × Nat)}
    (h : Reds G A (nextTok G w i) a ps b) (as : List Tree) (f : Nat) :
    run G A w (ps.length + f) ⟨a, as, i⟩ = run G A w f ⟨b, redsT G ps as, i⟩ := by
  induction h generalizing as with
  | nil _ => rw [List.length_nil, Nat.zero_add]; rfl
  | cons hr _ ih =>
    rw [List.length_cons, Nat.add_right_comm]
    simp only [run, step_red (c := ⟨_, as, i⟩) hr]
    exact ih _

theorem feed_fuelOut_run (laidx : Nat) (fuel : Nat) (stack : List Nat) (astack : List Tree)
    (h : feed G A (nextTok G w laidx) fuel stack = .fuelOut) :
    run G A w fuel ⟨stack, astack, laidx⟩ = .fuelOut := by
  obtain ⟨ps, b, hr, rfl⟩ := feed_eq_fuelOut.mp h
  exact run_reds hr astack 0

end

end GrmVerif.Rec

namespace GrmVerif.Term
open GrmVerif Rec

section
variable {G : Grammar} {A : Automaton} {la : Nat}

theorem localRun_eq_fuelOut (n : Nat) (xs : List Nat) :
    localRun G A la n xs = .fuelOut ↔ feed G A la n xs = .fuelOut := by
  induction n generalizing xs with
  | zero => exact ⟨fun _ => rfl, fun _ => rfl⟩
  | succ n ih =>
    rcases red_or_stuck G A la xs with ⟨p, s', hr⟩ | hs
    · rw [localRun_red hr, feed_red hr]; exact ih _
    · exact ⟨fun h => absurd h (localRun_stuck hs n),
        fun h => absurd (feed_stuck hs n ▸ h) (stop_ne_fuelOut A la xs)⟩

theorem localIter_succ {xs xs1 : List Nat} (hs : localStep G A la xs = some xs1) (k : Nat) :
    localIter G A la (k + 1) xs = localIter G A la k xs1 := by
  simp only [localIter, hs]

theorem localIter_of_reds {xs xs' : List Nat} {ps : List (Nat × Nat)} (h : Reds G A la xs ps xs') :
    localIter G A la ps.length xs = some xs' := by
  induction h with
  | nil _ => rfl
  | cons hr _ ih => exact (localIter_succ hr.localStep _).trans ih

theorem localIter_eq_some {k : Nat} {xs xs' : List Nat} :
    localIter G A la k xs = some xs' ↔ ∃ ps, ps.length = k ∧ Reds G A la xs ps xs' := by
  refine ⟨fun h => ?_, fun ⟨ps, hl, h⟩ => hl ▸ localIter_of_reds h⟩
  induction k generalizing xs with
  | zero => cases h; exact ⟨[], rfl, .nil _⟩
  | succ k ih =>
    cases hs : localStep G A la xs with
    | none => simp only [localIter, hs] at h; cases h
    | some xs1 =>
      rw [localIter_succ hs] at h
      obtain ⟨p, s', hr, rfl⟩ := localStep_eq_some.mp hs
      obtain ⟨ps, rfl, hps⟩ := ih h
      exact ⟨_, rfl, .cons hr hps⟩

theorem localIter_add {G : Grammar} {A : Automaton} {la : Nat} :
    ∀ (j k : Nat) (xs ys zs : List Nat), localIter G A la j xs = some ys → localIter G A la k ys = some zs →
      localIter G A la (j + k) xs = some zs := by
  intro j k xs ys zs h1 h2
  obtain ⟨ps, rfl, hp⟩ := localIter_eq_some.mp h1
  obtain ⟨qs, rfl, hq⟩ := localIter_eq_some.mp h2
  exact List.length_append ▸ localIter_of_reds (hp.trans hq)

end

end GrmVerif.Term

namespace GrmVerif.RankImpl
open GrmVerif LR Rec

/-! The table's end-of-input discipline (`EofNeverShifted`) seen from `feed`: what is shifted is the action of the top
state of the last stack, so a table that never shifts end-of-input shifts inside the input only. -/

theorem feed_shifted_action {G : Grammar} {A : Automaton} {la : Nat} :
    ∀ {fuel : Nat} {stack s : List Nat}, feed G A la fuel stack = .shifted s →
      ∃ st s', A.action st la = .shift s' := by
  intro fuel stack s h
  obtain ⟨_, st, _, s', _, _, ha⟩ := feed_spec h
  exact ⟨st, s', ha⟩

theorem pos_lt_of_shifted {G : Grammar} {A : Automaton} {w : List Nat} (heof : EofNeverShifted G A)
    {pos f : Nat} {stack s : List Nat} (h : feed G A (nextTok G w pos) f stack = .shifted s) :
    pos < w.length := by
  refine Nat.lt_of_not_le fun hle => ?_
  rw [nextTok_of_le hle] at h
  obtain ⟨st, s', ha⟩ := feed_shifted_action h
  exact heof st s' ha

end GrmVerif.RankImpl
