import GrmVerif.Lemmas.RecActErase
import GrmVerif.Lemmas.Actions
import GrmVerif.Lemmas.KeptShift
/-!
The reductions of `feedA` are steps of the plain action driver (`feedA_stepsA`). A property of value
configurations kept by those reductions and by the push of the lexeme of an item of the edited input
(`DriverClosed`) is kept by a replayed repair sequence; instances are the invariant of C08 (`Act.InvA`) and,
on a certified table, `Good`, by which the value stack at Accept holds exactly the returned value.
-/
namespace GrmVerif.RecAct
open LR Act Rec Cert C05 Term

variable {G : Grammar} {A : Automaton} {w : List Nat}

inductive StepsA (G : Grammar) (A : Automaton) (w : List Nat) (ls : Nat → Nat × Nat) : ACfg → ACfg → Prop
  | refl (a : ACfg) : StepsA G A w ls a a
  | step (a a' a'' : ACfg) : stepA G A w ls a = .cont a' → StepsA G A w ls a' a'' → StepsA G A w ls a a''

theorem StepsA.trans {ls : Nat → Nat × Nat} {a b c : ACfg}
    (h1 : StepsA G A w ls a b) (h2 : StepsA G A w ls b c) : StepsA G A w ls a c := by
  induction h1 with
  | refl _ => exact h2
  | step x y z hs _ ih => exact .step x y c hs (ih h2)

theorem StepsA.single {G : Grammar} {A : Automaton} {w : List Nat} {ls : Nat → Nat × Nat} {a b : ACfg}
    (h : stepA G A w ls a = .cont b) : StepsA G A w ls a b := .step a b b h (.refl b)

theorem runA_of_stepsA {ls : Nat → Nat × Nat} {a b : ACfg}
    {o : Outcome} {log : List Call} (h : StepsA G A w ls a b) (hd : stepA G A w ls b = .done o log) :
    ∃ fuel, runA G A w ls fuel a = (o, log) := by
  induction h with
  | refl c => exact ⟨1, by simp [runA, hd]⟩
  | step x y z hs _ ih =>
    obtain ⟨f, hf⟩ := ih hd
    exact ⟨f + 1, by simp [runA, hs, hf]⟩

/-- what the cell of the top state holds when `feedA` stops -/
def FedA.stopsAt (A : Automaton) (la : Nat) : FedA → Prop
  | .shifted s' x => ∃ st tl, x.pstack = st :: tl ∧ A.action st la = .shift s'
  | .accept x => ∃ st tl, x.pstack = st :: tl ∧ A.action st la = .accept
  | .error x => ∃ st tl, x.pstack = st :: tl ∧ A.action st la = .error
  | _ => True

/-- the configuration `feedA` hands back -/
def FedA.cfg? : FedA → Option VCfg
  | .shifted _ x => some x
  | .accept x => some x
  | .error x => some x
  | _ => none

theorem stopA_cfg {A : Automaton} {la : Nat} {v x : VCfg} (h : (stopA A la v).cfg? = some x) : x = v := by
  unfold stopA at h
  split at h
  · cases h
  · split at h <;> first | exact (Option.some.inj h).symm | cases h

theorem stopA_stopsAt (A : Automaton) (la : Nat) (v : VCfg) : (stopA A la v).stopsAt A la := by
  unfold stopA
  split
  · trivial
  · rename_i st tl hps
    split
    · rename_i s' hact; exact ⟨st, tl, hps, hact⟩
    · rename_i hact; exact ⟨st, tl, hps, hact⟩
    · rename_i hact; exact ⟨st, tl, hps, hact⟩
    · trivial

theorem feedA_stopsAt {la fuel : Nat} {v : VCfg} {r : FedA} (h : feedA G A la fuel v = r) : r.stopsAt A la := by
  subst h
  rcases reds_cases G A la fuel v.pstack with ⟨ps, b, hr, hb, hl⟩ | ⟨ps, b, hr, rfl⟩
  · rw [feedA_eq_stopA hr hb hl]; exact stopA_stopsAt A la _
  · rw [feedA_eq_fuelOut hr]; trivial

/-- **the invariant rule for `feedA`**: what every reduction keeps holds of the configuration handed back -/
theorem feedA_keeps {la : Nat} {Q : VCfg → Prop}
    (hQ : ∀ v p s', Q v → Red G A la v.pstack p s' → Q (reduceV G p s' v))
    {f : Nat} {v x : VCfg} (hv : Q v) (h : (feedA G A la f v).cfg? = some x) : Q x := by
  rcases reds_cases G A la f v.pstack with ⟨ps, b, hr, hb, hl⟩ | ⟨ps, b, hr, rfl⟩
  · rw [feedA_eq_stopA hr hb hl] at h
    cases stopA_cfg h
    clear h hb hl
    generalize hva : v.pstack = a at hr
    induction hr generalizing v with
    | nil _ => exact hv
    | cons hr' _ ih => exact ih (hQ _ _ _ hv (hva ▸ hr')) (by rw [← hva]; rfl)
  · rw [feedA_eq_fuelOut hr] at h; cases h

theorem feedA_stepsA (G : Grammar) (A : Automaton) (w : List Nat) (ls : Nat → Nat × Nat) (i : Nat) :
    ∀ (fuel : Nat) (v x : VCfg), (feedA G A (nextTok G w i) fuel v).cfg? = some x →
      StepsA G A w ls (v.toA i) (x.toA i) ∧ (feedA G A (nextTok G w i) fuel v).stopsAt A (nextTok G w i) := by
  intro fuel v x h
  exact ⟨feedA_keeps (Q := fun y => StepsA G A w ls (v.toA i) (y.toA i))
    (fun y p s' hy hr => hy.trans (.single (stepA_red hr))) (.refl _) h, feedA_stopsAt rfl⟩

theorem feedA_shifted_stepsA (G : Grammar) (A : Automaton) (w : List Nat) (ls : Nat → Nat × Nat) (i : Nat)
    {fuel : Nat} {v x : VCfg} {s' : Nat} (h : feedA G A (nextTok G w i) fuel v = .shifted s' x) :
    StepsA G A w ls (v.toA i) ((pushLex s' (nextTok G w i) i (ls i) x).toA (i + 1)) := by
  have h1 := (feedA_stepsA G A w ls i fuel v x (by rw [h]; rfl)).1
  obtain ⟨st, tl, hps, hact⟩ := feedA_stopsAt h
  exact h1.trans (.single (stepA_shift hps hact))

theorem feedA_accept_stepsA (G : Grammar) (A : Automaton) (w : List Nat) (ls : Nat → Nat × Nat) (i : Nat)
    {fuel : Nat} {v x : VCfg} (h : feedA G A (nextTok G w i) fuel v = .accept x) :
    StepsA G A w ls (v.toA i) (x.toA i) ∧ stepA G A w ls (x.toA i) = .done (acceptOut x) x.log := by
  have h1 := (feedA_stepsA G A w ls i fuel v x (by rw [h]; rfl)).1
  obtain ⟨st, tl, hps, hact⟩ := feedA_stopsAt h
  exact ⟨h1, stepA_accept hps hact⟩

theorem feedA_error_stepsA (G : Grammar) (A : Automaton) (w : List Nat) (ls : Nat → Nat × Nat) (i : Nat)
    {fuel : Nat} {v x : VCfg} (h : feedA G A (nextTok G w i) fuel v = .error x) :
    StepsA G A w ls (v.toA i) (x.toA i) ∧
      stepA G A w ls (x.toA i) = .done (.error i (x.pstack.headD 0)) x.log := by
  have h1 := (feedA_stepsA G A w ls i fuel v x (by rw [h]; rfl)).1
  obtain ⟨st, tl, hps, hact⟩ := feedA_stopsAt h
  exact ⟨h1, by rw [stepA_error hps hact, hps]; rfl⟩

theorem invA_toA {G : Grammar} {ls : Nat → Nat × Nat} {v : VCfg} {i j : Nat} (h : InvA G ls (v.toA i)) :
    InvA G ls (v.toA j) := ⟨h.entries, h.log⟩

theorem idSpan_real {lexSpan : Nat → Nat × Nat} {n i : Nat} (h : i ≤ n) : idSpan lexSpan n i = lexSpan i := by
  simp [idSpan, h]

theorem idSpan_lexId (lexSpan : Nat → Nat × Nat) (n : Nat) :
    ∀ it : EItem, (∀ i, it = .real i → i ≤ n) → idSpan lexSpan n (lexId n it) = itemSpan lexSpan n it
  | .real i, h => idSpan_real (h i rfl)
  | .ins t b, _ => by
    have h1 : ¬ (n + 1 + b ≤ n) := fun h => Nat.not_succ_le_self n (Nat.le_trans (Nat.le_add_right _ b) h)
    have h2 : n + 1 + b - (n + 1) = b := Nat.add_sub_cancel_left (n + 1) b
    simp [idSpan, lexId, itemSpan, h1, h2]

/-- `Q` is kept by everything the recovering driver does to its stacks: a reduction the table prescribes, and
the push of the lexeme of an item of the edited input where the table shifts its token (a real item `i` with
`i ≤ w.length`, not `<`: `idSpan` reads every identity up to `w.length` as a real lexeme's; `w.length` itself is
no lexeme's identity, the inserted ones start at `w.length + 1`) -/
structure DriverClosed (G : Grammar) (A : Automaton) (w : List Nat) (lexSpan : Nat → Nat × Nat)
    (Q : VCfg → Prop) : Prop where
  red : ∀ {la v p s'}, Q v → Red G A la v.pstack p s' → Q (reduceV G p s' v)
  push : ∀ {la v st tl s'} (it : EItem), Q v → v.pstack = st :: tl → A.action st la = .shift s' →
    (∀ i, it = .real i → i ≤ w.length) →
    Q (pushLex s' la (lexId w.length it) (itemSpan lexSpan w.length it) v)

section
variable {lexSpan : Nat → Nat × Nat} {Q : VCfg → Prop}

theorem DriverClosed.and {R : VCfg → Prop} (hQ : DriverClosed G A w lexSpan Q) (hR : DriverClosed G A w lexSpan R) :
    DriverClosed G A w lexSpan (fun v => Q v ∧ R v) :=
  ⟨fun h hr => ⟨hQ.red h.1 hr, hR.red h.2 hr⟩,
    fun it h hps hact hi => ⟨hQ.push it h.1 hps hact hi, hR.push it h.2 hps hact hi⟩⟩

theorem DriverClosed.fed (hQ : DriverClosed G A w lexSpan Q) {la f : Nat} {v x : VCfg} {r : FedA} (hv : Q v)
    (h : feedA G A la f v = r) (hx : r.cfg? = some x) : Q x :=
  feedA_keeps (fun _ _ _ => hQ.red) hv (h ▸ hx)

theorem DriverClosed.pushed (hQ : DriverClosed G A w lexSpan Q) {la f s' : Nat} {v x : VCfg} (it : EItem)
    (hv : Q v) (h : feedA G A la f v = .shifted s' x) (hi : ∀ i, it = .real i → i ≤ w.length) :
    Q (pushLex s' la (lexId w.length it) (itemSpan lexSpan w.length it) x) := by
  obtain ⟨st, tl, hps, hact⟩ := feedA_stopsAt h
  exact hQ.push it (hQ.fed hv h rfl) hps hact hi

theorem DriverClosed.replay (hQ : DriverClosed G A w lexSpan Q) :
    ∀ (rs : List Repair) {c c' : RACfg}, Q c.v → applySeqA G A w lexSpan c rs = some c' → Q c'.v := by
  intro rs c c' hq h
  refine applySeqA_induction (motive := fun c _ => Q c.v → Q c'.v) id
    (fun c t _ _ _ hf ih hq => ih (hQ.pushed (.ins t c.laidx) hq hf nofun)) (fun _ _ _ ih => ih)
    (fun c _ _ _ _ ht hf ih hq => ih (hQ.pushed (.real c.laidx) hq hf fun i hi => by
      cases hi; exact Nat.le_of_lt (List.getElem?_eq_some_iff.mp ht).1)) rs c h hq

end

theorem invA_driverClosed (G : Grammar) (A : Automaton) (w : List Nat) (lexSpan : Nat → Nat × Nat) :
    DriverClosed G A w lexSpan (fun v => InvA G (idSpan lexSpan w.length) (v.toA 0)) where
  red hinv _ := invA_reduced hinv _ _ _
  push it hinv _ _ hi := invA_pushed hinv _ _ _ _ (idSpan_lexId lexSpan w.length it hi)

/-- the shape of the stacks on a certified table -/
structure Good (A : Automaton) (v : VCfg) : Prop where
  path : IsPath A v.pstack
  len : v.astack.length + 1 = v.pstack.length

theorem good_init (A : Automaton) : Good A (initV A) := ⟨IsPath.start A, rfl⟩

theorem good_driverClosed (P : Props G A) (hcols : colsOk G A = true)
    (w : List Nat) (lexSpan : Nat → Nat × Nat) : DriverClosed G A w lexSpan (Good A) where
  red {la v p s'} hg hr := by
    obtain ⟨st, tl, prior, rest, hps, hact, hd, -⟩ := id hr
    obtain ⟨_, _, _, _, -, -, -, -, -, -, hp'⟩ :=
      hg.path.reduce P (colsOk_action hcols (by rw [hact]; nofun)) hr
    refine ⟨hp', ?_⟩
    -- one value for every state popped
    have hlt := Nat.lt_of_not_le (length_of_drop_cons hd)
    simp only [reduceV, List.length_cons, List.length_drop]
    rw [← hg.len] at hlt ⊢
    rw [Nat.succ_sub (Nat.le_of_lt_succ hlt)]
  push {la v st tl s'} _ hg hps hact _ := by
    have hp := hg.path
    rw [hps] at hp
    have hedge := P.actShift st la s' (hp.states_lt P st (by simp)) (colsOk_action hcols (by rw [hact]; nofun)) hact
    exact ⟨by rw [pushLex, hps]; exact hp.push hedge, congrArg Nat.succ hg.len⟩

end GrmVerif.RecAct
