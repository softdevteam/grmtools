import GrmVerif.Lemmas.RunSpec
/-! `colsOk` is free for dumped automata: the wire format carries exactly `ntoks` action cells per
state (`parseActs G.ntoks`), so every automaton `parseAutomaton` hands to the driver satisfies it. -/
namespace GrmVerif.C05

theorem parseActs_length : ∀ (n : Nat) (l : List Nat) (as : List Act) (r : List Nat),
    parseActs n l = some (as, r) → as.length = n := by
  intro n
  induction n with
  | zero => intro l as r h; simp [parseActs] at h; simp [h.1.symm]
  | succ n ih =>
    intro l as r h
    -- every equation of `parseActs` puts one action before the result for `n`
    have cons : ∀ (a : Act) (rest : List Nat),
        (parseActs n rest).map (fun (as, r) => (a :: as, r)) = some (as, r) → as.length = n + 1 := by
      intro a rest h
      simp only [Option.map_eq_some_iff] at h
      obtain ⟨⟨as', r'⟩, h1, h2⟩ := h
      simp only [Prod.mk.injEq] at h2
      rw [← h2.1]; simp [ih rest as' r' h1]
    match l, h with
    | 0 :: rest, h => simp only [parseActs] at h; exact cons _ rest h
    | 1 :: s :: rest, h => simp only [parseActs] at h; exact cons _ rest h
    | 2 :: s :: rest, h => simp only [parseActs] at h; exact cons _ rest h
    | 3 :: rest, h => simp only [parseActs] at h; exact cons _ rest h

theorem parseState_actions (G : Grammar) (l : List Nat) (sd : StateD) (r : List Nat)
    (h : parseState G l = some (sd, r)) : sd.actions.length = G.ntoks := by
  simp only [parseState, bind, Option.bind_eq_some_iff] at h
  obtain ⟨⟨core, l1⟩, _, ⟨closed, l2⟩, _, h⟩ := h
  simp only at h
  cases l2 with
  | nil => cases h
  | cons n l3 =>
    simp only [Option.bind_some, Option.bind_eq_some_iff] at h
    obtain ⟨⟨edges, l4⟩, _, ⟨acts, l5⟩, hacts, h⟩ := h
    simp only at h hacts
    split at h
    · cases h
    · simp only [Option.bind_eq_some_iff] at h
      obtain ⟨⟨sa, l6⟩, _, ⟨ss, l7⟩, _, ⟨cr, l8⟩, _, h⟩ := h
      simp only at h
      cases l8 with
      | nil => cases h
      | cons ro l9 =>
        simp only [Option.some.injEq, Prod.mk.injEq] at h
        rw [← h.1]
        exact parseActs_length _ _ _ _ hacts

theorem parseStates_actions (G : Grammar) : ∀ (n : Nat) (l : List Nat) (ss : List StateD) (r : List Nat),
    parseStates G n l = some (ss, r) → ∀ sd ∈ ss, sd.actions.length = G.ntoks := by
  intro n
  induction n with
  | zero => intro l ss r h; simp [parseStates] at h; intro sd hsd; rw [h.1] at hsd; cases hsd
  | succ n ih =>
    intro l ss r h
    simp only [parseStates] at h
    split at h
    · cases h
    · next s l' h1 =>
      split at h
      · cases h
      · next ss' r' h2 =>
        cases h
        exact List.forall_mem_cons.mpr ⟨parseState_actions G l _ _ h1, ih l' ss' _ h2⟩

theorem parseAutomaton_states {G : Grammar} {l : List Nat} {A : Automaton} {r : List Nat}
    (h : parseAutomaton G l = some (A, r)) : ∃ n l0 l1, parseStates G n l0 = some (A.states, l1) := by
  unfold parseAutomaton at h
  split at h
  · rename_i n start l0
    split at h
    · cases h
    · rename_i states l1 hs
      split at h
      · split at h
        · cases h
        · split at h
          · split at h
            · cases h
            · cases h; exact ⟨n, l0, _, hs⟩
          · cases h
      · cases h
  · cases h

theorem parseAutomaton_colsOk (G : Grammar) (l : List Nat) (A : Automaton) (r : List Nat)
    (h : parseAutomaton G l = some (A, r)) : colsOk G A = true := by
  obtain ⟨n, l0, l1, hs⟩ := parseAutomaton_states h
  simp only [colsOk, List.all_eq_true, decide_eq_true_eq]
  exact fun sd hsd => Nat.le_of_eq (parseStates_actions G n l0 _ l1 hs sd hsd)

end GrmVerif.C05
