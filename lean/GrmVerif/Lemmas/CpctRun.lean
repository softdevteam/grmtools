import GrmVerif.Lemmas.Cpct
import GrmVerif.Lemmas.KeptShift
import GrmVerif.Lemmas.RecLive
/-!
The modelled recoverer inside the recovering driver.

* `TableOK` holds of a certified table whose `state_actions` is exact (`tableOK_of_cert`).
* Two recoverers that agree on the configurations at which `Parser::lr` calls `recover` (`errCfg`) give
  the same run of the driver — `recRun`, `recRunF`, `recRunO`, `recCalls` — from every start within the
  input, on a table that never shifts end-of-input (`…_congr`). Hence `cpctRecover` and its restriction
  `cpctRecoverAt` are interchangeable in every statement about runs (`…_cpct_guard`).
* `cpctRecoverAt` satisfies, at EVERY configuration, what C05 and C07 ask of a recoverer:
  `FirstApplies`, `FirstValid`, `ContinuesFromValid` (`cpctAt_…`).
* `recCalls` are the configurations of the reported errors (`recRun_eq_calls`) and each of them is an
  `errCfg` (`recCalls_errCfg`); `recCalls_inv` is the induction for every invariant of a run.
* For C05's theorems about the edited input: the first sequence of every error of a run applies and inserts
  real tokens only (`GoodErr`, `cpct_run_goodErrs`), so the edited input consists of tokens of the grammar
  (`inputOk_editedToks`).
-/
namespace GrmVerif.Cpct
open LR Rec RankImpl SearchImpl

theorem tableOK_of_cert {E : Env} (hc : Cert.check E.G E.A = true)
    (hsa : stateActionsExactB E.G E.A = true) (hcost : ∀ t, 1 ≤ E.cost t) (hN : 1 ≤ E.N) : TableOK E :=
  ⟨hcost, Cert.eofNeverShifted_of_props (Cert.check_props E.G E.A hc), stateActionsOK_of_check hsa, hN⟩

abbrev Recoverer := Pos → Option (Pos × List (List Repair))

/-- `inside`: the run goes on from the configuration the recoverer hands back, and `errCfg` — where the two
agree — asks for a position inside the input; so the induction over the run needs it kept there -/
structure AgreeAt (G : Grammar) (A : Automaton) (w : List Nat) (r1 r2 : Recoverer) : Prop where
  agree : ∀ c, errCfg G A w c = true → r1 c = r2 c
  inside : ∀ c c' rs, errCfg G A w c = true → r2 c = some (c', rs) → rs ≠ [] → c'.pos ≤ w.length

/-- the arm of the driver that consults the recoverer, whatever the driver does with the answer (`k1`, `k2`):
`recRunF`, `recRunO` and `recCalls` differ in that only -/
theorem AgreeAt.call {G : Grammar} {A : Automaton} {w : List Nat} {r1 r2 : Recoverer}
    (hag : AgreeAt G A w r1 r2) {c : Pos} (he : errCfg G A w c = true) {β : Type} (giveUp : β)
    {k1 k2 : Pos → List (List Repair) → β} (hk : ∀ c' rs, c'.pos ≤ w.length → k1 c' rs = k2 c' rs) :
    (match r1 c with
      | none => giveUp
      | some (c', rs) => if rs.isEmpty then giveUp else k1 c' rs) =
    (match r2 c with
      | none => giveUp
      | some (c', rs) => if rs.isEmpty then giveUp else k2 c' rs) := by
  rw [hag.agree c he]
  cases hr : r2 c with
  | none => rfl
  | some x =>
    obtain ⟨c', rs⟩ := x
    simp only []
    by_cases hemp : rs.isEmpty = true
    · rw [if_pos hemp, if_pos hemp]
    · rw [if_neg hemp, if_neg hemp]
      exact hk c' rs (hag.inside c c' rs he hr (fun e => hemp (by rw [e]; rfl)))

theorem recRunF_congr {G : Grammar} {A : Automaton} {w : List Nat} (heof : EofNeverShifted G A)
    {r1 r2 : Recoverer} (hag : AgreeAt G A w r1 r2) (ff : Nat) :
    ∀ (fuel : Nat) (c : Pos) (errs : List Err), c.pos ≤ w.length →
      recRunF G A w r1 ff fuel c errs = recRunF G A w r2 ff fuel c errs := by
  intro fuel
  induction fuel with
  | zero => intro c errs _; rfl
  | succ n ih =>
    intro c errs hc
    simp only [recRunF]
    cases hf : feed G A (nextTok G w c.pos) ff c.stack with
    | shifted s => exact ih _ _ (pos_lt_of_shifted heof hf)
    | error s => exact hag.call (errCfg_of_feed_error hf hc) _ (fun c' _ hc' => ih c' _ hc')
    | _ => rfl

theorem recRunO_congr {G : Grammar} {A : Automaton} {w : List Nat} (heof : EofNeverShifted G A)
    {r1 r2 : Recoverer} (hag : AgreeAt G A w r1 r2) (ff : Nat) :
    ∀ (fuel : Nat) (c : Pos) (errs : List Err), c.pos ≤ w.length →
      recRunO G A w r1 ff fuel c errs = recRunO G A w r2 ff fuel c errs := by
  intro fuel
  induction fuel with
  | zero => intro c errs _; rfl
  | succ n ih =>
    intro c errs hc
    simp only [recRunO]
    cases hf : feed G A (nextTok G w c.pos) ff c.stack with
    | shifted s => exact ih _ _ (pos_lt_of_shifted heof hf)
    | error s => exact hag.call (errCfg_of_feed_error hf hc) _ (fun c' _ hc' => ih c' _ hc')
    | _ => rfl

theorem recRun_congr {G : Grammar} {A : Automaton} {w : List Nat} (heof : EofNeverShifted G A)
    {r1 r2 : Recoverer} (hag : AgreeAt G A w r1 r2) (fuel : Nat) (c : Pos) (errs : List Err)
    (hc : c.pos ≤ w.length) : recRun G A w r1 fuel c errs = recRun G A w r2 fuel c errs := by
  rw [← C07.recRunF_FUEL, ← C07.recRunF_FUEL]
  exact recRunF_congr heof hag FUEL fuel c errs hc

theorem recCalls_congr {G : Grammar} {A : Automaton} {w : List Nat} (heof : EofNeverShifted G A)
    {r1 r2 : Recoverer} (hag : AgreeAt G A w r1 r2) :
    ∀ (fuel : Nat) (c : Pos), c.pos ≤ w.length →
      recCalls G A w r1 fuel c = recCalls G A w r2 fuel c := by
  intro fuel
  induction fuel with
  | zero => intro c _; rfl
  | succ n ih =>
    intro c hc
    simp only [recCalls]
    cases hf : feed G A (nextTok G w c.pos) FUEL c.stack with
    | shifted s => exact ih _ (pos_lt_of_shifted heof hf)
    | error s =>
      exact congrArg (_ :: ·) (hag.call (errCfg_of_feed_error hf hc) _ (fun c' _ hc' => ih c' hc'))
    | _ => rfl

/-- **the errors of a run are the calls of the recoverer**: `recRun` appends, for every configuration
in `recCalls`, the error `errOf` (its position, what the recoverer reported there) -/
theorem recRun_eq_calls (G : Grammar) (A : Automaton) (w : List Nat) (recover : Recoverer) :
    ∀ (fuel : Nat) (c : Pos) (errs : List Err),
      (recRun G A w recover fuel c errs).2 = errs ++ (recCalls G A w recover fuel c).map (errOf recover) := by
  intro fuel
  induction fuel with
  | zero => intro c errs; simp [recRun, recCalls]
  | succ n ih =>
    intro c errs
    simp only [recRun, recCalls]
    cases hf : feed G A (nextTok G w c.pos) FUEL c.stack with
    | shifted s => exact ih _ _
    | error s =>
      simp only []
      cases hr : recover ⟨s, c.pos⟩ with
      | none => simp [errOf, hr]
      | some x =>
        obtain ⟨c', rs⟩ := x
        simp only []
        by_cases hemp : rs.isEmpty = true
        · rw [if_pos hemp, if_pos hemp]
          have : rs = [] := by simpa using hemp
          subst this
          simp [errOf, hr]
        · rw [if_neg hemp, if_neg hemp, ih]
          simp [errOf, hr]
    | _ => simp

/-- **invariants of the driver reach the recoverer**: if `Inv` holds at the start, is kept by every
shift, gives `Q` at the configuration a refused lookahead leaves, and is re-established by what the
recoverer hands back at a `Q`-configuration, then `Q` holds at every call of the recoverer -/
theorem recCalls_inv {G : Grammar} {A : Automaton} {w : List Nat} {recover : Recoverer} {Inv Q : Pos → Prop}
    (hshift : ∀ (c : Pos) s, Inv c → feed G A (nextTok G w c.pos) FUEL c.stack = .shifted s → Inv ⟨s, c.pos + 1⟩)
    (herr : ∀ (c : Pos) s, Inv c → feed G A (nextTok G w c.pos) FUEL c.stack = .error s → Q ⟨s, c.pos⟩)
    (hback : ∀ c c' rs, Q c → recover c = some (c', rs) → rs ≠ [] → Inv c') :
    ∀ (fuel : Nat) (c : Pos), Inv c → ∀ x ∈ recCalls G A w recover fuel c, Q x := by
  intro fuel
  induction fuel with
  | zero => intro c _ x hx; cases hx
  | succ n ih =>
    intro c hc x hx
    rw [recCalls] at hx
    cases hf : feed G A (nextTok G w c.pos) FUEL c.stack with
    | shifted s => rw [hf] at hx; exact ih _ (hshift c s hc hf) x hx
    | error s =>
      rw [hf] at hx
      have hq := herr c s hc hf
      rcases List.mem_cons.mp hx with rfl | hx
      · exact hq
      · cases hr : recover ⟨s, c.pos⟩ with
        | none => rw [hr] at hx; cases hx
        | some y =>
          obtain ⟨c', rs⟩ := y
          rw [hr] at hx
          simp only at hx
          by_cases hemp : rs.isEmpty = true
          · rw [if_pos hemp] at hx; cases hx
          · rw [if_neg hemp] at hx
            exact ih c' (hback _ c' rs hq hr (fun e => hemp (by rw [e]; rfl))) x hx
    | _ => rw [hf] at hx; cases hx

theorem recCalls_errCfg {G : Grammar} {A : Automaton} {w : List Nat} (heof : EofNeverShifted G A)
    {recover : Recoverer}
    (hin : ∀ c c' rs, errCfg G A w c = true → recover c = some (c', rs) → rs ≠ [] → c'.pos ≤ w.length) :
    ∀ (fuel : Nat) (c : Pos), c.pos ≤ w.length → ∀ x ∈ recCalls G A w recover fuel c, errCfg G A w x = true :=
  recCalls_inv (Inv := fun c => c.pos ≤ w.length) (fun _ _ _ hf => pos_lt_of_shifted heof hf)
    (fun _ _ hc hf => errCfg_of_feed_error hf hc) hin

section
variable {E : Env} {hs : List Seq → List Seq} {avoid : Nat → Bool} {lexStart : Nat → Nat} {win fuel : Nat}

theorem cpctAt_some {c c' : Pos} {rs : List (List Repair)}
    (h : cpctRecoverAt E hs avoid lexStart win fuel c = some (c', rs)) :
    errCfg E.G E.A E.w c = true ∧ cpctRecover E hs avoid lexStart win fuel c = some (c', rs) := by
  unfold cpctRecoverAt at h
  by_cases he : errCfg E.G E.A E.w c = true
  · rw [if_pos he] at h; exact ⟨he, h⟩
  · rw [if_neg he] at h; cases h

theorem cpctAt_of_errCfg {c : Pos} (h : errCfg E.G E.A E.w c = true) :
    cpctRecoverAt E hs avoid lexStart win fuel c = cpctRecover E hs avoid lexStart win fuel c := by
  simp only [cpctRecoverAt, h, ↓reduceIte]

theorem cpctAt_firstApplies (T : TableOK E) (hhs : HashSetLike hs) :
    C05.FirstApplies E.G E.A E.w (cpctRecoverAt E hs avoid lexStart win fuel) := by
  intro c c' s0 rest h
  obtain ⟨he, h⟩ := cpctAt_some h
  obtain ⟨⟨s0', rest', heq, happ⟩, _⟩ := cpct_report T hhs he h
  simp only [List.cons.injEq] at heq
  rw [heq.1]; exact happ

theorem cpctAt_allValid (T : TableOK E) (hhs : HashSetLike hs) {c c' : Pos} {rs : List (List Repair)}
    (h : cpctRecoverAt E hs avoid lexStart win fuel c = some (c', rs)) :
    ∀ r ∈ rs, validSeq E.G E.A E.w E.N c r = true := by
  obtain ⟨he, h⟩ := cpctAt_some h
  obtain ⟨_, k, _, hall⟩ := cpct_report T hhs he h
  exact fun r hr => (hall r hr).1

theorem cpctAt_firstValid (T : TableOK E) (hhs : HashSetLike hs) :
    C05.FirstValid E.G E.A E.w E.N (cpctRecoverAt E hs avoid lexStart win fuel) := by
  intro c c' s0 rest h
  exact cpctAt_allValid T hhs h s0 (by simp)

theorem cpctAt_continuesFromValid (T : TableOK E) (hhs : HashSetLike hs) :
    C07.ContinuesFromValid E.G E.A E.w E.N (cpctRecoverAt E hs avoid lexStart win fuel) := by
  intro c c' rs h _
  obtain ⟨he, h⟩ := cpctAt_some h
  obtain ⟨⟨s0, rest, heq, happ⟩, k, _, hall⟩ := cpct_report T hhs he h
  subst heq
  obtain ⟨hv, hins, _⟩ := hall s0 (by simp)
  exact ⟨s0, fun t ht => (hins t ht).1, hv, happ⟩

theorem cpct_agreeAt (T : TableOK E) (hhs : HashSetLike hs) :
    AgreeAt E.G E.A E.w (cpctRecover E hs avoid lexStart win fuel) (cpctRecoverAt E hs avoid lexStart win fuel) := by
  refine ⟨fun c hc => (cpctAt_of_errCfg hc).symm, ?_⟩
  intro c c' rs hc h _
  rw [cpctAt_of_errCfg hc] at h
  obtain ⟨⟨s0, rest, _, happ⟩, _⟩ := cpct_report T hhs hc h
  exact (applySeq_pos E.G E.A E.w s0 c c' happ).2 (hyps_of_errCfg T hc).pos

/-- **the restriction is invisible**: on a table satisfying `TableOK`, from every start within the
input, the recovering driver does exactly the same with `cpctRecover` as with `cpctRecoverAt` -/
theorem recRun_cpct_guard (T : TableOK E) (hhs : HashSetLike hs) (n : Nat) (c : Pos) (errs : List Err)
    (hc : c.pos ≤ E.w.length) :
    recRun E.G E.A E.w (cpctRecover E hs avoid lexStart win fuel) n c errs =
      recRun E.G E.A E.w (cpctRecoverAt E hs avoid lexStart win fuel) n c errs :=
  recRun_congr T.eof (cpct_agreeAt T hhs) n c errs hc

theorem recRunO_cpct_guard (T : TableOK E) (hhs : HashSetLike hs) (ff n : Nat) (c : Pos) (errs : List Err)
    (hc : c.pos ≤ E.w.length) :
    recRunO E.G E.A E.w (cpctRecover E hs avoid lexStart win fuel) ff n c errs =
      recRunO E.G E.A E.w (cpctRecoverAt E hs avoid lexStart win fuel) ff n c errs :=
  recRunO_congr T.eof (cpct_agreeAt T hhs) ff n c errs hc

theorem recCalls_cpct_errCfg (T : TableOK E) (hhs : HashSetLike hs) (n : Nat) (c : Pos)
    (hc : c.pos ≤ E.w.length) :
    ∀ x ∈ recCalls E.G E.A E.w (cpctRecover E hs avoid lexStart win fuel) n c, errCfg E.G E.A E.w x = true := by
  refine recCalls_errCfg T.eof ?_ n c hc
  intro c c' rs he h hne
  have := (cpct_agreeAt (avoid := avoid) (lexStart := lexStart) (win := win) (fuel := fuel) T hhs).inside c c' rs he
  rw [cpctAt_of_errCfg he] at this
  exact this h hne

end

/-- an item of the edited input that denotes a token of the grammar other than end-of-input: a real
lexeme of the input, or an inserted token of that kind -/
def ItemOk (G : Grammar) (w : List Nat) : EItem → Prop
  | .real i => i < w.length
  | .ins t _ => t < G.ntoks ∧ t ≠ G.eof

/-- the first sequence of a reported error applies at the error's position (from some stack) and
inserts only tokens of the grammar other than end-of-input — or there is no sequence -/
def GoodErr (G : Grammar) (A : Automaton) (w : List Nat) (e : Err) : Prop :=
  e.pos ≤ w.length ∧
  (e.repairs = [] ∨ ∃ st c', applySeq G A w ⟨st, e.pos⟩ (C05.firstSeq e) = some c' ∧
    ∀ t, Repair.insert t ∈ C05.firstSeq e → t < G.ntoks ∧ t ≠ G.eof)

theorem editSeq_items_ok {G : Grammar} {A : Automaton} {w : List Nat} :
    ∀ (rs : List Repair) (c c' : Pos), applySeq G A w c rs = some c' →
      (∀ t, Repair.insert t ∈ rs → t < G.ntoks ∧ t ≠ G.eof) →
      ∀ it ∈ (editSeq c.pos rs).1, ItemOk G w it := by
  intro rs c c'
  exact applySeq_induction (motive := fun c rs =>
      (∀ t, Repair.insert t ∈ rs → t < G.ntoks ∧ t ≠ G.eof) → ∀ it ∈ (editSeq c.pos rs).1, ItemOk G w it)
    (fun _ => nofun)
    (fun _ t _ _ _ ih hins => List.forall_mem_cons.mpr
      ⟨hins t List.mem_cons_self, ih fun t ht => hins t (List.mem_cons_of_mem _ ht)⟩)
    (fun _ _ _ ih hins => ih fun t ht => hins t (List.mem_cons_of_mem _ ht))
    (fun _ _ _ hlt _ ih hins => List.forall_mem_cons.mpr ⟨hlt, ih fun t ht => hins t (List.mem_cons_of_mem _ ht)⟩) rs c

theorem reals_ok {G : Grammar} {w : List Nat} {a b : Nat} (hb : b ≤ w.length) :
    ∀ it ∈ C05.reals a b, ItemOk G w it := by
  intro it hit
  simp only [C05.reals, List.mem_map, List.mem_range'_1] at hit
  obtain ⟨i, ⟨h1, h2⟩, rfl⟩ := hit
  show i < w.length
  have hab : a ≤ b := Nat.le_of_lt (Nat.lt_of_sub_pos (Nat.pos_of_ne_zero fun e => by
    rw [e] at h2; exact Nat.not_lt_of_le h1 h2))
  exact Nat.lt_of_lt_of_le h2 (by rw [Nat.add_sub_cancel' hab]; exact hb)

theorem editedItems_ok {G : Grammar} {A : Automaton} {w : List Nat} :
    ∀ (errs : List Err) (pos : Nat), (∀ e ∈ errs, GoodErr G A w e) →
      ∀ it ∈ C05.editedItems w.length pos errs, ItemOk G w it := by
  intro errs
  induction errs with
  | nil => intro pos _ it hit; exact reals_ok (Nat.le_refl _) it hit
  | cons e es ih =>
    intro pos hg it hit
    simp only [C05.editedItems, List.mem_append] at hit
    obtain ⟨hpos, hfirst⟩ := hg e (by simp)
    rcases hit with hit | hit | hit
    · exact reals_ok hpos it hit
    · rcases hfirst with he | ⟨st, c', happ, hins⟩
      · simp [C05.firstSeq, he, editSeq] at hit
      · exact editSeq_items_ok _ ⟨st, e.pos⟩ c' happ hins it hit
    · exact ih _ (fun e' he' => hg e' (List.mem_cons_of_mem _ he')) it hit

theorem inputOk_editedToks {G : Grammar} {A : Automaton} {w : List Nat} (hw : Cert.InputOk G w)
    (errs : List Err) (pos : Nat) (hg : ∀ e ∈ errs, GoodErr G A w e) :
    Cert.InputOk G (C05.editedToks w w.length pos errs) := by
  intro t ht
  simp only [C05.editedToks, List.mem_map] at ht
  obtain ⟨it, hit, rfl⟩ := ht
  have hok := editedItems_ok errs pos hg it hit
  cases it with
  | real i =>
    have hi : i < w.length := hok
    simp only [C05.itemTok]
    have : w.getD i 0 = w[i] := by simp [List.getD, hi]
    rw [this]
    exact hw _ (List.getElem_mem hi)
  | ins t b => exact hok

theorem cpct_run_goodErrs {E : Env} {hs : List Seq → List Seq} {avoid : Nat → Bool} {lexStart : Nat → Nat}
    {win fuel : Nat} (T : TableOK E) (hhs : HashSetLike hs) (n : Nat) (c : Pos) (hc : c.pos ≤ E.w.length) :
    ∀ e ∈ (recCalls E.G E.A E.w (cpctRecover E hs avoid lexStart win fuel) n c).map
        (errOf (cpctRecover E hs avoid lexStart win fuel)), GoodErr E.G E.A E.w e := by
  intro e he
  obtain ⟨x, hx, rfl⟩ := List.mem_map.mp he
  have hex := recCalls_cpct_errCfg T hhs n c hc x hx
  refine ⟨(hyps_of_errCfg T hex).pos, ?_⟩
  cases hr : cpctRecover E hs avoid lexStart win fuel x with
  | none => left; simp [errOf, hr]
  | some y =>
    obtain ⟨c', rs⟩ := y
    obtain ⟨⟨s0, rest, heq, happ⟩, k, _, hall⟩ := cpct_report T hhs hex hr
    subst heq
    right
    refine ⟨x.stack, c', ?_, ?_⟩
    · simpa [errOf, hr, C05.firstSeq] using happ
    · intro t ht
      have : Repair.insert t ∈ s0 := by simpa [errOf, hr, C05.firstSeq] using ht
      exact (hall s0 (by simp)).2.1 t this

end GrmVerif.Cpct
