import GrmVerif.Lemmas.YaccRender
/-!
C10, text → AST stage: an abstract syntax of the DECLARATIONS of a `.y` file, its canonical rendering,
well-formedness, and the image the parser must produce (`Lemmas/YaccDecl*.lean`, `Props/C10.lean`); at the end the
same for a whole file `declarations %% rules [%% programs]` (`renderFile`, `runFile`). Definitions only: the driver
evaluates them.

Layout emitted (exactly): one declaration per line, `keyword item item …\n`, single spaces:

    %start name          %token tok tok …        %left tok … / %right tok … / %nonassoc tok …
    %avoid_insert tok …  %implicit_tokens tok …  %expect digits       %expect-rr digits
    %actiontype type     %parse-param name: type       %epp tok "text"   (a `"` of the text is written `\"`)
-/
namespace GrmVerif.YaccRender
open GrmVerif.YaccParse
open GrmVerif.Header (byteLen)

inductive RDecl where
  | start (n : Name)
  | token (t : RTok) (ts : List RTok)
  | prec (k : Assoc) (t : RTok) (ts : List RTok)
  | avoidInsert (t : RTok) (ts : List RTok)
  /-- read for `YaccKind::Eco` only -/
  | implicitTokens (t : RTok) (ts : List RTok)
  /-- the number as its decimal digits -/
  | expect (ds : List Char)
  | expectRR (ds : List Char)
  /-- read for `YaccKind::Original(_)` only -/
  | actiontype (ty : List Char)
  | parseParam (n ty : List Char)
  /-- the token and the (unescaped) text to show for it -/
  | epp (t : RTok) (v : List Char)
deriving Repr, DecidableEq

def precKw : Assoc → String
  | .left => "%left"
  | .right => "%right"
  | .nonassoc => "%nonassoc"

def kwOf : RDecl → String
  | .start _ => "%start"
  | .token _ _ => "%token"
  | .prec k _ _ => precKw k
  | .avoidInsert _ _ => "%avoid_insert"
  | .implicitTokens _ _ => "%implicit_tokens"
  | .expect _ => "%expect"
  | .expectRR _ => "%expect-rr"
  | .actiontype _ => "%actiontype"
  | .parseParam _ _ => "%parse-param"
  | .epp _ _ => "%epp"

/-- the text of an `%epp` string between double quotes: a `"` is escaped -/
def escQ : List Char → List Char
  | [] => []
  | c :: cs => if c = '"' then '\\' :: '"' :: escQ cs else c :: escQ cs

/-- tokens separated by one space, the last followed by a newline -/
def renderToks : RTok → List RTok → List Char
  | t, [] => t.text ++ ['\n']
  | t, u :: us => t.text ++ ' ' :: renderToks u us

def bodyOf : RDecl → List Char
  | .start n => n ++ ['\n']
  | .token t ts => renderToks t ts
  | .prec _ t ts => renderToks t ts
  | .avoidInsert t ts => renderToks t ts
  | .implicitTokens t ts => renderToks t ts
  | .expect ds => ds ++ ['\n']
  | .expectRR ds => ds ++ ['\n']
  | .actiontype ty => ty ++ ['\n']
  | .parseParam n ty => n ++ ':' :: ' ' :: (ty ++ ['\n'])
  | .epp t v => t.text ++ ' ' :: '"' :: (escQ v ++ ['"', '\n'])

def renderDecl (d : RDecl) : List Char := (kwOf d).toList ++ ' ' :: bodyOf d

def renderDecls : List RDecl → List Char
  | [] => []
  | d :: ds => renderDecl d ++ renderDecls ds

/-! ### well-formedness -/

/-- a type or name that runs to the end of its line (`parse_to_eol`): no `\n`/`\r`, and it begins
with a character that `parse_ws` does not skip -/
def wfLine : List Char → Bool
  | [] => false
  | c :: cs => !YaccLex.isBlank c && !YaccLex.isEol c && c != '/' && cs.all (fun d => !YaccLex.isEol d)

def wfDecl (kind : Kind) : RDecl → Bool
  | .start n => wfName n
  | .token t ts => (t :: ts).all wfTok
  | .prec _ t ts => (t :: ts).all wfTok
  | .avoidInsert t ts => (t :: ts).all wfTok
  | .implicitTokens t ts => decide (kind = .eco) && (t :: ts).all wfTok
  | .expect ds => (Header.parseU64 ds).isSome
  | .expectRR ds => (Header.parseU64 ds).isSome
  | .actiontype ty => decide (kind = .original) && wfLine ty
  | .parseParam n ty => wfType n && n.all (fun d => !YaccLex.isEol d) && wfLine ty
  | .epp t v => wfTok t && v.all (fun d => !YaccLex.isEol d && d != '\\')

def wfDecls (kind : Kind) (ds : List RDecl) : Bool := ds.all (wfDecl kind)

/-! ### the image -/

def tokStep (i : Nat) (t : RTok) (st : St) : St :=
  St.mapAst (fun a => (a.insertToken t.name (t.span i)).addTokenDir t.name) st

def runTokens : Nat → RTok → List RTok → St → Nat × St
  | i, t, [], st => (i + byteLen t.text + 1, St.incNl 1 (tokStep i t st))
  | i, t, u :: us, st => runTokens (i + byteLen t.text + 1) u us (tokStep i t st)

/-- `none` = the token already has a precedence (the parser records a `DuplicatePrecedence` error) -/
def precStep (level : Nat) (kind : Assoc) (i : Nat) (t : RTok) (st : St) : Option St :=
  if (st.ast.precs.find? (fun e => e.1 == t.name)).isSome then none
  else some (St.mapAst (fun a => { a with precs := a.precs ++ [(t.name, level, kind, t.span i)] }) st)

def runPrecToks (level : Nat) (kind : Assoc) : Nat → RTok → List RTok → St → Option (Nat × St)
  | i, t, [], st => (precStep level kind i t st).map (fun s => (i + byteLen t.text + 1, St.incNl 1 s))
  | i, t, u :: us, st =>
    (precStep level kind i t st).bind (fun s => runPrecToks level kind (i + byteLen t.text + 1) u us s)

def insTok (i : Nat) (t : RTok) (st : St) : St := St.mapAst (fun a => a.insertToken t.name (t.span i)) st

/-- `none` = the token is already listed (`DuplicateAvoidInsertDeclaration`) -/
def avoidStep (i : Nat) (t : RTok) (st : St) : Option St :=
  if (((insTok i t st).ast.avoidInsert.getD []).find? (fun e => e.1 == t.name)).isSome then none
  else some (St.mapAst (fun a => { a with avoidInsert := some (a.avoidInsert.getD [] ++ [(t.name, t.span i)]) })
    (insTok i t st))

def runAvoid : Nat → RTok → List RTok → St → Option (Nat × St)
  | i, t, [], st => (avoidStep i t st).map (fun s => (i + byteLen t.text + 1, St.incNl 1 s))
  | i, t, u :: us, st => (avoidStep i t st).bind (fun s => runAvoid (i + byteLen t.text + 1) u us s)

def implicitStep (i : Nat) (t : RTok) (st : St) : Option St :=
  if (((insTok i t st).ast.implicitTokens.getD []).find? (fun e => e.1 == t.name)).isSome then none
  else some (St.mapAst (fun a => { a with implicitTokens := some (a.implicitTokens.getD [] ++ [(t.name, t.span i)]) })
    (insTok i t st))

def runImplicit : Nat → RTok → List RTok → St → Option (Nat × St)
  | i, t, [], st => (implicitStep i t st).map (fun s => (i + byteLen t.text + 1, St.incNl 1 s))
  | i, t, u :: us, st => (implicitStep i t st).bind (fun s => runImplicit (i + byteLen t.text + 1) u us s)

/-- byte length of the keyword and the space after it -/
def kwLen (d : RDecl) : Nat := byteLen (kwOf d).toList + 1

/-- one declaration written at byte `i`, with `prec_level = level`: the position after its line, the
new `prec_level`, the state. `none` = a duplicate the parser would report as an error. -/
def runDecl (i level : Nat) (d : RDecl) (st : St) : Option (Nat × Nat × St) :=
  let j := i + kwLen d
  match d with
  | .start n =>
    if st.ast.start.isSome then none
    else some (j + byteLen n + 1, level,
      St.incNl 1 (St.mapAst (fun a => { a with start := some (n, (j, j + byteLen n)) }) st))
  | .token t ts => some ((runTokens j t ts st).1, level, (runTokens j t ts st).2)
  | .prec k t ts => (runPrecToks level k j t ts st).map (fun r => (r.1, level + 1, r.2))
  | .avoidInsert t ts =>
    (runAvoid j t ts (St.mapAst (fun a => { a with avoidInsert := some (a.avoidInsert.getD []) }) st)).map
      (fun r => (r.1, level, r.2))
  | .implicitTokens t ts =>
    (runImplicit j t ts (St.mapAst (fun a => { a with implicitTokens := some (a.implicitTokens.getD []) }) st)).map
      (fun r => (r.1, level, r.2))
  | .expect ds =>
    if st.ast.expect.isSome then none
    else some (j + byteLen ds + 1, level,
      St.incNl 1 (St.mapAst (fun a => { a with expect := some (Header.digitsVal ds, (j, j + byteLen ds)) }) st))
  | .expectRR ds =>
    if st.ast.expectrr.isSome then none
    else some (j + byteLen ds + 1, level,
      St.incNl 1 (St.mapAst (fun a => { a with expectrr := some (Header.digitsVal ds, (j, j + byteLen ds)) }) st))
  | .actiontype ty =>
    if st.actiontype.isSome then none
    else some (j + byteLen ty + 1, level, St.incNl 1 { st with actiontype := some (j, j + byteLen ty) })
  | .parseParam n ty =>
    some (j + byteLen n + 2 + byteLen ty + 1, level,
      St.incNl 1 (St.mapAst (fun a => { a with parseParam := some ty }) st))
  | .epp t v =>
    if (st.ast.epp.find? (fun e => e.1 == t.name)).isSome then none
    else
      let e := j + byteLen t.text
      some (e + 1 + byteLen (escQ v) + 2 + 1, level,
        St.incNl 1 (St.mapAst (fun a => { a with epp := a.epp ++ [(t.name, (j, e), v, (e + 1, e + 1 + byteLen (escQ v) + 2))] }) st))

def runDecls : Nat → Nat → List RDecl → St → Option (Nat × Nat × St)
  | i, level, [], st => some (i, level, st)
  | i, level, d :: ds, st => (runDecl i level d st).bind (fun r => runDecls r.1 r.2.1 ds r.2.2)

def postPrograms : List Char → Option Nat
  | '%' :: '%' :: '\n' :: prog => some (byteLen prog)
  | _ => none

def renderFile (g : Bool) (ds : List RDecl) (rs : List RRule) (post : List Char) : List Char :=
  renderDecls ds ++ '%' :: '%' :: '\n' :: (renderRules g rs ++ post)

/-- the image of a whole file: the state after the three sections, started from the empty state -/
def runFile (g : Bool) (ds : List RDecl) (rs : List RRule) (post : List Char) : Option St :=
  (runDecls 0 0 ds {}).map (fun r =>
    let q := runRules g (r.1 + 3) rs (St.incNl 1 r.2.2)
    match postPrograms post with
    | some n => St.incNl 1 (St.mapAst (fun a => { a with programs := some n }) q.2)
    | none => q.2)

end GrmVerif.YaccRender
