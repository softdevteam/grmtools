/-! Lists without duplicates: association lists with distinct keys (the model's reading of a `HashMap`), and when a `flatMap` of
`map`s, or a `map`, is free of duplicates. -/
namespace GrmVerif

/-- an entry is determined by its key -/
theorem eq_of_nodup_map {α β : Type} {f : α → β} {l : List α} (h : (l.map f).Nodup) {x y : α}
    (hx : x ∈ l) (hy : y ∈ l) (e : f x = f y) : x = y :=
  have hp := List.pairwise_map.mp h
  List.Pairwise.forall_of_forall_of_flip (R := fun a b => f a = f b → a = b) (fun _ _ _ => rfl)
    (hp.imp fun hne e => absurd e hne) (hp.imp fun hne e => absurd e.symm hne) hx hy e

end GrmVerif

namespace GrmVerif.Impl

theorem nodup_flatMap_map {α β γ : Type} (g : α → List β) (F : α → β → γ)
    (hF : ∀ a b x y, F a x = F b y → a = b ∧ x = y) (l : List α) (hl : l.Nodup) (hg : ∀ a ∈ l, (g a).Nodup) :
    (l.flatMap fun a => (g a).map (F a)).Nodup :=
  List.pairwise_flatMap.mpr ⟨fun a ha => (hg a ha).map _ fun x y hxy e => hxy (hF a a x y e).2,
    hl.imp fun hab y hy y' hy' e => by
      obtain ⟨x, _, rfl⟩ := List.mem_map.mp hy
      obtain ⟨x', _, rfl⟩ := List.mem_map.mp hy'
      exact hab (hF _ _ x x' e).1⟩

theorem nodup_map_iff_injOn {α β : Type} (f : α → β) : ∀ T : List α, T.Nodup →
    ((T.map f).Nodup ↔ ∀ a ∈ T, ∀ b ∈ T, f a = f b → a = b) :=
  fun _ hn => ⟨fun h _ ha _ hb e => eq_of_nodup_map h ha hb e,
    fun hinj => List.pairwise_map.mpr (hn.imp_of_mem fun ha hb hab e => hab (hinj _ ha _ hb e))⟩

end GrmVerif.Impl
