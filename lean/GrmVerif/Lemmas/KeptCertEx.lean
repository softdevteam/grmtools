import GrmVerif.Lemmas.KeptShift
/-!
A certified conflict-free MERGED table that detects an error late, for the non-vacuity examples of
C05 (`Props/C05.lean`): the LALR(1)/Pager automaton of

    S: 'x' A 'c' | 'y' A 'd' | 'x' B 'f' | 'y' B 'g';   A: 'a';   B: 'a' 'e';

The states after `x a` and after `y a` have the same kernel and are merged into state 6 =
`{[A → a ·, {c, d}], [B → a · e, {f, g}]}`. On the input `x a d` the table reduces `A → a` under `d`
(valid after `y a` only) and the goto state `S → x A · c` then refuses `d`: the stack `[6, 2, 0]` is
left as `[4, 2, 0]`. The unreduced stack shifts `e`, the reduced one refuses it, so `KeptInvisible`
is FALSE of this table (`ex2_not_keptInvisible`), while it passes every certificate
(`ex2_cert`) and therefore satisfies `KeptShiftInvisible`.
-/
namespace GrmVerif.C05
open Rec

/-- tokens x 0, y 1, a 2, c 3, d 4, e 5, f 6, g 7, end-of-input 8; rules ^ 0, S 1, A 2, B 3;
productions 0 `S → x A c`, 1 `S → y A d`, 2 `S → x B f`, 3 `S → y B g`, 4 `A → a`, 5 `B → a e`, 6 `^ → S` -/
def exG2 : Grammar :=
  ⟨9, 4, 8, 6,
   [(1, [.tok 0, .rule 2, .tok 3]), (1, [.tok 1, .rule 2, .tok 4]), (1, [.tok 0, .rule 3, .tok 6]),
    (1, [.tok 1, .rule 3, .tok 7]), (2, [.tok 2]), (3, [.tok 2, .tok 5]), (0, [.rule 1])], [], []⟩

def exSt2 (core closed : List Item) (edges : List (Sym × Nat)) (actions : List Act) (gotos : List (Option Nat)) :
    StateD := ⟨core, closed, edges, actions, gotos, [], [], [], false⟩

private def E : Act := .error

def exA2 : Automaton :=
  ⟨0,
   [-- 0: ^ → . S
    exSt2 [⟨6, 0, [8]⟩] [⟨6, 0, [8]⟩, ⟨0, 0, [8]⟩, ⟨1, 0, [8]⟩, ⟨2, 0, [8]⟩, ⟨3, 0, [8]⟩]
      [(.rule 1, 1), (.tok 0, 2), (.tok 1, 3)]
      [.shift 2, .shift 3, E, E, E, E, E, E, E] [none, some 1, none, none],
    -- 1: ^ → S .
    exSt2 [⟨6, 1, [8]⟩] [⟨6, 1, [8]⟩] [] [E, E, E, E, E, E, E, E, .accept] [none, none, none, none],
    -- 2: S → x . A c, S → x . B f
    exSt2 [⟨0, 1, [8]⟩, ⟨2, 1, [8]⟩] [⟨0, 1, [8]⟩, ⟨2, 1, [8]⟩, ⟨4, 0, [3]⟩, ⟨5, 0, [6]⟩]
      [(.rule 2, 4), (.rule 3, 5), (.tok 2, 6)]
      [E, E, .shift 6, E, E, E, E, E, E] [none, none, some 4, some 5],
    -- 3: S → y . A d, S → y . B g
    exSt2 [⟨1, 1, [8]⟩, ⟨3, 1, [8]⟩] [⟨1, 1, [8]⟩, ⟨3, 1, [8]⟩, ⟨4, 0, [4]⟩, ⟨5, 0, [7]⟩]
      [(.rule 2, 7), (.rule 3, 8), (.tok 2, 6)]
      [E, E, .shift 6, E, E, E, E, E, E] [none, none, some 7, some 8],
    -- 4: S → x A . c
    exSt2 [⟨0, 2, [8]⟩] [⟨0, 2, [8]⟩] [(.tok 3, 9)] [E, E, E, .shift 9, E, E, E, E, E] [none, none, none, none],
    -- 5: S → x B . f
    exSt2 [⟨2, 2, [8]⟩] [⟨2, 2, [8]⟩] [(.tok 6, 10)] [E, E, E, E, E, E, .shift 10, E, E] [none, none, none, none],
    -- 6 (merged): A → a . {c, d};  B → a . e {f, g}
    exSt2 [⟨4, 1, [3, 4]⟩, ⟨5, 1, [6, 7]⟩] [⟨4, 1, [3, 4]⟩, ⟨5, 1, [6, 7]⟩] [(.tok 5, 11)]
      [E, E, E, .reduce 4, .reduce 4, .shift 11, E, E, E] [none, none, none, none],
    -- 7: S → y A . d
    exSt2 [⟨1, 2, [8]⟩] [⟨1, 2, [8]⟩] [(.tok 4, 12)] [E, E, E, E, .shift 12, E, E, E, E] [none, none, none, none],
    -- 8: S → y B . g
    exSt2 [⟨3, 2, [8]⟩] [⟨3, 2, [8]⟩] [(.tok 7, 13)] [E, E, E, E, E, E, E, .shift 13, E] [none, none, none, none],
    -- 9: S → x A c .
    exSt2 [⟨0, 3, [8]⟩] [⟨0, 3, [8]⟩] [] [E, E, E, E, E, E, E, E, .reduce 0] [none, none, none, none],
    -- 10: S → x B f .
    exSt2 [⟨2, 3, [8]⟩] [⟨2, 3, [8]⟩] [] [E, E, E, E, E, E, E, E, .reduce 2] [none, none, none, none],
    -- 11: B → a e . {f, g}
    exSt2 [⟨5, 2, [6, 7]⟩] [⟨5, 2, [6, 7]⟩] [] [E, E, E, E, E, E, .reduce 5, .reduce 5, E] [none, none, none, none],
    -- 12: S → y A d .
    exSt2 [⟨1, 3, [8]⟩] [⟨1, 3, [8]⟩] [] [E, E, E, E, E, E, E, E, .reduce 1] [none, none, none, none],
    -- 13: S → y B g .
    exSt2 [⟨3, 3, [8]⟩] [⟨3, 3, [8]⟩] [] [E, E, E, E, E, E, E, E, .reduce 3] [none, none, none, none]],
   [], []⟩

theorem ex2_cert : wholeRunCert exG2 exA2 = true := by decide +kernel

/-- on the input `x a d`: `d` is refused after `A → a` has been reduced under it; the recoverer
reports `[insert c, delete]` (and the same two repairs in the other order) and continues after it -/
def exRecover2 : Pos → Option (Pos × List (List Repair)) := fun c =>
  if c.stack = [4, 2, 0] ∧ c.pos = 2 then
    some (⟨[9, 4, 2, 0], 3⟩, [[.insert 3, .delete], [.delete, .insert 3]])
  else none

theorem ex2_first : FirstApplies exG2 exA2 [0, 2, 4] exRecover2 := by
  intro c c' s0 rest h
  simp only [exRecover2] at h
  split at h
  next hc => cases h; obtain ⟨st, p⟩ := c; obtain ⟨rfl, rfl⟩ := hc; rfl
  next => cases h

theorem ex2_valid : FirstValid exG2 exA2 [0, 2, 4] 1 exRecover2 := by
  intro c c' s0 rest h
  simp only [exRecover2] at h
  split at h
  next hc => cases h; obtain ⟨st, p⟩ := c; obtain ⟨rfl, rfl⟩ := hc; rfl
  next => cases h

/-- `KeptInvisible` is false of this certified table: after the refused `d` the reduced stack
`[4, 2, 0]` refuses `e`, the unreduced stack `[6, 2, 0]` shifts it -/
theorem ex2_not_keptInvisible : ¬ KeptInvisible exG2 exA2 := by
  intro hk
  have hkept : Kept exG2 exA2 [4, 2, 0] [6, 2, 0] := .offer [6, 2, 0] [6, 2, 0] 4 [4, 2, 0] (.refl _) rfl
  obtain ⟨y, hy⟩ := (hk _ _ hkept 5).2.2 [4, 2, 0] rfl
  have : feed exG2 exA2 5 FUEL [6, 2, 0] = .shifted [11, 6, 2, 0] := rfl
  rw [this] at hy
  cases hy

end GrmVerif.C05
