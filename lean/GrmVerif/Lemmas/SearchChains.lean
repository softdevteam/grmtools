import GrmVerif.Model.SearchImpl
/-!
What a merged repairs chain (`RTree`) stands for: `seqs` (the set of plain sequences; the empty
sequence for the bare `Terminator`), its relation to the code's `traverse`, and what the merge closure
does to it.
-/
namespace GrmVerif.SearchImpl
open Rec

mutual
/-- the plain repair sequences a chain stands for -/
def seqs : RTree → List (List Repair)
  | .term => [[]]
  | .rep p r => (seqs p).map (fun s => s ++ [r])
  | .merge p r v => (seqs p).map (fun s => s ++ [r]) ++ seqsAlts v
def seqsAlts : List RTree → List (List Repair)
  | [] => []
  | c :: cs => seqs c ++ seqsAlts cs
end

def isTerm : RTree → Bool
  | .term => true
  | _ => false

mutual
/-- no alternative of a `Merge` anywhere in the chain is the bare `Terminator` -/
def okT : RTree → Bool
  | .term => true
  | .rep p _ => okT p
  | .merge p _ v => okT p && okAlts v
def okAlts : List RTree → Bool
  | [] => true
  | c :: cs => !isTerm c && okT c && okAlts cs
end

theorem seqs_ne_nil : ∀ t : RTree, seqs t ≠ []
  | .term => by simp [seqs]
  | .rep p r => by
    have := seqs_ne_nil p
    simp [seqs, this]
  | .merge p r v => by
    have := seqs_ne_nil p
    simp [seqs, this]

theorem mem_seqs_rep {p : RTree} {r : Repair} {s : List Repair} :
    s ∈ seqs (.rep p r) ↔ ∃ s' ∈ seqs p, s = s' ++ [r] := by
  simp only [seqs, List.mem_map, eq_comm]

theorem mem_seqs_merge {p : RTree} {r : Repair} {v : List RTree} {s : List Repair} :
    s ∈ seqs (.merge p r v) ↔ (∃ s' ∈ seqs p, s = s' ++ [r]) ∨ s ∈ seqsAlts v := by
  simp only [seqs, List.mem_append, List.mem_map, eq_comm]

theorem mem_seqsAlts_cons {c : RTree} {cs : List RTree} {s : List Repair} :
    s ∈ seqsAlts (c :: cs) ↔ s ∈ seqs c ∨ s ∈ seqsAlts cs := by
  simp [seqsAlts]

/-- the bare `Terminator`, which `traverse` expands to nothing, stands for the empty sequence -/
theorem extend_eq {p : RTree} (r : Repair) (ih : traverse p = if isTerm p then [] else seqs p) :
    (if (traverse p).isEmpty then [[r]] else (traverse p).map (fun pc => pc ++ [r])) =
      (seqs p).map (fun s => s ++ [r]) := by
  rw [ih]
  cases p with
  | term => rfl
  | rep p' r' => simp [isTerm, seqs_ne_nil (.rep p' r')]
  | merge p' r' v' => simp [isTerm, seqs_ne_nil (.merge p' r' v')]

mutual
/-- **`traverse` computes `seqs`** on a chain that is `okT` (for every such chain but the bare `Terminator`, for
which it returns nothing) -/
theorem traverse_eq : ∀ t : RTree, okT t = true →
    traverse t = (if isTerm t then [] else seqs t)
  | .term, _ => rfl
  | .rep p r, h => by
    have hp : okT p = true := by simpa [okT] using h
    simp only [traverse, isTerm, Bool.false_eq_true, ↓reduceIte, seqs]
    exact extend_eq r (traverse_eq p hp)
  | .merge p r v, h => by
    have hp : okT p = true ∧ okAlts v = true := by simpa [okT] using h
    simp only [traverse, isTerm, Bool.false_eq_true, ↓reduceIte, seqs]
    rw [extend_eq r (traverse_eq p hp.1), traverseAlts_eq v hp.2]
theorem traverseAlts_eq : ∀ v : List RTree, okAlts v = true → traverseAlts v = seqsAlts v
  | [], _ => by simp [traverseAlts, seqsAlts]
  | c :: cs, h => by
    have hp : (isTerm c = false ∧ okT c = true) ∧ okAlts cs = true := by simpa [okAlts] using h
    have ih := traverse_eq c hp.1.2
    have ihv := traverseAlts_eq cs hp.2
    simp only [traverseAlts, seqsAlts]
    rw [ih, ihv, hp.1.1]
    simp
end

mutual
theorem beq_eq : ∀ a b : RTree, RTree.beq a b = true → a = b
  | .term, .term, _ => rfl
  | .term, .rep _ _, h => by cases h
  | .term, .merge _ _ _, h => by cases h
  | .rep _ _, .term, h => by cases h
  | .rep p r, .rep p' r', h => by
    simp only [RTree.beq, Bool.and_eq_true, beq_iff_eq] at h
    rw [h.1, beq_eq p p' h.2]
  | .rep _ _, .merge _ _ _, h => by cases h
  | .merge _ _ _, .term, h => by cases h
  | .merge _ _ _, .rep _ _, h => by cases h
  | .merge p r v, .merge p' r' v', h => by
    simp only [RTree.beq, Bool.and_eq_true, beq_iff_eq] at h
    rw [h.1.1, beq_eq p p' h.2, beqList_eq v v' h.1.2]
theorem beqList_eq : ∀ a b : List RTree, RTree.beqList a b = true → a = b
  | [], [], _ => rfl
  | [], _ :: _, h => by cases h
  | _ :: _, [], h => by cases h
  | a :: as, b :: bs, h => by
    simp only [RTree.beqList, Bool.and_eq_true] at h
    rw [beq_eq a b h.1, beqList_eq as bs h.2]
end

theorem endsWithShifts_iff : ∀ (k : Nat) (t : RTree), endsWithShifts k t = decide (k ≤ numShifts t) := by
  intro k
  induction k with
  | zero => intro t; simp [endsWithShifts]
  | succ k ih =>
    intro t
    cases t with
    | term => simp [endsWithShifts, numShifts]
    | rep p r =>
      cases r with
      | shift => simp [endsWithShifts, numShifts, ih]
      | _ => simp [endsWithShifts, numShifts]
    | merge p r v =>
      cases r with
      | shift => simp [endsWithShifts, numShifts, ih]
      | _ => simp [endsWithShifts, numShifts]

/-- what `PathFNode::eq` compares -/
def keyOf (m : PNode) : Nat × List Nat × Bool × Nat :=
  (m.laidx, m.pstack, isDelete (lastRepair m.repairs), numShifts m.repairs)

theorem compat_iff (a b : PNode) : compat a b = true ↔ keyOf a = keyOf b := by
  simp [compat, keyOf, and_assoc]

theorem keyOf_eq {a b : PNode} (h : keyOf a = keyOf b) :
    a.laidx = b.laidx ∧ a.pstack = b.pstack ∧
      isDelete (lastRepair a.repairs) = isDelete (lastRepair b.repairs) ∧
      numShifts a.repairs = numShifts b.repairs := by
  simpa [keyOf] using h

theorem mergeRepairs_spec {old new r : RTree} (h : mergeRepairs old new = some r) :
    lastRepair r = lastRepair old ∧ numShifts r = numShifts old ∧
    (∀ s, s ∈ seqs r ↔ s ∈ seqs old ∨ s ∈ seqs new) ∧
    (okT old = true → okT new = true → (isTerm new = true → isTerm old = true) → okT r = true) ∧
    (isTerm r = isTerm old) := by
  unfold mergeRepairs at h
  by_cases hb : RTree.beq old new = true
  · rw [if_pos hb] at h
    injection h with h; subst h
    have := beq_eq _ _ hb
    subst this
    exact ⟨rfl, rfl, fun s => by simp, fun h1 _ _ => h1, rfl⟩
  · rw [if_neg hb] at h
    cases old with
    | term => cases h
    | rep p r0 =>
      injection h with h; subst h
      refine ⟨rfl, ?_, ?_, ?_, rfl⟩
      · cases r0 <;> simp [numShifts]
      · intro s
        rw [mem_seqs_merge, mem_seqs_rep, mem_seqsAlts_cons]
        simp [seqsAlts]
      · intro h1 h2 h3
        have h3' : isTerm new = false := Bool.eq_false_iff.mpr fun hn => Bool.noConfusion (h3 hn)
        simp only [okT] at h1
        simp [okT, okAlts, h1, h2, h3']
    | merge p r0 v =>
      injection h with h; subst h
      refine ⟨rfl, ?_, ?_, ?_, rfl⟩
      · cases r0 <;> simp [numShifts]
      · intro s
        rw [mem_seqs_merge, mem_seqs_merge, mem_seqsAlts_cons]
        constructor
        · rintro (h | h | h)
          · exact Or.inl (Or.inl h)
          · exact Or.inr h
          · exact Or.inl (Or.inr h)
        · rintro ((h | h) | h)
          · exact Or.inl h
          · exact Or.inr (Or.inr h)
          · exact Or.inr (Or.inl h)
      · intro h1 h2 h3
        have h3' : isTerm new = false := Bool.eq_false_iff.mpr fun hn => Bool.noConfusion (h3 hn)
        simp only [okT, Bool.and_eq_true] at h1
        simp [okT, okAlts, h1.1, h1.2, h2, h3']

theorem eq_term_of_isTerm {t : RTree} (h : isTerm t = true) : t = .term := by
  cases t with
  | term => rfl
  | _ => cases h

theorem mergeRepairs_eq_none {old new : RTree} (h : mergeRepairs old new = none) :
    old = .term ∧ ¬ RTree.beq .term new = true := by
  unfold mergeRepairs at h
  by_cases hb : RTree.beq old new = true
  · rw [if_pos hb] at h; cases h
  · rw [if_neg hb] at h
    cases old with
    | term => exact ⟨rfl, hb⟩
    | _ => cases h

end GrmVerif.SearchImpl
