import GrmVerif.Lemmas.YaccDeclRender
import GrmVerif.Lemmas.YaccRoundtripRules
/-!
C10, text → AST stage, declarations: the scanners of the declarations and the four token-list loops
(`%token`, `%left`/`%right`/`%nonassoc`, `%avoid_insert`, `%implicit_tokens`). The loops differ in the loop
condition and in what is recorded for a token; the induction over the list is done once (`toksLoop_at`).
What the image of a declaration means for the rest of the file is the relation `Declares`.
-/
namespace GrmVerif.YaccRender
open GrmVerif.YaccParse
open GrmVerif.Header (Res byteLen byteLen_append slice_ok ok_bind)

/-- the next declaration, or the `%%` that ends them -/
def DeclNext (k : List Char) : Prop := ∃ t, k = '%' :: t

theorem DeclNext.starts {k : List Char} (h : DeclNext k) : Starts k := by
  obtain ⟨t, rfl⟩ := h
  exact starts_cons _ (by decide)

theorem ws_false_space {src : List Char} {i : Nat} {rest : List Char} (h : At src i (' ' :: rest))
    (hs : Stops rest) (st : St) : M.Ret (ws src false i) st (i + 1) st :=
  ws_layout (l := [' ']) h (.cons (.blank (by decide)) .nil) hs st

theorem intLoop_at {src : List Char} : ∀ (ds : List Char) (f j : Nat) (k : List Char),
    At src j (ds ++ '\n' :: k) → ds.all Header.isDigit = true → ds.length < f →
    (intLoop src f j : Res YErr Nat) = .ok (j + byteLen ds) := by
  intro ds
  induction ds with
  | nil =>
    intro f j k h _ hf
    obtain ⟨f, rfl⟩ := Nat.exists_eq_add_one.2 hf
    have h0 : At src j ('\n' :: k) := h
    rw [intLoop, if_pos h0.lt, nextChar_ok h0]
    rfl
  | cons d ds ih =>
    intro f j k h hd hf
    obtain ⟨f, rfl⟩ := Nat.exists_eq_add_one.2 (Nat.zero_lt_of_lt hf)
    rw [List.all_cons, Bool.and_eq_true] at hd
    have h0 : At src j (d :: (ds ++ '\n' :: k)) := h
    have hsz := digit_size d hd.1
    rw [intLoop, if_pos h0.lt, nextChar_ok h0]
    show (if Header.isDigit d = true then intLoop src f (j + 1) else pure j) = _
    rw [if_pos hd.1, ih f (j + 1) k (h0.adv1 hsz) hd.2 (Nat.lt_of_succ_lt_succ hf),
      show byteLen (d :: ds) = d.utf8Size + byteLen ds from rfl, hsz, Nat.add_assoc]

theorem parseU64_spec {ds : List Char} {v : Nat} (hv : Header.parseU64 ds = some v) :
    ds ≠ [] ∧ ds.all Header.isDigit = true ∧ v = Header.digitsVal ds := by
  unfold Header.parseU64 at hv
  split at hv
  · next hc => exact ⟨hc.1, hc.2.1, (Option.some.inj hv).symm⟩
  · cases hv

theorem parseInt_at {src : List Char} {fuel i : Nat} {ds k : List Char} {v : Nat}
    (h : At src i (ds ++ '\n' :: k)) (hv : Header.parseU64 ds = some v) (hf : ds.length < fuel) :
    parseInt src fuel i = .ok (i + byteLen ds, v) := by
  simp [parseInt, intLoop_at ds fuel i k h (parseU64_spec hv).2.1 hf, h.range, hv, bind, Res.bind, pure]

theorem toEolLoop_at {src : List Char} : ∀ (ty : List Char) (f j : Nat) (k : List Char),
    At src j (ty ++ '\n' :: k) → ty.all (fun d => !YaccLex.isEol d) = true → ty.length < f →
    (toEolLoop src f j : Res YErr Nat) = .ok (j + byteLen ty) := by
  intro ty
  induction ty with
  | nil =>
    intro f j k h _ hf
    obtain ⟨f, rfl⟩ := Nat.exists_eq_add_one.2 hf
    have h0 : At src j ('\n' :: k) := h
    rw [toEolLoop, if_pos h0.lt, nextChar_ok h0]
    rfl
  | cons d ds ih =>
    intro f j k h hd hf
    obtain ⟨f, rfl⟩ := Nat.exists_eq_add_one.2 (Nat.zero_lt_of_lt hf)
    rw [List.all_cons, Bool.and_eq_true, Bool.not_eq_true'] at hd
    have h0 : At src j (d :: (ds ++ '\n' :: k)) := h
    rw [toEolLoop, if_pos h0.lt, nextChar_ok h0]
    show (if YaccLex.isEol d = true then pure j else toEolLoop src f (j + d.utf8Size)) = _
    rw [if_neg (by rw [hd.1]; exact Bool.false_ne_true), ih f _ k h0.next hd.2 (Nat.lt_of_succ_lt_succ hf),
      show byteLen (d :: ds) = d.utf8Size + byteLen ds from rfl, Nat.add_assoc]

theorem parseToEol_at {src : List Char} {fuel i : Nat} {ty k : List Char}
    (h : At src i (ty ++ '\n' :: k)) (hd : ty.all (fun d => !YaccLex.isEol d) = true) (hf : ty.length < fuel) :
    parseToEol src fuel i = .ok (i + byteLen ty, ty) := by
  simp [parseToEol, toEolLoop_at ty fuel i k h hd hf, h.range, bind, Res.bind, pure]

theorem strLoop_at {src : List Char} : ∀ (v : List Char) (f i : Nat) (s p rest : List Char),
    At src i (p ++ (escQ v ++ '"' :: rest)) → v.all (fun d => !YaccLex.isEol d && d != '\\') = true →
    (escQ v).length < f →
    strLoop src '"' f i (i + byteLen p) s = .ok (i + byteLen p + byteLen (escQ v) + 1, s ++ p ++ v) := by
  intro v
  induction v with
  | nil =>
    intro f i s p rest h _ hf
    obtain ⟨f, rfl⟩ := Nat.exists_eq_add_one.2 hf
    have hj : At src (i + byteLen p) ('"' :: rest) := h.adv
    rw [strLoop, if_pos hj.lt, nextChar_ok hj, ok_bind, if_neg (by decide), if_pos rfl, h.range, List.append_nil]
    rfl
  | cons c v ih =>
    intro f i s p rest h hw hf
    rw [List.all_cons, Bool.and_eq_true, Bool.and_eq_true, Bool.not_eq_true', bne_iff_ne] at hw
    obtain ⟨⟨hce, hcb⟩, hwv⟩ := hw
    by_cases hq : c = '"'
    · subst hq
      obtain ⟨f, rfl⟩ : ∃ f', f = f' + 1 + 1 := ⟨f - 2, by simp only [escQ, if_pos, List.length_cons] at hf; omega⟩
      have hj : At src (i + byteLen p) ('\\' :: '"' :: (escQ v ++ '"' :: rest)) := h.adv
      have hj1 : At src (i + byteLen p + 1) ('"' :: (escQ v ++ '"' :: rest)) := hj.adv1 (by decide)
      have := ih (f + 1) (i + byteLen p + 1) (s ++ p) ['"'] rest hj1 hwv
        (by simp only [escQ, if_pos, List.length_cons] at hf; omega)
      rw [strLoop, if_pos hj.lt, nextChar_ok hj, ok_bind, if_neg (by decide), if_neg (by decide), if_pos rfl,
        slice_ok hj1, ok_bind]
      dsimp only
      rw [show byteLen ['"'] = 1 by decide, show i + byteLen p + 1 + 1 = i + byteLen p + 2 from rfl] at this
      have e : byteLen (escQ ('"' :: v)) = 2 + byteLen (escQ v) := by
        rw [escQ, if_pos rfl]
        show Char.utf8Size '\\' + (Char.utf8Size '"' + _) = _
        rw [show Char.utf8Size '\\' = 1 by decide, show Char.utf8Size '"' = 1 by decide, ← Nat.add_assoc]
      rw [if_pos (Or.inr rfl), h.range, ok_bind, this, e, List.append_assoc (s ++ p),
        Nat.add_assoc (i + byteLen p) 2]
      rfl
    · obtain ⟨f, rfl⟩ := Nat.exists_eq_add_one.2 (Nat.zero_lt_of_lt hf)
      have he : escQ (c :: v) = c :: escQ v := by rw [escQ, if_neg hq]
      rw [he] at h hf ⊢
      have hj : At src (i + byteLen p) (c :: (escQ v ++ '"' :: rest)) := h.adv
      have h' : At src i ((p ++ [c]) ++ (escQ v ++ '"' :: rest)) := by rwa [List.append_assoc]
      have := ih f i s (p ++ [c]) rest h' hwv (Nat.lt_of_succ_lt_succ hf)
      rw [Header.byteLen_append, show byteLen [c] = c.utf8Size + 0 from rfl, Nat.add_zero, ← Nat.add_assoc] at this
      rw [strLoop, if_pos hj.lt, nextChar_ok hj, ok_bind, if_neg (by rw [hce]; exact Bool.false_ne_true),
        if_neg hq, if_neg hcb, this, show byteLen (c :: escQ v) = c.utf8Size + byteLen (escQ v) from rfl]
      simp only [List.append_assoc, List.cons_append, List.nil_append, Nat.add_assoc]

theorem parseString_at {src : List Char} {fuel i : Nat} {v rest : List Char}
    (h : At src i ('"' :: (escQ v ++ '"' :: rest))) (hw : v.all (fun d => !YaccLex.isEol d && d != '\\') = true)
    (hf : (escQ v).length < fuel) :
    parseString src fuel i = .ok (i + 1 + byteLen (escQ v) + 1, v) := by
  have h1 : At src (i + 1) ([] ++ (escQ v ++ '"' :: rest)) := by simpa using h.adv1 (by decide)
  have := strLoop_at (src := src) v fuel (i + 1) [] [] rest h1 hw hf
  simp only [byteLen, Nat.add_zero, List.nil_append] at this
  simp [parseString, Header.lookahead, slice_ok h, bind, Res.bind, pure, this]

/-- the recursion that `runPrecToks`, `runAvoid`, `runImplicit` (and `runTokens`, whose step never
fails) share: `step` on each token in turn, `none` at the first duplicate, a newline after the last -/
def runSteps (step : Nat → RTok → St → Option St) : Nat → RTok → List RTok → St → Option (Nat × St)
  | i, t, [], st => (step i t st).map (fun s => (i + byteLen t.text + 1, St.incNl 1 s))
  | i, t, u :: us, st => (step i t st).bind (fun s => runSteps step (i + byteLen t.text + 1) u us s)

theorem runPrecToks_eq (level : Nat) (kind : Assoc) : ∀ (ts : List RTok) (i : Nat) (t : RTok) (st : St),
    runPrecToks level kind i t ts st = runSteps (precStep level kind) i t ts st
  | [], _, _, _ => rfl
  | u :: us, i, t, st => by simp only [runPrecToks, runSteps, runPrecToks_eq level kind us]

theorem runAvoid_eq : ∀ (ts : List RTok) (i : Nat) (t : RTok) (st : St),
    runAvoid i t ts st = runSteps avoidStep i t ts st
  | [], _, _, _ => rfl
  | u :: us, i, t, st => by simp only [runAvoid, runSteps, runAvoid_eq us]

theorem runImplicit_eq : ∀ (ts : List RTok) (i : Nat) (t : RTok) (st : St),
    runImplicit i t ts st = runSteps implicitStep i t ts st
  | [], _, _, _ => rfl
  | u :: us, i, t, st => by simp only [runImplicit, runSteps, runImplicit_eq us]

theorem runTokens_eq : ∀ (ts : List RTok) (i : Nat) (t : RTok) (st : St),
    runSteps (fun i t st => some (tokStep i t st)) i t ts st = some (runTokens i t ts st)
  | [], _, _, _ => rfl
  | u :: us, i, t, st => by simp only [runTokens, runSteps, Option.bind_some, runTokens_eq us]

theorem byteLen_renderToks_nil (t : RTok) : byteLen (renderToks t []) = byteLen t.text + 1 := by
  rw [renderToks, byteLen_append]; rfl

theorem byteLen_renderToks_cons (t u : RTok) (us : List RTok) :
    byteLen (renderToks t (u :: us)) = byteLen t.text + 1 + byteLen (renderToks u us) := by
  rw [show renderToks t (u :: us) = t.text ++ ([' '] ++ renderToks u us) from rfl, byteLen_append, byteLen_append]
  exact (Nat.add_assoc _ _ _).symm

/-- What a declaration does to the state as far as the rules section and the error vector are concerned: no error is
recorded, no production is added, and the names `N` are declared by `%token` (in a state with `DirsOK D`). -/
structure Declares (D : List Name) (st st' : St) (N : List Name) : Prop where
  errs : st'.errs = st.errs
  prods : st'.ast.prods = st.ast.prods
  dirs : DirsOK D st → DirsOK (N.foldl addName D) st'

theorem Declares.refl {D : List Name} (st : St) : Declares D st st [] := ⟨rfl, rfl, id⟩

theorem Declares.trans {D : List Name} {a b c : St} {N N' : List Name} (h1 : Declares D a b N)
    (h2 : Declares (N.foldl addName D) b c N') : Declares D a c (N ++ N') :=
  ⟨h2.errs.trans h1.errs, h2.prods.trans h1.prods, fun h => List.foldl_append ▸ h2.dirs (h1.dirs h)⟩

theorem Declares.incNl {D : List Name} {st st' : St} {N : List Name} (h : Declares D st st' N) (k : Nat) :
    Declares D st (St.incNl k st') N :=
  ⟨h.errs, h.prods, h.dirs⟩

/-- a change that touches neither the token set, `token_directives`, the productions nor the errors -/
theorem declares_of_eq {D : List Name} {st st' : St} (h1 : st'.ast.tokens = st.ast.tokens)
    (h2 : st'.ast.tokenDirs = st.ast.tokenDirs) (h3 : st'.errs = st.errs) (h4 : st'.ast.prods = st.ast.prods) :
    Declares D st st' [] :=
  ⟨h3, h4, dirsOK_of_eq h1 h2⟩

theorem insTok_declares {D : List Name} (i : Nat) (t : RTok) (st : St) : Declares D st (insTok i t st) [] :=
  ⟨(adds_insert (dirs := D) st t.name (t.span i)).errs, by simp only [insTok, St.mapAst, Ast.insertToken]; split <;> rfl,
    (adds_insert st t.name (t.span i)).dirsOK⟩

theorem tokStep_declares {D : List Name} (i : Nat) (t : RTok) (st : St) : Declares D st (tokStep i t st) [t.name] := by
  have h0 := insTok_declares (D := D) i t st
  have e : tokStep i t st = St.mapAst (fun a => a.addTokenDir t.name) (insTok i t st) := rfl
  refine ⟨h0.errs, ?_, fun h => ?_⟩
  · rw [e, ← h0.prods]
    simp only [St.mapAst, Ast.addTokenDir]; split <;> rfl
  · have h1 := h0.dirs h
    have hin : (insTok i t st).ast.hasToken t.name = true := by
      simp only [insTok, St.mapAst, Ast.insertToken]
      split
      · assumption
      · simp [Ast.hasToken]
    rw [e]
    simp only [St.mapAst, Ast.addTokenDir, h1.1, addName, List.foldl_cons, List.foldl_nil]
    split
    · exact h1
    · refine ⟨rfl, fun n hn => ?_⟩
      simp only [List.contains_iff_mem, List.mem_append, List.mem_singleton] at hn
      rcases hn with hn | rfl
      · exact h1.2 n (by simpa using hn)
      · exact hin

theorem runTokens_spec {D : List Name} : ∀ (ts : List RTok) (t : RTok) (i : Nat) (st : St),
    (runTokens i t ts st).1 = i + byteLen (renderToks t ts) ∧
      Declares D st (runTokens i t ts st).2 ((t :: ts).map RTok.name)
  | [], t, i, st => ⟨by rw [byteLen_renderToks_nil]; rfl, (tokStep_declares i t st).incNl 1⟩
  | u :: us, t, i, st => by
    obtain ⟨hp, hd⟩ := runTokens_spec (D := [t.name].foldl addName D) us u (i + byteLen t.text + 1) (tokStep i t st)
    rw [runTokens]
    exact ⟨by rw [hp, byteLen_renderToks_cons]; simp only [Nat.add_assoc], (tokStep_declares i t st).trans hd⟩

theorem runSteps_spec {step : Nat → RTok → St → Option St} {D : List Name}
    (hstep : ∀ i t st s, step i t st = some s → Declares D st s []) :
    ∀ (ts : List RTok) (t : RTok) (i : Nat) (st : St) (r : Nat × St),
      runSteps step i t ts st = some r → r.1 = i + byteLen (renderToks t ts) ∧ Declares D st r.2 []
  | [], t, i, st, r, h => by
    simp only [runSteps, Option.map_eq_some_iff] at h
    obtain ⟨s, hs, rfl⟩ := h
    exact ⟨by rw [byteLen_renderToks_nil]; rfl, (hstep i t st s hs).incNl 1⟩
  | u :: us, t, i, st, r, h => by
    simp only [runSteps, Option.bind_eq_some_iff] at h
    obtain ⟨s, hs, h⟩ := h
    obtain ⟨hp, hd⟩ := runSteps_spec hstep us u _ s r h
    exact ⟨by rw [hp, byteLen_renderToks_cons]; simp only [Nat.add_assoc], (hstep i t st s hs).trans hd⟩

theorem none_of_guard {α β : Type} {o : Option α} {x s : β} (h : (if o.isSome then none else some x) = some s) :
    o = none ∧ s = x := by
  obtain ⟨hc, hx⟩ := Option.ite_none_left_eq_some.1 h
  exact ⟨Option.not_isSome_iff_eq_none.1 hc, (Option.some.inj hx).symm⟩

theorem precStep_some {level : Nat} {kind : Assoc} {i : Nat} {t : RTok} {st s : St}
    (h : precStep level kind i t st = some s) :
    st.ast.precs.find? (fun e => e.1 == t.name) = none ∧
      s = St.mapAst (fun a => { a with precs := a.precs ++ [(t.name, level, kind, t.span i)] }) st :=
  none_of_guard h

theorem avoidStep_some {i : Nat} {t : RTok} {st s : St} (h : avoidStep i t st = some s) :
    ((insTok i t st).ast.avoidInsert.getD []).find? (fun e => e.1 == t.name) = none ∧
      s = St.mapAst (fun a => { a with avoidInsert := some (a.avoidInsert.getD [] ++ [(t.name, t.span i)]) })
        (insTok i t st) :=
  none_of_guard h

theorem implicitStep_some {i : Nat} {t : RTok} {st s : St} (h : implicitStep i t st = some s) :
    ((insTok i t st).ast.implicitTokens.getD []).find? (fun e => e.1 == t.name) = none ∧
      s = St.mapAst (fun a => { a with implicitTokens := some (a.implicitTokens.getD [] ++ [(t.name, t.span i)]) })
        (insTok i t st) :=
  none_of_guard h

theorem precStep_declares {D : List Name} {level : Nat} {kind : Assoc} {i : Nat} {t : RTok} {st s : St}
    (h : precStep level kind i t st = some s) : Declares D st s [] := by
  obtain ⟨-, rfl⟩ := precStep_some h
  exact declares_of_eq rfl rfl rfl rfl

theorem avoidStep_declares {D : List Name} {i : Nat} {t : RTok} {st s : St} (h : avoidStep i t st = some s) :
    Declares D st s [] := by
  obtain ⟨-, rfl⟩ := avoidStep_some h
  exact (insTok_declares i t st).trans (declares_of_eq rfl rfl rfl rfl)

theorem implicitStep_declares {D : List Name} {i : Nat} {t : RTok} {st s : St} (h : implicitStep i t st = some s) :
    Declares D st s [] := by
  obtain ⟨-, rfl⟩ := implicitStep_some h
  exact (insTok_declares i t st).trans (declares_of_eq rfl rfl rfl rfl)

theorem precStep_spec {level : Nat} {kind : Assoc} {i : Nat} {t : RTok} {st s : St}
    (h : precStep level kind i t st = some s) :
    M.Ret (precEntry t.name (t.span i) level kind) st () s := by
  obtain ⟨hn, rfl⟩ := precStep_some h
  exact M.Ret.bind (getSt_ret st) (by rw [hn]; exact modifyAst_ret _ st)

theorem avoidStep_spec {i : Nat} {t : RTok} {st s : St} (h : avoidStep i t st = some s) :
    M.Ret (avoidEntry t.name (t.span i)) (insTok i t st) () s := by
  obtain ⟨hn, rfl⟩ := avoidStep_some h
  exact M.Ret.bind (getSt_ret _) (by rw [hn]; exact modifyAst_ret _ _)

theorem implicitStep_spec {i : Nat} {t : RTok} {st s : St} (h : implicitStep i t st = some s) :
    M.Ret (implicitEntry t.name (t.span i)) (insTok i t st) () s := by
  obtain ⟨hn, rfl⟩ := implicitStep_some h
  exact M.Ret.bind (getSt_ret _) (by rw [hn]; exact modifyAst_ret _ _)

theorem renderToks_starts {t : RTok} {ts : List RTok} (hw : (t :: ts).all wfTok = true) (k : List Char) :
    Starts (renderToks t ts ++ k) := by
  simp only [List.all_cons, Bool.and_eq_true] at hw
  cases ts <;> simp only [renderToks, List.append_assoc] <;> exact wfTok_starts hw.1 _

/-- The induction over a rendered token list, for any loop `L` (fuel, position): `hiter` is one iteration on
a token followed by a space or a newline, `hend` the exit once the newline has been counted, `Inv` what the
loop condition needs of the state. -/
theorem toksLoop_at {src : List Char} {L : Nat → Nat → M Nat} {step : Nat → RTok → St → Option St}
    {Inv : St → Prop}
    (hiter : ∀ (f i : Nat) (st s : St) (t : RTok) (c : Char) (k : List Char), At src i (t.text ++ c :: k) →
      wfTok t = true → c = ' ' ∨ c = '\n' → Stops k → Inv st → step i t st = some s →
      L (f + 1) i st = L f (i + byteLen t.text + 1) (St.incNl (if c = '\n' then 1 else 0) s) ∧ Inv s)
    (hend : ∀ (f i : Nat) (st : St) (k : List Char), At src i k → DeclNext k → Inv st →
      L (f + 1) i (St.incNl 1 st) = .ok (i, St.incNl 1 st)) :
    ∀ (ts : List RTok) (t : RTok) (f i : Nat) (st : St) (k : List Char) (r : Nat × St),
      At src i (renderToks t ts ++ k) → (t :: ts).all wfTok = true → DeclNext k → Inv st →
      runSteps step i t ts st = some r → byteLen src < i + f → L f i st = .ok r
  | [], t, f, i, st, k, r, h, hw, hk, hinv, hr, hf => by
    simp only [List.all_cons, List.all_nil, Bool.and_true] at hw
    have h0 : At src i (t.text ++ '\n' :: k) := by
      simpa only [renderToks, List.append_assoc, List.cons_append, List.nil_append] using h
    have h1 : At src (i + byteLen t.text + 1) k := h0.adv.adv1 (by decide)
    simp only [runSteps, Option.map_eq_some_iff] at hr
    obtain ⟨s, hs, rfl⟩ := hr
    have hlt := h0.lt_of_starts (wfTok_starts hw _)
    obtain ⟨f, rfl⟩ := fuel_succ hlt hf
    have hf1 : byteLen src < i + byteLen t.text + 1 + f :=
      Header.fuel_step hf (Nat.lt_succ_of_le (Nat.le_add_right _ _))
    obtain ⟨f, rfl⟩ := fuel_succ (h1.lt_of_starts hk.starts) hf1
    obtain ⟨e, hinv'⟩ := hiter (f + 1) i st s t '\n' k h0 hw (.inr rfl) hk.starts.stops hinv hs
    rw [e, if_pos rfl]
    exact hend f _ s k h1 hk hinv'
  | u :: us, t, f, i, st, k, r, h, hw, hk, hinv, hr, hf => by
    rw [List.all_cons, Bool.and_eq_true] at hw
    have h0 : At src i (t.text ++ ' ' :: (renderToks u us ++ k)) := by
      simpa only [renderToks, List.append_assoc, List.cons_append] using h
    simp only [runSteps, Option.bind_eq_some_iff] at hr
    obtain ⟨s, hs, hr⟩ := hr
    have hlt := h0.lt_of_starts (wfTok_starts hw.1 _)
    obtain ⟨f, rfl⟩ := fuel_succ hlt hf
    obtain ⟨e, hinv'⟩ := hiter f i st s t ' ' _ h0 hw.1 (.inl rfl)
      (renderToks_starts hw.2 k).stops hinv hs
    rw [e, if_neg (by decide)]
    exact toksLoop_at hiter hend us u f _ s k r (h0.adv.adv1 (by decide)) hw.2 hk hinv' hr
      (Header.fuel_step hf (Nat.lt_succ_of_le (Nat.le_add_right _ _)))

theorem tokenLoop_at {src : List Char} (ts : List RTok) (t : RTok) (f i : Nat) (st : St) (k : List Char)
    (h : At src i (renderToks t ts ++ k)) (hw : (t :: ts).all wfTok = true) (hk : DeclNext k)
    (hf : byteLen src < i + f) : tokenLoop src f i st = .ok (runTokens i t ts st) := by
  refine toksLoop_at (L := tokenLoop src) (Inv := fun _ => True) ?_ ?_ ts t f i st k _ h hw hk trivial
    (runTokens_eq ts i t st) hf
  · intro f i st s t c k h hw hc hk _ hs
    obtain ⟨d, r, hdr, hd⟩ := tok_not_pct hw (c :: k)
    have h' := hdr ▸ h
    obtain rfl : tokStep i t st = s := Option.some.inj hs
    refine ⟨?_, trivial⟩
    rw [tokenLoop, if_pos h'.lt, M.Ret.bind_eq (la_ne h' String.toList_ofList hd st)]
    dsimp only
    rw [M.Ret.bind_eq (liftR_ret (parseToken_sep h hw hc))]
    dsimp only
    rw [M.Ret.bind_eq (modifyAst_ret _ st), M.Ret.bind_eq (ws_one h.adv hk hc _)]
    rfl
  · intro f i st k h hk _
    obtain ⟨tk, rfl⟩ := hk
    rw [tokenLoop, if_pos h.lt, M.Ret.bind_eq (la_lit (l := ['%']) String.toList_ofList h _ rfl)]
    rfl

theorem precLoop_at {src : List Char} {level : Nat} {kind : Assoc} {nl0 : Nat} (ts : List RTok) (t : RTok)
    (f i : Nat) (st : St) (k : List Char) (r : Nat × St) (h : At src i (renderToks t ts ++ k))
    (hw : (t :: ts).all wfTok = true) (hk : DeclNext k) (hnl : nl0 = st.nl)
    (hr : runPrecToks level kind i t ts st = some r) (hf : byteLen src < i + f) :
    precLoop src nl0 level kind f i st = .ok r := by
  rw [runPrecToks_eq] at hr
  refine toksLoop_at (L := precLoop src nl0 level kind) (Inv := fun st => nl0 = st.nl) ?_ ?_ ts t f i st k r
    h hw hk hnl hr hf
  · intro f i st s t c k h hw hc hk hnl hs
    have he := precStep_spec hs
    obtain rfl := (precStep_some hs).2
    refine ⟨?_, hnl⟩
    rw [precLoop, M.Ret.bind_eq (getSt_ret st)]
    dsimp only
    rw [if_pos ⟨h.lt_of_starts (wfTok_starts hw _), hnl⟩, M.Ret.bind_eq (liftR_ret (parseToken_sep h hw hc))]
    dsimp only
    rw [M.Ret.bind_eq he, M.Ret.bind_eq (ws_one h.adv hk hc _)]
  · intro f i st k _ _ hnl
    rw [precLoop, M.Ret.bind_eq (getSt_ret _)]
    dsimp only
    rw [if_neg (by simp only [St.incNl]; omega)]
    rfl

theorem avoidLoop_at {src : List Char} {j0 nl0 : Nat} (hj0 : j0 < byteLen src) (ts : List RTok) (t : RTok)
    (f i : Nat) (st : St) (k : List Char) (r : Nat × St) (h : At src i (renderToks t ts ++ k))
    (hw : (t :: ts).all wfTok = true) (hk : DeclNext k) (hnl : st.nl = nl0)
    (hr : runAvoid i t ts st = some r) (hf : byteLen src < i + f) :
    avoidLoop src j0 nl0 f i st = .ok r := by
  rw [runAvoid_eq] at hr
  refine toksLoop_at (L := avoidLoop src j0 nl0) (Inv := fun st => st.nl = nl0) ?_ ?_ ts t f i st k r
    h hw hk hnl hr hf
  · intro f i st s t c k h hw hc hk hnl hs
    have he : M.Ret _ (St.mapAst (fun a => a.insertToken t.name (t.span i)) st) () _ := avoidStep_spec hs
    obtain rfl := (avoidStep_some hs).2
    refine ⟨?_, hnl⟩
    rw [avoidLoop, M.Ret.bind_eq (getSt_ret st)]
    dsimp only
    rw [if_pos ⟨hj0, hnl⟩, M.Ret.bind_eq (liftR_ret (parseToken_sep h hw hc))]
    dsimp only
    rw [M.Ret.bind_eq (modifyAst_ret _ st), M.Ret.bind_eq he, M.Ret.bind_eq (ws_one h.adv hk hc _)]
  · intro f i st k _ _ hnl
    rw [avoidLoop, M.Ret.bind_eq (getSt_ret _)]
    dsimp only
    rw [if_neg (by simp only [St.incNl]; omega)]
    rfl

theorem implicitLoop_at {src : List Char} {j0 nl0 : Nat} (hj0 : j0 < byteLen src) (ts : List RTok) (t : RTok)
    (f i : Nat) (st : St) (k : List Char) (r : Nat × St) (h : At src i (renderToks t ts ++ k))
    (hw : (t :: ts).all wfTok = true) (hk : DeclNext k) (hnl : st.nl = nl0)
    (hr : runImplicit i t ts st = some r) (hf : byteLen src < i + f) :
    implicitLoop src j0 nl0 f i st = .ok r := by
  rw [runImplicit_eq] at hr
  refine toksLoop_at (L := implicitLoop src j0 nl0) (Inv := fun st => st.nl = nl0) ?_ ?_ ts t f i st k r
    h hw hk hnl hr hf
  · intro f i st s t c k h hw hc hk hnl hs
    have he : M.Ret _ (St.mapAst (fun a => a.insertToken t.name (t.span i)) st) () _ := implicitStep_spec hs
    obtain rfl := (implicitStep_some hs).2
    refine ⟨?_, hnl⟩
    rw [implicitLoop, M.Ret.bind_eq (getSt_ret st)]
    dsimp only
    rw [if_pos ⟨hj0, hnl⟩, M.Ret.bind_eq (liftR_ret (parseToken_sep h hw hc))]
    dsimp only
    rw [M.Ret.bind_eq (modifyAst_ret _ st), M.Ret.bind_eq he, M.Ret.bind_eq (ws_one h.adv hk hc _)]
  · intro f i st k _ _ hnl
    rw [implicitLoop, M.Ret.bind_eq (getSt_ret _)]
    dsimp only
    rw [if_neg (by simp only [St.incNl]; omega)]
    rfl

end GrmVerif.YaccRender
