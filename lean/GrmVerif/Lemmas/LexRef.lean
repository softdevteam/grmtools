import GrmVerif.Lemmas.LexScan
/-! Helper lemmas for C09, the specification against the reference lexer: every relation of the specification is the
graph of the function that computes it (`LongestEarliest`/`Stuck` of `bestFrom`: `LexScan`; `Emits` of `emitFor`,
`Moves` of `specMove`, `Tiles` of `specLoop`: here), hence single-valued. -/
namespace GrmVerif.Lex

theorem emitFor_eq_some_iff {r : Rule} {ridx i len : Nat} {ev : Ev} :
    emitFor r ridx i len = some ev ↔ Emits r ridx i len ev := by
  obtain ⟨name, tokId, _, _, _⟩ := r
  constructor
  · intro h
    cases name with
    | none => cases h; exact Or.inl ⟨rfl, rfl⟩
    | some nm =>
      cases tokId with
      | none => cases h
      | some t => cases h; exact Or.inr ⟨t, rfl, rfl, rfl⟩
  · rintro (⟨rfl, rfl⟩ | ⟨t, hn, rfl, rfl⟩)
    · rfl
    · obtain ⟨nm, rfl⟩ := Option.isSome_iff_exists.mp hn
      rfl

theorem emitFor_eq_none_iff {r : Rule} {ridx i len : Nat} :
    emitFor r ridx i len = none ↔ r.name.isSome = true ∧ r.tokId = none := by
  obtain ⟨name, tokId, _, _, _⟩ := r
  cases name with
  | none => exact ⟨nofun, fun h => nomatch h.1⟩
  | some nm =>
    cases tokId with
    | none => exact ⟨fun _ => ⟨rfl, rfl⟩, fun _ => rfl⟩
    | some t => exact ⟨nofun, fun h => nomatch h.2⟩

theorem specMove_eq_some_iff {cfg : Cfg} {init : St} {ps ps' : List St} {r : Rule} :
    specMove cfg init ps r = some ps' ↔ Moves cfg init ps r ps' := by
  constructor
  · intro h
    unfold specMove at h
    cases ht : r.target with
    | none => rw [ht] at h; exact Or.inl ⟨ht, (Option.some.inj h).symm⟩
    | some p =>
      obtain ⟨tid, op⟩ := p
      cases hg : getState cfg.states tid with
      | none => rw [ht] at h; simp only [hg] at h; cases h
      | some s => rw [ht] at h; simp only [hg] at h; exact Or.inr ⟨tid, op, s, ht, hg, (Option.some.inj h).symm⟩
  · rintro (⟨ht, rfl⟩ | ⟨tid, op, s, ht, hg, rfl⟩)
    · rw [specMove, ht]
    · simp only [specMove, ht, hg]

theorem specMove_eq_none_iff {cfg : Cfg} {init : St} {ps : List St} {r : Rule} :
    specMove cfg init ps r = none ↔ ∃ tid op, r.target = some (tid, op) ∧ getState cfg.states tid = none := by
  constructor
  · intro h
    unfold specMove at h
    cases ht : r.target with
    | none => rw [ht] at h; cases h
    | some p =>
      obtain ⟨tid, op⟩ := p
      cases hg : getState cfg.states tid with
      | none => exact ⟨tid, op, rfl, hg⟩
      | some s => rw [ht] at h; simp only [hg] at h; cases h
  · rintro ⟨tid, op, ht, hg⟩
    simp only [specMove, ht, hg]

theorem Emits.unique {r : Rule} {ridx i len : Nat} {ev ev' : Ev}
    (h : Emits r ridx i len ev) (h' : Emits r ridx i len ev') : ev = ev' :=
  Option.some.inj ((emitFor_eq_some_iff.mpr h).symm.trans (emitFor_eq_some_iff.mpr h'))

theorem Moves.unique {cfg : Cfg} {init : St} {ps : List St} {r : Rule} {a b : List St}
    (h : Moves cfg init ps r a) (h' : Moves cfg init ps r b) : a = b :=
  Option.some.inj ((specMove_eq_some_iff.mpr h).symm.trans (specMove_eq_some_iff.mpr h'))

theorem plainOp_ne_nil (init : St) (ps : List St) (s : St) (op : Op) : plainOp init ps s op ≠ [] := by
  cases op with
  | replace => nofun
  | push => nofun
  | pop =>
    unfold plainOp
    cases ps.tail with
    | nil => nofun
    | cons _ _ => nofun

theorem moves_ne_nil {cfg : Cfg} {init : St} {ps ps' : List St} {r : Rule}
    (h : Moves cfg init ps r ps') (hne : ps ≠ []) : ps' ≠ [] := by
  rcases h with ⟨_, rfl⟩ | ⟨_, _, _, _, _, rfl⟩
  · exact hne
  · exact plainOp_ne_nil _ _ _ _

/-- soundness of the reference lexer: with enough fuel, what it computes is a correct event list -/
theorem specLoop_tiles (cfg : Cfg) (ml : Nat → Nat → Option Nat) (n : Nat) (init : St) :
    ∀ (fuel i : Nat) (ps : List St), n ≤ i + fuel → ps ≠ [] →
      Tiles cfg ml n init i ps (specLoop cfg ml n init fuel i ps).1 := by
  intro fuel
  induction fuel with
  | zero => intro i ps hf _; exact Tiles.done hf
  | succ f ih =>
    intro i ps hf hne
    unfold specLoop
    by_cases hin : i < n
    · rw [if_pos hin]
      cases ps with
      | nil => exact absurd rfl hne
      | cons cur rest =>
        unfold specStep
        simp only
        cases hb : bestFrom cur (fun r => ml r i) cfg.rules 0 with
        | none => exact Tiles.stuck hin (bestFrom_none hb)
        | some p =>
          obtain ⟨ridx, len⟩ := p
          have hle := bestFrom_some hb
          obtain ⟨r, hr, _⟩ := hle.rule
          simp only [hr]
          cases he : emitFor r ridx i len with
          | none => exact Tiles.unset hin hle hr (emitFor_eq_none_iff.mp he).1 (emitFor_eq_none_iff.mp he).2
          | some ev =>
            have hem := emitFor_eq_some_iff.mp he
            cases hm : specMove cfg init (cur :: rest) r with
            | none =>
              obtain ⟨tid, op, ht, hg⟩ := specMove_eq_none_iff.mp hm
              exact Tiles.badTarget hin hle hr hem ht hg
            | some ps' =>
              have hmv := specMove_eq_some_iff.mp hm
              exact Tiles.step hin hle hr hem hmv
                (ih (i + len) ps' (by have := hle.pos; omega) (moves_ne_nil hmv nofun))
    · rw [if_neg hin]; exact Tiles.done (Nat.not_lt.mp hin)

/-- completeness of the reference lexer: it computes the only event list the specification allows -/
theorem Tiles.eq_specLoop {cfg : Cfg} {ml : Nat → Nat → Option Nat} {n : Nat} {init : St}
    {i : Nat} {ps : List St} {evs : List Ev} (h : Tiles cfg ml n init i ps evs) :
    ∀ fuel, n ≤ i + fuel → (specLoop cfg ml n init fuel i ps).1 = evs := by
  have succ : ∀ {i fuel}, i < n → n ≤ i + fuel → ∃ f, fuel = f + 1 :=
    fun hin hf => Nat.exists_eq_add_one.mpr (by omega)
  -- in every case the premises of the constructor decide, through the graph lemmas, each `match` of one iteration
  induction h with
  | done hn =>
    intro fuel _
    cases fuel with
    | zero => rfl
    | succ f => rw [specLoop, if_neg (Nat.not_lt.mpr hn)]
  | stuck hin hs =>
    intro fuel hf
    obtain ⟨f, rfl⟩ := succ hin hf
    simp only [specLoop, if_pos hin, specStep, bestFrom_eq_none_iff.mpr hs]
  | unset hin hle hr hn ht =>
    intro fuel hf
    obtain ⟨f, rfl⟩ := succ hin hf
    simp only [specLoop, if_pos hin, specStep, bestFrom_eq_some_iff.mpr hle, hr, emitFor_eq_none_iff.mpr ⟨hn, ht⟩]
  | badTarget hin hle hr hem ht hg =>
    intro fuel hf
    obtain ⟨f, rfl⟩ := succ hin hf
    simp only [specLoop, if_pos hin, specStep, bestFrom_eq_some_iff.mpr hle, hr, emitFor_eq_some_iff.mpr hem,
      specMove_eq_none_iff.mpr ⟨_, _, ht, hg⟩]
  | step hin hle hr hem hmv _ ih =>
    intro fuel hf
    obtain ⟨f, rfl⟩ := succ hin hf
    have := hle.pos
    simp only [specLoop, if_pos hin, specStep, bestFrom_eq_some_iff.mpr hle, hr, emitFor_eq_some_iff.mpr hem,
      specMove_eq_some_iff.mpr hmv, List.singleton_append, ih f (by omega)]

theorem specRun_tiles {cfg : Cfg} (ml : Nat → Nat → Option Nat) (n : Nat) {init : St}
    (hinit : getState cfg.states 0 = some init) : Tiles cfg ml n init 0 [init] (specRun cfg ml n).1 := by
  simp only [specRun, hinit]
  exact specLoop_tiles cfg ml n init n 0 [init] (Nat.le_add_left n 0) nofun

end GrmVerif.Lex
