import GrmVerif.Model.YaccParse
import GrmVerif.Lemmas.HeaderParse
/-!
Helper lemmas for the yacc part of C12: slicing facts, well-formedness predicates (`ErrOK`,
`AstOK`, `StOK`), and one specification lemma per `&self` helper function: from a sliceable position
(`Valid src i`) it returns `ok` at a later sliceable position, or an error whose spans are
well-formed; never `panic`, and never `fuelOut` when the loop is given more fuel than bytes remain.
-/
namespace GrmVerif.YaccParse
open GrmVerif.Header (Res Span byteLen dropBytes sliceRange Valid SpanOK MatchAt byteLen_append
  dropBytes_some valid_advance sliceRange_ok slice_sat lookahead_bind
  byteLen_pos spanOK_refl fuel_ind valid_step valid_step1)

theorem byteLen_eq (s : List Char) : YaccLex.byteLen s = byteLen s := by
  induction s with
  | nil => rfl
  | cons c cs ih => simp [YaccLex.byteLen, byteLen, ih]

theorem byteLen_eq_zero {s : List Char} (h : byteLen s = 0) : s = [] := by
  cases s with
  | nil => rfl
  | cons c cs => exact absurd h (Nat.ne_of_gt (byteLen_pos (List.cons_ne_nil c cs)))

theorem prefix_of_byteLen_le {p1 p2 l : List Char} (h1 : p1 <+: l) (h2 : p2 <+: l)
    (h : byteLen p1 ≤ byteLen p2) : p1 <+: p2 := by
  rcases List.prefix_or_prefix_of_prefix h1 h2 with h' | ⟨x, hx⟩
  · exact h'
  · rw [← hx, byteLen_append] at h
    obtain rfl := byteLen_eq_zero (Nat.eq_zero_of_le_zero (Nat.le_of_add_le_add_left (c := 0) h))
    rw [← hx, List.append_nil]
    exact List.prefix_refl _

/-- `&src[a..b]` with both bounds on boundaries and `a ≤ b` does not panic -/
theorem sliceRange_valid_sat {ε : Type} {src : List Char} {a b : Nat} {E : ε → Prop} (ha : Valid src a)
    (hb : Valid src b) (hab : a ≤ b) : (sliceRange src a b : Res ε _).Sat (fun _ => True) E := by
  obtain ⟨r1, h1⟩ := ha
  obtain ⟨r2, h2⟩ := hb
  obtain ⟨p1, e1, l1⟩ := dropBytes_some h1
  obtain ⟨p2, e2, l2⟩ := dropBytes_some h2
  have hp : p1 <+: p2 :=
    prefix_of_byteLen_le (l := src) ⟨r1, e1.symm⟩ ⟨r2, e2.symm⟩ (l1 ▸ l2 ▸ hab)
  obtain ⟨t, ht⟩ := hp
  have hr1 : r1 = t ++ r2 := by
    have : p1 ++ r1 = p1 ++ (t ++ r2) := by rw [← e1, e2, ← ht, List.append_assoc]
    exact List.append_cancel_left this
  have hb' : b = a + byteLen t := by rw [← l1, ← l2, ← ht, byteLen_append]
  rw [hb', sliceRange_ok h1 ⟨r2, hr1.symm⟩]
  trivial

theorem digit_size (c : Char) (h : Header.isDigit c = true) : c.utf8Size = 1 := by
  simp only [Header.isDigit, Bool.and_eq_true, decide_eq_true_eq] at h
  exact Header.ascii_size c (Nat.le_trans h.2 (by decide))

theorem step_lt {j : Nat} (c : Char) : j < j + c.utf8Size := Nat.lt_add_of_pos_right (Char.utf8Size_pos c)

theorem nextChar_ok {ε : Type} {src : List Char} {j : Nat} {c : Char} {rest : List Char}
    (h : dropBytes src j = some (c :: rest)) : (nextChar src j : Res ε _) = .ok c := by
  rw [nextChar, Header.slice_ok h]
  rfl

theorem nextChar_sat {ε : Type} {src : List Char} {j : Nat} {E : ε → Prop} (hv : Valid src j)
    (hj : j < byteLen src) :
    (nextChar src j : Res ε Char).Sat (fun c => ∃ rest, dropBytes src j = some (c :: rest)) E := by
  obtain ⟨rest, hr⟩ := hv
  cases rest with
  | nil => exact absurd (Nat.lt_of_lt_of_eq hj (Header.dropBytes_len hr).symm) (Nat.lt_irrefl j)
  | cons c cs =>
    rw [nextChar_ok hr]
    exact ⟨cs, hr⟩

def ErrOK (src : List Char) (e : YErr) : Prop := e.spans ≠ [] ∧ ∀ sp ∈ e.spans, SpanOK src sp

structure AstOK (src : List Char) (a : Ast) : Prop where
  start : ∀ x, a.start = some x → SpanOK src x.2
  rules : ∀ x ∈ a.rules, SpanOK src x.2
  prods : ∀ p ∈ a.prods, SpanOK src p.span ∧ ∀ s ∈ p.syms, SpanOK src s.span
  tokens : ∀ x ∈ a.tokens, SpanOK src x.2
  precs : ∀ x ∈ a.precs, SpanOK src x.2.2.2
  avoid : ∀ x ∈ a.avoidInsert.getD [], SpanOK src x.2
  implicit : ∀ x ∈ a.implicitTokens.getD [], SpanOK src x.2
  epp : ∀ x ∈ a.epp, SpanOK src x.2.1 ∧ SpanOK src x.2.2.2
  expect : ∀ x, a.expect = some x → SpanOK src x.2
  expectrr : ∀ x, a.expectrr = some x → SpanOK src x.2
  unused : ∀ s ∈ a.expectUnused, SpanOK src s.span

theorem AstOK.spans {src : List Char} {a : Ast} (h : AstOK src a) : ∀ sp ∈ a.spans, SpanOK src sp := by
  intro sp hsp
  simp only [Ast.spans, List.mem_append, List.mem_map, List.mem_flatMap, Option.mem_toList] at hsp
  rcases hsp with ((((((((((⟨x, hx, rfl⟩ | ⟨x, hx, rfl⟩) | ⟨p, hp, hsp⟩) | ⟨x, hx, rfl⟩) | ⟨x, hx, rfl⟩) |
    ⟨x, hx, rfl⟩) | ⟨x, hx, rfl⟩) | ⟨x, hx, hsp⟩) | ⟨x, hx, rfl⟩) | ⟨x, hx, rfl⟩) | ⟨x, hx, rfl⟩)
  · exact h.start x hx
  · exact h.rules x hx
  · simp only [List.mem_cons, List.mem_map] at hsp
    rcases hsp with rfl | ⟨s, hs, rfl⟩
    · exact (h.prods p hp).1
    · exact (h.prods p hp).2 s hs
  · exact h.tokens x hx
  · exact h.precs x hx
  · exact h.avoid x hx
  · exact h.implicit x hx
  · simp only [List.mem_cons, List.not_mem_nil, or_false] at hsp
    rcases hsp with rfl | rfl
    · exact (h.epp x hx).1
    · exact (h.epp x hx).2
  · exact h.expect x hx
  · exact h.expectrr x hx
  · exact h.unused x hx

def StOK (src : List Char) (st : St) : Prop :=
  AstOK src st.ast ∧ (∀ sp, st.actiontype = some sp → SpanOK src sp) ∧ ∀ e ∈ st.errs, ErrOK src e

theorem mkError_ok {src : List Char} {k : EK} {i : Nat} (h : Valid src i) : ErrOK src (mkError k i) :=
  ⟨List.cons_ne_nil _ _, List.forall_mem_singleton.2 (spanOK_refl h)⟩

theorem errAt_sat {α : Type} {src : List Char} {k : EK} {i : Nat} {P : α → Prop} (h : Valid src i) :
    (errAt k i : Res YErr α).Sat P (ErrOK src) := mkError_ok h

theorem mkSpan_sat {ε : Type} {src : List Char} {a b : Nat} {E : ε → Prop} (ha : Valid src a)
    (hb : Valid src b) (hab : a ≤ b) :
    (mkSpan a b : Res ε Span).Sat (SpanOK src) E := by
  unfold mkSpan
  rw [if_neg (Nat.not_lt.2 hab)]
  exact ⟨hab, ha, hb⟩

theorem stOK_init (src : List Char) : StOK src {} := by
  refine ⟨?_, ?_, ?_⟩
  · constructor <;> intros <;> simp_all
  · intro sp hsp; simp at hsp
  · intro e he; simp at he

theorem reName_some {rest m : List Char} (h : reName rest = some m) : m <+: rest ∧ m ≠ [] :=
  Header.headRun_some h

theorem quotedTail_some {q : Char} {rest m : List Char} (h : quotedTail q rest = some m) :
    ∃ body, m = body ++ [q] ∧ m <+: rest := by
  induction rest generalizing m with
  | nil => exact nomatch h
  | cons c cs ih =>
    rw [quotedTail] at h
    split at h
    · next hc =>
      obtain rfl := Option.some.inj h
      exact ⟨[], hc ▸ rfl, List.cons_prefix_cons.2 ⟨rfl, List.nil_prefix⟩⟩
    · split at h
      · exact nomatch h
      · obtain ⟨m', hm', rfl⟩ := Option.map_eq_some_iff.1 h
        obtain ⟨body, rfl, hp⟩ := ih hm'
        exact ⟨c :: body, rfl, List.cons_prefix_cons.2 ⟨rfl, hp⟩⟩

theorem quotedBody_some {q : Char} {rest m : List Char} (h : quotedBody q rest = some m) :
    ∃ body, m = body ++ [q] ∧ m <+: rest := by
  cases rest with
  | nil => exact nomatch h
  | cons c cs =>
    rw [quotedBody] at h
    split at h
    · exact nomatch h
    · obtain ⟨m', hm', rfl⟩ := Option.map_eq_some_iff.1 h
      obtain ⟨body, rfl, hp⟩ := quotedTail_some hm'
      exact ⟨c :: body, rfl, List.cons_prefix_cons.2 ⟨rfl, hp⟩⟩

theorem parseName_sat {src : List Char} {i : Nat} (h : Valid src i) :
    (parseName src i).Sat (fun p => i < p.1 ∧ Valid src p.1) (ErrOK src) := by
  unfold parseName
  refine Header.Sat.bind (slice_sat h) fun rest hr => ?_
  cases hm : reName rest with
  | some m =>
    obtain ⟨hp, hne⟩ := reName_some hm
    refine Header.Sat.bind (Header.sliceRange_sat hr hp) fun _ _ => ?_
    exact Header.Sat.pure ⟨Nat.lt_add_of_pos_right (byteLen_pos hne), valid_advance hr hp⟩
  | none => exact errAt_sat h

theorem quote_size {c : Char} (h : c = '\'' ∨ c = '"') : c.utf8Size = 1 := by
  rcases h with rfl | rfl <;> decide

/-- what `RE_TOKEN` matches: a quoted text `c body c`, or a name -/
theorem reToken_some {rest m : List Char} (h : reToken rest = some m) :
    ∃ c cs, rest = c :: cs ∧
      (((c = '"' ∨ c = '\'') ∧ ∃ body, m = c :: (body ++ [c]) ∧ (body ++ [c]) <+: cs) ∨
       (¬(c = '"' ∨ c = '\'') ∧ m = c :: cs.takeWhile isNameCont)) := by
  cases rest with
  | nil => exact nomatch h
  | cons c cs =>
    rw [reToken] at h
    refine ⟨c, cs, rfl, ?_⟩
    split at h
    · next hq =>
      obtain ⟨b, hb, rfl⟩ := Option.map_eq_some_iff.1 h
      obtain ⟨body, rfl, hp⟩ := quotedBody_some hb
      exact .inl ⟨hq, body, rfl, hp⟩
    · next hq =>
      split at h
      · exact .inr ⟨hq, (Option.some.inj h).symm⟩
      · exact nomatch h

theorem parseToken_sat {src : List Char} {i : Nat} (h : Valid src i) :
    (parseToken src i).Sat (fun p => i < p.1 ∧ Valid src p.1 ∧ SpanOK src p.2.2.1) (ErrOK src) := by
  unfold parseToken
  refine Header.Sat.bind (slice_sat h) fun rest hr => ?_
  cases hm : reToken rest with
  | none => exact errAt_sat h
  | some m =>
    obtain ⟨c, cs, rfl, hcase⟩ := reToken_some hm
    have hnc : (nextChar src i : Res YErr Char).Sat (fun c' => c' = c) (ErrOK src) := by
      rw [nextChar_ok hr]; rfl
    have hlt : i < i + byteLen m := by
      rcases hcase with ⟨_, _, rfl, _⟩ | ⟨_, rfl⟩ <;>
        exact Nat.lt_add_of_pos_right (byteLen_pos (List.cons_ne_nil _ _))
    refine Header.Sat.ite (fun hemp => ?_) fun _ => Header.Sat.bind hnc fun c' hc' => ?_
    · rcases hcase with ⟨_, _, rfl, _⟩ | ⟨_, rfl⟩ <;> exact nomatch hemp
    rw [hc']
    rcases hcase with ⟨hq, body, rfl, hp⟩ | ⟨hq, rfl⟩
    · -- a quoted token `c body c`: the name and its span lie between the quotes
      have hc1 := quote_size hq.symm
      have hcs : dropBytes src (i + 1) = some cs := valid_step1 hr hc1
      have hbody : body <+: cs := (List.prefix_append body [c]).trans hp
      have hvb : Valid src (i + 1 + byteLen body) := valid_advance hcs hbody
      rw [if_pos hq]
      dsimp only
      rw [Header.quoted_end i body hc1 hc1]
      refine Header.Sat.bind (Header.sliceRange_sat hcs hbody) fun _ _ => ?_
      refine Header.Sat.bind (mkSpan_sat ⟨cs, hcs⟩ hvb (Nat.le_add_right _ _)) fun sp hsp => ?_
      exact Header.Sat.pure ⟨hlt, valid_advance hr (List.cons_prefix_cons.2 ⟨rfl, hp⟩), hsp⟩
    · have hp := (Header.cons_takeWhile isNameCont c cs).1
      have hv := valid_advance hr hp
      rw [if_neg hq]
      refine Header.Sat.bind (Header.sliceRange_sat hr hp) fun _ _ => ?_
      refine Header.Sat.bind (mkSpan_sat h hv (Nat.le_add_right _ _)) fun sp hsp => ?_
      exact Header.Sat.pure ⟨hlt, hv, hsp⟩

/-! The character loops: `byteLen src < j + f` is the measure (every iteration moves `j` forward),
and each `if` of the loop body is taken apart with `Sat.ite`, which also exposes the body of the
recursive function by unification. -/

theorem toEolLoop_sat {src : List Char} : ∀ f j, Valid src j → byteLen src < j + f →
    (toEolLoop src f j).Sat (fun j' => j ≤ j' ∧ Valid src j') (ErrOK src) :=
  fuel_ind fun f j hv ih => by
    refine Header.Sat.ite (fun hlt => ?_) (fun _ => Header.Sat.pure ⟨Nat.le_refl _, hv⟩)
    refine Header.Sat.bind (nextChar_sat hv hlt) fun c ⟨rest, hr⟩ => ?_
    refine Header.Sat.ite (fun _ => Header.Sat.pure ⟨Nat.le_refl _, hv⟩) fun _ => ?_
    exact Header.Sat.from (ih _ (step_lt c) ⟨rest, valid_step hr⟩) (Nat.le_add_right _ _)

theorem parseToEol_sat {src : List Char} {fuel i : Nat} (h : Valid src i) (hf : byteLen src < fuel) :
    (parseToEol src fuel i).Sat (fun p => i ≤ p.1 ∧ Valid src p.1) (ErrOK src) :=
  Header.Sat.bind (toEolLoop_sat fuel i h (Nat.lt_add_left _ hf)) fun _ ⟨hij, hj⟩ =>
    Header.Sat.bind (sliceRange_valid_sat h hj hij) fun _ _ => Header.Sat.pure ⟨hij, hj⟩

theorem intLoop_sat {src : List Char} : ∀ f j, Valid src j → byteLen src < j + f →
    (intLoop src f j).Sat (fun j' => j ≤ j' ∧ Valid src j') (ErrOK src) :=
  fuel_ind fun f j hv ih => by
    refine Header.Sat.ite (fun hlt => ?_) (fun _ => Header.Sat.pure ⟨Nat.le_refl _, hv⟩)
    refine Header.Sat.bind (nextChar_sat hv hlt) fun c ⟨rest, hr⟩ => ?_
    refine Header.Sat.ite (fun hd => ?_) (fun _ => Header.Sat.pure ⟨Nat.le_refl _, hv⟩)
    exact Header.Sat.from (ih _ (Nat.lt_succ_self j) ⟨rest, valid_step1 hr (digit_size c hd)⟩) (Nat.le_succ j)

theorem parseInt_sat {src : List Char} {fuel i : Nat} (h : Valid src i) (hf : byteLen src < fuel) :
    (parseInt src fuel i).Sat (fun p => i ≤ p.1 ∧ Valid src p.1) (ErrOK src) := by
  refine Header.Sat.bind (intLoop_sat fuel i h (Nat.lt_add_left _ hf)) fun j ⟨hij, hj⟩ => ?_
  refine Header.Sat.bind (sliceRange_valid_sat h hj hij) fun s _ => ?_
  cases Header.parseU64 s with
  | some n => exact Header.Sat.pure ⟨hij, hj⟩
  | none => exact errAt_sat h

/-- `i` is the start of the pending chunk, `j` the cursor -/
theorem strLoop_sat {src : List Char} {qc : Char} (hq : qc = '\'' ∨ qc = '"') :
    ∀ f j, Valid src j → byteLen src < j + f → ∀ i s, Valid src i → i ≤ j →
    (strLoop src qc f i j s).Sat (fun p => j < p.1 ∧ Valid src p.1) (ErrOK src) :=
  fuel_ind fun f j hj ih i s hi hij => by
    have err : (errAt .invalidString j : Res YErr (Nat × List Char)).Sat
        (fun p => j < p.1 ∧ Valid src p.1) (ErrOK src) := errAt_sat hj
    refine Header.Sat.ite (fun hlt => ?_) (fun _ => err)
    refine Header.Sat.bind (nextChar_sat hj hlt) fun c ⟨rest, hr⟩ => ?_
    refine Header.Sat.ite (fun _ => err) fun _ => Header.Sat.ite (fun hc => ?_) fun _ =>
      Header.Sat.ite (fun hc => ?_) fun _ => ?_
    · exact Header.Sat.bind (sliceRange_valid_sat hi hj hij) fun _ _ =>
        Header.Sat.pure ⟨Nat.lt_succ_self j, rest, valid_step1 hr (hc ▸ quote_size hq)⟩
    · have hr1 : dropBytes src (j + 1) = some rest := valid_step1 hr (hc ▸ (by decide))
      refine Header.Sat.bind (slice_sat ⟨rest, hr1⟩) fun rest' hr' => ?_
      obtain rfl : rest = rest' := Option.some.inj (hr1.symm.trans hr')
      cases rest with
      | nil => exact err
      | cons d ds =>
        refine Header.Sat.ite (fun hd => ?_) (fun _ => err)
        refine Header.Sat.bind (sliceRange_valid_sat hi hj hij) fun _ _ => ?_
        exact Header.Sat.from
          (ih _ (Nat.lt_add_of_pos_right (Nat.zero_lt_succ 1)) ⟨ds, valid_step1 hr1 (quote_size hd)⟩ _ _
            ⟨_, hr1⟩ (Nat.le_succ _))
          (Nat.le_succ_of_le (Nat.le_succ _))
    · exact Header.Sat.from
        (ih _ (step_lt c) ⟨rest, valid_step hr⟩ _ _ hi (Nat.le_trans hij (Nat.le_add_right _ _)))
        (Nat.succ_le_succ (Nat.le_add_right _ _))

theorem parseString_sat {src : List Char} {fuel i : Nat} (h : Valid src i) (hf : byteLen src < fuel) :
    (parseString src fuel i).Sat (fun p => i < p.1 ∧ Valid src p.1) (ErrOK src) := by
  have body : ∀ {qc j}, (qc = '\'' ∨ qc = '"') → MatchAt src [qc] i j →
      (strLoop src qc fuel (i + 1) (i + 1) []).Sat (fun p => i < p.1 ∧ Valid src p.1) (ErrOK src) := by
    intro qc j hq hm
    obtain ⟨t, ht, -⟩ := hm
    have hv : Valid src (i + 1) := ⟨t, valid_step1 ht (quote_size hq)⟩
    exact Header.Sat.from (strLoop_sat hq fuel _ hv (Nat.lt_add_left _ hf) _ _ hv (Nat.le_refl _))
      (Nat.succ_le_succ (Nat.le_succ i))
  unfold parseString
  exact lookahead_bind h (fun _ => body (.inl rfl))
    (lookahead_bind h (fun _ => body (.inr rfl)) (errAt_sat h))

end GrmVerif.YaccParse
