import GrmVerif.Model.Width
/-!
Helper lemmas for C20 (`Props/C20.lean`): truncation is the identity below `2^w`; the guards of
`new_from_ast_with_validity_info` say exactly "everything stored fits"; bit-level facts about the
action encoding.
-/
namespace GrmVerif.Width

theorem le_maxVal_iff {w n : Nat} : n ≤ maxVal w ↔ n < 2 ^ w :=
  Nat.le_sub_one_iff_lt (Nat.two_pow_pos w)

theorem trunc_of_lt {w n : Nat} (h : n < 2 ^ w) : trunc w n = n := Nat.mod_eq_of_lt h

theorem trunc_of_le {w n : Nat} (h : n ≤ maxVal w) : trunc w n = n :=
  trunc_of_lt (le_maxVal_iff.mp h)

theorem trunc_lt (w n : Nat) : trunc w n < 2 ^ w := Nat.mod_lt _ (Nat.two_pow_pos w)

theorem maxVal_mono {w₁ w₂ : Nat} (h : w₁ ≤ w₂) : maxVal w₁ ≤ maxVal w₂ :=
  Nat.sub_le_sub_right (Nat.pow_le_pow_right (by decide) h) 1

theorem addedRules_pos (s : Src) : 1 ≤ s.addedRules := by
  unfold Src.addedRules; split <;> omega

theorem addedProds_pos (s : Src) : 1 ≤ s.addedProds := by
  unfold Src.addedProds; split <;> omega

theorem mem_prodLens {s : Src} {l : Nat} (h : l ∈ s.prodLens) :
    (∃ p ∈ s.prods, l = s.storedLen p) ∨ l = 1 ∨ (s.hasImplicit = true ∧ l ≤ 2) := by
  unfold Src.prodLens at h
  simp only [List.mem_append, List.mem_map, List.mem_cons, List.not_mem_nil, or_false] at h
  rcases h with (⟨p, hp, rfl⟩ | h) | h
  · exact .inl ⟨p, hp, rfl⟩
  · exact .inr (.inl h)
  · by_cases hi : s.hasImplicit = true
    · simp only [hi, if_true, List.mem_append, List.mem_replicate, List.mem_cons, List.not_mem_nil,
        or_false] at h
      rcases h with (⟨_, h⟩ | h) | h <;> exact .inr (.inr ⟨hi, by omega⟩)
    · simp [hi] at h

theorem storedLen_mem_prodLens {s : Src} {p : Nat × Nat} (h : p ∈ s.prods) :
    s.storedLen p ∈ s.prodLens := by
  unfold Src.prodLens
  simp only [List.mem_append, List.mem_map]
  exact .inl (.inl ⟨p, h, rfl⟩)

/-- **The repaired guards are exact**: they pass iff every stored size fits. -/
theorem guardsPass_iff_fits (w : Nat) (s : Src) : guardsPass w s = true ↔ s.Fits w := by
  unfold guardsPass Src.Fits
  simp only [Bool.and_eq_true, Bool.not_eq_true', decide_eq_false_iff_not, Nat.not_lt,
    List.all_eq_true, and_assoc]
  constructor
  · rintro ⟨hr, ht, hp, hs⟩
    refine ⟨hr, ht, hp, ?_⟩
    intro l hl
    -- the lengths the constructor adds are bounded by the number of rules it adds
    have hadd : s.addedRules ≤ maxVal w := Nat.le_trans (Nat.le_add_right _ _) hr
    rcases mem_prodLens hl with ⟨p, hp', rfl⟩ | rfl | ⟨hi, h2⟩
    · exact hs p hp'
    · exact Nat.le_trans (addedRules_pos s) hadd
    · have : s.addedRules = 3 := by unfold Src.addedRules; simp [hi]
      exact Nat.le_trans h2 (Nat.le_trans (by decide) (this ▸ hadd))
  · rintro ⟨hr, ht, hp, hs⟩
    exact ⟨hr, ht, hp, fun p hp' => hs _ (storedLen_mem_prodLens hp')⟩

theorem map_trunc_id {w : Nat} {l : List Nat} (h : ∀ x ∈ l, x ≤ maxVal w) :
    l.map (trunc w) = l :=
  (List.map_congr_left fun x hx => trunc_of_le (h x hx)).trans (List.map_id l)

theorem build_eq_some_iff (w : Nat) (s : Src) (r : Sizes) :
    build w s = some r ↔ s.Fits w ∧ r = trueSizes s := by
  unfold build buildWith
  by_cases hg : guardsPass w s = true
  · have hf := (guardsPass_iff_fits w s).mp hg
    obtain ⟨hr, ht, hp, hs⟩ := hf
    have h1 : s.tokens ≤ maxVal w := Nat.le_trans (Nat.le_add_right _ 1) ht
    have h2 : s.prods.length ≤ maxVal w := Nat.le_trans (Nat.le_add_right _ _) hp
    simp only [hg, if_true, Option.some.injEq, trunc_of_le hr, trunc_of_le ht, trunc_of_le hp,
      trunc_of_le h1, trunc_of_le h2, map_trunc_id hs]
    constructor
    · intro h; exact ⟨⟨hr, ht, hp, hs⟩, h.symm⟩
    · intro h; exact h.2.symm
  · have hf : ¬ s.Fits w := fun h => hg ((guardsPass_iff_fits w s).mpr h)
    simp [hg, hf]

theorem pagerOk_iff (w pre : Nat) : pagerOk w pre = true ↔ pre ≤ 1 ∨ pre ≤ maxVal w := by
  unfold pagerOk pagerPushOk
  simp only [List.all_eq_true, List.mem_range, Bool.or_eq_true, beq_iff_eq, Bool.not_eq_true',
    decide_eq_false_iff_not, Nat.not_le]
  -- only the last push matters; `maxVal w` is just a number here
  generalize maxVal w = m
  constructor
  · intro h
    cases pre with
    | zero => exact .inl (Nat.zero_le _)
    | succ p =>
      rcases h p (Nat.lt_succ_self p) with rfl | h
      · exact .inl (Nat.le_refl _)
      · exact .inr h
  · intro h len hl
    omega

/-- the three state-count guards together: `gc`'s guard is implied by `StateGraph::new`'s -/
theorem stategraph_eq_some_iff (w pre post n : Nat) :
    stategraph w pre post = some n ↔ n = post ∧ (pre ≤ 1 ∨ pre ≤ maxVal w) ∧ post < maxVal w := by
  unfold stategraph
  by_cases hp : pagerOk w pre = true
  · by_cases hn : post < maxVal w
    · have hg : gcOk w post = true := by simp [gcOk, Nat.le_of_lt hn]
      simp only [hp, hg, sgNewOk, decide_eq_true hn, Bool.and_self, if_true, allStatesLen,
        trunc_of_le (Nat.le_of_lt hn), Option.some.injEq]
      exact ⟨fun h => ⟨h.symm, (pagerOk_iff w pre).mp hp, hn⟩, fun h => h.1.symm⟩
    · simp [sgNewOk, hn]
  · simp [hp, mt (pagerOk_iff w pre).mpr hp]

theorem mapM_lexTokId (w : Nat) (l : List Nat) :
    l.mapM (lexTokId w) = if ∀ k ∈ l, k ≤ maxVal w then some l else none := by
  induction l with
  | nil => rfl
  | cons a t ih =>
    have hc : (∀ k ∈ a :: t, k ≤ maxVal w) ↔ a ≤ maxVal w ∧ ∀ k ∈ t, k ≤ maxVal w :=
      List.forall_mem_cons
    rw [List.mapM_cons, ih, lexTokId]
    by_cases ha : a ≤ maxVal w
    · by_cases ht : ∀ k ∈ t, k ≤ maxVal w
      · rw [if_pos ha, if_pos ht, if_pos (hc.mpr ⟨ha, ht⟩)]; rfl
      · rw [if_pos ha, if_neg ht, if_neg fun h => ht (hc.mp h).2]; rfl
    · rw [if_neg ha, if_neg fun h => ha (hc.mp h).1]; rfl

/-- a two-bit tag or-ed onto a value shifted left by two (in 64-bit `usize`, nothing is shifted out
when the value is below `2^62`) comes apart again with `& 3` and `>> 2` -/
theorem tag_or_shl (tag v : Nat) (ht : tag < 4) (hv : v < 2 ^ 62) :
    (tag ||| (v <<< 2) % 2 ^ usizeBits) &&& 3 = tag ∧ (tag ||| (v <<< 2) % 2 ^ usizeBits) >>> 2 = v := by
  have h4 : v <<< 2 = 4 * v := by rw [Nat.shiftLeft_eq, Nat.mul_comm]
  have hor : tag ||| v <<< 2 = 4 * v + tag := by
    rw [Nat.or_comm, ← Nat.shiftLeft_add_eq_or_of_lt (show tag < 2 ^ 2 from ht), h4]
  rw [Nat.mod_eq_of_lt (by rw [h4, usizeBits]; omega), hor,
    Nat.and_two_pow_sub_one_eq_mod _ 2, Nat.shiftRight_eq_div_pow, Nat.mul_add_mod,
    Nat.mul_add_div (by decide), Nat.mod_eq_of_lt ht, Nat.div_eq_of_lt ht]
  exact ⟨rfl, rfl⟩

end GrmVerif.Width
