import GrmVerif.Lemmas.Lex
/-! Helper lemmas for C09: `set_rule_ids_spanned` against its specification. -/
namespace GrmVerif.Lex

theorem lookup_none_iff (map : List (Nat × Nat)) (nm : Nat) :
    map.lookup nm = none ↔ (map.map (·.1)).contains nm = false := by
  rw [List.lookup_eq_none_iff, List.contains_eq_mem, decide_eq_false_iff_not, List.mem_map]
  exact ⟨fun h ⟨p, hp, e⟩ => bne_iff_ne.mp (h p hp) e.symm, fun h p hp => bne_iff_ne.mpr fun e => h ⟨p, hp, e.symm⟩⟩

/-- `pre` = the rules before index `i`: the recorded indices are read back through the whole updated list -/
theorem syncLoop_spec (map : List (Nat × Nat)) : ∀ (rs : List Rule) (i : Nat) (pre : List Rule), pre.length = i →
    (syncLoop map rs i).1.map (·.tokId) = specIds rs map ∧
    ruleNames (syncLoop map rs i).1 = ruleNames rs ∧
    (syncLoop map rs i).2.2 = (ruleNames rs).length ∧
    (syncLoop map rs i).2.1.length = (specMissingFromParser rs map).length ∧
    namesAt (pre ++ (syncLoop map rs i).1) (syncLoop map rs i).2.1 = specMissingFromParser rs map := by
  intro rs
  induction rs with
  | nil => intro i pre _; exact ⟨rfl, rfl, rfl, rfl, rfl⟩
  | cons r rs ih =>
    intro i pre hp
    have ih := fun r' => ih (i + 1) (pre ++ [r']) (by rw [List.length_append, hp]; rfl)
    simp only [List.append_assoc, List.singleton_append] at ih
    cases hn : r.name with
    | none =>
      obtain ⟨h1, h2, h3, h4, h5⟩ := ih r
      simp only [syncLoop, specIds, ruleNames, specMissingFromParser, List.map_cons,
        List.filterMap_cons, hn] at h1 h2 h3 h4 h5 ⊢
      exact ⟨by rw [h1], h2, h3, h4, h5⟩
    | some nm =>
      cases hl : map.lookup nm with
      | some t =>
        have hc : (map.map (·.1)).contains nm = true := by
          rw [← Bool.not_eq_false, ← lookup_none_iff, hl]; nofun
        obtain ⟨h1, h2, h3, h4, h5⟩ := ih { r with tokId := some t }
        simp only [syncLoop, specIds, ruleNames, specMissingFromParser, List.map_cons,
          List.filterMap_cons, hn, hl, hc, if_true, List.length_cons] at h1 h2 h3 h4 h5 ⊢
        exact ⟨by rw [h1], by rw [h2], by rw [h3], h4, h5⟩
      | none =>
        have hc := (lookup_none_iff map nm).mp hl
        obtain ⟨h1, h2, h3, h4, h5⟩ := ih { r with tokId := none }
        simp only [syncLoop, specIds, ruleNames, specMissingFromParser, List.map_cons,
          List.filterMap_cons, hn, hl, hc, Bool.false_eq_true, if_false, List.length_cons, namesAt] at h1 h2 h3 h4 h5 ⊢
        refine ⟨by rw [h1], by rw [h2], by rw [h3], by rw [h4], ?_⟩
        rw [List.getElem?_append_right (Nat.le_of_eq hp), hp, Nat.sub_self]
        simp only [List.getElem?_cons_zero, Option.map_some]
        rw [h5]

theorem names_split (rules : List Rule) (map : List (Nat × Nat)) :
    ((ruleNames rules).filter (fun a => (map.map (·.1)).contains a)).length +
      (specMissingFromParser rules map).length = (ruleNames rules).length := by
  induction rules with
  | nil => rfl
  | cons r rules ih =>
    unfold ruleNames specMissingFromParser at ih ⊢
    rw [List.filterMap_cons, List.filterMap_cons]
    cases hn : r.name with
    | none => exact ih
    | some nm =>
      dsimp only
      rw [List.filter_cons]
      by_cases hc : (map.map (·.1)).contains nm = true
      · rw [if_pos hc, if_pos hc, List.length_cons, List.length_cons, Nat.add_right_comm, ih]
      · rw [if_neg hc, if_neg hc, List.length_cons, List.length_cons, ← Nat.add_assoc, ih]

theorem inter_card_symm (A K : List Nat) (hA : A.Nodup) (hK : K.Nodup) :
    (A.filter (fun a => K.contains a)).length = (K.filter (fun k => A.contains k)).length :=
  ((List.perm_ext_iff_of_nodup (hA.sublist List.filter_sublist) (hK.sublist List.filter_sublist)).mpr
    fun a => by simp only [List.mem_filter, List.contains_eq_mem, decide_eq_true_eq, and_comm]).length_eq

/-- the counting shortcut of the code: `rules_with_names - missing == map.len()` -/
theorem count_test (rules : List Rule) (map : List (Nat × Nat))
    (hn : (ruleNames rules).Nodup) (hk : (map.map (·.1)).Nodup) :
    ((ruleNames rules).length - (specMissingFromParser rules map).length == map.length) =
      (specMissingFromLexer rules map).isEmpty := by
  have h1 : (ruleNames rules).length - (specMissingFromParser rules map).length =
      ((map.map (·.1)).filter (fun k => (ruleNames rules).contains k)).length := by
    rw [← inter_card_symm _ _ hn hk, ← names_split rules map, Nat.add_sub_cancel]
  rw [h1, ← List.length_map (as := map) (·.1), Bool.eq_iff_iff, beq_iff_eq, List.length_filter_eq_length_iff,
    List.isEmpty_iff, specMissingFromLexer, List.filter_eq_nil_iff]
  simp only [Bool.not_eq_true', Bool.not_eq_false]

end GrmVerif.Lex
