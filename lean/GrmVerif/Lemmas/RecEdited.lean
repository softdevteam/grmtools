import GrmVerif.Lemmas.RecSpec
import GrmVerif.Lemmas.RunSpec
/-!
The edited input of a whole recovering run (C05) and the run over it.

`editedItems`/`editedToks` (`Lemmas/RunSpec.lean`) is the input with the FIRST repair sequence of every
reported error applied. `editedSteps` is the same list with, at every error, the refused lexeme offered to the
table first (`EStep.offer`): the reductions the table makes under a lexeme before refusing it are
kept by the recovering driver, and `recRun_own` says that a run of `Rec.recRun` (as a `C07.Seg`) is exactly that run.
`Kept`/`KeptInvisible` name the condition under which the offers cannot be observed, and
`runSteps_erase` removes them.
-/
namespace GrmVerif.C05
open Rec LR RankImpl Cert

theorem applySeq_feedToks (G : Grammar) (A : Automaton) (w : List Nat) :
    ∀ (rs : List Repair) (c c' : Pos), applySeq G A w c rs = some c' →
      feedToks G A c.stack ((editSeq c.pos rs).1.map (itemTok w)) = some c'.stack ∧
      c'.pos = (editSeq c.pos rs).2 := by
  intro rs c c'
  refine applySeq_induction (motive := fun c rs =>
      feedToks G A c.stack ((editSeq c.pos rs).1.map (itemTok w)) = some c'.stack ∧ c'.pos = (editSeq c.pos rs).2)
    ⟨rfl, rfl⟩ ?_ (fun c rs _ ih => ih) ?_ rs c
  · intro c t s rs hf ih
    simp only [editSeq, List.map_cons, itemTok, feedToks, hf]
    exact ih
  · intro c s rs hlt hf ih
    rw [nextTok_getD hlt] at hf
    simp only [editSeq, List.map_cons, itemTok, feedToks, hf]
    exact ih

/-- the errors lie at increasing positions within `[pos, n]`, each at or after the place where the
previous error's first sequence stopped -/
def Ordered (n : Nat) : Nat → List Err → Prop
  | pos, [] => pos ≤ n
  | pos, e :: es => pos ≤ e.pos ∧ Ordered n (editSeq e.pos (firstSeq e)).2 es

theorem forall_split_nil {α : Type} {P : List α → α → Prop} :
    ∀ pre e post, ([] : List α) = pre ++ e :: post → P pre e := by
  intro pre e post h
  cases pre <;> cases h

theorem forall_split_cons {α : Type} {P : List α → α → Prop} {a : α} {l : List α} (h0 : P [] a)
    (h : ∀ pre e post, l = pre ++ e :: post → P (a :: pre) e) :
    ∀ pre e post, a :: l = pre ++ e :: post → P pre e := by
  intro pre e post hs
  cases pre with
  | nil => simp only [List.nil_append, List.cons.injEq] at hs; rw [← hs.1]; exact h0
  | cons p ps => simp only [List.cons_append, List.cons.injEq] at hs; rw [← hs.1]; exact h ps e post hs.2

theorem editSeq_le : ∀ (rs : List Repair) (pos : Nat), pos ≤ (editSeq pos rs).2
  | [], pos => by simp [editSeq]
  | .insert _ :: rs, pos => by simpa [editSeq] using editSeq_le rs pos
  | .delete :: rs, pos => Nat.le_of_succ_le (editSeq_le rs (pos + 1))
  | .shift :: rs, pos => Nat.le_of_succ_le (editSeq_le rs (pos + 1))

theorem ordered_le {n : Nat} : ∀ {errs : List Err} {pos : Nat}, Ordered n pos errs → pos ≤ n
  | [], _, h => h
  | e :: es, pos, h => by
    exact Nat.le_trans h.1 (Nat.le_trans (editSeq_le (firstSeq e) e.pos) (ordered_le h.2))

theorem ordered_mono {n m : Nat} (hnm : n ≤ m) : ∀ {errs : List Err} {pos : Nat}, Ordered n pos errs → Ordered m pos errs
  | [], _, h => Nat.le_trans h hnm
  | _ :: _, _, h => ⟨h.1, ordered_mono hnm h.2⟩

theorem ordered_anti {n pos pos' : Nat} (hle : pos' ≤ pos) : ∀ {errs : List Err}, Ordered n pos errs → Ordered n pos' errs
  | [], h => Nat.le_trans hle h
  | _ :: _, h => ⟨Nat.le_trans hle h.1, h.2⟩

theorem ordered_split {n : Nat} : ∀ {pre : List Err} {e : Err} {post : List Err} {pos : Nat},
    Ordered n pos (pre ++ e :: post) → Ordered e.pos pos pre ∧ e.pos ≤ n
  | [], e, post, pos, h => by
    exact ⟨h.1, Nat.le_trans (editSeq_le (firstSeq e) e.pos) (ordered_le h.2)⟩
  | p :: pre, e, post, pos, h => by
    obtain ⟨h1, h2⟩ := ordered_split (pre := pre) h.2
    exact ⟨⟨h.1, h1⟩, h2⟩

theorem reals_of_le {a b : Nat} (h : b ≤ a) : reals a b = [] := by simp [reals, Nat.sub_eq_zero_of_le h]

theorem reals_self (a : Nat) : reals a a = [] := reals_of_le (Nat.le_refl a)

theorem reals_cons {a b : Nat} (h : a < b) : reals a b = .real a :: reals (a + 1) b := by
  unfold reals
  rw [← Nat.sub_add_cancel (Nat.sub_pos_of_lt h), Nat.sub_sub, List.range'_succ]
  rfl

theorem reals_append {a m b : Nat} (h1 : a ≤ m) (h2 : m ≤ b) : reals a m ++ reals m b = reals a b := by
  unfold reals
  rw [← List.map_append, ← Nat.sub_add_sub_cancel h2 h1, Nat.add_comm (b - m), ← List.range'_append_1,
    Nat.add_sub_cancel' h1]

theorem editedItems_split {q n : Nat} (hqn : q ≤ n) : ∀ {pre : List Err} {pos : Nat}, Ordered q pos pre →
    editedItems n pos pre = editedItems q pos pre ++ reals q n
  | [], pos, h => by simp only [editedItems]; exact (reals_append h hqn).symm
  | e :: es, pos, h => by
    simp only [editedItems, List.append_assoc]
    rw [editedItems_split hqn h.2]

theorem editedToks_split (w : List Nat) {q n : Nat} (hqn : q ≤ n) {pre : List Err} {pos : Nat}
    (h : Ordered q pos pre) :
    editedToks w n pos pre = editedToks w q pos pre ++ (reals q n).map (itemTok w) := by
  simp only [editedToks, editedItems_split hqn h, List.map_append]

theorem editedItems_unrepaired {n : Nat} {e : Err} (he : e.repairs = []) : ∀ {pre : List Err} {pos : Nat},
    Ordered n pos (pre ++ [e]) → editedItems n pos (pre ++ [e]) = editedItems n pos pre
  | [], pos, h => by
    have hf : firstSeq e = [] := by simp [firstSeq, he]
    simp only [List.nil_append, editedItems, hf, editSeq]
    simp only [List.nil_append, Ordered, hf, editSeq] at h
    simpa using reals_append h.1 h.2
  | p :: pre, pos, h => by
    simp only [List.cons_append, editedItems]
    rw [editedItems_unrepaired he h.2]

/-- one step of the edited run: a token that is shifted, or a lexeme that is offered to the table and
refused after the reductions the table prescribes under it (those reductions are kept) -/
inductive EStep where
  | tok (t : Nat)
  | offer (la : Nat)
deriving Repr, DecidableEq

def runSteps (G : Grammar) (A : Automaton) : List Nat → List EStep → Option (List Nat)
  | stack, [] => some stack
  | stack, .tok t :: r =>
    match feed G A t FUEL stack with
    | .shifted s => runSteps G A s r
    | _ => none
  | stack, .offer la :: r =>
    match feed G A la FUEL stack with
    | .error s => runSteps G A s r
    | _ => none

/-- the tokens of a step list (offers dropped) -/
def stepToks (steps : List EStep) : List Nat :=
  steps.filterMap fun | .tok t => some t | .offer _ => none

def tokSteps (l : List Nat) : List EStep := l.map EStep.tok

theorem stepToks_append (a b : List EStep) : stepToks (a ++ b) = stepToks a ++ stepToks b :=
  List.filterMap_append

theorem stepToks_tokSteps (l : List Nat) : stepToks (tokSteps l) = l := by
  rw [stepToks, tokSteps, List.filterMap_map]
  exact List.filterMap_some

theorem runSteps_append (G : Grammar) (A : Automaton) :
    ∀ (a b : List EStep) (st : List Nat),
      runSteps G A st (a ++ b) = (runSteps G A st a).bind (fun s => runSteps G A s b) := by
  intro a
  induction a with
  | nil => intro b st; simp [runSteps]
  | cons x xs ih =>
    intro b st
    cases x with
    | tok t =>
      simp only [List.cons_append, runSteps]
      cases feed G A t FUEL st <;> simp [ih]
    | offer la =>
      simp only [List.cons_append, runSteps]
      cases feed G A la FUEL st <;> simp [ih]

theorem runSteps_tokSteps (G : Grammar) (A : Automaton) :
    ∀ (l : List Nat) (st : List Nat), runSteps G A st (tokSteps l) = feedToks G A st l := by
  intro l
  induction l with
  | nil => intro st; rfl
  | cons t ts ih =>
    intro st
    simp only [tokSteps, List.map_cons, runSteps, feedToks]
    cases feed G A t FUEL st <;> simp
    exact ih _

theorem feedToks_append (G : Grammar) (A : Automaton) :
    ∀ (a b : List Nat) (st : List Nat),
      feedToks G A st (a ++ b) = (feedToks G A st a).bind (fun s => feedToks G A s b) := by
  intro a b st
  simp only [← runSteps_tokSteps, tokSteps, List.map_append, runSteps_append]

/-- the edited run with the offers: as `editedItems`, and at each error the refused lexeme is
offered before the first sequence's tokens -/
def editedSteps (G : Grammar) (w : List Nat) (stop : Nat) : Nat → List Err → List EStep
  | pos, [] => tokSteps ((reals pos stop).map (itemTok w))
  | pos, e :: es =>
    tokSteps ((reals pos e.pos).map (itemTok w)) ++
      (.offer (nextTok G w e.pos) ::
        (tokSteps ((editSeq e.pos (firstSeq e)).1.map (itemTok w)) ++
          editedSteps G w stop (editSeq e.pos (firstSeq e)).2 es))

theorem stepToks_editedSteps (G : Grammar) (w : List Nat) (stop : Nat) :
    ∀ (errs : List Err) (pos : Nat), stepToks (editedSteps G w stop pos errs) = editedToks w stop pos errs
  | [], pos => stepToks_tokSteps _
  | e :: es, pos => by
    rw [editedSteps, stepToks_append, stepToks_tokSteps]
    -- the offer is dropped
    show _ ++ stepToks (_ ++ _) = _
    rw [stepToks_append, stepToks_tokSteps, stepToks_editedSteps G w stop es]
    simp only [editedToks, editedItems, List.map_append]

/-- the recoverer continues as if the first sequence it reports had been applied -/
def FirstApplies (G : Grammar) (A : Automaton) (w : List Nat)
    (recover : Pos → Option (Pos × List (List Repair))) : Prop :=
  ∀ c c' s0 rest, recover c = some (c', s0 :: rest) → applySeq G A w c s0 = some c'

/-- the table accepts only under the end-of-input token (true of every table `StateTable::new`
builds: Accept is entered in the end-of-input column only) -/
def AcceptOnlyAtEof (G : Grammar) (A : Automaton) : Prop :=
  ∀ st t, A.action st t = .accept → t = G.eof

theorem shifted_in_range {G : Grammar} {A : Automaton} {w : List Nat} (hsh : EofNeverShifted G A)
    {pos : Nat} {stack s : List Nat} (h : feed G A (nextTok G w pos) FUEL stack = .shifted s) :
    pos < w.length ∧ nextTok G w pos = w.getD pos 0 := by
  have hp := pos_lt_of_shifted hsh h
  exact ⟨hp, nextTok_getD hp⟩

theorem accept_at_end {G : Grammar} {A : Automaton} {w : List Nat} (hacc : AcceptOnlyAtEof G A)
    (hw : G.eof ∉ w) {pos : Nat} {stack s : List Nat}
    (h : feed G A (nextTok G w pos) FUEL stack = .accept s) :
    w.length ≤ pos ∧ nextTok G w pos = G.eof := by
  obtain ⟨st, _, _, ha⟩ := feed_accept_top h
  have he := hacc st _ ha
  refine ⟨Nat.le_of_not_lt fun hp => ?_, he⟩
  rw [nextTok_of_lt hp] at he
  exact hw (he ▸ List.getElem_mem hp)

theorem shifts_feedToks {G : Grammar} {A : Automaton} {w : List Nat} (hsh : EofNeverShifted G A) {c c1 : Pos}
    (h : C07.Shifts G A w FUEL c c1) :
    c.pos ≤ c1.pos ∧ (c.pos ≤ w.length → c1.pos ≤ w.length) ∧
      feedToks G A c.stack ((reals c.pos c1.pos).map (itemTok w)) = some c1.stack := by
  induction h with
  | refl c => exact ⟨Nat.le_refl _, id, by rw [reals_self]; rfl⟩
  | step c s c1 hf _ ih =>
    obtain ⟨hlt, htok⟩ := shifted_in_range hsh hf
    obtain ⟨h1, h2, h3⟩ := ih
    rw [htok] at hf
    refine ⟨Nat.le_of_succ_le h1, fun _ => h2 hlt, ?_⟩
    rw [reals_cons (Nat.lt_of_succ_le h1)]
    simp only [List.map_cons, feedToks, itemTok, hf]
    exact h3

/-- **The recovering driver runs the edited input, offering each refused lexeme first.** -/
theorem recRun_own {G : Grammar} {A : Automaton} {w : List Nat}
    {recover : Pos → Option (Pos × List (List Repair))}
    (hfirst : FirstApplies G A w recover) (hsh : EofNeverShifted G A) (hacc : AcceptOnlyAtEof G A)
    (hw : G.eof ∉ w) {c : Pos} {new : List Err} {v : Bool}
    (h : C07.Seg G A w recover FUEL true c new v) : c.pos ≤ w.length →
      Ordered w.length c.pos new ∧
        (v = true → ∃ st x, runSteps G A c.stack (editedSteps G w w.length c.pos new) = some st ∧
          feed G A G.eof FUEL st = .accept x) ∧
        (∀ pre e post, new = pre ++ e :: post →
          ∃ a s, runSteps G A c.stack (editedSteps G w e.pos c.pos pre) = some a ∧
            feed G A (nextTok G w e.pos) FUEL a = .error s) := by
  -- the steps up to the first error are the lexemes shifted till then
  have upTo : ∀ {c c1 : Pos}, C07.Shifts G A w FUEL c c1 →
      runSteps G A c.stack (editedSteps G w c1.pos c.pos []) = some c1.stack := fun hs => by
    rw [editedSteps, runSteps_tokSteps]
    exact (shifts_feedToks hsh hs).2.2
  induction h with
  | stop c c1 _ _ => intro hc; exact ⟨hc, nofun, forall_split_nil⟩
  | accept c c1 s hs hf =>
    intro hc
    obtain ⟨hge, heof⟩ := accept_at_end hacc hw hf
    refine ⟨hc, fun _ => ⟨c1.stack, s, ?_, heof ▸ hf⟩, forall_split_nil⟩
    rw [← Nat.le_antisymm ((shifts_feedToks hsh hs).2.1 hc) hge]
    exact upTo hs
  | giveUp c c1 s hs hf _ =>
    intro hc
    obtain ⟨hle, hin, _⟩ := shifts_feedToks hsh hs
    exact ⟨⟨hle, hin hc⟩, nofun, forall_split_cons ⟨c1.stack, s, upTo hs, hf⟩ forall_split_nil⟩
  | recovered c c1 s c' rs new v hs hf hrec hne _ ih =>
    intro hc
    obtain ⟨hle, hin, hshift⟩ := shifts_feedToks hsh hs
    cases rs with
    | nil => exact absurd rfl hne
    | cons s0 rest =>
      have happ := hfirst _ _ _ _ hrec
      obtain ⟨hft, hpos⟩ := applySeq_feedToks G A w s0 _ _ happ
      have hin' := (applySeq_pos G A w s0 _ _ happ).2
      simp only at hft hpos hin'
      obtain ⟨h2, h3, h4⟩ := ih (hin' (hin hc))
      -- the steps of this error: the lexemes before it, the offer, the first sequence's tokens
      have hhead : ∀ (stop : Nat) (es : List Err),
          runSteps G A c.stack (editedSteps G w stop c.pos (⟨c1.pos, s0 :: rest⟩ :: es)) =
          runSteps G A c'.stack (editedSteps G w stop c'.pos es) := by
        intro stop es
        simp only [editedSteps, runSteps_append, runSteps_tokSteps, hshift, Option.bind_some, runSteps, hf]
        show (feedToks G A s ((editSeq c1.pos s0).1.map (itemTok w))).bind _ = _
        rw [hft, hpos]
        rfl
      refine ⟨⟨hle, hpos ▸ h2⟩, ?_, forall_split_cons ⟨c1.stack, s, upTo hs, hf⟩ ?_⟩
      · rw [hhead]; exact h3
      · intro pre e post hs
        rw [hhead]; exact h4 pre e post hs

/-- `a` is what is left of `b` after some lexemes were offered and refused (the reductions made under
them kept) -/
inductive Kept (G : Grammar) (A : Automaton) : List Nat → List Nat → Prop
  | refl (s : List Nat) : Kept G A s s
  | offer (a b : List Nat) (la : Nat) (s : List Nat) : Kept G A a b → feed G A la FUEL a = .error s → Kept G A s b

/-- **The reductions made under a refused lexeme cannot be observed**: whatever token is fed next,
the stack with those reductions (`a`) and the stack without them (`b`) shift it to the same stack,
or both accept, or both refuse it. -/
def KeptInvisible (G : Grammar) (A : Automaton) : Prop :=
  ∀ a b, Kept G A a b → ∀ t,
    (∀ x, feed G A t FUEL a = .shifted x → feed G A t FUEL b = .shifted x) ∧
    (∀ x, feed G A t FUEL a = .accept x → ∃ y, feed G A t FUEL b = .accept y) ∧
    (∀ x, feed G A t FUEL a = .error x → ∃ y, feed G A t FUEL b = .error y)

theorem runSteps_erase {G : Grammar} {A : Automaton} (hk : KeptInvisible G A) :
    ∀ (steps : List EStep) (a b a' : List Nat), Kept G A a b → runSteps G A a steps = some a' →
      ∃ b', feedToks G A b (stepToks steps) = some b' ∧ Kept G A a' b' := by
  intro steps
  induction steps with
  | nil =>
    intro a b a' hab h
    simp only [runSteps, Option.some.injEq] at h
    subst h
    exact ⟨b, rfl, hab⟩
  | cons x xs ih =>
    intro a b a' hab h
    cases x with
    | tok t =>
      simp only [runSteps] at h
      cases hf : feed G A t FUEL a with
      | shifted s =>
        rw [hf] at h
        simp only at h
        have := (hk a b hab t).1 s hf
        obtain ⟨b', hb, hkb⟩ := ih s s a' (.refl s) h
        exact ⟨b', by show feedToks G A b (t :: stepToks xs) = _; rw [feedToks, this]; exact hb, hkb⟩
      | _ => rw [hf] at h; cases h
    | offer la =>
      simp only [runSteps] at h
      cases hf : feed G A la FUEL a with
      | error s =>
        rw [hf] at h
        simp only at h
        exact ih s b a' (.offer a b la s hab hf) h
      | _ => rw [hf] at h; cases h

inductive PlainOut where
  | accepted
  /-- the token with this index (the end of input if it is the length of the list) is refused -/
  | refusedAt (k : Nat)
  | other
deriving Repr, DecidableEq

/-- the plain LR parse of a token list (then end of input) on state stacks, counting tokens from `k` -/
def plainFrom (G : Grammar) (A : Automaton) : List Nat → List Nat → Nat → PlainOut
  | st, [], k =>
    match feed G A G.eof FUEL st with
    | .accept _ => .accepted
    | .error _ => .refusedAt k
    | _ => .other
  | st, t :: ts, k =>
    match feed G A t FUEL st with
    | .shifted s => plainFrom G A s ts (k + 1)
    | .error _ => .refusedAt k
    | _ => .other

theorem eofOk_spec {G : Grammar} {A : Automaton} (h : eofOk G A = true) :
    EofNeverShifted G A ∧ AcceptOnlyAtEof G A := by
  -- what `eofOk` checks of the cell `(st, t)` when it is not `Error`
  have cell : ∀ {st t : Nat} {a : Act}, A.action st t = a → a ≠ .error →
      (match some a with
       | some .accept => t == G.eof
       | some (.shift _) => t != G.eof
       | _ => true) = true := by
    intro st t a ha hne
    subst ha
    obtain ⟨sd, hs, hc⟩ := action_eq_some rfl hne
    simp only [eofOk, List.all_eq_true] at h
    have := h sd (List.mem_of_getElem? hs) t (List.mem_range.mpr (List.getElem?_eq_some_iff.mp hc).1)
    rwa [hc] at this
  refine ⟨fun st s' ha => ?_, fun st t ha => ?_⟩
  · simpa using cell ha (by simp)
  · simpa using cell ha (by simp)

theorem recRun_plain (G : Grammar) (A : Automaton) (w : List Nat)
    (recover : Pos → Option (Pos × List (List Repair)))
    (hfirst : FirstApplies G A w recover) (heof : eofOk G A = true) (hw : G.eof ∉ w)
    (hk : KeptInvisible G A)
    (fuel : Nat) (c : Pos) (errs : List Err) (v : Bool) (errs' : List Err) (hc : c.pos ≤ w.length)
    (h : recRun G A w recover fuel c errs = (v, errs')) :
    ∃ new, errs' = errs ++ new ∧ Ordered w.length c.pos new ∧
      (v = true → ∃ st x, feedToks G A c.stack (editedToks w w.length c.pos new) = some st ∧
        feed G A G.eof FUEL st = .accept x) ∧
      (∀ pre e post, new = pre ++ e :: post →
        ∃ st y, feedToks G A c.stack (editedToks w e.pos c.pos pre) = some st ∧
          feed G A (nextTok G w e.pos) FUEL st = .error y) := by
  obtain ⟨hsh, hacc⟩ := eofOk_spec heof
  obtain ⟨new, v', he, hs⟩ := C07.recRun_seg G A w recover fuel c errs
  cases h.symm.trans he
  obtain ⟨h2, h3, h4⟩ := recRun_own hfirst hsh hacc hw hs hc
  refine ⟨new, rfl, h2, ?_, ?_⟩
  · intro hv
    obtain ⟨a', x, hr, hx⟩ := h3 hv
    obtain ⟨b', hb, hkb⟩ := runSteps_erase hk _ _ c.stack a' (.refl _) hr
    rw [stepToks_editedSteps] at hb
    obtain ⟨y, hy⟩ := (hk a' b' hkb G.eof).2.1 x hx
    exact ⟨b', y, hb, hy⟩
  · intro pre e post hs
    obtain ⟨a1, x, hr1, hf⟩ := h4 pre e post hs
    obtain ⟨b1, hb, hkb⟩ := runSteps_erase hk _ _ c.stack a1 (.refl _) hr1
    rw [stepToks_editedSteps] at hb
    obtain ⟨y, hy⟩ := (hk a1 b1 hkb _).2.2 x hf
    exact ⟨b1, y, hb, hy⟩

end GrmVerif.C05
