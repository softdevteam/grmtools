import GrmVerif.Lemmas.RecSpec
import GrmVerif.Lemmas.TermAdj
import GrmVerif.Lemmas.RecBasics
/-!
Liveness of the recovering driver (C07). On a certified automaton (`Cert.Props`) that passes the
termination certificate `Term.termCheckAdj`:
* `feed` on a stack that is a path of the automaton never crashes and hands back a path
  (`feed_path`), and it ends (`Term.feed_total_adj`);
* hence every iteration of the recovering loop ends; an iteration shifts a real lexeme, accepts,
  gives up, or recovers, and an iteration after a recovery shifts or accepts (`Runs 1`): from a
  configuration with `d` lexemes left at most `2·d + 2` iterations are needed (`recRunO_returns`).
The recoverers this applies to are those that continue from where a sequence that repairs and inserts only
grammar tokens leaves the parser (`InsertsOk`, `ContinuesFromValid`); they hand back path stacks
(`applySeq_isPath`).
-/
namespace GrmVerif.C07
open Rec LR Cert Term

theorem feed_path {G : Grammar} {A : Automaton} (P : Props G A) (la : Nat) (hla : la < G.ntoks) :
    ∀ (fuel : Nat) (stack : List Nat), IsPath A stack →
      feed G A la fuel stack ≠ .crash ∧
      (∀ s, feed G A la fuel stack = .shifted s → IsPath A s ∧ la ≠ G.eof) ∧
      (∀ s, feed G A la fuel stack = .error s → IsPath A s) ∧
      (∀ s, feed G A la fuel stack = .accept s → IsPath A s) := by
  intro fuel
  induction fuel with
  | zero => intro stack _; simp [feed]
  | succ n ih =>
    intro stack hp
    cases stack with
    | nil => obtain ⟨labels, hpath⟩ := hp; cases hpath
    | cons st rest =>
      obtain ⟨labels, hpath⟩ := hp
      cases hact : A.action st la with
      | shift s' =>
        obtain ⟨hne, hpath'⟩ := hpath.shift P hla hact
        simp only [feed, hact]
        exact ⟨nofun, fun s hs => by cases hs; exact ⟨⟨_, hpath'⟩, hne⟩, nofun, nofun⟩
      | accept =>
        simp only [feed, hact]
        exact ⟨nofun, nofun, nofun, fun s hs => by cases hs; exact ⟨_, hpath⟩⟩
      | error =>
        simp only [feed, hact]
        exact ⟨nofun, nofun, fun s hs => by cases hs; exact ⟨_, hpath⟩, nofun⟩
      | reduce p =>
        obtain ⟨-, -, g, hr, hpath'⟩ := hpath.reduce P hla hact
        rw [feed_red hr]
        exact ih _ ⟨_, hpath'⟩

section
variable {G : Grammar} {A : Automaton} (P : Props G A) {la : Nat} (hla : la < G.ntoks) {fuel : Nat}
  {stack s : List Nat} (hp : IsPath A stack)
include P hla hp

theorem feed_ne_crash : feed G A la fuel stack ≠ .crash := (feed_path P la hla fuel stack hp).1

theorem feed_shifted_isPath (h : feed G A la fuel stack = .shifted s) : IsPath A s ∧ la ≠ G.eof :=
  (feed_path P la hla fuel stack hp).2.1 s h

theorem feed_error_isPath (h : feed G A la fuel stack = .error s) : IsPath A s :=
  (feed_path P la hla fuel stack hp).2.2.1 s h

theorem feed_accept_isPath (h : feed G A la fuel stack = .accept s) : IsPath A s :=
  (feed_path P la hla fuel stack hp).2.2.2 s h

end

/-- with `d` real lexemes left `2·d + 2` iterations are enough, `2·d + 1` right after a recovery, when
the plain parse is known to shift or accept next -/
theorem recRunO_returns {G : Grammar} {A : Automaton} (P : Props G A) {N : Nat}
    (ht : termCheckAdj G A N = true) {w : List Nat} (hw : InputOk G w) (K : Nat) (hK : 1 ≤ K)
    (recover : Pos → Option (Pos × List (List Repair))) (hok : RecovererOK G A w K recover)
    (hpath : ∀ c c' rs, IsPath A c.stack → recover c = some (c', rs) → rs ≠ [] → IsPath A c'.stack) :
    ∀ (n : Nat) (c : Pos) (errs : List Err), IsPath A c.stack →
      (2 * (w.length - c.pos) + 2 ≤ n ∨ (Runs G A w 1 c ∧ 2 * (w.length - c.pos) + 1 ≤ n)) →
      ∃ ff0 r, ∀ ff, ff0 ≤ ff → recRunO G A w recover ff n c errs = some r := by
  intro n
  induction n with
  | zero => intro c errs _ hm; omega
  | succ n ih =>
    intro c errs hp hm
    have hla : nextTok G w c.pos < G.ntoks := nextTok_lt hw P.wf c.pos
    obtain ⟨f1, hf1⟩ := feed_total_adj P ht _ hla c.stack hp
    obtain ⟨hnc, hsh, her, _⟩ := feed_path P _ hla f1 c.stack hp
    -- the threshold is `f1 + FUEL`, not `f1`: `Runs`, which `hm` and `hok` speak, is about `feed` at `FUEL`
    have key : ∀ ff, f1 + FUEL ≤ ff →
        feed G A (nextTok G w c.pos) ff c.stack = feed G A (nextTok G w c.pos) f1 c.stack :=
      fun ff hff => feed_ge rfl hf1 (Nat.le_trans (Nat.le_add_right _ _) hff)
    cases hR : feed G A (nextTok G w c.pos) f1 c.stack with
    | fuelOut => exact absurd hR hf1
    | crash => exact absurd hR hnc
    | accept s =>
      refine ⟨f1 + FUEL, (true, errs), fun ff hff => ?_⟩
      simp only [recRunO, key ff hff, hR]
    | shifted s =>
      obtain ⟨hps, _⟩ := hsh s hR
      have hlt : c.pos < w.length := RankImpl.pos_lt_of_shifted (eofNeverShifted_of_props P) hR
      have hm1 : 2 * (w.length - c.pos) + 1 ≤ n + 1 := hm.elim Nat.le_of_succ_le (fun h => h.2)
      obtain ⟨ff1, r, h1⟩ := ih ⟨s, c.pos + 1⟩ errs hps (Or.inl (by simp only; omega))
      refine ⟨f1 + FUEL + ff1, r, fun ff hff => ?_⟩
      simp only [recRunO, key ff (Nat.le_of_add_right_le hff), hR]
      exact h1 ff (Nat.le_trans (Nat.le_add_left _ _) hff)
    | error s =>
      have hm' : 2 * (w.length - c.pos) + 2 ≤ n + 1 := hm.elim id fun hr => by
        cases hr.1.eq_zero_of_error (Nat.le_add_left _ _) ((key _ (Nat.le_refl _)).trans hR)
      cases hrec : recover ⟨s, c.pos⟩ with
      | none =>
        refine ⟨f1 + FUEL, (false, errs ++ [⟨c.pos, []⟩]), fun ff hff => ?_⟩
        simp only [recRunO, key ff hff, hR, hrec]
      | some x =>
        obtain ⟨c', rs⟩ := x
        by_cases hemp : rs.isEmpty = true
        · refine ⟨f1 + FUEL, (false, errs ++ [⟨c.pos, []⟩]), fun ff hff => ?_⟩
          simp only [recRunO, key ff hff, hR, hrec, hemp, ↓reduceIte]
        · have hne : rs ≠ [] := by intro e; subst e; simp at hemp
          obtain ⟨hpos, hrun⟩ := hok ⟨s, c.pos⟩ c' rs hrec hne
          simp only at hpos
          have hp' : IsPath A c'.stack := hpath ⟨s, c.pos⟩ c' rs (her s hR) hrec hne
          obtain ⟨ff1, r, h1⟩ := ih c' (errs ++ [⟨c.pos, rs⟩]) hp'
            (Or.inr ⟨hrun.le 1 hK, by omega⟩)
          refine ⟨f1 + FUEL + ff1, r, fun ff hff => ?_⟩
          simp only [recRunO, key ff (Nat.le_of_add_right_le hff), hR, hrec, hemp]
          exact h1 ff (Nat.le_trans (Nat.le_add_left _ _) hff)

/-- every token a sequence inserts is a token of the grammar -/
def InsertsOk (G : Grammar) (rs : List Repair) : Prop := ∀ t, Repair.insert t ∈ rs → t < G.ntoks

theorem applySeq_isPath {G : Grammar} {A : Automaton} (P : Props G A) {w : List Nat} (hw : InputOk G w) :
    ∀ (rs : List Repair) (c c' : Pos), InsertsOk G rs → IsPath A c.stack →
      applySeq G A w c rs = some c' → IsPath A c'.stack := by
  intro rs c c' hins hp h
  have tl : ∀ {r rs}, InsertsOk G (r :: rs) → InsertsOk G rs := fun h t ht => h t (List.mem_cons_of_mem _ ht)
  -- a repair that feeds a token hands a path on: the token is one of the grammar (`InsertsOk`) or of the input (`hw`)
  exact applySeq_induction (motive := fun c rs => InsertsOk G rs → IsPath A c.stack → IsPath A c'.stack)
    (fun _ hp => hp)
    (fun c t s rs hf ih hins hp => ih (tl hins) (feed_shifted_isPath P (hins t (by simp)) hp hf).1)
    (fun c rs _ ih hins hp => ih (tl hins) hp)
    (fun c s rs _ hf ih hins hp => ih (tl hins) (feed_shifted_isPath P (nextTok_lt hw P.wf c.pos) hp hf).1)
    rs c h hins hp

/-- a recoverer that continues from where one of the sequences that repair (`validSeq`) leaves the
parser (`applySeq`); what the real recoverer does with the first sequence it reports, each of which
C05 validates with `validSeq` -/
def ContinuesFromValid (G : Grammar) (A : Automaton) (w : List Nat) (N : Nat)
    (recover : Pos → Option (Pos × List (List Repair))) : Prop :=
  ∀ c c' rs, recover c = some (c', rs) → rs ≠ [] →
    ∃ r, InsertsOk G r ∧ validSeq G A w N c r = true ∧ applySeq G A w c r = some c'

theorem recoverBy_continues (G : Grammar) (A : Automaton) (w : List Nat) (N : Nat)
    (cands : Pos → List (List Repair)) (hc : ∀ c, ∀ r ∈ cands c, InsertsOk G r) :
    ContinuesFromValid G A w N (recoverBy G A w N cands) := by
  intro c c' rs h _
  unfold recoverBy at h
  cases hfl : (cands c).filter (validSeq G A w N c) with
  | nil => rw [hfl] at h; cases h
  | cons r rest =>
    rw [hfl] at h
    simp only at h
    have hr : r ∈ (cands c).filter (validSeq G A w N c) := by rw [hfl]; simp
    obtain ⟨hr1, hr2⟩ := List.mem_filter.mp hr
    cases ha : applySeq G A w c r with
    | none => rw [ha] at h; cases h
    | some c1 =>
      rw [ha] at h
      simp only [Option.some.injEq, Prod.mk.injEq] at h
      exact ⟨r, hc c r hr1, hr2, by rw [← h.1]; exact ha⟩

theorem Shifts.isPath {G : Grammar} {A : Automaton} (P : Props G A) {w : List Nat} (hw : InputOk G w) {ff : Nat}
    {c c1 : Pos} (h : Shifts G A w ff c c1) : IsPath A c.stack → (c.pos ≤ w.length ∨ Runs G A w 1 c) →
      IsPath A c1.stack ∧ (c1.pos ≤ w.length ∨ Runs G A w 1 c1) := by
  induction h with
  | refl c => exact fun hp hm => ⟨hp, hm⟩
  | step c s c1 hf _ ih =>
    intro hp _
    exact ih (feed_shifted_isPath P (nextTok_lt hw P.wf c.pos) hp hf).1
      (Or.inl (RankImpl.pos_lt_of_shifted (eofNeverShifted_of_props P) hf))

/-- every error lies within the input; position `|w|` is an error at end of input -/
theorem recRunO_err_pos {G : Grammar} {A : Automaton} (P : Props G A) {w : List Nat} (hw : InputOk G w)
    (K : Nat) (hK : 1 ≤ K)
    (recover : Pos → Option (Pos × List (List Repair))) (hok : RecovererOK G A w K recover)
    (hpath : ∀ c c' rs, IsPath A c.stack → recover c = some (c', rs) → rs ≠ [] → IsPath A c'.stack)
    (ff : Nat) (hff : FUEL ≤ ff) :
    ∀ (n : Nat) (c : Pos) (errs : List Err) (r : Bool × List Err), IsPath A c.stack →
      (c.pos ≤ w.length ∨ Runs G A w 1 c) → recRunO G A w recover ff n c errs = some r →
      ∃ new, r.2 = errs ++ new ∧ ∀ e ∈ new, e.pos ≤ w.length := by
  intro n c errs r hp hm h
  obtain ⟨new, v, rfl, hs⟩ := recRunO_seg G A w recover ff n c errs r h
  refine ⟨new, rfl, ?_⟩
  clear h
  induction hs with
  | stop c c1 ht _ => cases ht
  | accept c c1 s _ _ => nofun
  | giveUp c c1 s hs hf _ =>
    obtain ⟨_, hm1⟩ := hs.isPath P hw hp hm
    have hpos : c1.pos ≤ w.length := hm1.elim id (fun hr => by cases hr.eq_zero_of_error hff hf)
    simpa using hpos
  | recovered c c1 s c' rs new v hs hf hrec hne _ ih =>
    obtain ⟨hp1, hm1⟩ := hs.isPath P hw hp hm
    have hpos : c1.pos ≤ w.length := hm1.elim id (fun hr => by cases hr.eq_zero_of_error hff hf)
    have hp' : IsPath A c'.stack :=
      hpath ⟨s, c1.pos⟩ c' rs (feed_error_isPath P (nextTok_lt hw P.wf c1.pos) hp1 hf) hrec hne
    exact List.forall_mem_cons.mpr
      ⟨hpos, ih hp' (Or.inr ((hok ⟨s, c1.pos⟩ c' rs hrec hne).2.le 1 hK))⟩

end GrmVerif.C07
