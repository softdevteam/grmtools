import GrmVerif.Model.PagerImpl
import GrmVerif.Lemmas.CloseData
/-!
Lemmas about the model of `gc` (`PagerImpl.gc`): the reachability loop computes exactly the states
reachable from the start state; `offsets` maps an index to the number of kept states before it; the
kept states and the renumbered edges sit at those positions.
-/
namespace GrmVerif.PagerImpl
open Fix

inductive Reach (edges : List (List (Sym × Nat))) (start : Nat) : Nat → Prop
  | start : Reach edges start start
  | step (s t : Nat) (X : Sym) (es : List (Sym × Nat)) : Reach edges start s → edges[s]? = some es → (X, t) ∈ es →
      Reach edges start t

/-- number of indices `i < s` with `kp i`: the new index of a kept state `s` -/
def keptBefore (kp : Nat → Bool) (s : Nat) : Nat := ((List.range s).filter kp).length

open Classical in
/-- the index of state `s` after `gc`: the number of reachable states before it -/
noncomputable def gcIndex (edges : List (List (Sym × Nat))) (start : Nat) (s : Nat) : Nat :=
  keptBefore (fun i => decide (Reach edges start i)) s

open Classical in
/-- the number of unreachable states before `s`: what `gc` subtracts from the index -/
noncomputable def droppedBefore (edges : List (List (Sym × Nat))) (start : Nat) (s : Nat) : Nat :=
  ((List.range s).filter (fun i => !decide (Reach edges start i))).length

def relabel (f : Nat → Nat) (es : List (Sym × Nat)) : List (Sym × Nat) := es.map (fun e => (e.1, f e.2))

theorem keptBefore_zero (kp : Nat → Bool) : keptBefore kp 0 = 0 := rfl

theorem keptBefore_succ (kp : Nat → Bool) (s : Nat) :
    keptBefore kp (s + 1) = keptBefore kp s + (if kp s then 1 else 0) := by
  rw [keptBefore, List.range_succ, List.filter_append, List.length_append, ← List.countP_eq_length_filter (l := [s]),
    List.countP_singleton]
  rfl

theorem keptBefore_le (kp : Nat → Bool) (s : Nat) : keptBefore kp s ≤ s :=
  Nat.le_trans (List.length_filter_le kp _) (Nat.le_of_eq List.length_range)

theorem keptBefore_mono (kp : Nat → Bool) {s t : Nat} (h : s ≤ t) : keptBefore kp s ≤ keptBefore kp t :=
  ((List.range_sublist.mpr h).filter kp).length_le

theorem keptBefore_lt (kp : Nat → Bool) {s t : Nat} (h : s < t) (hs : kp s = true) : keptBefore kp s < keptBefore kp t := by
  have h1 := keptBefore_mono kp (show s + 1 ≤ t from h)
  rw [keptBefore_succ, if_pos hs] at h1
  exact h1

theorem keptBefore_surj (kp : Nat → Bool) (n k : Nat) (h : k < keptBefore kp n) :
    ∃ s, s < n ∧ kp s = true ∧ keptBefore kp s = k := by
  induction n with
  | zero => cases h
  | succ n ih =>
    rw [keptBefore_succ] at h
    by_cases hk : k < keptBefore kp n
    · obtain ⟨s, h1, h2, h3⟩ := ih hk
      exact ⟨s, Nat.lt_succ_of_lt h1, h2, h3⟩
    · by_cases hn : kp n = true
      · rw [if_pos hn] at h
        exact ⟨n, Nat.lt_succ_self n, hn, Nat.le_antisymm (Nat.le_of_not_lt hk) (Nat.le_of_lt_succ h)⟩
      · rw [if_neg hn] at h; exact absurd h hk

theorem keptBefore_add_dropped (kp : Nat → Bool) (s : Nat) :
    keptBefore kp s + ((List.range s).filter (fun i => !kp i)).length = s := by
  have h := List.length_eq_countP_add_countP kp (l := List.range s)
  rw [List.length_range, List.countP_eq_length_filter, List.countP_eq_length_filter] at h
  rw [keptBefore, show (fun i => !kp i) = fun a => decide ¬kp a = true from funext fun i => by cases kp i <;> rfl]
  exact h.symm

theorem keptBefore_eq_self (kp : Nat → Bool) (s : Nat) : keptBefore kp s = s ↔ ∀ i, i < s → kp i = true := by
  have h := List.length_filter_eq_length_iff (p := kp) (l := List.range s)
  rw [List.length_range] at h
  exact h.trans ⟨fun h i hi => h i (List.mem_range.mpr hi), fun h i hi => h i (List.mem_range.mp hi)⟩

theorem length_eq_keptBefore (seen : List Nat) (n : Nat) (hnd : seen.Nodup) (hlt : ∀ s ∈ seen, s < n) :
    seen.length = keptBefore (fun i => seen.contains i) n := by
  refine ((List.perm_ext_iff_of_nodup hnd (List.nodup_range.sublist List.filter_sublist)).mpr fun a => ?_).length_eq
  simp only [List.mem_filter, List.mem_range, List.contains_eq_mem, decide_eq_true_eq]
  exact ⟨fun h => ⟨hlt a h, h⟩, fun h => h.2⟩

theorem mem_todoExtend (todo new : List Nat) (x : Nat) : x ∈ todoExtend todo new ↔ x ∈ todo ∨ x ∈ new := by
  induction new generalizing todo with
  | nil => simp [todoExtend]
  | cons y rest ih =>
    rw [todoExtend, ih, List.mem_cons]
    by_cases h : todo.contains y = true
    · rw [if_pos h]
      have hy : y ∈ todo := List.contains_iff_mem.mp h
      exact ⟨fun h => h.elim Or.inl (fun h => Or.inr (Or.inr h)),
        fun h => h.elim Or.inl (fun h => h.elim (fun e => Or.inl (e ▸ hy)) Or.inr)⟩
    · rw [if_neg h, List.mem_append, List.mem_singleton, or_assoc]

theorem nodup_todoExtend (todo new : List Nat) (h : todo.Nodup) : (todoExtend todo new).Nodup := by
  induction new generalizing todo with
  | nil => exact h
  | cons y rest ih =>
    rw [todoExtend]
    apply ih
    by_cases hc : todo.contains y = true
    · rw [if_pos hc]; exact h
    · rw [if_neg hc]
      have hy : y ∉ todo := fun hm => hc (List.contains_iff_mem.mpr hm)
      exact List.nodup_append.mpr ⟨h, by simp,
        fun a ha b hb hab => hy (by rw [← List.mem_singleton.mp hb, ← hab]; exact ha)⟩

structure ReachInv (edges : List (List (Sym × Nat))) (start : Nat) (todo seen : List Nat) : Prop where
  todoReach : ∀ s ∈ todo, Reach edges start s
  seenReach : ∀ s ∈ seen, Reach edges start s
  closed : ∀ s ∈ seen, ∀ (es : List (Sym × Nat)), edges[s]? = some es → ∀ e ∈ es, e.2 ∈ seen ∨ e.2 ∈ todo
  start : start ∈ seen ∨ start ∈ todo
  disj : ∀ s ∈ todo, s ∉ seen
  todoNd : todo.Nodup
  seenNd : seen.Nodup

theorem reach_lt {edges : List (List (Sym × Nat))} {start n : Nat} (hstart : start < n)
    (hrange : ∀ (s : Nat) (es : List (Sym × Nat)), edges[s]? = some es → ∀ e ∈ es, e.2 < n) {s : Nat} (h : Reach edges start s) : s < n := by
  induction h with
  | start => exact hstart
  | step s t X es _ he hm _ => exact hrange s es he (X, t) hm

/-- The measure of the loop is the number of states below `n` not yet seen (`Fix.missing`): each
iteration moves the head of `todo`, which is unseen, into `seen`. -/
theorem reachLoop_spec (edges : List (List (Sym × Nat))) (start n : Nat) (hlen : edges.length = n) (hstart : start < n)
    (hrange : ∀ (s : Nat) (es : List (Sym × Nat)), edges[s]? = some es → ∀ e ∈ es, e.2 < n) :
    ∀ (fuel : Nat) (todo seen : List Nat), ReachInv edges start todo seen → missing (List.range n) seen < fuel →
      ∃ seen', reachLoop edges fuel todo seen = .ok seen' ∧ seen'.Nodup ∧ ∀ s, s ∈ seen' ↔ Reach edges start s := by
  intro fuel
  induction fuel with
  | zero => intro todo seen _ h; cases h
  | succ fuel ih =>
    intro todo seen inv hf
    cases todo with
    | nil =>
      refine ⟨seen, rfl, inv.seenNd, fun s => ⟨inv.seenReach s, fun hr => ?_⟩⟩
      induction hr with
      | start => exact inv.start.elim id (fun h => nomatch h)
      | step s t X es _ he hm ih2 => exact (inv.closed s ih2 es he (X, t) hm).elim id (fun h => nomatch h)
    | cons s todo =>
      have hsr : Reach edges start s := inv.todoReach s (List.mem_cons_self ..)
      have hsn : s < n := reach_lt hstart hrange hsr
      have hns : s ∉ seen := inv.disj s (List.mem_cons_self ..)
      obtain ⟨es, hes⟩ : ∃ es, edges[s]? = some es := ⟨edges[s]'(hlen ▸ hsn), List.getElem?_eq_getElem (hlen ▸ hsn)⟩
      have hc : seen.contains s = false := Bool.eq_false_iff.mpr (fun h => hns (List.contains_iff_mem.mp h))
      have htnd := List.nodup_cons.mp inv.todoNd
      simp only [reachLoop, hes, hc, Bool.false_eq_true, if_false]
      refine ih _ _ ⟨?_, ?_, ?_, ?_, ?_, nodup_todoExtend _ _ htnd.2, List.nodup_cons.mpr ⟨hns, inv.seenNd⟩⟩
        (Nat.lt_of_lt_of_le (CloseImpl.missing_lt _ seen (s :: seen) (fun x hx => List.mem_cons_of_mem _ hx)
          ⟨s, List.mem_range.mpr hsn, hns, List.mem_cons_self ..⟩) (Nat.le_of_lt_succ hf))
      · intro x hx
        rcases (mem_todoExtend _ _ x).mp hx with h | h
        · exact inv.todoReach x (List.mem_cons_of_mem _ h)
        · obtain ⟨e, he, rfl⟩ := List.mem_map.mp (List.mem_filter.mp h).1
          exact .step s e.2 e.1 es hsr hes he
      · intro x hx
        rcases List.mem_cons.mp hx with rfl | h
        · exact hsr
        · exact inv.seenReach x h
      · intro x hx es' hes' e he
        by_cases hin : e.2 ∈ s :: seen
        · exact Or.inl hin
        · right
          rw [mem_todoExtend]
          rcases List.mem_cons.mp hx with rfl | h
          · rw [hes] at hes'; cases hes'
            exact Or.inr (List.mem_filter.mpr ⟨List.mem_map.mpr ⟨e, he, rfl⟩, by simpa using hin⟩)
          · rcases inv.closed x h es' hes' e he with h2 | h2
            · exact absurd (List.mem_cons_of_mem _ h2) hin
            · rcases List.mem_cons.mp h2 with h3 | h3
              · exact absurd (h3 ▸ List.mem_cons_self ..) hin
              · exact Or.inl h3
      · rcases inv.start with h | h
        · exact Or.inl (List.mem_cons_of_mem _ h)
        · rcases List.mem_cons.mp h with h | h
          · exact Or.inl (h ▸ List.mem_cons_self ..)
          · exact Or.inr ((mem_todoExtend _ _ _).mpr (Or.inl h))
      · intro x hx hc2
        rcases (mem_todoExtend _ _ x).mp hx with h | h
        · rcases List.mem_cons.mp hc2 with rfl | h2
          · exact htnd.1 h
          · exact inv.disj x (List.mem_cons_of_mem _ h) h2
        · simpa [hc2] using (List.mem_filter.mp h).2

/-- the elements of `l` at the kept indices, the first element of `l` having index `i` -/
def keptFrom {α : Type} (kp : Nat → Bool) : Nat → List α → List α
  | _, [] => []
  | i, z :: rest => if kp i then z :: keptFrom kp (i + 1) rest else keptFrom kp (i + 1) rest

theorem keptFrom_append {α : Type} (kp : Nat → Bool) (a b : List α) : ∀ (i : Nat),
    keptFrom kp i (a ++ b) = keptFrom kp i a ++ keptFrom kp (i + a.length) b := by
  induction a with
  | nil => intro i; rfl
  | cons z rest ih =>
    intro i
    rw [List.cons_append, keptFrom, keptFrom, ih, List.length_cons, Nat.add_comm rest.length 1, ← Nat.add_assoc]
    split <;> rfl

theorem length_keptFrom {α : Type} (kp : Nat → Bool) (l : List α) : ∀ (i : Nat),
    keptBefore kp i + (keptFrom kp i l).length = keptBefore kp (i + l.length) := by
  induction l with
  | nil => intro i; rfl
  | cons z rest ih =>
    intro i
    rw [List.length_cons, ← Nat.add_assoc, Nat.add_right_comm i, ← ih, keptBefore_succ, keptFrom]
    split <;> simp only [List.length_cons, Nat.add_assoc, Nat.add_comm 1, Nat.add_zero]

/-- a kept element sits behind the kept elements before it: its new index is the number of those -/
theorem getElem?_keptFrom {α : Type} (kp : Nat → Bool) (l : List α) {j : Nat} (hj : j < l.length) (hk : kp j = true) :
    (keptFrom kp 0 l)[keptBefore kp j]? = l[j]? := by
  have hlen := length_keptFrom kp (l.take j) 0
  rw [List.length_take_of_le (Nat.le_of_lt hj), keptBefore_zero, Nat.zero_add, Nat.zero_add] at hlen
  conv => lhs; rw [← List.take_append_drop j l, keptFrom_append, List.drop_eq_getElem_cons hj, keptFrom,
    List.length_take_of_le (Nat.le_of_lt hj), Nat.zero_add, if_pos hk, ← hlen]
  rw [List.getElem?_append_right (Nat.le_refl _), Nat.sub_self, List.getElem?_eq_getElem hj]
  rfl

/-- `offsets[i]` is `i` minus the number of dropped states before `i`, i.e. the number of kept ones; the
second component collects the kept states -/
theorem offsetsLoop_eq {α : Type} (seen : List Nat) (kp : Nat → Bool) (hkp : ∀ i, seen.contains i = kp i) (l : List α) :
    ∀ (i off : Nat), off + keptBefore kp i = i →
      offsetsLoop seen l i off = ((List.range' i l.length).map (keptBefore kp), keptFrom kp i l) := by
  induction l with
  | nil => intro i off _; rfl
  | cons z rest ih =>
    intro i off hoff
    have hs := keptBefore_succ kp i
    have hi : i - off = keptBefore kp i := Nat.sub_eq_of_eq_add (by rw [Nat.add_comm]; exact hoff.symm)
    by_cases hk : kp i = true
    · rw [if_pos hk] at hs
      simp only [offsetsLoop, hkp i, hk, if_true, keptFrom, List.length_cons, List.range'_succ, List.map_cons,
        ih (i + 1) off (by rw [hs, ← Nat.add_assoc, hoff]), hi]
    · rw [if_neg hk] at hs
      simp only [offsetsLoop, hkp i, hk, Bool.false_eq_true, if_false, keptFrom, List.length_cons, List.range'_succ,
        List.map_cons, ih (i + 1) (off + 1) (by rw [hs]; show off + 1 + keptBefore kp i = i + 1; rw [Nat.add_right_comm, hoff]), hi]

theorem mapEdges_spec (offsets : List Nat) (f : Nat → Nat) (es : List (Sym × Nat))
    (h : ∀ e ∈ es, offsets[e.2]? = some (f e.2)) : mapEdges offsets es = some (relabel f es) := by
  induction es with
  | nil => rfl
  | cons e rest ih =>
    simp only [mapEdges, h e (List.mem_cons_self ..), Option.bind_some,
      ih (fun x hx => h x (List.mem_cons_of_mem _ hx)), Option.map_some]
    rfl

theorem edgesLoop_eq (seen : List Nat) (kp : Nat → Bool) (hkp : ∀ i, seen.contains i = kp i)
    (offsets : List Nat) (f : Nat → Nat) (l : List (List (Sym × Nat)))
    (h : ∀ es ∈ l, ∀ e ∈ es, offsets[e.2]? = some (f e.2)) :
    ∀ (i : Nat), edgesLoop seen offsets l i = some ((keptFrom kp i l).map (relabel f)) := by
  induction l with
  | nil => intro i; rfl
  | cons z rest ih =>
    intro i
    have hr := ih (fun es hes => h es (List.mem_cons_of_mem _ hes)) (i + 1)
    by_cases hk : kp i = true
    · simp only [edgesLoop, hkp i, hk, if_true, mapEdges_spec offsets f z (h z (List.mem_cons_self ..)), Option.bind_some,
        hr, Option.map_some, keptFrom, List.map_cons]
    · simp only [edgesLoop, hkp i, hk, Bool.false_eq_true, if_false, hr, keptFrom]

theorem relabel_id (f : Nat → Nat) (es : List (Sym × Nat)) (h : ∀ e ∈ es, f e.2 = e.2) : relabel f es = es := by
  unfold relabel
  conv => rhs; rw [← List.map_id es]
  exact List.map_congr_left (fun e he => by rw [h e he]; rfl)

theorem gcIndex_add_dropped (edges : List (List (Sym × Nat))) (start s : Nat) :
    gcIndex edges start s + droppedBefore edges start s = s :=
  keptBefore_add_dropped _ s

theorem gc_core {α : Type} (states : List α) (start : Nat) (edges : List (List (Sym × Nat)))
    (hlen : edges.length = states.length) (hstart : start < states.length)
    (hrange : ∀ (s : Nat) (es : List (Sym × Nat)), edges[s]? = some es → ∀ e ∈ es, e.2 < states.length) :
    ∃ states' edges', gc states start edges = .ok (states', edges') ∧
      states'.length = gcIndex edges start states.length ∧ edges'.length = gcIndex edges start states.length ∧
      ∀ s, s < states.length → Reach edges start s →
        states'[gcIndex edges start s]? = states[s]? ∧
        edges'[gcIndex edges start s]? = (edges[s]?).map (relabel (gcIndex edges start)) := by
  classical
  have hinv : ReachInv edges start [start] [] :=
    ⟨fun s hs => (by rw [List.mem_singleton.mp hs]; exact .start), fun s hs => (nomatch hs),
     fun s hs => (nomatch hs), Or.inr (List.mem_singleton.mpr rfl),
     fun s _ hs => (nomatch hs), by simp, List.nodup_nil⟩
  obtain ⟨seen, hseen, hnd, hmem⟩ := reachLoop_spec edges start states.length hlen hstart hrange
    (states.length + 1) [start] [] hinv
    (Nat.lt_succ_of_le (by have := List.length_filter_le (fun x => ![].contains x) (List.range states.length)
                           rwa [List.length_range] at this))
  have hkp : ∀ i, seen.contains i = decide (Reach edges start i) := by
    intro i; rw [List.contains_eq_mem, decide_eq_decide]; exact hmem i
  have hslen : seen.length = gcIndex edges start states.length := by
    rw [length_eq_keptBefore seen states.length hnd (fun s hs => reach_lt hstart hrange ((hmem s).mp hs)), funext hkp]
    rfl
  simp only [gc, hseen, Res.bind]
  by_cases heq : (states.length == seen.length) = true
  · -- nothing is unreachable: `gcIndex` is the identity
    rw [if_pos heq]
    have heq' : gcIndex edges start states.length = states.length := by rw [← hslen]; exact (beq_iff_eq.mp heq).symm
    have hall := (keptBefore_eq_self _ _).mp heq'
    have hid : ∀ s, s ≤ states.length → gcIndex edges start s = s :=
      fun s hs => (keptBefore_eq_self _ s).mpr (fun i hi => hall i (Nat.lt_of_lt_of_le hi hs))
    refine ⟨states, edges, rfl, heq'.symm, hlen.trans heq'.symm, fun s hs _ => ?_⟩
    rw [hid s (Nat.le_of_lt hs)]
    refine ⟨rfl, ?_⟩
    cases hes : edges[s]? with
    | none => rfl
    | some es => rw [Option.map_some, relabel_id _ es (fun e he => hid e.2 (Nat.le_of_lt (hrange s es hes e he)))]
  · rw [if_neg heq, offsetsLoop_eq seen _ hkp states 0 0 rfl]
    dsimp only
    have hoff : ∀ es ∈ edges, ∀ e ∈ es,
        ((List.range' 0 states.length).map (keptBefore fun i => decide (Reach edges start i)))[e.2]? =
          some (keptBefore (fun i => decide (Reach edges start i)) e.2) := by
      intro es hes e he
      obtain ⟨s, hs, hget⟩ := List.getElem_of_mem hes
      have hlt : e.2 < states.length := hrange s es (by rw [List.getElem?_eq_getElem hs, hget]) e he
      rw [List.getElem?_map, List.getElem?_range' hlt, Option.map_some, Nat.zero_add, Nat.one_mul]
    have hk1 := length_keptFrom (fun i => decide (Reach edges start i)) states 0
    have hr1 := length_keptFrom (fun i => decide (Reach edges start i)) edges 0
    rw [keptBefore_zero, Nat.zero_add, Nat.zero_add] at hk1 hr1
    rw [edgesLoop_eq seen _ hkp _ _ edges hoff 0]
    refine ⟨_, _, rfl, hk1, by rw [List.length_map, hr1, hlen]; rfl, fun s hs hreach => ?_⟩
    exact ⟨getElem?_keptFrom _ states hs (decide_eq_true hreach), by
      rw [List.getElem?_map]; exact congrArg _ (getElem?_keptFrom _ edges (hlen ▸ hs) (decide_eq_true hreach))⟩

end GrmVerif.PagerImpl
