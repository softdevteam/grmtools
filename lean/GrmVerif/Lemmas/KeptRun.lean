import GrmVerif.Lemmas.KeptShift
import GrmVerif.Lemmas.RecLive
/-!
The recovering run is the plain parse of the edited input (C05), under `KeptShiftInvisible` and
`FirstValid` instead of `KeptInvisible`: `recRun_plainK`.

Induction on the run, error by error (`C07.Seg`), carrying beside the driver's stack `c.stack` the stack
`b` of the plain parse of the edited input: `Kept c.stack b`, `b` a path of the automaton, and either the
two are equal or the driver's configuration is one from which the plain parse shifts a lexeme or accepts
(`C07.Runs … 1 c`, which is what a valid first sequence leaves behind). A lexeme that is shifted or
accepted is answered the same by `b` (`KeptShiftInvisible`), after which both stacks are equal
(`shifts_plain`); a lexeme that is refused can only be met with equal stacks, so the plain parse refuses
it too.

At the end, from the stack automaton to the LR driver with trees: what `feed` shifts or accepts, and what
`FeedsTo` feeds, the driver does in steps (`feed_shifted_steps`, `feed_accept_steps`, `feedsTo_steps`).
-/
namespace GrmVerif.C05
open Rec LR Cert Term RankImpl

theorem runs_of_validSeq {G : Grammar} {A : Automaton} {w : List Nat} {N : Nat} {c : Pos}
    {rs : List Repair} (h : validSeq G A w N c rs = true) :
    ∃ c', applySeq G A w c rs = some c' ∧ c.pos ≤ c'.pos ∧ C07.Runs G A w N c' := by
  unfold validSeq at h
  cases ha : applySeq G A w c rs with
  | none => rw [ha] at h; cases h
  | some c' =>
    rw [ha] at h
    simp only [Bool.or_eq_true, decide_eq_true_eq] at h
    exact ⟨c', rfl, (applySeq_pos G A w rs c c' ha).1,
      C07.Runs.of_continueFrom G A w N _ c' 0 _ _ _ rfl (h.imp id (fun h => by rwa [Nat.zero_add]))⟩

theorem validSeq_goes {G : Grammar} {A : Automaton} {w : List Nat} {N : Nat} (hN : 1 ≤ N) {c : Pos}
    {rs : List Repair} (h : validSeq G A w N c rs = true) :
    ∃ c', applySeq G A w c rs = some c' ∧ C07.Runs G A w 1 c' := by
  obtain ⟨c', ha, _, hr⟩ := runs_of_validSeq h
  exact ⟨c', ha, hr.le 1 hN⟩

theorem runs_not_error {G : Grammar} {A : Automaton} {w : List Nat} {c : Pos} (h : C07.Runs G A w 1 c)
    {s : List Nat} (hf : feed G A (nextTok G w c.pos) FUEL c.stack = .error s) : False := by
  cases h.eq_zero_of_error (Nat.le_refl _) hf

theorem shifted_isPath {G : Grammar} {A : Automaton} (P : Props G A) (hcols : colsOk G A = true)
    {t f : Nat} {b x : List Nat} (hb : IsPath A b) (h : feed G A t f b = .shifted x) : IsPath A x := by
  have ht : t < G.ntoks := by
    obtain ⟨st, s', ha⟩ := feed_shifted_action h
    exact colsOk_action hcols (by rw [ha]; simp)
  exact (C07.feed_shifted_isPath P ht hb h).1

theorem feedToks_erase {G : Grammar} {A : Automaton} (P : Props G A) (hcols : colsOk G A = true)
    (hk : KeptShiftInvisible G A) :
    ∀ (toks : List Nat) (a b a' : List Nat), Kept G A a b → IsPath A b → feedToks G A a toks = some a' →
      ∃ b', FeedsTo G A b toks b' ∧ Kept G A a' b' ∧ IsPath A b' := by
  intro toks
  induction toks with
  | nil =>
    intro a b a' hab hb h
    simp only [feedToks, Option.some.injEq] at h
    subst h
    exact ⟨b, rfl, hab, hb⟩
  | cons t ts ih =>
    intro a b a' hab hb h
    simp only [feedToks] at h
    cases hf : feed G A t FUEL a with
    | shifted s =>
      rw [hf] at h
      simp only at h
      obtain ⟨f, hfb⟩ := (hk a b hab hb t).1 s hf
      have hs : IsPath A s := shifted_isPath P hcols hb hfb
      obtain ⟨b', h1, h2, h3⟩ := ih s s a' (.refl s) hs h
      exact ⟨b', ⟨s, ⟨f, hfb⟩, h1⟩, h2, h3⟩
    | _ => rw [hf] at h; cases h

/-- the plain parse follows a stretch of shifted lexemes from the unreduced stack `b`; once a lexeme has
been shifted the two stacks are equal -/
theorem shifts_plain {G : Grammar} {A : Automaton} {w : List Nat} (P : Props G A) (hcols : colsOk G A = true)
    (hk : KeptShiftInvisible G A) (hsh : EofNeverShifted G A) {c c1 : Pos} (h : C07.Shifts G A w FUEL c c1) :
    ∀ b, Kept G A c.stack b → IsPath A b → (c.stack = b ∨ C07.Runs G A w 1 c) →
      ∃ b1, FeedsTo G A b ((reals c.pos c1.pos).map (itemTok w)) b1 ∧ Kept G A c1.stack b1 ∧ IsPath A b1 ∧
        (c1.stack = b1 ∨ C07.Runs G A w 1 c1) := by
  induction h with
  | refl c => intro b hkept hb hm; exact ⟨b, by rw [reals_self]; rfl, hkept, hb, hm⟩
  | step c s c1 hf hs ih =>
    intro b hkept hb _
    obtain ⟨fb, hfb⟩ := (hk c.stack b hkept hb _).1 s hf
    obtain ⟨b1, h1, h2⟩ := ih s (.refl s) (shifted_isPath P hcols hb hfb) (Or.inl rfl)
    rw [(shifted_in_range hsh hf).2] at hfb
    exact ⟨b1, by rw [reals_cons (Nat.lt_of_succ_le (shifts_feedToks hsh hs).1)]; exact ⟨s, ⟨fb, hfb⟩, h1⟩, h2⟩

/-- **The recovering run is the plain parse of the edited input** (state stacks; `b` is the stack of
the plain parse). -/
theorem recRun_plainK (G : Grammar) (A : Automaton) (w : List Nat)
    (recover : Pos → Option (Pos × List (List Repair)))
    (P : Props G A) (hcols : colsOk G A = true)
    (hfirst : FirstApplies G A w recover) {N : Nat} (hN1 : 1 ≤ N) (hvalid : FirstValid G A w N recover)
    (hsh : EofNeverShifted G A) (hacc : AcceptOnlyAtEof G A) (hw : G.eof ∉ w)
    (hk : KeptShiftInvisible G A) :
    ∀ (fuel : Nat) (c : Pos) (errs : List Err) (v : Bool) (errs' : List Err) (b : List Nat),
      c.pos ≤ w.length → Kept G A c.stack b → IsPath A b → (c.stack = b ∨ C07.Runs G A w 1 c) →
      recRun G A w recover fuel c errs = (v, errs') →
      ∃ new, errs' = errs ++ new ∧ Ordered w.length c.pos new ∧
        (v = true → ∃ st, FeedsTo G A b (editedToks w w.length c.pos new) st ∧ AcceptsAt G A G.eof st) ∧
        (∀ pre e post, new = pre ++ e :: post →
          ∃ st, FeedsTo G A b (editedToks w e.pos c.pos pre) st ∧ RefusesAt G A (nextTok G w e.pos) st) := by
  intro fuel c errs v errs' b hc hkept hb hmode h
  obtain ⟨new, v', he, hs⟩ := C07.recRun_seg G A w recover fuel c errs
  cases h.symm.trans he
  refine ⟨new, rfl, (recRun_own hfirst hsh hacc hw hs hc).1, ?_⟩
  -- a refused lexeme is met with equal stacks only
  have refused : ∀ {c1 : Pos} {b1 s : List Nat}, (c1.stack = b1 ∨ C07.Runs G A w 1 c1) →
      feed G A (nextTok G w c1.pos) FUEL c1.stack = .error s → RefusesAt G A (nextTok G w c1.pos) b1 := by
    intro c1 b1 s hm hf
    cases hm.resolve_right fun hm => runs_not_error hm hf
    exact ⟨FUEL, s, hf⟩
  clear h he
  induction hs generalizing b with
  | stop c c1 _ _ => exact ⟨nofun, forall_split_nil⟩
  | accept c c1 s hs hf =>
    obtain ⟨b1, h1, h2, h3, _⟩ := shifts_plain P hcols hk hsh hs b hkept hb hmode
    obtain ⟨hge, heof⟩ := accept_at_end hacc hw hf
    obtain ⟨fb, y, hfb⟩ := (hk c1.stack b1 h2 h3 _).2 s hf
    rw [Nat.le_antisymm ((shifts_feedToks hsh hs).2.1 hc) hge] at h1
    exact ⟨fun _ => ⟨b1, h1, ⟨fb, y, heof ▸ hfb⟩⟩, forall_split_nil⟩
  | giveUp c c1 s hs hf _ =>
    obtain ⟨b1, h1, _, _, hm1⟩ := shifts_plain P hcols hk hsh hs b hkept hb hmode
    exact ⟨nofun, forall_split_cons ⟨b1, h1, refused hm1 hf⟩ forall_split_nil⟩
  | recovered c c1 s c' rs new v hs hf hrec hne _ ih =>
    obtain ⟨b1, h1, h2, h3, hm1⟩ := shifts_plain P hcols hk hsh hs b hkept hb hmode
    cases rs with
    | nil => exact absurd rfl hne
    | cons s0 rest =>
      have happ := hfirst _ _ _ _ hrec
      obtain ⟨c'', happ', hruns⟩ := validSeq_goes hN1 (hvalid _ _ _ _ hrec)
      cases happ.symm.trans happ'
      obtain ⟨hft, hpos⟩ := applySeq_feedToks G A w s0 _ _ happ
      have hin := (applySeq_pos G A w s0 _ _ happ).2
      simp only at hft hpos hin
      -- the plain parse shifts the tokens of the first sequence from the unreduced stack
      obtain ⟨b', hfb, hkb, hpb⟩ := feedToks_erase P hcols hk _ s b1 c'.stack (.offer c1.stack b1 _ s h2 hf) h3 hft
      obtain ⟨h3', h4⟩ := ih b' (hin ((shifts_feedToks hsh hs).2.1 hc)) hkb hpb (Or.inr hruns)
      have hhead : ∀ {stop es st}, FeedsTo G A b' (editedToks w stop c'.pos es) st →
          FeedsTo G A b (editedToks w stop c.pos (⟨c1.pos, s0 :: rest⟩ :: es)) st := fun hst => by
        simp only [editedToks, editedItems, List.map_append]
        rw [hpos] at hst
        exact feedsTo_append _ _ b b1 _ h1 (feedsTo_append _ _ b1 b' _ hfb hst)
      exact ⟨fun hv => (h3' hv).imp fun _ hx => ⟨hhead hx.1, hx.2⟩,
        forall_split_cons ⟨b1, h1, refused hm1 hf⟩ fun pre e post hs =>
          (h4 pre e post hs).imp fun _ hx => ⟨hhead hx.1, hx.2⟩⟩

/-- if the stack automaton accepts under lookahead `la`, the full driver reaches, by reductions, a
configuration in which its next step ends the parse (with the tree, or the `crash 3` of a malformed
tree stack) -/
theorem feed_accept_steps (G : Grammar) (A : Automaton) (w : List Nat) :
    ∀ (fuel : Nat) (stack s' : List Nat) (astack : List Tree) (laidx : Nat),
      feed G A (nextTok G w laidx) fuel stack = .accept s' →
      ∃ astack', Steps G A w ⟨stack, astack, laidx⟩ ⟨s', astack', laidx⟩ ∧
        ∃ st tl, s' = st :: tl ∧ A.action st (nextTok G w laidx) = .accept := by
  intro fuel stack s' astack laidx h
  obtain ⟨ps, st, rest, hr, rfl, hact⟩ := feed_spec h
  exact ⟨_, steps_of_reds hr astack, st, rest, rfl, hact⟩

theorem feed_shifted_steps (G : Grammar) (A : Automaton) (w : List Nat) :
    ∀ (fuel : Nat) (stack s' : List Nat) (astack : List Tree) (laidx : Nat),
      feed G A (nextTok G w laidx) fuel stack = .shifted s' →
      ∃ astack', Steps G A w ⟨stack, astack, laidx⟩ ⟨s', .leaf (nextTok G w laidx) laidx :: astack', laidx + 1⟩ := by
  intro fuel stack s' astack laidx h
  obtain ⟨ps, st, rest, g, hr, rfl, hact⟩ := feed_spec h
  exact ⟨_, (steps_of_reds hr astack).trans (.single (step_shifted (c := ⟨_, _, _⟩) rfl hact))⟩

theorem feedsTo_steps (G : Grammar) (A : Automaton) (toks : List Nat) :
    ∀ (ts : List Nat) (i : Nat) (stack st : List Nat) (astack : List Tree), i ≤ toks.length →
      toks.drop i = ts → FeedsTo G A stack ts st →
      ∃ astack', Steps G A toks ⟨stack, astack, i⟩ ⟨st, astack', toks.length⟩ := by
  intro ts
  induction ts with
  | nil =>
    intro i stack st astack hle hd h
    simp only [FeedsTo] at h
    subst h
    cases Nat.le_antisymm hle (List.drop_eq_nil_iff.mp hd)
    exact ⟨astack, .refl _⟩
  | cons t ts ih =>
    intro i stack st astack hle hd h
    obtain ⟨s, ⟨f, hf⟩, h⟩ := h
    obtain ⟨hget, hd'⟩ := drop_cons_getElem hd
    rw [← nextTok_of_drop_cons (G := G) hd] at hf
    obtain ⟨a1, hs1⟩ := feed_shifted_steps G A toks f stack s astack i hf
    obtain ⟨a2, hs2⟩ := ih (i + 1) s st (.leaf (nextTok G toks i) i :: a1)
      (List.getElem?_eq_some_iff.mp hget).1 hd' h
    exact ⟨a2, hs1.trans hs2⟩

end GrmVerif.C05
