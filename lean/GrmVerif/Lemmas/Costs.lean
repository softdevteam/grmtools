import GrmVerif.Model.CostsRef
import GrmVerif.Lemmas.Analyses
import GrmVerif.Model.Recog
/-! Derivable token strings, and the two halves of the exactness of minimal costs: a fixed point of `ruleCost` bounds
every derivation from below, and the reference iteration only produces costs of derivable strings (put together in
`CostsDijkstra.lean`: `MinTable.exact`). Then the upper-bound certificate for maximal costs (`derives_upper`) and the
soundness of the bounded recogniser of `Model/Recog.lean`. -/
namespace GrmVerif.Spec
open GrmVerif Ref

mutual
/-- symbol `s` derives the token string `w` -/
inductive Derives (G : Grammar) : Sym → List Nat → Prop
  | tok (t : Nat) : Derives G (.tok t) [t]
  | rule (p : Nat) (w : List Nat) : p < G.nprods → DerivesSeq G (G.rhs p) w → Derives G (.rule (G.lhs p)) w
/-- the symbol sequence derives `w` (concatenation of what its symbols derive) -/
inductive DerivesSeq (G : Grammar) : List Sym → List Nat → Prop
  | nil : DerivesSeq G [] []
  | cons (s : Sym) (rest : List Sym) (w1 w2 : List Nat) :
      Derives G s w1 → DerivesSeq G rest w2 → DerivesSeq G (s :: rest) (w1 ++ w2)
end

/-- cost of a token string -/
def cost (tc : Nat → Nat) (w : List Nat) : Nat := (w.map tc).sum

theorem cost_append (tc : Nat → Nat) (a b : List Nat) : cost tc (a ++ b) = cost tc a + cost tc b := by
  simp [cost, List.sum_append]

theorem addO_eq_some {x y : Option Nat} {v : Nat} :
    addO x y = some v ↔ ∃ a b, x = some a ∧ y = some b ∧ a + b = v := by
  cases x <;> cases y <;> simp [addO]

theorem seqCost_cons_some {tc : Nat → Nat} {c : Nat → Option Nat} {s : Sym} {rest : List Sym} {v : Nat} :
    seqCost tc c (s :: rest) = some v ↔
      ∃ a b, symCost tc c s = some a ∧ seqCost tc c rest = some b ∧ a + b = v := addO_eq_some

/-- `a ≤ b` in the order where `none` is +∞ -/
def leO : Option Nat → Option Nat → Prop
  | _, none => True
  | none, some _ => False
  | some a, some b => a ≤ b

theorem leO_minO_left (a b : Option Nat) : leO (minO a b) a := by
  cases a <;> cases b <;> simp [minO, leO, Nat.min_le_left]

theorem leO_minO_right (a b : Option Nat) : leO (minO a b) b := by
  cases a <;> cases b <;> simp [minO, leO, Nat.min_le_right]

theorem leO.trans {a b c : Option Nat} (h1 : leO a b) (h2 : leO b c) : leO a c := by
  cases a <;> cases b <;> cases c <;> simp only [leO] at h1 h2 ⊢
  exact Nat.le_trans h1 h2

theorem leO_some {a : Option Nat} {v : Nat} (h : leO a (some v)) : ∃ m, a = some m ∧ m ≤ v := by
  cases a with
  | none => exact h.elim
  | some m => exact ⟨m, rfl, h⟩

theorem minO_eq_some {a b : Option Nat} {v : Nat} (h : minO a b = some v) : a = some v ∨ b = some v := by
  cases a <;> cases b <;> simp only [minO, Option.some.injEq, reduceCtorEq] at h ⊢
  · exact Or.inr h
  · exact Or.inl h
  · omega

theorem minOver_le (f : Nat → Option Nat) (l : List Nat) : ∀ p ∈ l, leO (minOver f l) (f p) := by
  induction l with
  | nil => intro p hp; cases hp
  | cons q qs ih =>
    intro p hp
    rcases List.mem_cons.mp hp with rfl | hp
    · exact leO_minO_left _ _
    · exact (leO_minO_right _ _).trans (ih p hp)

theorem minOver_attained (f : Nat → Option Nat) (l : List Nat) (v : Nat) (h : minOver f l = some v) :
    ∃ p ∈ l, f p = some v := by
  induction l with
  | nil => cases h
  | cons q qs ih =>
    rcases minO_eq_some h with h | h
    · exact ⟨q, List.mem_cons_self, h⟩
    · obtain ⟨p, hp, hv⟩ := ih h
      exact ⟨p, List.mem_cons_of_mem _ hp, hv⟩

mutual
theorem derives_lower {G : Grammar} {tc : Nat → Nat} {c : Nat → Option Nat}
    (hfix : ∀ r, r < G.nrules → c r = ruleCost G tc c r) (hwf : G.wf = true) :
    ∀ {s : Sym} {w : List Nat}, Derives G s w → G.symOk s = true →
      ∃ v, symCost tc c s = some v ∧ v ≤ cost tc w
  | _, _, .tok t, _ => ⟨tc t, rfl, by simp [cost]⟩
  | _, _, .rule p w hp hseq, _ => by
    obtain ⟨v', hv', hle⟩ := derivesSeq_lower hfix hwf hseq (fun s hs => wf_sym hwf hp hs)
    have hle2 := minOver_le (fun p => seqCost tc c (G.rhs p)) (G.prodsOf (G.lhs p)) p
      (mem_prodsOf.mpr ⟨hp, rfl⟩)
    rw [hv'] at hle2
    obtain ⟨m, hm, hmle⟩ := leO_some hle2
    exact ⟨m, (hfix _ (wf_lhs hwf hp)).trans hm, Nat.le_trans hmle hle⟩
theorem derivesSeq_lower {G : Grammar} {tc : Nat → Nat} {c : Nat → Option Nat}
    (hfix : ∀ r, r < G.nrules → c r = ruleCost G tc c r) (hwf : G.wf = true) :
    ∀ {l : List Sym} {w : List Nat}, DerivesSeq G l w → (∀ s ∈ l, G.symOk s = true) →
      ∃ v, seqCost tc c l = some v ∧ v ≤ cost tc w
  | _, _, .nil, _ => ⟨0, rfl, by simp [cost]⟩
  | _, _, .cons s rest w1 w2 h1 h2, hok => by
    obtain ⟨v1, hv1, hle1⟩ := derives_lower hfix hwf h1 (hok s (by simp))
    obtain ⟨v2, hv2, hle2⟩ := derivesSeq_lower hfix hwf h2 (fun x hx => hok x (List.mem_cons_of_mem _ hx))
    refine ⟨v1 + v2, seqCost_cons_some.mpr ⟨v1, v2, hv1, hv2, rfl⟩, ?_⟩
    rw [cost_append]; omega
end

/-- every finite entry of `c` is realised by a derivation -/
def Realised (G : Grammar) (tc : Nat → Nat) (c : Nat → Option Nat) : Prop :=
  ∀ r v, c r = some v → ∃ w, Derives G (.rule r) w ∧ cost tc w = v

theorem seqCost_realised {G : Grammar} {tc : Nat → Nat} {c : Nat → Option Nat} (hc : Realised G tc c) :
    ∀ (l : List Sym) (v : Nat), seqCost tc c l = some v → ∃ w, DerivesSeq G l w ∧ cost tc w = v := by
  intro l
  induction l with
  | nil => intro v h; simp only [seqCost, Option.some.injEq] at h; exact ⟨[], .nil, by simp [cost, ← h]⟩
  | cons s rest ih =>
    intro v h
    obtain ⟨a, b, h1, h2, rfl⟩ := seqCost_cons_some.mp h
    obtain ⟨w2, hd2, hc2⟩ := ih b h2
    obtain ⟨w1, hd1, hc1⟩ : ∃ w1, Derives G s w1 ∧ cost tc w1 = a := by
      cases s with
      | tok t => exact ⟨[t], .tok t, by simpa [cost, symCost] using h1⟩
      | rule q => exact hc q a h1
    exact ⟨w1 ++ w2, .cons s rest w1 w2 hd1 hd2, by rw [cost_append, hc1, hc2]⟩

theorem look_map_range (f : Nat → Option Nat) (n r : Nat) :
    look ((List.range n).map f) r = if r < n then f r else none := by
  by_cases h : r < n <;> simp [look, h]

theorem look_stepCosts (G : Grammar) (tc : Nat → Nat) (c : List (Option Nat)) (r : Nat) :
    look (stepCosts G tc c) r = if r < G.nrules then ruleCost G tc (look c) r else none :=
  look_map_range _ _ r

theorem ruleCost_realised {G : Grammar} {tc : Nat → Nat} {c : Nat → Option Nat} (hc : Realised G tc c)
    {r v : Nat} (h : ruleCost G tc c r = some v) : ∃ w, Derives G (.rule r) w ∧ cost tc w = v := by
  obtain ⟨p, hp, hv⟩ := minOver_attained _ _ v h
  obtain ⟨hp1, hp2⟩ := mem_prodsOf.mp hp
  obtain ⟨w, hd, hcw⟩ := seqCost_realised hc _ v hv
  exact ⟨w, hp2 ▸ .rule p w hp1 hd, hcw⟩

theorem step_realised {G : Grammar} {tc : Nat → Nat} {c : List (Option Nat)}
    (hc : Realised G tc (look c)) : Realised G tc (look (stepCosts G tc c)) := by
  intro r v h
  rw [look_stepCosts] at h
  split at h
  · exact ruleCost_realised hc h
  · cases h

theorem look_replicate_none (n r : Nat) : look (List.replicate n none) r = none := by
  by_cases hr : r < n <;> simp [look, hr]

theorem realised_init (G : Grammar) (tc : Nat → Nat) (n : Nat) :
    Realised G tc (look (List.replicate n none)) := by
  intro r v h
  rw [look_replicate_none] at h
  cases h

theorem derivesSeq_usable {G : Grammar} {prodv : Nat → Bool}
    (hprod : ∀ q, prodv q = false → ¬ ∃ w, Derives G (.rule q) w) :
    ∀ {l : List Sym} {w : List Nat}, DerivesSeq G l w →
      l.all (usableSym prodv) = true
  | _, _, .nil => by simp
  | _, _, .cons s rest w1 w2 h1 h2 => by
    have ih := derivesSeq_usable hprod h2
    simp only [List.all_cons, Bool.and_eq_true]
    refine ⟨?_, ih⟩
    cases s with
    | tok t => rfl
    | rule q =>
      cases hq : prodv q with
      | true => simp [usableSym, hq]
      | false => exact absurd ⟨w1, h1⟩ (hprod q hq)

mutual
theorem derives_upper {G : Grammar} {tc : Nat → Nat} {prodv : Nat → Bool} {ub : Nat → Option Nat}
    (hcert : upperBoundOk G tc prodv ub = true)
    (hprod : ∀ q, prodv q = false → ¬ ∃ w, Derives G (.rule q) w) :
    ∀ {s : Sym} {w : List Nat}, Derives G s w → ∀ b, symCost tc ub s = some b → cost tc w ≤ b
  | _, _, .tok t, b, hb => by simp only [symCost, Option.some.injEq] at hb; simp [cost, hb]
  | _, _, .rule p w hp hseq, b, hb => by
    have hus := derivesSeq_usable hprod hseq
    have hcert' := hcert
    simp only [upperBoundOk, List.all_eq_true, List.mem_range, Bool.or_eq_true, Bool.not_eq_true'] at hcert'
    have hc := hcert' p hp
    simp only [symCost] at hb
    rcases hc with hc | hc
    · simp only [usableProd] at hc; rw [hus] at hc; cases hc
    · rw [hb] at hc
      simp only at hc
      cases hsc : seqCost tc ub (G.rhs p) with
      | none => rw [hsc] at hc; simp at hc
      | some v =>
        rw [hsc] at hc
        have hv : v ≤ b := by simpa using hc
        have := derivesSeq_upper hcert hprod hseq v hsc
        omega
theorem derivesSeq_upper {G : Grammar} {tc : Nat → Nat} {prodv : Nat → Bool} {ub : Nat → Option Nat}
    (hcert : upperBoundOk G tc prodv ub = true)
    (hprod : ∀ q, prodv q = false → ¬ ∃ w, Derives G (.rule q) w) :
    ∀ {l : List Sym} {w : List Nat}, DerivesSeq G l w → ∀ v, seqCost tc ub l = some v → cost tc w ≤ v
  | _, _, .nil, v, hv => by simp [cost]
  | _, _, .cons s rest w1 w2 h1 h2, v, hv => by
    obtain ⟨a, b, hs, hr, rfl⟩ := seqCost_cons_some.mp hv
    rw [cost_append]
    exact Nat.add_le_add (derives_upper hcert hprod h1 a hs) (derivesSeq_upper hcert hprod h2 b hr)
end

mutual
theorem recogSym_sound (G : Grammar) (allow : Nat → Bool) :
    ∀ (fuel : Nat) (s : Sym) (w : List Nat), recogSym G allow fuel s w = true → Derives G s w
  | _, .tok t, w, h => by
    have : w = [t] := by
      cases w with
      | nil => simp [recogSym] at h
      | cons a as => simpa [recogSym] using h
    subst this; exact .tok t
  | 0, .rule _, _, h => by simp [recogSym] at h
  | fuel + 1, .rule r, w, h => by
    simp only [recogSym, any_prodsOf, Bool.and_eq_true] at h
    obtain ⟨p, hp1, hp2, _, hseq⟩ := h
    rw [← hp2]
    exact .rule p w hp1 (recogSeq_sound G allow fuel (G.rhs p) w hseq)
theorem recogSeq_sound (G : Grammar) (allow : Nat → Bool) :
    ∀ (fuel : Nat) (l : List Sym) (w : List Nat), recogSeq G allow fuel l w = true → DerivesSeq G l w
  | _, [], w, h => by
    have : w = [] := by cases w <;> simp_all [recogSeq]
    subst this; exact .nil
  | 0, _ :: _, _, h => by simp [recogSeq] at h
  | fuel + 1, .tok t :: rest, w, h => by
    cases w with
    | nil => simp [recogSeq] at h
    | cons a w' =>
      simp only [recogSeq, Bool.and_eq_true, beq_iff_eq] at h
      obtain ⟨rfl, h2⟩ := h
      exact DerivesSeq.cons (.tok a) rest [a] w' (.tok a) (recogSeq_sound G allow fuel rest w' h2)
  | fuel + 1, .rule r :: rest, w, h => by
    simp only [recogSeq, List.any_eq_true, List.mem_range, Bool.and_eq_true] at h
    obtain ⟨k, _, h1, h2⟩ := h
    have := DerivesSeq.cons (.rule r) rest (w.take k) (w.drop k) (recogSym_sound G allow fuel _ _ h2)
      (recogSeq_sound G allow fuel rest _ h1)
    simpa using this
end

end GrmVerif.Spec
