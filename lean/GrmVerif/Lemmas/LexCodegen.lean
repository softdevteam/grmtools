import GrmVerif.Model.LexCodegen
/-! What the wiring predicates of `Model/LexCodegen.lean` are used through (C13): assignment lines that each read
their own field leave user-or-default in every assigned field; a predicate that exactly one element of a list
satisfies finds that element. -/
namespace GrmVerif.LexCodegen

theorem applyLines_self (user dflt : Flags) (w : FlagWiring)
    (hw : ∀ l ∈ w, l.1 = l.2.1 ∧ l.1 = l.2.2) (lf : Flags) (f : String) :
    applyLines user dflt w lf f =
      if w.any (fun l => l.1 == f) then (user f).or (dflt f) else lf f := by
  induction w generalizing lf with
  | nil => rfl
  | cons l rest ih =>
    obtain ⟨x, y, z⟩ := l
    obtain ⟨rfl, rfl⟩ : x = y ∧ x = z := hw _ List.mem_cons_self
    rw [applyLines, ih (fun l hl => hw l (List.mem_cons_of_mem _ hl)), List.any_cons]
    cases rest.any (fun l => l.1 == f) with
    | true => rw [Bool.or_true]; rfl
    | false =>
      rw [Bool.or_false, if_neg Bool.false_ne_true]
      by_cases h : f = x
      · rw [if_pos h, h, if_pos (beq_self_eq_true x)]
      · rw [if_neg h, if_neg (fun e => h (eq_of_beq e).symm)]

theorem filter_len_one_any {α} (p : α → Bool) (l : List α) (h : (l.filter p).length = 1) :
    l.any p = true :=
  List.any_eq_true.mpr (List.length_filter_pos_iff.mp (h ▸ Nat.one_pos))

theorem find_of_filter_len_one {α} (p : α → Bool) (l : List α) (h : (l.filter p).length = 1) :
    ∃ a, l.find? p = some a ∧ a ∈ l ∧ p a = true := by
  obtain ⟨a, ha⟩ := Option.isSome_iff_exists.mp
    (List.find?_isSome.mpr (List.length_filter_pos_iff.mp (h ▸ Nat.one_pos)))
  exact ⟨a, ha, List.mem_of_find?_eq_some ha, List.find?_some ha⟩

/-- a literal unifies with `String.ofList` of its characters: rewriting with this spares the kernel the UTF-8
encoding that both sides of `==` go through -/
theorem ofList_beq (a b : List Char) : (String.ofList a == String.ofList b) = (a == b) := by
  rw [Bool.eq_iff_iff, beq_iff_eq, beq_iff_eq, String.ofList_inj]

end GrmVerif.LexCodegen
