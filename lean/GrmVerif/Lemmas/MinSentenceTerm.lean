import GrmVerif.Lemmas.MinSentenceImpl
import GrmVerif.Lemmas.RuleGraph
/-! On which grammars `min_sentence` returns: exactly those in which following the production
`cheapest_prod` returns for each rule never revisits a rule (`tightInf = false`). The graph of these
productions is the rule graph of the grammar `tightG`: a run through a rule contains a strictly shorter run through
every rule of its cheapest production, so it bounds the depth of the graph below the rule (`Runs.depth`) and on a cycle
there is none; without cycles that depth bounds the run (`runs_of_depth`). -/
namespace GrmVerif.Impl
open GrmVerif Spec

section
variable (G : Grammar) (tc : List Nat) (mc : Option (List Nat))

theorem tightG_nrules : (tightG G tc mc).nrules = G.nrules := rfl
theorem tightG_ntoks : (tightG G tc mc).ntoks = G.ntoks := rfl

theorem tightG_nprods : (tightG G tc mc).nprods = G.nprods := keepG_nprods G _

theorem tightG_lhs (p : Nat) : (tightG G tc mc).lhs p = G.lhs p := keepG_lhs G _ p

theorem tightG_rhs (p : Nat) :
    (tightG G tc mc).rhs p =
      if p < G.nprods ∧ cheapestProd G tc mc (G.lhs p) = some p then G.rhs p else [] := keepG_rhs G _ p

theorem tightG_prodsOf (r : Nat) : (tightG G tc mc).prodsOf r = G.prodsOf r := keepG_prodsOf G _ r

theorem tightG_wf (hwf : G.wf = true) : (tightG G tc mc).wf = true := keepG_wf G _ hwf

theorem succ_tightG (q q' : Nat) :
    Succ (tightG G tc mc) q q' ↔
      ∃ cp, cheapestProd G tc mc q = some cp ∧ cp < G.nprods ∧ G.lhs cp = q ∧ Sym.rule q' ∈ G.rhs cp := by
  refine (succ_keepG G _ q q').trans ⟨?_, ?_⟩
  · rintro ⟨p, hp, hl, hk, hm⟩; exact ⟨p, hl ▸ hk, hp, hl, hm⟩
  · rintro ⟨p, hk, hp, hl, hm⟩; exact ⟨p, hp, hl, hl ▸ hk, hm⟩

theorem tightInf_iff (hwf : G.wf = true) (r : Nat) :
    tightInf G tc mc r = true ↔ Inf (tightG G tc mc) r :=
  infB_iff (tightG G tc mc) (tightG_wf G tc mc hwf) r

end

/-- the frames `min_sentence` needs for rule `q` take at most `K` iterations -/
def RunsIn (G : Grammar) (tc : List Nat) (mc : Option (List Nat)) (q K : Nat) : Prop :=
  ∃ cp k out, cheapestProd G tc mc q = some cp ∧ Runs G tc mc (G.rhs cp) k out ∧ k ≤ K

section
variable {G : Grammar} {tc : List Nat} {mc : Option (List Nat)}

/-- the graph `tightG` below a rule is as deep as the production `cheapest_prod` returns for it says -/
theorem depth_tightG_succ {q cp k : Nat} (hcp : cheapestProd G tc mc q = some cp)
    (h : ∀ y, Sym.rule y ∈ G.rhs cp → Depth (tightG G tc mc) k y) : Depth (tightG G tc mc) (k + 1) q := by
  intro y hs
  obtain ⟨cp', hcp', _, _, hm⟩ := (succ_tightG G tc mc q y).mp hs
  obtain rfl : cp' = cp := Option.some.inj (hcp'.symm.trans hcp)
  exact h y hm

/-- a run is longer than the graph below its rules is deep -/
theorem Runs.depth {l : List Sym} {k : Nat} {out : List Nat} (h : Runs G tc mc l k out) :
    ∀ q, Sym.rule q ∈ l → Depth (tightG G tc mc) k q := by
  induction h with
  | nil => intro q hq; cases hq
  | tok t l k out _ ih => intro q hq; exact ih q (by simpa using hq)
  | rule q rest cp k1 o1 k2 o2 hcp _ _ ih1 ih2 =>
    intro q' hq'
    rcases List.mem_cons.mp hq' with e | h
    · cases e
      exact (depth_tightG_succ hcp ih1).mono (by omega)
    · exact (ih2 q' h).mono (by omega)

end

def numRules : List Sym → Nat
  | [] => 0
  | .tok _ :: rest => numRules rest
  | .rule _ :: rest => numRules rest + 1

theorem numRules_le (l : List Sym) : numRules l ≤ l.length := by
  induction l with
  | nil => exact Nat.le_refl _
  | cons s rest ih => cases s <;> simp only [numRules, List.length_cons] <;> omega

/-- if the cheapest production of every rule of `l` has a run of at most `K` iterations, `l` has a run of
at most `1 + numRules l * (K + 1)` -/
theorem runs_of_list {G : Grammar} {tc : List Nat} {mc : Option (List Nat)} (K : Nat) : ∀ l : List Sym,
    (∀ q', Sym.rule q' ∈ l → RunsIn G tc mc q' K) → ∃ k out, Runs G tc mc l k out ∧ k ≤ 1 + numRules l * (K + 1) := by
  intro l
  induction l with
  | nil => intro _; exact ⟨1, [], .nil, by simp [numRules]⟩
  | cons s rest ih =>
    intro h
    obtain ⟨k2, o2, hr2, hk2⟩ := ih (fun q' hq' => h q' (List.mem_cons_of_mem _ hq'))
    cases s with
    | tok t => exact ⟨k2, t :: o2, .tok t rest k2 o2 hr2, hk2⟩
    | rule q =>
      obtain ⟨cp, k1, o1, hcp, hr1, hk1⟩ := h q (by simp)
      refine ⟨1 + k1 + k2, o1 ++ o2, .rule q rest cp k1 o1 k2 o2 hcp hr1 hr2, ?_⟩
      simp only [numRules, Nat.add_mul, Nat.one_mul]
      omega

theorem rhs_le_maxRhs (G : Grammar) {p : Nat} (hp : p < G.nprods) : (G.rhs p).length ≤ maxRhs G :=
  foldl_max_ge (fun p => (G.rhs p).length) (List.range G.nprods) 0 p (by simpa using hp)

section
variable {G : Grammar} (hwf : G.wf = true) {tc : List Nat} (m : List (Option Nat))
  (htc : tc.length = G.ntoks) (hmt : MinTable G (tcF tc) m)
include hwf htc hmt

/-- a rule from which the cheapest productions can be followed `d + 1` deep at most is worked off within
`msBound (maxRhs G) d` iterations -/
theorem runs_of_depth : ∀ (d q x : Nat), Priced G m q x →
    Depth (tightG G tc (some (concr m))) (d + 1) q → RunsIn G tc (some (concr m)) q (msBound (maxRhs G) d) := by
  -- if the cheapest production of every rule of `q` runs within `K`, the one of `q` runs within `1 + maxRhs G * (K + 1)`
  have step : ∀ (K q x : Nat), Priced G m q x →
      (∀ q' x', Priced G m q' x' → Succ (tightG G tc (some (concr m))) q q' → RunsIn G tc (some (concr m)) q' K) →
      RunsIn G tc (some (concr m)) q (1 + maxRhs G * (K + 1)) := by
    intro K q x hq hlow
    obtain ⟨cp, hcp, hcpm, hcpc⟩ := cheapestProd_tight G hwf tc m htc hmt hq
    obtain ⟨hp1, hp2⟩ := mem_prodsOf.mp hcpm
    obtain ⟨k, out, hr, hk⟩ := runs_of_list K (G.rhs cp) (by
      intro q' hq'
      obtain ⟨x', hx'⟩ := hq.sub hwf (mem_cheapSet.mpr ⟨hcpm, hcpc⟩) hq'
      exact hlow q' x' hx' ((succ_tightG G tc (some (concr m)) q q').mpr ⟨cp, hcp, hp1, hp2, hq'⟩))
    refine ⟨cp, k, out, hcp, hr, Nat.le_trans hk (Nat.add_le_add_left (Nat.mul_le_mul_right _ ?_) 1)⟩
    exact Nat.le_trans (numRules_le (G.rhs cp)) (rhs_le_maxRhs G hp1)
  intro d
  induction d with
  | zero =>
    intro q x hq hd
    simpa [msBound] using step 0 q x hq (fun q' _ _ hs => (hd q' hs).elim)
  | succ d ih =>
    intro q x hq hd
    exact step (msBound (maxRhs G) d) q x hq (fun q' x' hq' hs => ih q' x' hq' (hd q' hs))

/-- **`min_sentence` returns** when it follows no cycle, within `minSentenceFuel` iterations -/
theorem minSentenceWith_terminates {r x : Nat} (h : Priced G m r x)
    (hni : ¬ Inf (tightG G tc (some (concr m))) r) :
    ∃ w, ∀ fuel, minSentenceFuel G ≤ fuel → minSentenceWith G tc (some (concr m)) r fuel = .done w := by
  obtain ⟨cp, k, out, hcp, hruns, hk⟩ := runs_of_depth hwf m htc hmt G.nrules r x h
    (depth_of_not_inf (tightG_wf G tc _ hwf) hni (Nat.lt_succ_of_le (rho_le _ r)))
  refine ⟨out, ?_⟩
  intro fuel hf
  unfold minSentenceWith
  rw [hcp]
  simp only []
  have hk' : k + 1 ≤ fuel := by unfold minSentenceFuel at hf; omega
  obtain ⟨f', rfl⟩ : ∃ f', fuel = k + (f' + 1) := ⟨fuel - k - 1, by omega⟩
  rw [runs_compose hruns cp 0 (by simp) (f' + 1) [] []]
  simp [msLoop]

/-- **what `min_sentence` returns**: the model never panics; if its loop ends, the sentence is derived by the rule
and costs the rule's minimal cost; and the loop does not end when it follows a cycle -/
theorem minSentenceWith_sound {r x : Nat} (h : Priced G m r x) (fuel : Nat) :
    minSentenceWith G tc (some (concr m)) r fuel ≠ .panic ∧
    (∀ w, minSentenceWith G tc (some (concr m)) r fuel = .done w → Derives G (.rule r) w ∧ cost (tcF tc) w = x) ∧
    (Inf (tightG G tc (some (concr m))) r → minSentenceWith G tc (some (concr m)) r fuel = .fuelOut) := by
  obtain ⟨cp, hcp, hcpm, hcpc, hrun⟩ := minSentenceWith_runs hwf m htc hmt h
  obtain ⟨hp1, rfl⟩ := mem_prodsOf.mp hcpm
  rcases hrun fuel with hf | ⟨k, out, hr, _, hf⟩
  · rw [hf]; exact ⟨(fun e => nomatch e), (fun w e => nomatch e), fun _ => rfl⟩
  · rw [hf]
    refine ⟨(fun e => nomatch e), fun w e => ?_, fun hinf => absurd (depth_tightG_succ hcp hr.depth) (hinf.not_depth _)⟩
    cases e
    obtain ⟨hd, hc⟩ := hr.derives hwf m htc hmt x (fun s hs => wf_sym hwf hp1 hs) hcpc h.fin
    exact ⟨.rule cp _ hp1 hd, hc⟩

end

end GrmVerif.Impl
