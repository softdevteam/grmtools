import GrmVerif.Model.Cert
import GrmVerif.Lemmas.Analyses
/-! What an accepted certificate means, as propositions. -/
namespace GrmVerif.Cert
open GrmVerif Spec

def HasItem (items : List Item) (p d : Nat) : Prop := ∃ i ∈ items, i.p = p ∧ i.dot = d

theorem hasItem_iff (items : List Item) (p d : Nat) : hasItem items p d = true ↔ HasItem items p d := by
  simp only [hasItem, HasItem, List.any_eq_true, Bool.and_eq_true, beq_iff_eq]

theorem allStates_iff (A : Automaton) (f : Nat → Bool) : allStates A f = true ↔ ∀ s, s < A.nstates → f s = true := by
  simp only [allStates, List.all_eq_true, List.mem_range]

theorem allStates_all {α : Type} (A : Automaton) (l : Nat → List α) (f : Nat → α → Bool) :
    allStates A (fun s => (l s).all (f s)) = true ↔ ∀ s, s < A.nstates → ∀ x ∈ l s, f s x = true := by
  simp only [allStates_iff, List.all_eq_true]

theorem edge_mem {A : Automaton} {s t : Nat} {X : Sym} (h : A.edge s X = some t) : (X, t) ∈ A.edges s := by
  simp only [Automaton.edge, Option.map_eq_some_iff] at h
  obtain ⟨⟨a, b⟩, he, rfl⟩ := h
  have hX : a = X := by simpa using List.find?_some he
  exact hX ▸ List.mem_of_find?_eq_some he

theorem symAt_mem {G : Grammar} {p d : Nat} {X : Sym} (h : symAt G p d = some X) : X ∈ G.rhs p :=
  List.mem_of_getElem? h

theorem symAt_lt {G : Grammar} {p d : Nat} {X : Sym} (h : symAt G p d = some X) : p < G.nprods :=
  Nat.lt_of_not_le fun hle => by
    simp [symAt, Grammar.rhs, List.getElem?_eq_none_iff.mpr hle] at h

theorem drop_of_symAt {G : Grammar} {p d : Nat} {X : Sym} (h : symAt G p d = some X) :
    (G.rhs p).drop d = X :: (G.rhs p).drop (d + 1) := by
  unfold symAt at h
  obtain ⟨hlt, heq⟩ := List.getElem?_eq_some_iff.mp h
  rw [List.drop_eq_getElem_cons hlt, heq]

/-- what `Cert.check` says, clause by clause: `wf` … `noEofRhs` are `wfG`, `itemOk` is `itemsOk`, `startLt` `startCore`
`startHas` K1, `kernelOfDot` `coreSub` K2, `edgeTarget` K3′, `edgeExists` K3, `actReduce` `actShift` `actAccept` K4,
`gotoEdge` K5, `justified` K6 -/
structure Props (G : Grammar) (A : Automaton) : Prop where
  wf : G.wf = true
  startShape : ∃ S, G.rhs G.startProd = [.rule S]
  noStartRhs : ∀ p, p < G.nprods → Sym.rule G.startRule ∉ G.rhs p
  noEofRhs : ∀ p, p < G.nprods → Sym.tok G.eof ∉ G.rhs p
  itemOk : ∀ s, s < A.nstates → ∀ i ∈ A.closed s ++ A.core s, i.p < G.nprods ∧ i.dot ≤ (G.rhs i.p).length
  startLt : A.start < A.nstates
  startCore : ∀ i ∈ A.core A.start, i.p = G.startProd ∧ i.dot = 0
  startHas : HasItem (A.core A.start) G.startProd 0
  kernelOfDot : ∀ s, s < A.nstates → ∀ i ∈ A.closed s, i.dot > 0 → HasItem (A.core s) i.p i.dot
  coreSub : ∀ s, s < A.nstates → ∀ i ∈ A.core s, HasItem (A.closed s) i.p i.dot
  edgeTarget : ∀ s, s < A.nstates → ∀ e ∈ A.edges s, e.2 < A.nstates ∧ A.core e.2 ≠ [] ∧
    ∀ i ∈ A.core e.2, i.dot > 0 ∧ symAt G i.p (i.dot - 1) = some e.1 ∧ HasItem (A.closed s) i.p (i.dot - 1)
  edgeExists : ∀ s, s < A.nstates → ∀ i ∈ A.closed s, ∀ X, symAt G i.p i.dot = some X →
    ∃ t, A.edge s X = some t ∧ HasItem (A.core t) i.p (i.dot + 1)
  actReduce : ∀ s t p, s < A.nstates → t < G.ntoks → A.action s t = .reduce p →
    p ≠ G.startProd ∧ p < G.nprods ∧ HasItem (A.closed s) p (G.rhs p).length
  actShift : ∀ s t s', s < A.nstates → t < G.ntoks → A.action s t = .shift s' → A.edge s (.tok t) = some s'
  actAccept : ∀ s t, s < A.nstates → t < G.ntoks → A.action s t = .accept → t = G.eof ∧ HasItem (A.closed s) G.startProd 1
  gotoEdge : ∀ s r, s < A.nstates → r < G.nrules → A.goto s r = A.edge s (.rule r)
  justified : ∀ s, s < A.nstates → ∀ i ∈ A.closed s, i.dot = 0 →
    HasItem (A.core s) i.p 0 ∨ ∃ j ∈ A.closed s, symAt G j.p j.dot = some (.rule (G.lhs i.p))

theorem check_props (G : Grammar) (A : Automaton) (h : check G A = true) : Props G A := by
  simp only [check, Bool.and_eq_true] at h
  obtain ⟨⟨⟨⟨⟨⟨⟨⟨hwf, hit⟩, h1⟩, h2⟩, h3p⟩, h3⟩, h4⟩, h5⟩, h6⟩ := h
  simp only [wfG, Bool.and_eq_true, List.all_eq_true, Bool.not_eq_true', List.contains_eq_mem,
    decide_eq_false_iff_not] at hwf
  obtain ⟨⟨hw1, hw2⟩, hw3⟩ := hwf
  simp only [itemsOk, allStates_all, Bool.and_eq_true, decide_eq_true_eq] at hit
  simp only [k1, Bool.and_eq_true, decide_eq_true_eq, beq_iff_eq, List.map_eq_singleton_iff,
    Prod.mk.injEq] at h1
  obtain ⟨hstart, i0, hcore, hi0⟩ := h1
  simp only [k2, allStates_iff, Bool.and_eq_true, List.all_eq_true, Bool.or_eq_true, beq_iff_eq,
    hasItem_iff] at h2
  simp only [k3', allStates_all, List.all_eq_true, Bool.and_eq_true, decide_eq_true_eq, Bool.not_eq_true',
    List.isEmpty_eq_false_iff, beq_iff_eq, hasItem_iff, and_assoc] at h3p
  rw [k3, allStates_all] at h3
  simp only [k4, allStates_all, List.mem_range] at h4
  simp only [k5, allStates_all, List.mem_range, beq_iff_eq] at h5
  simp only [k6, allStates_all, Bool.or_eq_true, bne_iff_ne, ne_eq, List.any_eq_true, beq_iff_eq,
    hasItem_iff] at h6
  have hprodmem : ∀ p, p < G.nprods → (G.lhs p, G.rhs p) ∈ G.prods := fun p hp =>
    List.mem_of_getElem? (prods_getElem hp)
  refine
    { wf := hw1
      startShape := ?_
      noStartRhs := fun p hp => (hw3 _ (hprodmem p hp)).1
      noEofRhs := fun p hp => (hw3 _ (hprodmem p hp)).2
      itemOk := hit
      startLt := hstart
      startCore := fun i hi => by rw [hcore, List.mem_singleton] at hi; exact hi ▸ hi0
      startHas := ⟨i0, by rw [hcore]; exact .head _, hi0⟩
      kernelOfDot := fun s hs i hi hd => ((h2 s hs).1 i hi).resolve_left (Nat.ne_of_gt hd)
      coreSub := fun s hs => (h2 s hs).2
      edgeTarget := h3p
      edgeExists := ?_
      actReduce := fun s t p hs ht ha => by
        simpa only [ha, Bool.and_eq_true, decide_eq_true_eq, hasItem_iff, and_assoc] using h4 s hs t ht
      actShift := fun s t s' hs ht ha => by simpa only [ha, beq_iff_eq] using h4 s hs t ht
      actAccept := fun s t hs ht ha => by
        simpa only [ha, Bool.and_eq_true, decide_eq_true_eq, hasItem_iff] using h4 s hs t ht
      gotoEdge := fun s r hs hr => h5 s hs r hr
      justified := fun s hs i hi hd => (h6 s hs i hi).imp_left fun h0 => h0.resolve_left (not_not_intro hd) }
  · split at hw2
    · exact ⟨_, ‹_›⟩
    · cases hw2
  · intro s hs i hi X hX
    have h' := h3 s hs i hi
    rw [hX] at h'
    simp only at h'
    split at h'
    · cases h'
    · exact ⟨_, ‹_›, (hasItem_iff _ _ _).mp h'⟩

end GrmVerif.Cert
