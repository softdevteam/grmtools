import GrmVerif.Lemmas.LRLookahead
import GrmVerif.Lemmas.Tree
import GrmVerif.Lemmas.Analyses
import GrmVerif.Lemmas.LRSound
import GrmVerif.Lemmas.TreeFirst
/-! The tree lemma: the driver builds any valid tree whose context fits the lookahead. -/
namespace GrmVerif.Cert
open GrmVerif Spec LR

/-- the lookahead fits the rest of a production: the token after the remaining children is in
`FIRST(remaining symbols · L)` -/
theorem la_compat {G : Grammar} {N : Nat → Bool} {F : Nat × Nat → Bool}
    (hN : ∀ r, N r = true ↔ NullableR G r) (hF : ∀ r t, F (r, t) = true ↔ FirstP G r t)
    {w : List Nat} (ks : List Tree) (hv : Tree.validList G ks = true) (i : Nat) (z : List Nat) (L : List Nat)
    (hw : w.drop i = Tree.yieldList ks ++ z)
    (hL : nextTok G w (i + (Tree.yieldList ks).length) ∈ L) :
    firstSeqL N F (ks.map (Tree.root G)) L (nextTok G w i) = true := by
  obtain ⟨h1, h2⟩ := (first_null G).2 ks hv
  rw [firstSeqL_eq_true]
  cases hy : Tree.yieldList ks with
  | nil =>
    right
    rw [hy] at hL
    exact ⟨(seqNullable_iff hN _).mpr (h1 hy), by simpa using hL⟩
  | cons a rest =>
    left
    rw [hy] at hw
    rw [nextTok_of_drop_cons hw]
    exact (firstSeq_iff hN hF _ a).mpr (h2 a rest hy)

section
variable {G : Grammar} {A : Automaton} {N : Nat → Bool} {F : Nat × Nat → Bool} {w : List Nat}

/-- **The tree lemma.** From a state holding an item with the root of a valid tree after its dot (and a
lookahead that fits what follows), the driver builds that tree, shifting its yield, and arrives in the
state the root leads to; for a list of trees spelling the rest of a production the same, child by child, and the
item with the dot moved over them is in the state it arrives in. -/
theorem tree_trees_run (P : Props G A) (PL : PropsLA G A N F)
    (hN : ∀ r, N r = true ↔ NullableR G r) (hF : ∀ r t, F (r, t) = true ↔ FirstP G r t)
    (hw : InputOk G w) :
    (∀ (T : Tree), Tree.valid G T = true → ∀ (c : Cfg) (s : Nat) (rest : List Nat) (i : Item) (z : List Nat),
      c.pstack = s :: rest → s < A.nstates → i ∈ A.closed s →
      symAt G i.p i.dot = some (Tree.root G T) →
      w.drop c.laidx = Tree.yield T ++ z →
      firstSeqL N F ((G.rhs i.p).drop (i.dot + 1)) i.la (nextTok G w (c.laidx + (Tree.yield T).length)) = true →
      ∃ s' T', A.edge s (Tree.root G T) = some s' ∧ shape T' = shape T ∧
        Steps G A w c ⟨s' :: s :: rest, T' :: c.astack, c.laidx + (Tree.yield T).length⟩) ∧
    (∀ (kids : List Tree), Tree.validList G kids = true →
      ∀ (c : Cfg) (s : Nat) (rest : List Nat) (j : Item) (z : List Nat),
      c.pstack = s :: rest → s < A.nstates → j ∈ A.closed s →
      (G.rhs j.p).drop j.dot = kids.map (Tree.root G) →
      w.drop c.laidx = Tree.yieldList kids ++ z →
      nextTok G w (c.laidx + (Tree.yieldList kids).length) ∈ j.la →
      ∃ (sts : List Nat) (ts : List Tree) (j' : Item) (top : Nat),
        Steps G A w c ⟨sts ++ s :: rest, ts ++ c.astack, c.laidx + (Tree.yieldList kids).length⟩ ∧
        sts.length = kids.length ∧ ts.length = kids.length ∧ shape.shapes ts.reverse = shape.shapes kids ∧
        (sts ++ [s]).head? = some top ∧ top < A.nstates ∧ j' ∈ A.closed top ∧ j'.p = j.p ∧
        j'.dot = j.dot + kids.length ∧ ∀ a ∈ j.la, a ∈ j'.la) := by
  refine Tree.induction ?_ ?_ ?_ ?_
  · intro t idx _ c s rest i z hp hs hi hsym hdrop _
    simp only [Tree.yield, List.singleton_append] at hdrop
    simp only [Tree.root] at hsym
    obtain ⟨s', he, hact⟩ := PL.actShiftC s hs i hi t hsym
    have hla := nextTok_of_drop_cons (G := G) hdrop
    refine ⟨s', .leaf t c.laidx, he, by simp [shape], Steps.single ?_⟩
    rw [step_shifted hp (hla.symm ▸ hact), shifted, hp, hla]
    rfl
  · -- a node: its children are built from the closure item `[p → . kids]`, then `p` is reduced
    intro p kids ih hv c s rest i z hp hs hi hsym hdrop hcompat
    obtain ⟨hplt, hkids, hvl⟩ := valid_node.mp hv
    simp only [Tree.root] at hsym
    simp only [Tree.yield] at hdrop hcompat ⊢
    obtain ⟨jq, hjq, hjqp, hjqd, hjqla⟩ := PL.closeLA s hs i hi (G.lhs p) hsym p (mem_prodsOf.mpr ⟨hplt, rfl⟩)
    have hlaz : nextTok G w (c.laidx + (Tree.yieldList kids).length) ∈ jq.la :=
      hjqla _ (nextTok_lt hw P.wf _) hcompat
    obtain ⟨sts, ts, j', top, hsteps, hlen1, hlen2, hshape, htop, htoplt, hj', hj'p, hj'd, hj'la⟩ :=
      ih hvl c s rest jq z hp hs hjq (by rw [hjqp, hjqd]; simpa using hkids.symm) hdrop hlaz
    have hn : (G.rhs p).length = kids.length := by rw [← hkids]; simp
    have hcomplete : symAt G j'.p j'.dot = none := by
      unfold symAt
      rw [hj'p, hj'd, hjqp, hjqd]
      simp [hn]
    have hpne : j'.p ≠ G.startProd := by
      rw [hj'p, hjqp]
      intro hps
      have hip := (P.itemOk s hs i (List.mem_append_left _ hi)).1
      have hmem := symAt_mem hsym
      rw [hps] at hmem
      exact P.noStartRhs i.p hip hmem
    have hact := PL.actReduceC top htoplt j' hj' hcomplete hpne _ (hj'la _ hlaz)
    rw [hj'p, hjqp] at hact
    obtain ⟨s', he, -⟩ := P.edgeExists s hs i hi _ hsym
    have hgoto : A.goto s (G.lhs p) = some s' := by
      rw [P.gotoEdge s _ hs (wf_lhs P.wf hplt)]; exact he
    refine ⟨s', .node p ts.reverse, he, by simp only [shape, hshape], hsteps.trans (Steps.single ?_)⟩
    obtain ⟨more, hmore⟩ : ∃ more, sts ++ s :: rest = top :: more := by
      obtain ⟨ys, hys⟩ := List.head?_eq_some_iff.mp htop
      exact ⟨ys ++ rest, by rw [← List.cons_append, ← hys, List.append_assoc]; rfl⟩
    have hdropst : (sts ++ s :: rest).drop (G.rhs p).length = s :: rest := by rw [hn, ← hlen1]; simp
    rw [step_red (c := ⟨sts ++ s :: rest, ts ++ c.astack, c.laidx + (Tree.yieldList kids).length⟩)
      ⟨top, more, s, rest, hmore, hact, hdropst, hgoto⟩, Rec.red, hdropst]
    simp only [reduced, hn, ← hlen2, List.take_left', List.drop_left']
  · intro _ c s rest j z hp hs hj _ _ _
    refine ⟨[], [], j, s, ?_, rfl, rfl, rfl, rfl, hs, hj, rfl, rfl, fun a ha => ha⟩
    obtain ⟨ps, as, la⟩ := c
    simp only at hp; subst hp
    simpa [Tree.yieldList] using Steps.refl (G := G) (A := A) (w := w) ⟨s :: rest, as, la⟩
  · -- the first child, then the others from the state it leads to
    intro k ks ihk ihks hv c s rest j z hp hs hj hrhs hdrop hla
    simp only [Tree.validList, Bool.and_eq_true] at hv
    obtain ⟨hvk, hvks⟩ := hv
    simp only [List.map_cons] at hrhs
    obtain ⟨hsym, hrest⟩ := drop_cons_getElem hrhs
    simp only [Tree.yieldList, List.append_assoc, List.length_append] at hdrop hla
    have hdrop_ks : w.drop (c.laidx + (Tree.yield k).length) = Tree.yieldList ks ++ z := by
      have := congrArg (List.drop (Tree.yield k).length) hdrop
      simpa [List.drop_drop, Nat.add_comm] using this
    have hcompat : firstSeqL N F ((G.rhs j.p).drop (j.dot + 1)) j.la
        (nextTok G w (c.laidx + (Tree.yield k).length)) = true := by
      rw [hrest]
      exact la_compat hN hF ks hvks _ z j.la hdrop_ks (by simpa [Nat.add_assoc] using hla)
    obtain ⟨s1, T1, he1, hshape1, hsteps1⟩ := ihk hvk c s rest j (Tree.yieldList ks ++ z) hp hs hj hsym hdrop hcompat
    obtain ⟨hs1, j1, hj1, hj1p, hj1d, hj1la⟩ := advance P PL hs hj hsym he1
    obtain ⟨sts, ts, j', top, hsteps2, hl1, hl2, hsh, htop, htoplt, hj', hj'p, hj'd, hj'la⟩ :=
      ihks hvks ⟨s1 :: s :: rest, T1 :: c.astack, c.laidx + (Tree.yield k).length⟩ s1 (s :: rest) j1 z rfl hs1 hj1
        (by rw [hj1p, hj1d]; exact hrest) hdrop_ks
        (hj1la _ (by simpa [Nat.add_assoc] using hla))
    refine ⟨sts ++ [s1], ts ++ [T1], j', top, ?_, by simp [hl1], by simp [hl2], ?_, ?_, htoplt, hj',
      by rw [hj'p, hj1p], by rw [hj'd, hj1d, List.length_cons, Nat.add_assoc, Nat.add_comm 1], fun a ha => hj'la a (hj1la a ha)⟩
    · have := hsteps1.trans hsteps2
      simpa [Tree.yieldList, Nat.add_assoc, List.append_assoc] using this
    · simp only [List.reverse_append, List.reverse_cons, List.reverse_nil, List.nil_append,
        List.singleton_append, shape.shapes]
      rw [hshape1, hsh]
    · rw [List.head?_append, htop]; rfl

theorem trees_run (P : Props G A) (PL : PropsLA G A N F)
    (hN : ∀ r, N r = true ↔ NullableR G r) (hF : ∀ r t, F (r, t) = true ↔ FirstP G r t)
    (hw : InputOk G w) :
    ∀ (kids : List Tree), Tree.validList G kids = true →
      ∀ (c : Cfg) (s : Nat) (rest : List Nat) (j : Item) (z : List Nat),
      c.pstack = s :: rest → s < A.nstates → j ∈ A.closed s →
      (G.rhs j.p).drop j.dot = kids.map (Tree.root G) →
      w.drop c.laidx = Tree.yieldList kids ++ z →
      nextTok G w (c.laidx + (Tree.yieldList kids).length) ∈ j.la →
      ∃ (sts : List Nat) (ts : List Tree) (j' : Item) (top : Nat),
        Steps G A w c ⟨sts ++ s :: rest, ts ++ c.astack, c.laidx + (Tree.yieldList kids).length⟩ ∧
        sts.length = kids.length ∧ ts.length = kids.length ∧ shape.shapes ts.reverse = shape.shapes kids ∧
        (sts ++ [s]).head? = some top ∧ top < A.nstates ∧ j' ∈ A.closed top ∧ j'.p = j.p ∧
        j'.dot = j.dot + kids.length ∧ ∀ a ∈ j.la, a ∈ j'.la :=
  (tree_trees_run P PL hN hF hw).2

end

end GrmVerif.Cert
