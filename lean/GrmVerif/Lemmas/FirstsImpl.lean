import GrmVerif.Lemmas.ImplLoop
import GrmVerif.Lemmas.Analyses
import GrmVerif.Lemmas.Total
/-! The model of `YaccFirsts::new` (`Impl.firstsNew`): invariant (dimensions + soundness), the `Step`
property of every loop level together with what a pass without change has checked, and exactness of the result. -/
namespace GrmVerif.Impl
open GrmVerif Spec Ref

/-- the bits of a `YaccFirsts` -/
inductive FBit where
  | first (r t : Nat)
  | eps (r : Nat)

def fbit (st : Firsts) : FBit → Bool
  | .first r t => mget st.firsts r t
  | .eps r => vget st.epsilons r

def funiv (G : Grammar) : List FBit :=
  (pairs G.nrules G.ntoks).map (fun x => FBit.first x.1 x.2) ++ (List.range G.nrules).map FBit.eps

theorem funiv_length (G : Grammar) : (funiv G).length = G.nrules * (G.ntoks + 1) := by
  simp [funiv, Total.pairs_length, Nat.mul_add]

theorem first_mem_funiv {G : Grammar} {r t : Nat} (hr : r < G.nrules) (ht : t < G.ntoks) :
    FBit.first r t ∈ funiv G := by
  simp only [funiv, List.mem_append, List.mem_map]
  exact Or.inl ⟨(r, t), mem_pairs.mpr ⟨hr, ht⟩, rfl⟩

theorem eps_mem_funiv {G : Grammar} {r : Nat} (hr : r < G.nrules) : FBit.eps r ∈ funiv G := by
  simp only [funiv, List.mem_append, List.mem_map, List.mem_range]
  exact Or.inr ⟨r, hr, rfl⟩

structure FInv (G : Grammar) (st : Firsts) : Prop where
  dims : MDims G.nrules G.ntoks st.firsts
  elen : st.epsilons.length = G.nrules
  sndF : ∀ r t, mget st.firsts r t = true → FirstP G r t
  sndE : ∀ r, vget st.epsilons r = true → NullableR G r

abbrev FStep (G : Grammar) (C : Firsts → Prop) (a b : FS) : Prop := Step fbit (funiv G) (FInv G) C a b

theorem setTok_step (G : Grammar) {ridx t : Nat} (hr : ridx < G.nrules) (ht : t < G.ntoks)
    (hf : FirstP G ridx t) (s : FS) (hI : FInv G s.1) :
    FStep G (fun st => mget st.firsts ridx t = true) s (setTok ridx t s) :=
  Step.set (bit := fbit) (.first ridx t) (fun st => { st with firsts := mset st.firsts ridx t })
    (first_mem_funiv hr ht) hI
    ⟨mdims_mset hI.dims hr _, hI.elen, mget_mset_elim hI.dims hr ht hf hI.sndF, hI.sndE⟩
    (by simp [fbit, mget_mset hI.dims hr ht])
    fun i hi => by
      cases i with
      | first r' t' => exact mget_mset_mono hI.dims hr ht hi
      | eps r' => exact hi

theorem setEps_step (G : Grammar) {ridx : Nat} (hr : ridx < G.nrules) (hn : NullableR G ridx)
    (s : FS) (hI : FInv G s.1) : FStep G (fun st => vget st.epsilons ridx = true) s (setEps ridx s) := by
  have hlen : ridx < s.1.epsilons.length := by rw [hI.elen]; exact hr
  refine Step.set (bit := fbit) (.eps ridx) (fun st => { st with epsilons := vset st.epsilons ridx })
    (eps_mem_funiv hr) hI ⟨hI.dims, (vset_length _ _).trans hI.elen, hI.sndF, fun r' h => ?_⟩
    (by simp [fbit, vget_vset _ _ _ hlen]) fun i hi => ?_
  · rw [vget_vset _ _ _ hlen] at h
    simp only [Bool.or_eq_true, decide_eq_true_eq] at h
    rcases h with rfl | h
    · exact hn
    · exact hI.sndE _ h
  · cases i with
    | first r' t' => exact hi
    | eps r' => exact vget_vset_mono hlen hi

theorem unionTok_step (G : Grammar) {ridx q t : Nat} (hr : ridx < G.nrules) (ht : t < G.ntoks)
    (hq : FirstP G q t → FirstP G ridx t) (s : FS) (hI : FInv G s.1) :
    FStep G (fun st => mget st.firsts q t = true → mget st.firsts ridx t = true) s (unionTok ridx q s t) := by
  unfold unionTok
  exact Step.guard (fun st : Firsts => mget st.firsts q t) hI fun h => setTok_step G hr ht (hq (hI.sndF q t h)) s hI

theorem unionRow_step (G : Grammar) {ridx q : Nat} (hr : ridx < G.nrules)
    (hq : ∀ t, FirstP G q t → FirstP G ridx t) (s : FS) (hI : FInv G s.1) :
    FStep G (fun st => ∀ t, t < G.ntoks → mget st.firsts q t = true → mget st.firsts ridx t = true) s
      (unionRow G ridx q s) :=
  foldl_step (unionTok ridx q) _ s hI G.ntoks fun t ht s hI => unionTok_step G hr ht (hq t) s hI

theorem epsLast_step (G : Grammar) {ridx q : Nat} {last : Bool} (hr : ridx < G.nrules)
    (hn : NullableR G q → last = true → NullableR G ridx) (s : FS) (hI : FInv G s.1) :
    FStep G (fun st => (vget st.epsilons q && last) = true → vget st.epsilons ridx = true) s
      (epsLast ridx q last s) := by
  unfold epsLast
  exact Step.guard (fun st : Firsts => vget st.epsilons q && last) hI fun h => by
    simp only [Bool.and_eq_true] at h
    exact setEps_step G hr (hn (hI.sndE q h.1) h.2) s hI

theorem nullableSeq_snoc {G : Grammar} {q : Nat} (hq : NullableR G q) :
    ∀ α : List Sym, NullableSeq G α → NullableSeq G (α ++ [.rule q]) := by
  intro α
  induction α with
  | nil => intro _; exact .cons q [] hq .nil
  | cons x xs ih =>
    intro h
    obtain ⟨⟨r, rfl, hr⟩, hrest⟩ := nullableSeq_head h
    exact .cons r _ hr (ih hrest)

/-- what a pass over the symbols `l` of a production of `ridx` that changes nothing has checked: the tables are
closed under `firstSeq` and `seqNullable` on `l` -/
def SymsClosed (G : Grammar) (st : Firsts) (ridx : Nat) (l : List Sym) : Prop :=
  (∀ t, t < G.ntoks → firstSeq (fun r => vget st.epsilons r) (fun x => mget st.firsts x.1 x.2) l t = true →
    mget st.firsts ridx t = true) ∧
  (l ≠ [] → seqNullable (fun r => vget st.epsilons r) l = true → vget st.epsilons ridx = true)

theorem firstSyms_step (G : Grammar) {p : Nat} (hp : p < G.nprods) (hlhs : G.lhs p < G.nrules) :
    ∀ (rest α : List Sym) (s : FS), G.rhs p = α ++ rest → NullableSeq G α →
      (∀ x ∈ rest, G.symOk x = true) → FInv G s.1 →
      ∃ s', firstSyms G (G.lhs p) rest s = some s' ∧ FStep G (fun st => SymsClosed G st (G.lhs p) rest) s s' := by
  intro rest
  induction rest with
  | nil =>
    intro α s _ _ _ hI
    exact ⟨s, rfl, Step.refl hI ⟨fun t _ h => by simp [firstSeq] at h, fun h => absurd rfl h⟩⟩
  | cons x rest ih =>
    intro α s hrhs hα hok hI
    cases x with
    | tok t =>
      have ht : t < G.ntoks := symOk_tok.mp (hok (.tok t) (by simp))
      refine ⟨setTok (G.lhs p) t s, by simp [firstSyms, ht],
        (setTok_step G hlhs ht (.tok p α t rest hp hrhs hα) s hI).imp fun _ c => ⟨fun t' _ hf => ?_, fun _ hn => ?_⟩⟩
      · simp only [firstSeq, beq_iff_eq] at hf
        subst hf; exact c
      · rw [seqNullable_tok] at hn; cases hn
    | rule q =>
      have hq : q < G.nrules := symOk_rule.mp (hok (.rule q) (by simp))
      have st1 := unionRow_step G hlhs (fun t hf => .rule p α q rest t hp hrhs hα hf) s hI
      have st2 := epsLast_step G (last := rest.isEmpty) hlhs
        (fun hnq hlast => by
          obtain rfl : rest = [] := by simpa using hlast
          exact .mk p hp (by rw [hrhs]; exact nullableSeq_snoc hnq α hα)) _ st1.inv
      have st12 := st1.trans st2
      simp only [firstSyms, hq, if_true]
      split
      · next he =>
        have hnq : NullableR G q := st2.inv.sndE q he
        obtain ⟨s', h1, h2⟩ := ih (α ++ [.rule q]) _ (by rw [hrhs]; simp) (nullableSeq_snoc hnq α hα)
          (fun x hx => hok x (by simp [hx])) st2.inv
        refine ⟨s', h1, (st12.trans h2).imp fun _ ⟨⟨c, d⟩, e1, e2⟩ => ⟨fun t ht hf => ?_, fun _ hn => ?_⟩⟩
        · simp only [firstSeq, Bool.or_eq_true, Bool.and_eq_true] at hf
          exact hf.elim (c t ht) fun hf => e1 t ht hf.2
        · rw [seqNullable_rule, Bool.and_eq_true] at hn
          by_cases hnil : rest = []
          · exact d (by simp [hn.1, hnil])
          · exact e2 hnil hn.2
      · next he =>
        -- the pass stops at `q`, whose epsilon bit is clear: after it (`he`), hence before it (by `e`)
        refine ⟨_, rfl, st12.imp fun e ⟨c, _⟩ => ⟨fun t ht hf => ?_, fun _ hn => ?_⟩⟩
        · rw [e] at he
          simp only [firstSeq, Bool.or_eq_true, Bool.and_eq_true] at hf
          exact hf.elim (c t ht) fun hf => absurd hf.1 he
        · rw [e] at he
          rw [seqNullable_rule, Bool.and_eq_true] at hn
          exact absurd hn.1 he

/-- what a pass over production `p` that changes nothing has checked -/
def ProdClosed (G : Grammar) (st : Firsts) (p : Nat) : Prop :=
  (G.rhs p = [] → vget st.epsilons (G.lhs p) = true) ∧
  (G.rhs p ≠ [] → SymsClosed G st (G.lhs p) (G.rhs p))

theorem firstProd_step (G : Grammar) (hwf : G.wf = true) {p : Nat} (hp : p < G.nprods) (s : FS)
    (hI : FInv G s.1) :
    ∃ s', firstProd G (G.lhs p) s p = some s' ∧ FStep G (fun st => ProdClosed G st p) s s' := by
  unfold firstProd
  split
  · next he =>
    have hnil : G.rhs p = [] := by simpa using he
    exact ⟨_, rfl, (setEps_step G (wf_lhs hwf hp) (.mk p hp (by rw [hnil]; exact .nil)) s hI).imp
      fun _ c => ⟨fun _ => c, fun hne => absurd hnil hne⟩⟩
  · next he =>
    have hne : G.rhs p ≠ [] := by simpa using he
    obtain ⟨s', h, st⟩ :=
      firstSyms_step G hp (wf_lhs hwf hp) (G.rhs p) [] s rfl .nil (fun x hx => wf_sym hwf hp hx) hI
    exact ⟨s', h, st.imp fun _ c => ⟨fun hnil => absurd hnil hne, fun _ => c⟩⟩

theorem firstRule_step (G : Grammar) (hwf : G.wf = true) (ridx : Nat) (s : FS) (hI : FInv G s.1) :
    ∃ s', firstRule G s ridx = some s' ∧ FStep G (fun st => ∀ p ∈ G.prodsOf ridx, ProdClosed G st p) s s' :=
  iterM_step (firstProd G ridx) (fun p st => ProdClosed G st p) (G.prodsOf ridx) s
    (fun p hp s hI => by
      obtain ⟨hp', rfl⟩ := mem_prodsOf.mp hp
      exact firstProd_step G hwf hp' s hI) hI

theorem firstRound_step (G : Grammar) (hwf : G.wf = true) (st : Firsts) (hI : FInv G st) :
    ∃ r, firstRound G st = some r ∧ FStep G (fun st => ∀ p, p < G.nprods → ProdClosed G st p) (st, false) r := by
  obtain ⟨r, h, hs⟩ := iterM_step (firstRule G) _ (List.range G.nrules) (st, false)
    (fun ridx _ s hI => firstRule_step G hwf ridx s hI) hI
  exact ⟨r, h, hs.imp fun _ c p hp =>
    c (G.lhs p) (List.mem_range.mpr (wf_lhs hwf hp)) p (mem_prodsOf.mpr ⟨hp, rfl⟩)⟩

theorem closed_nullable {G : Grammar} {st : Firsts} (hcl : ∀ p, p < G.nprods → ProdClosed G st p)
    {r : Nat} (h : NullableR G r) : vget st.epsilons r = true := by
  apply nullableR_complete (N := fun r => vget st.epsilons r) _ h
  intro p hp hseq
  by_cases hnil : G.rhs p = []
  · exact (hcl p hp).1 hnil
  · exact ((hcl p hp).2 hnil).2 hnil hseq

theorem closed_first {G : Grammar} (hwf : G.wf = true) {st : Firsts}
    (hcl : ∀ p, p < G.nprods → ProdClosed G st p) {r t : Nat} (h : FirstP G r t) :
    mget st.firsts r t = true :=
  firstP_complete hwf (N := fun r => vget st.epsilons r) (F := fun x => mget st.firsts x.1 x.2)
    (fun _ hr => closed_nullable hcl hr)
    (fun p hp t ht hf => by
      have hne : G.rhs p ≠ [] := fun e => by rw [e] at hf; cases hf
      exact ((hcl p hp).2 hne).1 t ht hf) h

theorem finv_init (G : Grammar) : FInv G (firstsInit G) := by
  refine ⟨mdims_mnew _ _, by simp [firstsInit], ?_, ?_⟩
  · intro r t h; simp [firstsInit, mget_mnew] at h
  · intro r h; simp [firstsInit, vget_replicate_false] at h

structure FExact (G : Grammar) (fst : Firsts) : Prop where
  eps : ∀ r, vget fst.epsilons r = true ↔ NullableR G r
  first : ∀ r t, mget fst.firsts r t = true ↔ FirstP G r t

theorem firstsNew_exact (G : Grammar) (hwf : G.wf = true) :
    ∃ fst, (∀ fuel, firstsFuel G ≤ fuel → firstsNew G fuel = .done fst) ∧ FExact G fst := by
  obtain ⟨st, ⟨hI, _, hcl⟩, h1⟩ := runLoop_spec fbit (funiv G) (FInv G) (firstRound G)
    (fun s hI => firstRound_step G hwf s hI) (firstsInit G) (finv_init G)
  refine ⟨st, fun fuel hf => h1 fuel ?_,
    fun r => ⟨hI.sndE r, closed_nullable hcl⟩, fun r t => ⟨hI.sndF r t, closed_first hwf hcl⟩⟩
  rw [funiv_length]
  exact hf

end GrmVerif.Impl
