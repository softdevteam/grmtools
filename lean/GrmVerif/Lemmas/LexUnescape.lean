import GrmVerif.Model.LexUnescape
/-!
The specification of the escape rewriting (`unescapeSpec`, one pass, no offsets). Then the byte-offset layer all
of C11 stands on: what `dropB`/`takeB`/`sliceB` return on a text given as a concatenation, and `PieceOf` (a text
found in another at a byte offset), through which every "the span spells the name" statement goes. Last the lemmas
that connect the two-phase offset-based scanner of `Model/LexUnescape.lean` with the specification.
-/
namespace GrmVerif.LexUnescape

/-- What `\c` (with `s` the text from `c` on) stands for in `re_str`. -/
def rewritePair (cfg : Cfg) (c : Char) (s : List Char) : List Char :=
  if c = 'b' then (if cfg.posix then cfg.bPosix else cfg.bPlain)
  else if keep cfg c s then ['\\', c]
  else [c]

/-- One pass, left to right: a backslash and the character after it form a pair and are replaced
by `rewritePair`; every other character — including a backslash that ends the text — is kept. -/
def unescapeSpec (cfg : Cfg) : List Char → List Char
  | [] => []
  | [c] => [c]
  | c :: c2 :: rest =>
    if c = '\\' then rewritePair cfg c2 (c2 :: rest) ++ unescapeSpec cfg rest
    else c :: unescapeSpec cfg (c2 :: rest)

/-- The two facts about the tables that the code relies on (both are checked against the extracted
tables in `Props/C11.lean`): without `posix_escapes` the `b` arm pushes `\b` back unchanged, and
`\b` is never classified as "keep" by the tables (so the first loop always stops at it). -/
structure Cfg.BOk (cfg : Cfg) : Prop where
  plain : cfg.bPlain = ['\\', 'b']
  notKept : ∀ s, keep cfg 'b' ('b' :: s) = false

theorem byteLen_append (a b : List Char) : byteLen (a ++ b) = byteLen a + byteLen b := by
  induction a with
  | nil => exact (Nat.zero_add _).symm
  | cons c cs ih => rw [List.cons_append, byteLen, byteLen, ih, Nat.add_assoc]

theorem dropB_zero (s : List Char) : dropB s 0 = some s := by
  cases s <;> simp [dropB]

theorem takeB_zero (s : List Char) : takeB s 0 = some [] := by
  cases s <;> simp [takeB]

theorem dropB_append (a b : List Char) : dropB (a ++ b) (byteLen a) = some b := by
  induction a with
  | nil => simp [byteLen, dropB_zero]
  | cons c cs ih =>
    have hp := Char.utf8Size_pos c
    simp only [List.cons_append, byteLen, dropB]
    rw [if_neg (by omega), if_pos (Nat.le_add_right _ _), Nat.add_sub_cancel_left, ih]

theorem takeB_append (a b : List Char) : takeB (a ++ b) (byteLen a) = some a := by
  induction a with
  | nil => simp [byteLen, takeB_zero]
  | cons c cs ih =>
    have hp := Char.utf8Size_pos c
    simp only [List.cons_append, byteLen, takeB]
    rw [if_neg (by omega), if_pos (Nat.le_add_right _ _), Nat.add_sub_cancel_left, ih]; rfl

theorem sliceB_mid (a b c : List Char) :
    sliceB (a ++ b ++ c) (byteLen a) (byteLen a + byteLen b) = some b := by
  unfold sliceB
  rw [if_pos (Nat.le_add_right _ _), List.append_assoc, dropB_append]
  simp [Nat.add_sub_cancel_left, takeB_append]

/-- A text is given with the byte offset at which it starts. `PieceOf b a`: `b` is a piece of `a`,
part of its text, at the offset it has there. -/
def PieceOf (b a : Nat × List Char) : Prop := ∃ x y, a.2 = x ++ b.2 ++ y ∧ b.1 = a.1 + byteLen x

theorem PieceOf.refl (a : Nat × List Char) : PieceOf a a := ⟨[], [], by simp, rfl⟩

theorem PieceOf.trans {c b a : Nat × List Char} (h : PieceOf c b) (h' : PieceOf b a) : PieceOf c a := by
  obtain ⟨x, y, hb, hc⟩ := h
  obtain ⟨x', y', ha, hb'⟩ := h'
  exact ⟨x' ++ x, y ++ y', by rw [ha, hb]; simp, by rw [hc, hb', byteLen_append, Nat.add_assoc]⟩

theorem PieceOf.suffix (off : Nat) (x y : List Char) : PieceOf (off + byteLen x, y) (off, x ++ y) :=
  ⟨x, [], by simp, rfl⟩

theorem PieceOf.shift {b a : Nat × List Char} (h : PieceOf b a) (k : Nat) :
    PieceOf (k + b.1, b.2) (k + a.1, a.2) := by
  obtain ⟨x, y, ha, hb⟩ := h
  exact ⟨x, y, ha, by rw [hb, Nat.add_assoc]⟩

theorem PieceOf.bounds {b a : Nat × List Char} (h : PieceOf b a) :
    a.1 ≤ b.1 ∧ b.1 + byteLen b.2 ≤ a.1 + byteLen a.2 := by
  obtain ⟨x, y, ha, hb⟩ := h
  rw [ha, hb]; simp only [byteLen_append]; omega

/-- the offsets of a piece cut it out of the text, whatever stands around that text -/
theorem PieceOf.slice {b : Nat × List Char} {pre s : List Char} (h : PieceOf b (byteLen pre, s))
    (post : List Char) : sliceB (pre ++ s ++ post) b.1 (b.1 + byteLen b.2) = some b.2 := by
  obtain ⟨x, y, hs, hb⟩ := h
  have := sliceB_mid (pre ++ x) b.2 (y ++ post)
  rw [byteLen_append] at this
  rw [hb, show s = x ++ b.2 ++ y from hs]
  simpa using this

theorem spec_cons_ne (cfg : Cfg) (c : Char) (h : c ≠ '\\') (x : List Char) :
    unescapeSpec cfg (c :: x) = c :: unescapeSpec cfg x := by
  cases x with
  | nil => simp [unescapeSpec]
  | cons d x => simp [unescapeSpec, h]

theorem spec_pair (cfg : Cfg) (c2 : Char) (x : List Char) :
    unescapeSpec cfg ('\\' :: c2 :: x) = rewritePair cfg c2 (c2 :: x) ++ unescapeSpec cfg x := by
  simp [unescapeSpec]

/-- `p`, in front of `x`, is a run of complete items that the specification keeps. -/
def AlignedWith (cfg : Cfg) (p x : List Char) : Prop :=
  unescapeSpec cfg (p ++ x) = p ++ unescapeSpec cfg x

theorem aligned_nil (cfg : Cfg) (x : List Char) : AlignedWith cfg [] x := by
  simp [AlignedWith]

theorem aligned_snoc (cfg : Cfg) (p x : List Char) (c : Char) (hp : AlignedWith cfg p (c :: x))
    (h : c ≠ '\\') : AlignedWith cfg (p ++ [c]) x := by
  unfold AlignedWith at *
  rw [List.append_assoc, List.singleton_append, hp, spec_cons_ne cfg c h, List.append_assoc]
  rfl

theorem bs_size : ('\\' : Char).utf8Size = 1 := by decide
theorem b_size : ('b' : Char).utf8Size = 1 := by decide

/-- one cursor, with the text read so far cut as the code holds it: `done` is what lies before
`last_pos` (already copied to `unesc`), `pending` what has been scanned since and is kept as written -/
theorem applyCursor_spec (cfg : Cfg) (re done pending rest2 unesc : List Char) (c : Char)
    (hre : re = done ++ pending ++ ('\\' :: c :: rest2)) :
    applyCursor cfg re ⟨byteLen done + byteLen pending, c :: rest2,
        byteLen done + byteLen pending + 1, c⟩ unesc (byteLen done)
      = some (unesc ++ pending ++ rewritePair cfg c (c :: rest2),
          byteLen done + byteLen pending + 1 + c.utf8Size) := by
  have hA : sliceB re (byteLen done) (byteLen done + byteLen pending) = some pending := by
    rw [hre]; exact sliceB_mid done pending _
  unfold applyCursor rewritePair
  by_cases hcb : c = 'b'
  · subst hcb
    simp [hA, b_size]
  · simp only [hcb, if_false]
    by_cases hk : keep cfg c (c :: rest2) = true
    · simp only [hk, if_true]
      have hB : sliceB re (byteLen done) (byteLen done + byteLen pending + 1 + c.utf8Size)
          = some (pending ++ ['\\', c]) := by
        have := sliceB_mid done (pending ++ ['\\', c]) rest2
        simp only [byteLen_append, byteLen, bs_size, Nat.add_zero, ← Nat.add_assoc] at this
        have e : done ++ (pending ++ ['\\', c]) ++ rest2 = re := by rw [hre]; simp
        rw [e] at this; exact this
      simp [hB]
    · simp only [hk]
      have hC : sliceB re (byteLen done + byteLen pending + 1)
          (byteLen done + byteLen pending + 1 + c.utf8Size) = some [c] := by
        have := sliceB_mid (done ++ pending ++ ['\\']) [c] rest2
        simp only [byteLen_append, byteLen, bs_size] at this
        have e : done ++ pending ++ ['\\'] ++ [c] ++ rest2 = re := by rw [hre]; simp
        rw [e] at this
        simpa using this
      simp [hA, hC]

/-- the second loop, from any point at which the text since `last_pos` is kept by the specification -/
theorem inner_spec (cfg : Cfg) (re : List Char) (rest : List Char) :
    ∀ (done pending unesc : List Char), re = done ++ pending ++ rest → AlignedWith cfg pending rest →
      inner cfg re rest (byteLen done + byteLen pending) unesc (byteLen done)
        = some (unesc ++ pending ++ unescapeSpec cfg rest) := by
  fun_induction unescapeSpec cfg rest with
  | case1 =>
    intro done pending unesc hre _
    simp only [inner, List.append_nil]
    rw [hre, List.append_nil, dropB_append]; simp
  | case2 c =>
    intro done pending unesc hre _
    simp only [inner]
    rw [hre, List.append_assoc, dropB_append]; simp
  | case3 c2 rest ih =>
    intro done pending unesc hre hal
    simp only [inner, if_true, bs_size]
    rw [applyCursor_spec cfg re done pending rest unesc c2 hre]
    simp only [Option.bind_some]
    have hre' : re = (done ++ pending ++ ['\\', c2]) ++ [] ++ rest := by rw [hre]; simp
    have := ih (done ++ pending ++ ['\\', c2]) [] (unesc ++ pending ++ rewritePair cfg c2 (c2 :: rest))
      hre' (aligned_nil cfg rest)
    simp only [byteLen_append, byteLen, bs_size, Nat.add_zero, ← Nat.add_assoc] at this
    rw [this]; simp
  | case4 c c2 rest hc ih =>
    intro done pending unesc hre hal
    simp only [inner, hc, if_false]
    have hre' : re = done ++ (pending ++ [c]) ++ (c2 :: rest) := by rw [hre]; simp
    have := ih done (pending ++ [c]) unesc hre' (aligned_snoc cfg pending (c2 :: rest) c hal hc)
    simp only [byteLen_append, byteLen, Nat.add_zero, ← Nat.add_assoc] at this
    rw [this]; simp

/-- a pair the tables keep is kept by the specification (it is never `\b`, by `BOk`) -/
theorem rewritePair_keep (cfg : Cfg) (hb : cfg.BOk) (c2 : Char) (x : List Char)
    (hk : keep cfg c2 (c2 :: x) = true) : rewritePair cfg c2 (c2 :: x) = ['\\', c2] := by
  unfold rewritePair
  by_cases hcb : c2 = 'b'
  · subst hcb; have := hb.notKept x; rw [this] at hk; cases hk
  · simp [hcb, hk]

/-- first loop, `break None`: the specification changes nothing -/
theorem findFirst_none (cfg : Cfg) (hb : cfg.BOk) (rest : List Char) :
    ∀ pos, findFirst cfg rest pos = none → unescapeSpec cfg rest = rest := by
  fun_induction unescapeSpec cfg rest with
  | case1 => intro pos _; rfl
  | case2 c => intro pos _; rfl
  | case3 c2 rest ih =>
    intro pos h
    simp only [findFirst, if_true] at h
    by_cases hk : keep cfg c2 (c2 :: rest) = true
    · simp only [hk, Bool.not_true, Bool.false_eq_true, if_false] at h
      rw [rewritePair_keep cfg hb c2 rest hk, ih _ h]; rfl
    · simp [hk] at h
  | case4 c c2 rest hc ih =>
    intro pos h
    simp only [findFirst, hc, if_false] at h
    rw [ih _ h]

/-- first loop, `break Some(..)`: it stops at the first pair that needs rewriting, everything
before it is kept by the specification, and the offsets are those of that pair -/
theorem findFirst_some (cfg : Cfg) (hb : cfg.BOk) (rest : List Char) :
    ∀ pos cur rest' pos', findFirst cfg rest pos = some (cur, rest', pos') →
      ∃ mid, rest = mid ++ ('\\' :: cur.c :: rest') ∧
        AlignedWith cfg mid ('\\' :: cur.c :: rest') ∧
        cur.i = pos + byteLen mid ∧ cur.j = cur.i + 1 ∧ cur.s = cur.c :: rest' ∧
        pos' = cur.j + cur.c.utf8Size := by
  fun_induction unescapeSpec cfg rest with
  | case1 => intro pos cur rest' pos' h; simp [findFirst] at h
  | case2 c => intro pos cur rest' pos' h; simp [findFirst] at h
  | case3 c2 rest ih =>
    intro pos cur rest' pos' h
    simp only [findFirst, if_true, bs_size] at h
    by_cases hk : keep cfg c2 (c2 :: rest) = true
    · simp only [hk, Bool.not_true, Bool.false_eq_true, if_false] at h
      obtain ⟨mid, hr, hal, hi, hj, hs, hp⟩ := ih _ cur rest' pos' h
      refine ⟨'\\' :: c2 :: mid, by rw [hr]; simp, ?_, ?_, hj, hs, hp⟩
      · unfold AlignedWith at *
        have hk' : keep cfg c2 (c2 :: (mid ++ '\\' :: cur.c :: rest')) = true := by rw [← hr]; exact hk
        simp only [List.cons_append]
        rw [spec_pair, rewritePair_keep cfg hb c2 _ hk', hal]; simp
      · simp only [hi, byteLen, bs_size, Nat.add_assoc]
    · simp only [hk, Bool.not_false, if_true, Option.some.injEq, Prod.mk.injEq] at h
      obtain ⟨hc, hr, hp⟩ := h
      subst hc; subst hr; subst hp
      exact ⟨[], by simp, aligned_nil cfg _, by simp [byteLen], rfl, rfl, rfl⟩
  | case4 c c2 rest hc ih =>
    intro pos cur rest' pos' h
    simp only [findFirst, hc, if_false] at h
    obtain ⟨mid, hr, hal, hi, hj, hs, hp⟩ := ih _ cur rest' pos' h
    refine ⟨c :: mid, by rw [hr]; simp, ?_, ?_, hj, hs, hp⟩
    · unfold AlignedWith at *
      simp only [List.cons_append]
      rw [spec_cons_ne cfg c hc, hal]
    · simp only [hi, byteLen, Nat.add_assoc]

/-- **the scanner computes the one-pass specification; no slice panics** -/
theorem unescape_spec (cfg : Cfg) (hb : cfg.BOk) (re : List Char) :
    unescape cfg re = some (unescapeSpec cfg re) := by
  unfold unescape
  cases h : findFirst cfg re 0 with
  | none => simp [findFirst_none cfg hb re 0 h]
  | some t =>
    obtain ⟨cur, rest, pos⟩ := t
    obtain ⟨mid, hr, hal, hi, hj, hs, hp⟩ := findFirst_some cfg hb re 0 cur rest pos h
    obtain ⟨i, s, j, c⟩ := cur
    simp only [Nat.zero_add] at hr hal hi hj hs hp
    subst hi; subst hj; subst hs; subst hp
    have h1 := applyCursor_spec cfg re [] mid rest [] c hr
    simp only [byteLen, Nat.zero_add, List.nil_append] at h1
    simp only [h1, Option.bind_some]
    have hre' : re = (mid ++ ['\\', c]) ++ [] ++ rest := by rw [hr]; simp
    have h2 := inner_spec cfg re rest (mid ++ ['\\', c]) [] (mid ++ rewritePair cfg c (c :: rest)) hre'
      (aligned_nil cfg rest)
    simp only [byteLen_append, byteLen, bs_size, Nat.add_zero, ← Nat.add_assoc] at h2
    rw [h2]
    unfold AlignedWith at hal
    rw [hr, hal, spec_pair]; simp

end GrmVerif.LexUnescape
