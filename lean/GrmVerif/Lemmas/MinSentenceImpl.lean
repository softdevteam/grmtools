import GrmVerif.Lemmas.MinCostsImpl
import GrmVerif.Model.MinSentencesImpl
/-! The model of `SentenceGenerator::min_sentence` (`Impl.minSentenceWith`). The two closures first:
`cheapest_prods` returns exactly the productions whose cost is the minimal cost of their rule, in production
order (`cheapestProds_spec`), and `cheapest_prod` returns the first of them (`cheapestProd_eq_head`). Then the
`while` loop as a big-step relation (`Runs`): the loop works off a frame by a run or uses up its fuel, it never panics
(`msLoop_frame`), and what a run appends is derived at the minimal cost (`Runs.derives`). -/
namespace GrmVerif.Impl
open GrmVerif Spec Ref

theorem concr_getElem? {m : List (Option Nat)} {q : Nat} (hq : q < m.length) :
    (concr m)[q]? = some ((look m q).getD U16MAX) := by
  simp [concr, look, List.getElem?_eq_getElem hq]

theorem cget_concr (m : List (Option Nat)) (q : Nat) (hq : q < m.length) :
    cget (concr m) q = (look m q).getD U16MAX := by
  rw [cget, List.getD_eq_getElem?_getD, concr_getElem? hq]
  rfl

/-- a cost as `cheapest_prod` has it in a `u16`: `u16::MAX` stands for "no cost" (the entry of the vector `concr m`)
and for everything from `u16::MAX` on (`saturating_add`) -/
def satO (o : Option Nat) : Nat := min (o.getD U16MAX) U16MAX

theorem satAdd_eq (a b : Nat) : satAdd a b = min (a + b) U16MAX := Nat.min_def.symm

/-- saturating after every addition is saturating once at the end -/
theorem min_sat_add (a b c M : Nat) : min (min (a + b) M + c) M = min (a + (b + c)) M := by
  rcases Nat.le_total (a + b) M with h | h
  · rw [Nat.min_eq_left h, Nat.add_assoc]
  · rw [Nat.min_eq_right h, Nat.min_eq_right (Nat.le_add_right M c), Nat.min_eq_right (by omega)]

/-- one `saturating_add` of an entry of the vector (a missing cost reads `u16::MAX` and saturates the sum) -/
theorem satO_step (acc : Nat) (o r : Option Nat) :
    satO (addO (some (satAdd acc (o.getD U16MAX))) r) = satO (addO (some acc) (addO o r)) := by
  cases r with
  | none => cases o <;> simp only [addO]
  | some b =>
    cases o with
    | none =>
      show min (satAdd acc U16MAX + b) U16MAX = min U16MAX U16MAX
      rw [satAdd_eq, min_sat_add, Nat.min_self]
      exact Nat.min_eq_right (Nat.le_trans (Nat.le_add_right _ _) (Nat.le_add_left _ _))
    | some a => exact (congrArg (fun x => min (x + b) U16MAX) (satAdd_eq acc a)).trans (min_sat_add acc a b U16MAX)

theorem cpSyms_spec (G : Grammar) (tc : List Nat) (m : List (Option Nat)) (htc : tc.length = G.ntoks)
    (hlen : m.length = G.nrules) :
    ∀ (l : List Sym) (acc : Nat), (∀ s ∈ l, G.symOk s = true) → acc ≤ U16MAX →
      cpSyms tc (some (concr m)) l acc = some (satO (addO (some acc) (seqCost (tcF tc) (look m) l))) := by
  intro l
  induction l with
  | nil => intro acc _ h; simp only [cpSyms, seqCost, addO, satO, Option.getD_some, Nat.add_zero, Nat.min_eq_left h]
  | cons s rest ih =>
    intro acc hok hacc
    have hok' : ∀ s ∈ rest, G.symOk s = true := fun x hx => hok x (List.mem_cons_of_mem _ hx)
    have hsat : ∀ c, satAdd acc c ≤ U16MAX := fun c => satAdd_eq acc c ▸ Nat.min_le_right _ _
    rw [seqCost, ← satO_step]
    cases s with
    | tok t =>
      have ht : t < tc.length := htc ▸ symOk_tok.mp (hok (.tok t) (by simp))
      simp only [cpSyms, tc_get ht, symCost, Option.getD_some]
      exact ih _ hok' (hsat _)
    | rule q =>
      have hq : q < m.length := hlen ▸ symOk_rule.mp (hok (.rule q) (by simp))
      simp only [cpSyms, concr_getElem? hq, symCost]
      exact ih _ hok' (hsat _)

/-- the saturated cost `cheapest_prod` computes for production `p` -/
def satCost (G : Grammar) (tc : List Nat) (m : List (Option Nat)) (p : Nat) : Nat :=
  satO (seqCost (tcF tc) (look m) (G.rhs p))

theorem satCost_eq_iff (G : Grammar) (tc : List Nat) (m : List (Option Nat)) {p x : Nat} (hlt : x < U16MAX) :
    satCost G tc m p = x ↔ seqCost (tcF tc) (look m) (G.rhs p) = some x := by
  unfold satCost satO
  cases seqCost (tcF tc) (look m) (G.rhs p) with
  | none => simp only [Option.getD_none, reduceCtorEq, iff_false]; omega
  | some c => simp only [Option.getD_some, Option.some.injEq]; omega

/-- the productions of `q` whose cost, every rule at its minimal cost, is `x` -/
def cheapSet (G : Grammar) (tc : List Nat) (m : List (Option Nat)) (q x : Nat) : List Nat :=
  (G.prodsOf q).filter (fun p => seqCost (tcF tc) (look m) (G.rhs p) == some x)

/-- the loop of `cheapest_prods` from the state `(lo, idxs)`: `low_sc` ends as the lowest saturated cost, and
`low_idxs` holds the productions of that cost in order (after `idxs`, if `lo` was already that low: the earlier ties
survive exactly when the minimum did not drop) -/
theorem cpsProds_spec (G : Grammar) (hwf : G.wf = true) (tc : List Nat) (m : List (Option Nat))
    (htc : tc.length = G.ntoks) (hlen : m.length = G.nrules) :
    ∀ (ps : List Nat) (lo : Option Nat) (idxs : List Nat), (∀ p ∈ ps, p < G.nprods) → (lo = none → idxs = []) →
      ∀ lo', lo' = minO lo (minOver (fun p => some (satCost G tc m p)) ps) →
      iterM (cpsProd G tc (some (concr m))) ps (lo, idxs) =
        some (lo', (if lo' = lo then idxs else []) ++ ps.filter (fun p => lo' == some (satCost G tc m p))) := by
  intro ps
  induction ps with
  | nil => intro lo idxs _ _ lo' h; simp [iterM, h, minOver, minO_none_right]
  | cons p ps ih =>
    intro lo idxs hall hnone lo' hlo'
    have hrest : ∀ q ∈ ps, q < G.nprods := fun q hq => hall q (List.mem_cons_of_mem _ hq)
    have hsc : cpSyms tc (some (concr m)) (G.rhs p) 0 = some (satCost G tc m p) := by
      rw [cpSyms_spec G tc m htc hlen (G.rhs p) 0 (fun s hs => wf_sym hwf (hall p (by simp)) hs) (Nat.zero_le _), satCost]
      cases seqCost (tcF tc) (look m) (G.rhs p) <;> simp [addO]
    simp only [iterM, cpsProd, hsc, List.filter_cons]
    rw [minOver, ← minO_assoc] at hlo'
    generalize satCost G tc m p = sc at hlo' ⊢
    obtain ⟨v, hv, hle⟩ := leO_some (leO_minO_left (some sc) (minOver (fun p => some (satCost G tc m p)) ps))
    cases lo with
    | none =>
      simp only [leO', ltSome, if_true, Bool.false_eq_true, if_false, hnone rfl, List.nil_append]
      rw [ih (some sc) _ hrest (fun h => nomatch h) lo' hlo']
      by_cases h : lo' = some sc <;> simp [h]
    | some b =>
      rcases Nat.lt_trichotomy sc b with hlt | heq | hgt
      · have e : minO (some b) (some sc) = some sc := by simp only [minO, Nat.min_eq_right (Nat.le_of_lt hlt)]
        rw [e] at hlo'
        have hne : lo' ≠ some b := by rw [hlo', hv]; intro h; cases h; omega
        simp only [leO', ltSome, hlt, Nat.le_of_lt hlt, decide_true, if_true, List.nil_append]
        rw [ih (some sc) _ hrest (fun h => nomatch h) lo' hlo']
        by_cases h : lo' = some sc <;> simp [h, hne, Nat.ne_of_lt hlt]
      · subst heq
        have e : minO (some sc) (some sc) = some sc := by simp only [minO, Nat.min_self]
        rw [e] at hlo'
        simp only [leO', ltSome, Nat.lt_irrefl, Nat.le_refl, decide_true, decide_false, if_true]
        rw [ih (some sc) _ hrest (fun h => nomatch h) lo' hlo']
        by_cases h : lo' = some sc <;> simp [h]
      · have e : minO (some b) (some sc) = some b := by simp only [minO, Nat.min_eq_left (Nat.le_of_lt hgt)]
        rw [e] at hlo'
        obtain ⟨v', hv', hle'⟩ := leO_some (leO_minO_left (some b) (minOver (fun p => some (satCost G tc m p)) ps))
        have hne : (lo' == some sc) = false := by rw [hlo', hv']; simp; omega
        simp only [leO', Nat.not_le.mpr hgt, decide_false, hne]
        exact ih (some b) idxs hrest hnone lo' hlo'

/-- rule `r` has the minimal cost `x` and `x` is below `u16::MAX`: `min_sentence_cost(r)` answers `x`, and `r` has a
minimal sentence -/
structure Priced (G : Grammar) (m : List (Option Nat)) (r x : Nat) : Prop where
  lt : r < G.nrules
  cost : look m r = some x
  fin : x < U16MAX

/-- **`cheapest_prods` returns exactly the cheapest productions, in production order**: for a rule whose
minimal cost `x` is below `u16::MAX`, the productions of the rule whose cost — every rule at its minimal
cost — is `x` -/
theorem cheapestProds_spec (G : Grammar) (hwf : G.wf = true) (tc : List Nat) (m : List (Option Nat))
    (htc : tc.length = G.ntoks) (hmt : MinTable G (tcF tc) m) {q x : Nat} (h : Priced G m q x) :
    cheapestProds G tc (some (concr m)) q = some (cheapSet G tc m q x) := by
  obtain ⟨hq, hx, hlt⟩ := h
  have hps : ∀ p ∈ G.prodsOf q, p < G.nprods := fun p hp => (mem_prodsOf.mp hp).1
  have hfix := hmt.fix q hq
  rw [hx] at hfix
  -- the lowest saturated cost is `x`: a production of cost `x` exists, and one of lower cost would have
  -- that cost unsaturated
  have hlo : some x = minO none (minOver (fun p => some (satCost G tc m p)) (G.prodsOf q)) := by
    symm
    apply minOver_eq_some
    · obtain ⟨pt, hpt, hptc⟩ := ruleCost_attained hfix.symm
      exact ⟨pt, hpt, congrArg some ((satCost_eq_iff G tc m hlt).mpr hptc)⟩
    · intro p hp
      apply Classical.byContradiction
      intro hnle
      have hl : satCost G tc m p < x := by simpa [leO] using hnle
      have hsc := (satCost_eq_iff G tc m (Nat.lt_trans hl hlt)).mp rfl
      have hge := ruleCost_le (G := G) (tc := tcF tc) (c := look m) hp
      rw [← hfix, hsc] at hge
      exact hnle hge
  unfold cheapestProds
  rw [cpsProds_spec G hwf tc m htc hmt.len (G.prodsOf q) none [] hps (fun _ => rfl) (some x) hlo]
  simp only [reduceCtorEq, if_false, List.nil_append, Option.some.injEq, cheapSet]
  apply List.filter_congr
  intro p hp
  rw [Bool.eq_iff_iff, beq_iff_eq, beq_iff_eq, Option.some.injEq, eq_comm]
  exact satCost_eq_iff G tc m hlt

theorem mem_cheapSet {G : Grammar} {tc : List Nat} {m : List (Option Nat)} {q x p : Nat} :
    p ∈ cheapSet G tc m q x ↔ p ∈ G.prodsOf q ∧ seqCost (tcF tc) (look m) (G.rhs p) = some x := by
  simp [cheapSet]

theorem Priced.sub {G : Grammar} (hwf : G.wf = true) {tc : List Nat} {m : List (Option Nat)} {r x p q : Nat}
    (h : Priced G m r x) (hp : p ∈ cheapSet G tc m r x) (hq : Sym.rule q ∈ G.rhs p) : ∃ x', Priced G m q x' := by
  obtain ⟨hpm, hpc⟩ := mem_cheapSet.mp hp
  obtain ⟨x', hx', hle'⟩ := seqCost_mem _ x hpc q hq
  exact ⟨x', wf_rule hwf (mem_prodsOf.mp hpm).1 hq, hx', Nat.lt_of_le_of_lt hle' h.fin⟩

theorem cheapSet_ne_nil (G : Grammar) (tc : List Nat) (m : List (Option Nat)) (hmt : MinTable G (tcF tc) m)
    {q x : Nat} (hq : q < G.nrules) (hx : look m q = some x) : cheapSet G tc m q x ≠ [] := by
  have hfix := hmt.fix q hq
  rw [hx] at hfix
  obtain ⟨pt, hpt, hptc⟩ := ruleCost_attained hfix.symm
  intro h
  have : pt ∈ cheapSet G tc m q x := mem_cheapSet.mpr ⟨hpt, hptc⟩
  rw [h] at this
  cases this

/-- **`cheapest_prod` returns the first of the productions `cheapest_prods` returns** (it panics exactly when
`cheapest_prods` panics or returns no production): `<` keeps the first production of lowest cost where `<=`
with `clear()` on `<` keeps them all -/
theorem cheapestProd_eq_head (G : Grammar) (tc : List Nat) (mc : Option (List Nat)) (r : Nat) :
    cheapestProd G tc mc r = (cheapestProds G tc mc r).bind List.head? := by
  have key : ∀ (ps : List Nat) (lo : Option Nat) (idxs : List Nat), (lo = none ↔ idxs = []) →
      iterM (cpProd G tc mc) ps (lo, idxs.head?) =
        (iterM (cpsProd G tc mc) ps (lo, idxs)).map (fun s => (s.1, s.2.head?)) := by
    intro ps
    induction ps with
    | nil => intro lo idxs _; rfl
    | cons p ps ih =>
      intro lo idxs h
      simp only [iterM, cpProd, cpsProd]
      cases cpSyms tc mc (G.rhs p) 0 with
      | none => rfl
      | some sc =>
        cases lo with
        | none =>
          rw [h.mp rfl]
          exact ih (some sc) [p] (by simp)
        | some b =>
          obtain ⟨i, idxs', rfl⟩ : ∃ i idxs', idxs = i :: idxs' := by
            cases idxs with
            | nil => exact nomatch h.mpr rfl
            | cons i idxs' => exact ⟨i, idxs', rfl⟩
          rcases Nat.lt_trichotomy sc b with hlt | heq | hgt
          · simp only [ltO, leO', ltSome, hlt, Nat.le_of_lt hlt, decide_true, if_true]
            exact ih (some sc) [p] (by simp)
          · subst heq
            simp only [ltO, leO', ltSome, Nat.lt_irrefl, Nat.le_refl, decide_true, decide_false, if_true]
            exact ih (some sc) (i :: idxs' ++ [p]) (by simp)
          · simp only [ltO, leO', ltSome, Nat.lt_asymm hgt, Nat.not_le.mpr hgt, decide_false]
            exact ih (some b) (i :: idxs') h
  unfold cheapestProd cheapestProds
  have := key (G.prodsOf r) none [] (by simp)
  simp only [List.head?_nil] at this
  rw [this]
  cases iterM (cpsProd G tc mc) (G.prodsOf r) (none, []) <;> rfl

theorem cheapestProd_tight (G : Grammar) (hwf : G.wf = true) (tc : List Nat) (m : List (Option Nat))
    (htc : tc.length = G.ntoks) (hmt : MinTable G (tcF tc) m) {q x : Nat} (h : Priced G m q x) :
    ∃ cp, cheapestProd G tc (some (concr m)) q = some cp ∧ cp ∈ G.prodsOf q ∧
      seqCost (tcF tc) (look m) (G.rhs cp) = some x := by
  rw [cheapestProd_eq_head, cheapestProds_spec G hwf tc m htc hmt h]
  cases hcs : cheapSet G tc m q x with
  | nil => exact absurd hcs (cheapSet_ne_nil G tc m hmt h.lt h.cost)
  | cons cp _ =>
    have : cp ∈ cheapSet G tc m q x := by rw [hcs]; exact List.mem_cons_self
    exact ⟨cp, rfl, mem_cheapSet.mp this⟩

/-- the `while` loop of `min_sentence` in big steps: the frames needed for the symbols `l` take `k` iterations and
append `out` to the sentence (a frame is popped and scanned up to its first rule in one iteration; that rule costs the
iterations of its cheapest production, and the rest of the frame is pushed back) -/
inductive Runs (G : Grammar) (tc : List Nat) (mc : Option (List Nat)) : List Sym → Nat → List Nat → Prop
  | nil : Runs G tc mc [] 1 []
  | tok (t : Nat) (l : List Sym) (k : Nat) (out : List Nat) :
      Runs G tc mc l k out → Runs G tc mc (.tok t :: l) k (t :: out)
  | rule (q : Nat) (rest : List Sym) (cp k1 : Nat) (o1 : List Nat) (k2 : Nat) (o2 : List Nat) :
      cheapestProd G tc mc q = some cp → Runs G tc mc (G.rhs cp) k1 o1 → Runs G tc mc rest k2 o2 →
      Runs G tc mc (.rule q :: rest) (1 + k1 + k2) (o1 ++ o2)

section
variable {G : Grammar} {tc : List Nat} {mc : Option (List Nat)}

theorem drop_succ_of_cons {α : Type} {l : List α} {i : Nat} {a : α} {r : List α} (e : l.drop i = a :: r) :
    l.drop (i + 1) = r := by rw [← List.drop_drop, e]; rfl

/-! One iteration, by the first of the symbols the top frame still has to produce. A token costs no iteration. -/

theorem msLoop_nil {p i : Nat} (e : (G.rhs p).drop i = []) (n : Nat) (s : List Nat) (st : List (Nat × Nat)) :
    msLoop G tc mc (n + 1) s ((p, i) :: st) = msLoop G tc mc n s st := by
  simp only [msLoop, e, msScan]

theorem msLoop_tok {p i t : Nat} {l : List Sym} (e : (G.rhs p).drop i = .tok t :: l) (n : Nat) (s : List Nat)
    (st : List (Nat × Nat)) :
    msLoop G tc mc (n + 1) s ((p, i) :: st) = msLoop G tc mc (n + 1) (s ++ [t]) ((p, i + 1) :: st) := by
  simp only [msLoop, e, drop_succ_of_cons e, msScan]

theorem msLoop_rule {p i q cp : Nat} {l : List Sym} (e : (G.rhs p).drop i = .rule q :: l)
    (hcp : cheapestProd G tc mc q = some cp) (n : Nat) (s : List Nat) (st : List (Nat × Nat)) :
    msLoop G tc mc (n + 1) s ((p, i) :: st) = msLoop G tc mc n s ((cp, 0) :: (p, i + 1) :: st) := by
  simp only [msLoop, e, msScan, hcp]

theorem Runs.pos {l : List Sym} {k : Nat} {out : List Nat} (h : Runs G tc mc l k out) : 0 < k := by
  induction h with
  | nil => exact Nat.one_pos
  | tok _ _ _ _ _ ih => exact ih
  | rule => omega

theorem runs_compose {l : List Sym} {k : Nat} {out : List Nat} (h : Runs G tc mc l k out) :
    ∀ (p i : Nat), (G.rhs p).drop i = l → ∀ (fuel : Nat) (s : List Nat) (st : List (Nat × Nat)),
      msLoop G tc mc (k + fuel) s ((p, i) :: st) = msLoop G tc mc fuel (s ++ out) st := by
  induction h with
  | nil => intro p i e fuel s st; rw [Nat.add_comm, msLoop_nil e, List.append_nil]
  | tok t l k out h ih =>
    intro p i e fuel s st
    obtain ⟨k', rfl⟩ : ∃ k', k = k' + 1 := ⟨k - 1, by have := h.pos; omega⟩
    rw [Nat.add_right_comm, msLoop_tok e, ← Nat.add_right_comm, ih p (i + 1) (drop_succ_of_cons e), List.append_assoc]
    rfl
  | rule q rest cp k1 o1 k2 o2 hcp _ _ ih1 ih2 =>
    intro p i e fuel s st
    have : 1 + k1 + k2 + fuel = (k1 + (k2 + fuel)) + 1 := by omega
    rw [this, msLoop_rule e hcp, ih1 cp 0 rfl, ih2 p (i + 1) (drop_succ_of_cons e), List.append_assoc]

/-- **the loop, one frame at a time**: the top frame, if what it still has to produce has a cost below `u16::MAX`,
either uses up the fuel or is worked off by a run; a panic is impossible because every rule it meets has such a cost
too, so `cheapest_prod` answers -/
theorem msLoop_frame (hwf : G.wf = true) (m : List (Option Nat)) (htc : tc.length = G.ntoks)
    (hmt : MinTable G (tcF tc) m) :
    ∀ (fuel : Nat) (l : List Sym) (p i c : Nat), p < G.nprods → (G.rhs p).drop i = l →
      seqCost (tcF tc) (look m) l = some c → c < U16MAX → ∀ (s : List Nat) (st : List (Nat × Nat)),
      msLoop G tc (some (concr m)) fuel s ((p, i) :: st) = .fuelOut ∨
      ∃ k out, Runs G tc (some (concr m)) l k out ∧ k ≤ fuel := by
  intro fuel
  induction fuel using Nat.strongRecOn with
  | _ fuel ih =>
    cases fuel with
    | zero => intro _ _ _ _ _ _ _ _ _ _; exact Or.inl rfl
    | succ n =>
      intro l
      induction l with
      | nil => intro _ _ _ _ _ _ _ _ _; exact Or.inr ⟨1, [], .nil, Nat.succ_le_succ (Nat.zero_le n)⟩
      | cons a l ihl =>
        intro p i c hp e hc hlt s st
        obtain ⟨ca, cl, hca, hcl, rfl⟩ := seqCost_cons_some.mp hc
        have hll : cl < U16MAX := Nat.lt_of_le_of_lt (Nat.le_add_left _ _) hlt
        cases a with
        | tok t =>
          rw [msLoop_tok e]
          refine (ihl p (i + 1) cl hp (drop_succ_of_cons e) hcl hll _ st).imp id ?_
          rintro ⟨k, out, hr, hk⟩
          exact ⟨k, t :: out, .tok t l k out hr, hk⟩
        | rule q =>
          have hq : Priced G m q ca := ⟨wf_rule hwf hp (List.mem_of_mem_drop (e ▸ List.mem_cons_self)), hca,
            Nat.lt_of_le_of_lt (Nat.le_add_right _ _) hlt⟩
          obtain ⟨cp, hcp, hcpm, hcpc⟩ := cheapestProd_tight G hwf tc m htc hmt hq
          rw [msLoop_rule e hcp]
          -- first the frame of the cheapest production, then, with the fuel that is left, the rest of this frame
          rcases ih n (Nat.lt_succ_self n) (G.rhs cp) cp 0 ca (mem_prodsOf.mp hcpm).1 rfl hcpc hq.fin s
            ((p, i + 1) :: st) with h1 | ⟨k1, o1, hr1, hk1⟩
          · exact Or.inl h1
          · obtain ⟨f, rfl⟩ : ∃ f, n = k1 + f := ⟨n - k1, (Nat.add_sub_cancel' hk1).symm⟩
            rw [runs_compose hr1 cp 0 rfl]
            rcases ih f (Nat.lt_succ_of_le (Nat.le_add_left _ _)) l p (i + 1) cl hp (drop_succ_of_cons e) hcl hll
              (s ++ o1) st with h2 | ⟨k2, o2, hr2, hk2⟩
            · exact Or.inl h2
            · exact Or.inr ⟨1 + k1 + k2, o1 ++ o2, .rule q l cp k1 o1 k2 o2 hcp hr1 hr2, by omega⟩

theorem Runs.derives (hwf : G.wf = true) (m : List (Option Nat)) (htc : tc.length = G.ntoks)
    (hmt : MinTable G (tcF tc) m) {l : List Sym} {k : Nat} {out : List Nat}
    (h : Runs G tc (some (concr m)) l k out) : ∀ c, (∀ s ∈ l, G.symOk s = true) →
      seqCost (tcF tc) (look m) l = some c → c < U16MAX → DerivesSeq G l out ∧ cost (tcF tc) out = c := by
  induction h with
  | nil => intro c _ hc _; exact ⟨.nil, Option.some.inj hc⟩
  | tok t l k out _ ih =>
    intro c hok hc hlt
    obtain ⟨_, cl, hca, hcl, rfl⟩ := seqCost_cons_some.mp hc
    cases hca
    obtain ⟨hd, rfl⟩ := ih cl (fun s hs => hok s (List.mem_cons_of_mem _ hs)) hcl
      (Nat.lt_of_le_of_lt (Nat.le_add_left _ _) hlt)
    exact ⟨.cons _ _ [t] out (.tok t) hd, by simp [cost]⟩
  | rule q rest cp k1 o1 k2 o2 hcp _ _ ih1 ih2 =>
    intro c hok hc hlt
    obtain ⟨x, cr, hq, hcr, rfl⟩ := seqCost_cons_some.mp hc
    have hx : x < U16MAX := Nat.lt_of_le_of_lt (Nat.le_add_right _ _) hlt
    obtain ⟨cp', hcp', hcpm, hcpc⟩ := cheapestProd_tight G hwf tc m htc hmt
      ⟨symOk_rule.mp (hok _ List.mem_cons_self), hq, hx⟩
    obtain rfl : cp' = cp := Option.some.inj (hcp'.symm.trans hcp)
    obtain ⟨hp1, rfl⟩ := mem_prodsOf.mp hcpm
    obtain ⟨hd1, rfl⟩ := ih1 x (fun s hs => wf_sym hwf hp1 hs) hcpc hx
    obtain ⟨hd2, rfl⟩ := ih2 cr (fun s hs => hok s (List.mem_cons_of_mem _ hs)) hcr
      (Nat.lt_of_le_of_lt (Nat.le_add_left _ _) hlt)
    exact ⟨.cons _ _ o1 o2 (.rule cp' o1 hp1 hd1) hd2, cost_append _ _ _⟩

/-- **`min_sentence` for a rule with a minimal sentence**: `cheapest_prod` answers with a production of that cost, and
the loop either runs out of fuel or returns what a run of that production appends -/
theorem minSentenceWith_runs (hwf : G.wf = true) (m : List (Option Nat)) (htc : tc.length = G.ntoks)
    (hmt : MinTable G (tcF tc) m) {r x : Nat} (h : Priced G m r x) :
    ∃ cp, cheapestProd G tc (some (concr m)) r = some cp ∧ cp ∈ G.prodsOf r ∧
      seqCost (tcF tc) (look m) (G.rhs cp) = some x ∧ ∀ fuel,
      minSentenceWith G tc (some (concr m)) r fuel = .fuelOut ∨
      ∃ k out, Runs G tc (some (concr m)) (G.rhs cp) k out ∧ k < fuel ∧
        minSentenceWith G tc (some (concr m)) r fuel = .done out := by
  obtain ⟨cp, hcp, hcpm, hcpc⟩ := cheapestProd_tight G hwf tc m htc hmt h
  refine ⟨cp, hcp, hcpm, hcpc, fun fuel => ?_⟩
  unfold minSentenceWith
  rw [hcp]
  simp only []
  rcases msLoop_frame hwf m htc hmt fuel (G.rhs cp) cp 0 x (mem_prodsOf.mp hcpm).1 rfl hcpc h.fin [] [] with
    hf | ⟨k, out, hrun, hk⟩
  · exact Or.inl hf
  · obtain ⟨f, rfl⟩ : ∃ f, fuel = k + f := ⟨fuel - k, (Nat.add_sub_cancel' hk).symm⟩
    rw [runs_compose hrun cp 0 rfl]
    cases f with
    | zero => exact Or.inl rfl
    | succ f => exact Or.inr ⟨k, out, hrun, Nat.lt_add_of_pos_right (Nat.succ_pos f), by simp [msLoop]⟩

end

/-- under the hypotheses of the theorems of `Props/C17.lean` the cost vector `min_sentence` and `min_sentences`
use is `concr c` -/
theorem minSentences_unfold (G : Grammar) (hwf : G.wf = true) (tc : List Nat) (htc : tc.length = G.ntoks)
    (c : List (Option Nat)) (hc : minCosts G (tcF tc) = some c)
    (hfit : sumsFit G (tcF tc) c = true) :
    MinTable G (tcF tc) c ∧
    (∀ r fuel, minSentence G tc r fuel = minSentenceWith G tc (some (concr c)) r fuel) ∧
    ∀ r fuel, minSentences G tc r fuel = minSentencesWith G tc (some (concr c)) fuel r := by
  obtain ⟨m, hm, hmt, h⟩ := ruleMinCosts_exact G hwf tc htc
  rw [hc] at hm
  simp only [Option.some.injEq] at hm
  subst hm
  have hmc := h hfit (minCostsFuel G) (Nat.le_refl _)
  exact ⟨hmt, fun r fuel => by unfold minSentence; rw [hmc], fun r fuel => by unfold minSentences; rw [hmc]⟩

end GrmVerif.Impl
