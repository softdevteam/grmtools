import GrmVerif.Lemmas.LRIter
/-! Termination of `Rec.feed` from the local certificate. -/
namespace GrmVerif.Term
open GrmVerif Rec

variable {G : Grammar} {A : Automaton}

/-- the stack predicate `Q` is kept by every reduction the table prescribes under `la` -/
def StepClosed (G : Grammar) (A : Automaton) (la : Nat) (Q : List Nat → Prop) : Prop :=
  ∀ st tl p prior rest s', Q (st :: tl) → A.action st la = .reduce p →
    List.drop (G.rhs p).length (st :: tl) = prior :: rest → A.goto prior (G.lhs p) = some s' →
    Q (s' :: prior :: rest)

theorem StepClosed.red {la : Nat} {Q : List Nat → Prop} (hQ : StepClosed G A la Q) {a : List Nat} {p s' : Nat}
    (hq : Q a) (h : Red G A la a p s') : Q (Rec.red G p s' a) := by
  obtain ⟨st, tl, prior, rest, rfl, hact, hd, hg⟩ := h
  rw [Rec.red, hd]
  exact hQ st tl p prior rest s' hq hact hd hg

/-- **`feed` terminates** on every stack with the property `Q` (kept by reductions) when the local
runs from the one-element stacks with `Q` and from the top two states of the longer stacks with `Q`
end within `N` steps. -/
theorem feed_total_of (G : Grammar) (A : Automaton) (la N : Nat) (Q : List Nat → Prop)
    (hQ : StepClosed G A la Q)
    (H1 : ∀ s, Q [s] → localRun G A la N [s] ≠ .fuelOut)
    (H2 : ∀ s b rest, Q (s :: b :: rest) → localRun G A la N [s, b] ≠ .fuelOut) :
    ∀ (L : Nat) (stack : List Nat), stack.length ≤ L → Q stack →
      ∃ fuel, feed G A la fuel stack ≠ .fuelOut := by
  intro L
  induction L with
  | zero =>
    intro stack h _
    obtain rfl := List.length_eq_zero_iff.mp (Nat.le_zero.mp h)
    exact ⟨1, nofun⟩
  | succ L ih =>
    intro stack h hq
    -- with the top one or two states as the known part `xs`: the run ends where the local run ends, or goes
    -- on from a shorter stack
    have key : ∀ xs ys, stack = xs ++ ys → localRun G A la N xs ≠ .fuelOut → (ys ≠ [] → ys.length + 1 ≤ L) →
        ∃ fuel, feed G A la fuel stack ≠ .fuelOut := by
      rintro xs ys rfl hloc hlen
      -- locality: the local run ends at some `xs'`; the reductions it made are reductions of the whole stack, and if
      -- the whole stack allows one more, that one pops all of `xs'`
      obtain ⟨ps, xs', hr, hb, -, -⟩ := feed_inv (mt (localRun_eq_fuelOut N xs).mpr hloc)
      have hr := hr.append ys
      rcases red_or_stuck G A la (xs' ++ ys) with ⟨p, s', hred⟩ | hs
      · obtain ⟨h1, h2⟩ := hb.append hred
        obtain ⟨fuel', hf⟩ := ih _ (Nat.le_trans h1 (hlen h2)) (hQ.red (hr.keeps (fun _ _ _ => hQ.red) hq) hred)
        exact ⟨ps.length + (fuel' + 1), by rw [feed_reds hr, feed_red hred]; exact hf⟩
      · exact ⟨ps.length + 1, by rw [feed_reds hr, feed_stuck hs]; exact stop_ne_fuelOut A la _⟩
    match stack, h, hq, key with
    | [], _, _, _ => exact ⟨1, nofun⟩
    | [s], _, hq, key => exact key [s] [] rfl (H1 s hq) (absurd rfl)
    | s :: b :: rest, h, hq, key =>
      exact key [s, b] rest rfl (H2 s b rest hq) fun _ => Nat.le_of_succ_le_succ h

end GrmVerif.Term
