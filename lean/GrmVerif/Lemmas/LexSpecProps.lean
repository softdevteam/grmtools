import GrmVerif.Lemmas.LexSpecLoop
/-!
The layout of a specification: its declaration lines, its rules section and its rule lines
(`declLinesOf`, `rulesSectionOf`, `ruleLinesOf`: pure classifications of lines, no state), the rule a
rule line denotes, the names a declaration line declares; that these lines are pieces of the text, in
order; and how the two sections of `specParse` go through one line (`decl_cons`, `rule_cons`).
-/
namespace GrmVerif.LexSpecParse
open GrmVerif.LexUnescape GrmVerif.LexParse

/-- the declaration lines of a text (from their first non-blank character): the lines before the
first `%%` line that are neither blank nor comments -/
def declLinesOf (comments : Bool) : List Line → List Line
  | [] => []
  | (off, l) :: ls =>
    let t := l.dropWhile isPWS
    let o := off + byteLen (l.takeWhile isPWS)
    if t.isEmpty then declLinesOf comments ls
    else if comments && ['/', '/'].isPrefixOf t then declLinesOf comments ls
    else if ['%', '%'].isPrefixOf t then []
    else (o, t) :: declLinesOf comments ls

/-- the lines of the rules section: what follows `%%` and spaces/tabs on the first `%%` line, then
the remaining lines; `none` if there is no `%%` line -/
def rulesSectionOf (comments : Bool) : List Line → Option (List Line)
  | [] => none
  | (off, l) :: ls =>
    let t := l.dropWhile isPWS
    let o := off + byteLen (l.takeWhile isPWS)
    if t.isEmpty then rulesSectionOf comments ls
    else if comments && ['/', '/'].isPrefixOf t then rulesSectionOf comments ls
    else if ['%', '%'].isPrefixOf t then
      let a := t.drop 2
      some ((o + 2 + byteLen (a.takeWhile isSpaceSep), a.dropWhile isSpaceSep) :: ls)
    else rulesSectionOf comments ls

/-- the rule lines of a rules section: the lines up to the next `%%` line that are not empty, not
comments, and do not start with a blank -/
def ruleLinesOf (comments : Bool) : List Line → List Line
  | [] => []
  | (off, l) :: ls =>
    match l with
    | [] => ruleLinesOf comments ls
    | c :: _ =>
      if comments && ['/', '/'].isPrefixOf l then ruleLinesOf comments ls
      else if isPWS c then ruleLinesOf comments ls
      else if ['%', '%'].isPrefixOf l then []
      else (off, l) :: ruleLinesOf comments ls

/-- look the names of a parsed rule line up in the start states `sts`: the rule with token id `k`
of the line at offset `off` (`none` if a name is unknown) -/
def resolveRule (sts : List StartState) (off k : Nat) (rl : RuleLine) : Option Rule :=
  (resolveTarget sts rl.target).bind fun tgt =>
    (resolveAll sts rl.states).map fun ids =>
      ⟨k, rl.name, (off + rl.spanStart, off + rl.spanEnd), rl.re, ids, tgt⟩

theorem resolveRule_some {sts : List StartState} {off k : Nat} {rl : RuleLine} {r : Rule}
    (h : resolveRule sts off k rl = some r) :
    ∃ tgt ids, resolveTarget sts rl.target = some tgt ∧ resolveAll sts rl.states = some ids ∧
      r = ⟨k, rl.name, (off + rl.spanStart, off + rl.spanEnd), rl.re, ids, tgt⟩ := by
  simp only [resolveRule, Option.bind_eq_some_iff, Option.map_eq_some_iff] at h
  obtain ⟨tgt, hrt, ids, hra, rfl⟩ := h
  exact ⟨tgt, ids, hrt, hra, rfl⟩

/-- the rule a rule line denotes: parsed by the line-level specification, names looked up -/
def ruleOfLine (env : Env) (sts : List StartState) (ln : Line) (k : Nat) : Option Rule :=
  match ruleLineSpec env.cfg isPWS isSpaceSep ln.2 with
  | .ok rl => resolveRule sts ln.1 k rl
  | .error _ => none

/-- offset, within a rule line, of what follows its last space or tab (the `<` of a target state,
else the name) -/
def nameOffOf (raw : List Char) : Nat :=
  match lastSplit isSpaceSep (dropTrailing isPWS raw) with
  | some (pre, s, _) => byteLen pre + s.utf8Size
  | none => 0

/-- the names a declaration line declares: name, span in the text, exclusive? -/
def declaredOn (ln : Line) : List (List Char × (Nat × Nat) × Bool) :=
  match parseDeclLine isPWS ln.2 with
  | .ok (excl, names) => names.map (fun t => (t.1, (ln.1 + t.2.1, ln.1 + t.2.2), excl))
  | .error _ => []

theorem mem_declaredOn {ln : Line} {oc : List Char × (Nat × Nat) × Bool} (h : oc ∈ declaredOn ln) :
    ∃ excl names t, parseDeclLine isPWS ln.2 = .ok (excl, names) ∧ t ∈ names ∧
      oc = (t.1, (ln.1 + t.2.1, ln.1 + t.2.2), excl) := by
  unfold declaredOn at h
  split at h
  · next excl names hpd =>
    obtain ⟨t, ht, rfl⟩ := List.mem_map.mp h
    exact ⟨excl, names, t, hpd, ht, rfl⟩
  · cases h

/-- start states numbered consecutively from `k` -/
def numberFrom (k : Nat) (l : List (List Char × (Nat × Nat) × Bool)) : List StartState :=
  (l.zipIdx k).map (fun p => ⟨p.2, p.1.1, p.1.2.1, p.1.2.2⟩)

theorem numberFrom_append (k : Nat) (a b : List (List Char × (Nat × Nat) × Bool)) :
    numberFrom k (a ++ b) = numberFrom k a ++ numberFrom (k + a.length) b := by
  simp [numberFrom, List.zipIdx_append]

theorem numberFrom_length (k : Nat) (a : List (List Char × (Nat × Nat) × Bool)) :
    (numberFrom k a).length = a.length := by simp [numberFrom]

theorem numberFrom_names (k : Nat) (l : List (List Char × (Nat × Nat) × Bool)) :
    (numberFrom k l).map (·.name) = l.map (·.1) := by
  conv => rhs; rw [← List.zipIdx_map_fst k l]
  rw [numberFrom, List.map_map, List.map_map]
  rfl

theorem numberFrom_getElem? (k : Nat) (occs : List (List Char × (Nat × Nat) × Bool)) (j : Nat) (s : StartState)
    (h : (numberFrom k occs)[j]? = some s) :
    s.id = k + j ∧ occs[j]? = some (s.name, s.span, s.excl) := by
  unfold numberFrom at h
  simp only [List.getElem?_map, List.getElem?_zipIdx, Option.map_eq_some_iff] at h
  obtain ⟨p, ⟨a, ha, rfl⟩, rfl⟩ := h
  exact ⟨rfl, by simpa using ha⟩

/-- each line ends before the next begins -/
def Sorted (ls : List Line) : Prop := List.Pairwise (fun a b : Line => a.1 + byteLen a.2 ≤ b.1) ls

theorem splitLinesAt_pieces : ∀ (s : List Char) (off : Nat),
    Sorted (splitLinesAt s off) ∧ ∀ ln ∈ splitLinesAt s off, PieceOf ln (off, s) := by
  intro s
  induction s with
  | nil => intro off; simp [splitLinesAt, Sorted, PieceOf.refl]
  | cons c cs ih =>
    intro off
    obtain ⟨hs, hp⟩ := ih (off + c.utf8Size)
    have hstep : PieceOf (off + c.utf8Size, cs) (off, c :: cs) := PieceOf.suffix off [c] cs
    by_cases hc : isLineSep c = true
    · simp only [splitLinesAt, hc, if_true]
      refine ⟨List.pairwise_cons.mpr ⟨fun b hb => ?_, hs⟩, fun ln hln => ?_⟩
      · have := (hp b hb).bounds; simp only [byteLen] at this ⊢; omega
      · rcases List.mem_cons.mp hln with rfl | hln
        · exact ⟨[], c :: cs, rfl, rfl⟩
        · exact (hp ln hln).trans hstep
    · simp only [Bool.not_eq_true] at hc
      simp only [splitLinesAt, hc, Bool.false_eq_true, if_false]
      rw [splitLinesAt_eq cs] at hs hp ⊢
      obtain ⟨h1, h2⟩ := List.pairwise_cons.mp hs
      refine ⟨List.pairwise_cons.mpr ⟨fun b hb => ?_, h2⟩, fun ln hln => ?_⟩
      · have := h1 b hb; simp only [byteLen_cons] at this ⊢; omega
      · rcases List.mem_cons.mp hln with rfl | hln
        · obtain ⟨x, y, hxy, hx⟩ := hp _ (List.mem_cons_self)
          have hx0 : x = [] := byteLen_eq_zero x (by simp only at hx; omega)
          subst hx0
          exact ⟨[], y, by simpa using congrArg (c :: ·) hxy, rfl⟩
        · exact (hp ln (List.mem_cons_of_mem _ hln)).trans hstep

/-- how `declSpec`, `declLinesOf` and `rulesSectionOf` go through one line together: the line is
skipped; or it is the `%%` line; or it is a declaration line, from its first non-blank character -/
theorem decl_cons (comments : Bool) (off : Nat) (l : List Char) (ls : List Line) :
    (declLinesOf comments ((off, l) :: ls) = declLinesOf comments ls ∧
      rulesSectionOf comments ((off, l) :: ls) = rulesSectionOf comments ls ∧
      ∀ env len st, env.comments = comments →
        declSpec env len ((off, l) :: ls) st = declSpec env len ls st) ∨
    (∃ r sec0, l.dropWhile isPWS = '%' :: '%' :: r ∧
      sec0 = (off + byteLen (l.takeWhile isPWS) + 2 + byteLen (r.takeWhile isSpaceSep), r.dropWhile isSpaceSep) ∧
      declLinesOf comments ((off, l) :: ls) = [] ∧
      rulesSectionOf comments ((off, l) :: ls) = some (sec0 :: ls) ∧
      ∀ env len st, env.comments = comments →
        declSpec env len ((off, l) :: ls) st = .ok (sec0 :: ls, st)) ∨
    (declLinesOf comments ((off, l) :: ls)
        = (off + byteLen (l.takeWhile isPWS), l.dropWhile isPWS) :: declLinesOf comments ls ∧
      rulesSectionOf comments ((off, l) :: ls) = rulesSectionOf comments ls ∧
      ∀ env len st, env.comments = comments →
        (∀ es, declLineStep (off + byteLen (l.takeWhile isPWS)) (l.dropWhile isPWS) st = .error es →
          declSpec env len ((off, l) :: ls) st = .error es) ∧
        (∀ e st', declLineStep (off + byteLen (l.takeWhile isPWS)) (l.dropWhile isPWS) st = .ok (e, st') →
          declSpec env len ((off, l) :: ls) st = declSpec env len ls st')) := by
  by_cases h1 : (l.dropWhile isPWS).isEmpty = true
  · exact Or.inl ⟨by rw [declLinesOf, if_pos h1], by rw [rulesSectionOf, if_pos h1],
      fun env len st _ => by rw [declSpec, if_pos h1]⟩
  · by_cases hcm : (comments && ['/', '/'].isPrefixOf (l.dropWhile isPWS)) = true
    · exact Or.inl ⟨by rw [declLinesOf, if_neg h1, if_pos hcm], by rw [rulesSectionOf, if_neg h1, if_pos hcm],
        fun env len st he => by rw [declSpec, he, if_neg h1, if_pos hcm]⟩
    · by_cases hp : ['%', '%'].isPrefixOf (l.dropWhile isPWS) = true
      · obtain ⟨r, hr⟩ := prefix_pct hp
        refine Or.inr (Or.inl ⟨r, _, hr, rfl, by rw [declLinesOf, if_neg h1, if_neg hcm, if_pos hp], ?_,
          fun env len st he => ?_⟩)
        · rw [rulesSectionOf, if_neg h1, if_neg hcm, if_pos hp, hr]; rfl
        · rw [declSpec, he, if_neg h1, if_neg hcm, if_pos hp, hr]; rfl
      · refine Or.inr (Or.inr ⟨by rw [declLinesOf, if_neg h1, if_neg hcm, if_neg hp],
          by rw [rulesSectionOf, if_neg h1, if_neg hcm, if_neg hp], fun env len st he => ?_⟩)
        rw [declSpec, he, if_neg h1, if_neg hcm, if_neg hp]
        exact ⟨fun es h => by rw [h], fun e st' h => by rw [h]⟩

/-- how `ruleSpec` and `ruleLinesOf` go through one line together: the line is skipped (a line that
starts with a blank leaves a `VerbatimNotSupported` behind); or it is the `%%` line; or it is a rule line -/
theorem rule_cons (env : Env) (off : Nat) (l : List Char) (ls : List Line) (st : PState) :
    (ruleLinesOf env.comments ((off, l) :: ls) = ruleLinesOf env.comments ls ∧
      ∃ st1, (st1 = st ∨ ∃ x, st1 = { st with errs := st.errs ++ [x] }) ∧
        ruleSpec env ((off, l) :: ls) st = ruleSpec env ls st1) ∨
    (ruleLinesOf env.comments ((off, l) :: ls) = [] ∧
      (ruleSpec env ((off, l) :: ls) st = .ok st ∨
        ruleSpec env ((off, l) :: ls) st = .error (st.errs ++ [mkErr .routinesNotSupported off]))) ∨
    (ruleLinesOf env.comments ((off, l) :: ls) = (off, l) :: ruleLinesOf env.comments ls ∧
      (∀ es, ruleStepSpec env off l st = .error es → ruleSpec env ((off, l) :: ls) st = .error es) ∧
      (∀ st', ruleStepSpec env off l st = .ok st' → ruleSpec env ((off, l) :: ls) st = ruleSpec env ls st')) := by
  cases l with
  | nil => exact Or.inl ⟨by rw [ruleLinesOf], st, Or.inl rfl, by rw [ruleSpec]⟩
  | cons c l' =>
    rw [ruleSpec, ruleLinesOf]
    by_cases hcm : (env.comments && ['/', '/'].isPrefixOf (c :: l')) = true
    · rw [if_pos hcm, if_pos hcm]
      exact Or.inl ⟨rfl, st, Or.inl rfl, rfl⟩
    · rw [if_neg hcm, if_neg hcm]
      by_cases hw : isPWS c = true
      · rw [if_pos hw, if_pos hw]
        exact Or.inl ⟨rfl, _, Or.inr ⟨_, rfl⟩, rfl⟩
      · rw [if_neg hw, if_neg hw]
        by_cases hp : ['%', '%'].isPrefixOf (c :: l') = true
        · rw [if_pos hp, if_pos hp]
          refine Or.inr (Or.inl ⟨rfl, ?_⟩)
          split
          · exact Or.inl rfl
          · exact Or.inr rfl
        · rw [if_neg hp, if_neg hp]
          exact Or.inr (Or.inr ⟨rfl, fun es h => by rw [h], fun st' h => by rw [h]⟩)

theorem ruleLinesOf_sublist (env : Env) : ∀ ls : List Line, (ruleLinesOf env.comments ls).Sublist ls := by
  intro ls
  induction ls with
  | nil => exact List.Sublist.slnil
  | cons l0 ls ih =>
    obtain ⟨off, l⟩ := l0
    rcases rule_cons env off l ls initState with ⟨h, _⟩ | ⟨h, _⟩ | ⟨h, _⟩ <;> rw [h]
    · exact ih.cons _
    · exact List.nil_sublist _
    · exact ih.cons_cons _

/-- the items of a text: its declaration lines, then the lines of its rules section -/
def itemsOf (comments : Bool) (ls : List Line) : List Line :=
  declLinesOf comments ls ++ (rulesSectionOf comments ls).getD []

/-- **layout**: the items of a text are pieces of its lines, in the order of the text -/
theorem itemsOf_layout (comments : Bool) : ∀ ls : List Line, Sorted ls →
    Sorted (itemsOf comments ls) ∧ ∀ b ∈ itemsOf comments ls, ∃ a ∈ ls, PieceOf b a := by
  intro ls
  induction ls with
  | nil => intro _; exact ⟨List.Pairwise.nil, fun b hb => by simp [itemsOf, declLinesOf, rulesSectionOf] at hb⟩
  | cons l0 ls ih =>
    intro hs
    obtain ⟨off, l⟩ := l0
    obtain ⟨hbefore, hs'⟩ := List.pairwise_cons.mp hs
    obtain ⟨ihs, ihp⟩ := ih hs'
    have lift : ∀ {b : Line}, (∃ a ∈ ls, PieceOf b a) → ∃ a ∈ (off, l) :: ls, PieceOf b a :=
      fun ⟨a, ha, h⟩ => ⟨a, List.mem_cons_of_mem _ ha, h⟩
    -- an item cut out of this line, in front of items of the later lines
    have head : ∀ (it : Line) (rest : List Line), PieceOf it (off, l) → Sorted rest →
        (∀ b ∈ rest, ∃ a ∈ ls, PieceOf b a) →
        Sorted (it :: rest) ∧ ∀ b ∈ it :: rest, ∃ a ∈ (off, l) :: ls, PieceOf b a := by
      intro it rest hit hr hp
      refine ⟨List.pairwise_cons.mpr ⟨fun b hb => ?_, hr⟩, fun b hb => ?_⟩
      · obtain ⟨a, ha, hba⟩ := hp b hb
        have h1 := hit.bounds.2
        have h2 := hbefore a ha
        have h3 := hba.bounds.1
        simp only at h1 h2; omega
      · rcases List.mem_cons.mp hb with rfl | hb
        · exact ⟨(off, l), List.mem_cons_self, hit⟩
        · exact lift (hp b hb)
    unfold itemsOf at ihs ihp ⊢
    rcases decl_cons comments off l ls with ⟨hd, hr, _⟩ | ⟨r, sec0, hr0, rfl, hd, hr, _⟩ | ⟨hd, hr, _⟩ <;> rw [hd, hr]
    · exact ⟨ihs, fun b hb => lift (ihp b hb)⟩
    · refine head _ ls ?_ hs' fun b hb => ⟨b, hb, PieceOf.refl b⟩
      have h1 := PieceOf.suffix off (l.takeWhile isPWS ++ ['%', '%'] ++ r.takeWhile isSpaceSep) (r.dropWhile isSpaceSep)
      have e : l.takeWhile isPWS ++ ['%', '%'] ++ r.takeWhile isSpaceSep ++ r.dropWhile isSpaceSep = l := by
        rw [List.append_assoc, List.takeWhile_append_dropWhile, List.append_assoc]
        show l.takeWhile isPWS ++ '%' :: '%' :: r = l
        rw [← hr0, List.takeWhile_append_dropWhile]
      have hb : off + byteLen (l.takeWhile isPWS ++ ['%', '%'] ++ r.takeWhile isSpaceSep)
          = off + byteLen (l.takeWhile isPWS) + 2 + byteLen (r.takeWhile isSpaceSep) := by
        simp only [byteLen_append, byteLen, percent_size]; omega
      rwa [e, hb] at h1
    · refine head _ _ ?_ ihs ihp
      have := PieceOf.suffix off (l.takeWhile isPWS) (l.dropWhile isPWS)
      rwa [List.takeWhile_append_dropWhile] at this

/-- the items of the text `pre ++ body` (`body` read from the offset at which `pre` ends): in order,
and each found in the text at its offset -/
theorem text_layout (comments : Bool) (pre body : List Char) :
    Sorted (itemsOf comments (splitLinesAt body (byteLen pre))) ∧
    ∀ ln ∈ itemsOf comments (splitLinesAt body (byteLen pre)),
      ∃ x y, pre ++ body = x ++ ln.2 ++ y ∧ byteLen x = ln.1 := by
  obtain ⟨hs, hp⟩ := splitLinesAt_pieces body (byteLen pre)
  refine ⟨(itemsOf_layout comments _ hs).1, fun ln hln => ?_⟩
  obtain ⟨a, ha, hla⟩ := (itemsOf_layout comments _ hs).2 ln hln
  obtain ⟨x, y, hxy, hx⟩ := hla.trans (hp a ha)
  exact ⟨pre ++ x, y, by rw [show body = x ++ ln.2 ++ y from hxy]; simp, by rw [byteLen_append]; exact hx.symm⟩

end GrmVerif.LexSpecParse
