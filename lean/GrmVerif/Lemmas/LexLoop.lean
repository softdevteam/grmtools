import GrmVerif.Lemmas.LexScan
import GrmVerif.Lemmas.LexStack
/-! Helper lemmas for C09, model against reference lexer: the loop of the model (`lexLoop`) does, iteration by
iteration, what the reference lexer (`specLoop`) does on the decoded stack, and terminates. -/
namespace GrmVerif.Lex

theorem step_cons (cfg : Cfg) (ml : Nat → Nat → Option Nat) (init : St) (i c : Nat) (cur : St) (rest : Stack) :
    step cfg ml init i ((c, cur) :: rest) =
      match bestFrom cur (fun r => ml r i) cfg.rules 0 with
      | none => .stop [.err i (some cur.id)]
      | some (ridx, len) => fire cfg init i ((c, cur) :: rest) len ridx := by
  unfold step
  simp only [scanRules_eq_bestFrom]
  cases hb : bestFrom cur (fun r => ml r i) cfg.rules 0 with
  | none => rfl
  | some p => simp only [if_pos (bestFrom_some hb).pos, gt_iff_lt]

theorem transition_decode {cfg : Cfg} {init : St} {stk : Stack} (r : Rule)
    (hok : StackOK cfg.states stk) (hne : stk ≠ []) (hi : getState cfg.states init.id = some init) :
    match transition cfg init stk r with
    | some stk' => specMove cfg init (decode stk) r = some (decode stk') ∧ StackOK cfg.states stk' ∧ stk' ≠ []
    | none => specMove cfg init (decode stk) r = none := by
  unfold transition specMove
  cases r.target with
  | none => exact ⟨rfl, hok, hne⟩
  | some p =>
    obtain ⟨tid, op⟩ := p
    simp only
    cases hg : getState cfg.states tid with
    | none => rfl
    | some s =>
      obtain ⟨stk', h1, h2, h3, h4⟩ := applyOp_refines cfg.states init stk s op hok hne (getState_id hg) hi
      simp only [h1]
      exact ⟨by rw [h2], h3, h4⟩

theorem step_decode {cfg : Cfg} (ml : Nat → Nat → Option Nat) {init : St} (i : Nat) {stk : Stack}
    (hok : StackOK cfg.states stk) (hne : stk ≠ []) (hi : getState cfg.states init.id = some init) :
    match step cfg ml init i stk with
    | .stop evs => specStep cfg ml init i (decode stk) = (evs, none)
    | .cont ev i' stk' => specStep cfg ml init i (decode stk) = ([ev], some (i', decode stk')) ∧
        StackOK cfg.states stk' ∧ stk' ≠ [] := by
  cases stk with
  | nil => exact absurd rfl hne
  | cons e rest =>
    obtain ⟨c, cur⟩ := e
    have htr := fun r => transition_decode (init := init) r hok hne hi
    rw [decode_cons_ok hok] at htr ⊢
    rw [step_cons]
    unfold specStep
    simp only
    cases bestFrom cur (fun r => ml r i) cfg.rules 0 with
    | none => rfl
    | some p =>
      obtain ⟨ridx, len⟩ := p
      unfold fire
      simp only
      cases cfg.rules[ridx]? with
      | none => rfl
      | some r =>
        simp only
        cases emitFor r ridx i len with
        | none => rfl
        | some ev =>
          have htr := htr r
          simp only
          cases ht : transition cfg init ((c, cur) :: rest) r with
          | none => rw [ht] at htr; simp only [htr]
          | some stk' => rw [ht] at htr; exact ⟨by rw [htr.1], htr.2⟩

theorem step_cont_progress {cfg : Cfg} {ml : Nat → Nat → Option Nat} {init : St} {i i' : Nat}
    {stk stk' : Stack} {ev : Ev} (h : step cfg ml init i stk = .cont ev i' stk') : i < i' := by
  unfold step at h
  cases stk with
  | nil => simp at h
  | cons e rest =>
    simp only at h
    split at h
    · rename_i hpos
      unfold fire at h
      split at h
      · cases h
      · split at h
        · cases h
        · split at h
          · cases h
          · injection h with _ h2 _; omega
    · cases h

/-- with enough fuel the loop of the model is the reference lexer on the decoded stack -/
theorem lexLoop_decode (cfg : Cfg) (ml : Nat → Nat → Option Nat) (n : Nat) (init : St)
    (hi : getState cfg.states init.id = some init) :
    ∀ (fuel i : Nat) (stk : Stack), StackOK cfg.states stk → stk ≠ [] → n ≤ i + fuel →
      ∃ fin, lexLoop cfg ml n init fuel i stk = some ((specLoop cfg ml n init fuel i (decode stk)).1, fin) ∧
        decode fin = (specLoop cfg ml n init fuel i (decode stk)).2 ∧ StackOK cfg.states fin ∧ fin ≠ [] := by
  intro fuel
  induction fuel with
  | zero =>
    intro i stk hok hne hf
    exact ⟨stk, by rw [lexLoop, if_neg (show ¬ i < n from Nat.not_lt.mpr hf)]; rfl, rfl, hok, hne⟩
  | succ f ih =>
    intro i stk hok hne hf
    unfold lexLoop specLoop
    by_cases hin : i < n
    · rw [if_pos hin, if_pos hin]
      have hs := step_decode ml i hok hne hi
      cases hst : step cfg ml init i stk with
      | stop evs =>
        rw [hst] at hs
        rw [hs]
        exact ⟨stk, rfl, rfl, hok, hne⟩
      | cont ev i' stk' =>
        rw [hst] at hs
        obtain ⟨hs, hok', hne'⟩ := hs
        have := step_cont_progress hst
        obtain ⟨fin, h1, h2⟩ := ih i' stk' hok' hne' (by omega)
        rw [hs]
        simp only [h1]
        exact ⟨fin, rfl, h2⟩
    · rw [if_neg hin, if_neg hin]
      exact ⟨stk, rfl, rfl, hok, hne⟩

/-- the model is the reference lexer: the same events, and the final stack decodes to the reference's -/
theorem lexRun_eq_specRun (cfg : Cfg) (ml : Nat → Nat → Option Nat) (n : Nat) :
    ∃ fin, lexRun cfg ml n = some ((specRun cfg ml n).1, fin) ∧ decode fin = (specRun cfg ml n).2 ∧
      StackOK cfg.states fin ∧ ((getState cfg.states 0).isSome → fin ≠ []) := by
  unfold lexRun specRun
  cases hinit : getState cfg.states 0 with
  | none => exact ⟨[], rfl, rfl, nofun, nofun⟩
  | some init =>
    have hi := getState_id hinit
    obtain ⟨fin, h1, h2, h3, h4⟩ :=
      lexLoop_decode cfg ml n init hi n 0 [(1, init)] (stackOK_init hi) nofun (Nat.le_add_left n 0)
    exact ⟨fin, h1, h2, h3, fun _ => h4⟩

end GrmVerif.Lex
