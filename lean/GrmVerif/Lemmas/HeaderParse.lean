import GrmVerif.Lemmas.Header
/-!
Specification lemmas (one per function of `Model/Header.lean`) in the Hoare style of
`Res.Sat`: from a sliceable position each function returns `ok` at a later sliceable position with
well-formed spans, or an error with well-formed spans; never `panic`, never `fuelOut`. Each step is judged from the
position it starts at; `parseWs_seq` and `Sat.from` carry the bound back to the start of the function.
-/
namespace GrmVerif.Header

theorem slice_sat {ε : Type} {src : List Char} {i : Nat} {E : ε → Prop} (h : Valid src i) :
    (slice src i : Res ε _).Sat (fun rest => dropBytes src i = some rest) E := by
  obtain ⟨rest, hr⟩ := h
  rw [slice_ok hr]
  exact hr

theorem parseWs_sat {ε : Type} {src : List Char} {i : Nat} {E : ε → Prop} (h : Valid src i) :
    (parseWs src i : Res ε _).Sat (fun j => i ≤ j ∧ Valid src j) E :=
  Sat.bind (slice_sat h) fun _ hr =>
    Sat.pure ⟨Nat.le_add_right _ _, valid_advance hr (List.takeWhile_prefix _)⟩

/-- `pos`, `R` as in `Sat.from` -/
theorem parseWs_seq {ε β : Type} {src : List Char} {i : Nat} {k : Nat → Res ε β} {pos : β → Nat} {R : β → Prop}
    {E : ε → Prop} (h : Valid src i) (hk : ∀ j, Valid src j → (k j).Sat (fun x => j ≤ pos x ∧ R x) E) :
    (parseWs src i >>= k).Sat (fun x => i ≤ pos x ∧ R x) E :=
  Sat.bind (parseWs_sat h) fun j ⟨hij, hj⟩ => Sat.from (hk j hj) hij

theorem sliceRange_sat {ε : Type} {src : List Char} {a : Nat} {rest pre : List Char} {E : ε → Prop}
    (h : dropBytes src a = some rest) (hp : pre <+: rest) :
    (sliceRange src a (a + byteLen pre) : Res ε _).Sat (fun t => t = pre) E := by
  rw [sliceRange_ok h hp]; rfl

theorem lookahead_eq {ε : Type} {src s : List Char} {i : Nat} {rest : List Char}
    (h : dropBytes src i = some rest) :
    (lookahead src s i : Res ε _) = .ok (if s.isPrefixOf rest then some (i + byteLen s) else none) := by
  rw [lookahead, slice_ok h]
  rfl

theorem lookahead_cases {src s rest : List Char} {i : Nat} {C : Option Nat → Prop}
    (hr : dropBytes src i = some rest) (hsome : ∀ j, MatchAt src s i j → C (some j)) (hnone : C none) :
    C (if s.isPrefixOf rest then some (i + byteLen s) else none) := by
  split
  · next hp =>
    obtain ⟨t, ht⟩ := List.isPrefixOf_iff_prefix.1 hp
    exact hsome _ ⟨t, ht ▸ hr, rfl⟩
  · exact hnone

theorem lookahead_bind {ε β : Type} {src s : List Char} {i : Nat} {k : Option Nat → Res ε β}
    {Q : β → Prop} {E : ε → Prop} (h : Valid src i)
    (hsome : ∀ j, MatchAt src s i j → (k (some j)).Sat Q E) (hnone : (k none).Sat Q E) :
    (lookahead src s i >>= k).Sat Q E := by
  obtain ⟨rest, hr⟩ := h
  rw [lookahead_eq hr]
  exact lookahead_cases (C := fun o => (k o).Sat Q E) hr hsome hnone

theorem reName_some {rest m : List Char} (h : reName rest = some m) : m <+: rest ∧ m ≠ [] :=
  headRun_some h

theorem reDigits_some {rest m : List Char} (h : reDigits rest = some m) : m <+: rest ∧ m ≠ [] :=
  headRun_some h

theorem reStringBody_some {rest m : List Char} (h : reStringBody rest = some m) :
    ∃ body q, m = body ++ [q] ∧ q.utf8Size = 1 ∧ m <+: rest := by
  fun_induction reStringBody rest generalizing m with
  | case1 => exact nomatch h
  | case2 c cs hc =>
    obtain rfl := Option.some.inj h
    exact ⟨[], c, rfl, ascii_size c (hc ▸ by decide), List.prefix_append [c] cs⟩
  | case3 c hc1 hc2 => exact nomatch h
  | case4 c hc1 hc2 d ds hd => exact nomatch h
  | case5 c hc1 hc2 d ds hd ih =>
    obtain ⟨m', hm', rfl⟩ := Option.map_eq_some_iff.1 h
    obtain ⟨body, q, rfl, hq, hp⟩ := ih hm'
    exact ⟨c :: d :: body, q, rfl, hq, List.cons_prefix_cons.2 ⟨rfl, List.cons_prefix_cons.2 ⟨rfl, hp⟩⟩⟩
  | case6 c cs hc1 hc2 ih =>
    obtain ⟨m', hm', rfl⟩ := Option.map_eq_some_iff.1 h
    obtain ⟨body, q, rfl, hq, hp⟩ := ih hm'
    exact ⟨c :: body, q, rfl, hq, List.cons_prefix_cons.2 ⟨rfl, hp⟩⟩

theorem err_at_sat {α : Type} {src : List Char} {k : ErrKind} {i : Nat} {P : α → Prop} (h : Valid src i) :
    (Res.err ⟨k, [(i, i)]⟩ : Res HErr α).Sat P (ErrOK src) :=
  ⟨List.cons_ne_nil _ _, List.forall_mem_singleton.2 (spanOK_refl h)⟩

theorem parseName_sat {src : List Char} {i : Nat} (h : Valid src i) :
    (parseName src i).Sat (fun p => i < p.2 ∧ Valid src p.2) (ErrOK src) := by
  unfold parseName
  refine Sat.bind (slice_sat h) fun rest hr => ?_
  cases hm : reName rest with
  | some m =>
    obtain ⟨hp, hne⟩ := reName_some hm
    refine Sat.bind (sliceRange_sat hr hp) fun _ _ => ?_
    exact Sat.pure ⟨Nat.lt_add_of_pos_right (byteLen_pos hne), valid_advance hr hp⟩
  | none => exact Sat.ite (fun _ => err_at_sat h) (fun _ => err_at_sat h)

def NsOK (src : List Char) (n : Namespaced) : Prop := ∀ sp ∈ n.spans, SpanOK src sp

theorem parseNamespaced_sat {src : List Char} {i : Nat} (h : Valid src i) :
    (parseNamespaced src i).Sat (fun p => i < p.2 ∧ Valid src p.2 ∧ NsOK src p.1) (ErrOK src) := by
  unfold parseNamespaced
  refine Sat.bind (parseName_sat h) ?_
  rintro ⟨name, j⟩ ⟨hij, hj⟩
  have hsp : SpanOK src (i, j) := ⟨Nat.le_of_lt hij, h, hj⟩
  refine Sat.from (parseWs_seq hj fun i1 hi1 => ?_) hij
  refine lookahead_bind hi1 (fun j2 hm => Sat.from ?_ hm.le)
    (Sat.pure ⟨Nat.le_refl _, hi1, List.forall_mem_singleton.2 hsp⟩)
  refine parseWs_seq hm.valid fun i2 hi2 => ?_
  refine Sat.bind (parseName_sat hi2) ?_
  rintro ⟨member, j3⟩ ⟨hi2j3, hj3⟩
  refine Sat.from (parseWs_seq hj3 fun i3 hi3 => ?_) (Nat.le_of_lt hi2j3)
  exact Sat.pure ⟨Nat.le_refl _, hi3,
    List.forall_mem_cons.2 ⟨hsp, List.forall_mem_singleton.2 ⟨Nat.le_of_lt hi2j3, hi2, hj3⟩⟩⟩

theorem parseCtorOrUnitary_sat {src : List Char} {i : Nat} (h : Valid src i) :
    (parseCtorOrUnitary src i).Sat (fun p => i < p.2 ∧ Valid src p.2 ∧ SettingOK src p.1) (ErrOK src) := by
  unfold parseCtorOrUnitary
  refine Sat.bind (parseNamespaced_sat h) ?_
  rintro ⟨pathVal, j⟩ ⟨hij, hj, hpv⟩
  refine Sat.from (parseWs_seq hj fun i1 hi1 => ?_) hij
  refine lookahead_bind hi1 (fun j2 hm => Sat.from ?_ hm.le) (Sat.pure ⟨Nat.le_refl _, hi1, hpv⟩)
  refine Sat.bind (parseNamespaced_sat hm.valid) ?_
  rintro ⟨arg, j3⟩ ⟨h23, hj3, harg⟩
  refine Sat.from (parseWs_seq hj3 fun i3 hi3 => ?_) (Nat.le_of_lt h23)
  refine lookahead_bind hi3 (fun j4 hm4 => Sat.from ?_ hm4.le) (err_at_sat hi3)
  exact parseWs_seq hm4.valid fun i4 hi4 => Sat.pure ⟨Nat.le_refl _, hi4, List.forall_mem_append.2 ⟨hpv, harg⟩⟩

/-- `byteLen src < j + f` is the measure: every iteration consumes the element or the `,` it stands on -/
theorem arrayLoop_sat {src : List Char} {elem : Nat → Res HErr (Setting × Nat)} {i openPos : Nat}
    (hio : i < openPos) (hi : Valid src i) (ho : Valid src openPos)
    (helem : ∀ p, openPos ≤ p → Valid src p →
      (elem p).Sat (fun r => p < r.2 ∧ Valid src r.2 ∧ SettingOK src r.1) (ErrOK src)) :
    ∀ f j, Valid src j → byteLen src < j + f → ∀ vals : List Setting, openPos ≤ j →
      (∀ x ∈ vals, SettingOK src x) →
      (arrayLoop src elem i openPos f j vals).Sat (fun r => i < r.2 ∧ Valid src r.2 ∧ SettingOK src r.1) (ErrOK src) :=
  fuel_ind fun f j hj ih vals hoj hvals => by
    refine Sat.bind (parseWs_sat hj) fun j1 ⟨hjj1, hj1⟩ => ?_
    have hoj1 := Nat.le_trans hoj hjj1
    refine lookahead_bind hj1 (fun e hm => ?_) ?_
    · exact Sat.pure ⟨Nat.lt_of_lt_of_le hio (Nat.le_trans hoj1 hm.le), hm.valid,
        List.forall_mem_cons.2 ⟨⟨Nat.le_of_lt hio, hi, ho⟩,
          List.forall_mem_cons.2 ⟨⟨hm.le, hj1, hm.valid⟩, fun sp hsp =>
            have ⟨x, hx, hs⟩ := List.mem_flatMap.1 (spansList_eq vals ▸ hsp)
            hvals x hx sp hs⟩⟩⟩
    · rcases Sat.cases (helem j1 hoj1 hj1) with ⟨r, heq, hk, hvk, hval⟩ | ⟨e, heq, hel⟩
      · rw [heq]
        refine Sat.bind (parseWs_sat hvk) fun j2 ⟨hkj2, hj2⟩ => ?_
        have hlt : j < j2 := Nat.lt_of_lt_of_le (Nat.lt_of_le_of_lt hjj1 hk) hkj2
        have hoj2 := Nat.le_trans hoj (Nat.le_of_lt hlt)
        refine lookahead_bind hj2 (fun k2 hm => ?_) ?_
        · exact ih k2 (Nat.lt_of_lt_of_le hlt hm.le) hm.valid _ (Nat.le_trans hoj2 hm.le)
            (forall_mem_snoc hvals hval)
        · exact ih j2 hlt hj2 _ hoj2 (forall_mem_snoc hvals hval)
      · rw [heq]
        refine lookahead_bind hj1 (fun k2 hm => ?_) hel
        exact ih k2 (Nat.lt_of_le_of_lt hjj1 (hm.lt (List.cons_ne_nil _ _))) hm.valid _
          (Nat.le_trans hoj1 hm.le) hvals

theorem reString_some {rest m : List Char} (h : reString rest = some m) :
    ∃ c cs body q, rest = c :: cs ∧ m = c :: (body ++ [q]) ∧ c.utf8Size = 1 ∧ q.utf8Size = 1 ∧
      (body ++ [q]) <+: cs := by
  cases rest with
  | nil => exact nomatch h
  | cons c cs =>
    rw [reString] at h
    split at h
    · next hc =>
      obtain ⟨m', hm', rfl⟩ := Option.map_eq_some_iff.1 h
      obtain ⟨body, q, rfl, hq, hp⟩ := reStringBody_some hm'
      exact ⟨c, cs, body, q, rfl, rfl, ascii_size c (hc ▸ by decide), hq, hp⟩
    · exact nomatch h

theorem byteLen_one (c : Char) (h : c.utf8Size = 1) : byteLen [c] = 1 := by simp [byteLen, h]

theorem quoted_end (i : Nat) {c q : Char} (body : List Char) (hc : c.utf8Size = 1) (hq : q.utf8Size = 1) :
    i + byteLen (c :: (body ++ [q])) - 1 = i + 1 + byteLen body := by
  rw [byteLen, byteLen_append, byteLen_one q hq, hc, ← Nat.add_assoc, ← Nat.add_assoc, Nat.add_sub_cancel]

theorem parseSetting_sat {src : List Char} (f : Nat) : ∀ i, Valid src i → byteLen src < i + f →
    (parseSetting src f i).Sat (fun r => i < r.2 ∧ Valid src r.2 ∧ SettingOK src r.1) (ErrOK src) := by
  induction f with
  | zero => intro i hi hf; exact absurd hi.le (Nat.not_le_of_lt hf)
  | succ f ih =>
    intro i hi hf
    refine Sat.bind (parseWs_sat hi) fun i1 ⟨hii1, hi1⟩ => ?_
    refine Sat.bind (slice_sat hi1) fun rest hr => ?_
    cases hd : reDigits rest with
    | some m =>
      obtain ⟨hp, hne⟩ := reDigits_some hd
      have hv2 := valid_advance hr hp
      have hspan : SpanOK src (i1, i1 + byteLen m) := ⟨Nat.le_add_right _ _, hi1, hv2⟩
      refine Sat.bind (sliceRange_sat hr hp) fun numStr _ => ?_
      cases parseU64 numStr with
      | some n =>
        exact Sat.from (parseWs_seq hv2 fun i2 hi2 => Sat.pure ⟨Nat.le_refl _, hi2, List.forall_mem_singleton.2 hspan⟩)
          (Nat.lt_of_le_of_lt hii1 (Nat.lt_add_of_pos_right (byteLen_pos hne)))
      | none => exact ⟨List.cons_ne_nil _ _, List.forall_mem_singleton.2 hspan⟩
    | none =>
      cases hs : reString rest with
      | some m =>
        obtain ⟨c, cs, body, q, rfl, rfl, hc, hq, hp⟩ := reString_some hs
        have hcs : dropBytes src (i1 + 1) = some cs := valid_step1 hr hc
        have hbody : body <+: cs := (List.prefix_append body [q]).trans hp
        have hvend := valid_advance hr (List.cons_prefix_cons.2 ⟨rfl, hp⟩)
        dsimp only
        rw [quoted_end i1 body hc hq]
        refine Sat.bind (sliceRange_sat hcs hbody) fun _ _ => ?_
        exact Sat.from (parseWs_seq hvend fun i2 hi2 => Sat.pure ⟨Nat.le_refl _, hi2,
            List.forall_mem_singleton.2 ⟨Nat.le_add_right _ _, ⟨cs, hcs⟩, valid_advance hcs hbody⟩⟩)
          (Nat.lt_of_le_of_lt hii1 (Nat.lt_add_of_pos_right (byteLen_pos (List.cons_ne_nil _ _))))
      | none =>
        refine lookahead_bind hi1 (fun j hm => ?_)
          (Sat.from (parseCtorOrUnitary_sat hi1) (Nat.succ_le_succ hii1))
        have hij : i < j := Nat.lt_of_le_of_lt hii1 (hm.lt (List.cons_ne_nil _ _))
        exact Sat.from (arrayLoop_sat (hm.lt (List.cons_ne_nil _ _)) hi1 hm.valid
          (fun p hp hvp => ih p hvp (fuel_step hf (Nat.lt_of_lt_of_le hij hp)))
          f j hm.valid (fuel_step hf hij) [] (Nat.le_refl _) (fun _ h => nomatch h)) (Nat.succ_le_succ hii1)

def ValueOK (src : List Char) (v : Value) : Prop := ∀ sp ∈ v.spans, SpanOK src sp

theorem parseKeyValue_sat {src : List Char} {fuel i : Nat} (hi : Valid src i) (hf : byteLen src < fuel) :
    (parseKeyValue src fuel i).Sat
      (fun r => i < r.2.2.2 ∧ Valid src r.2.2.2 ∧ SpanOK src r.2.1 ∧ ValueOK src r.2.2.1) (ErrOK src) := by
  unfold parseKeyValue
  refine lookahead_bind hi (fun j hm => ?_) ?_
  · refine Sat.bind (parseName_sat hm.valid) ?_
    rintro ⟨name, k⟩ ⟨hjk, hk⟩
    have hik := Nat.lt_of_le_of_lt hm.le hjk
    exact Sat.from (parseWs_seq hk fun e he => Sat.pure ⟨Nat.le_refl _, he, ⟨Nat.le_of_lt hjk, hm.valid, hk⟩,
      List.forall_mem_singleton.2 ⟨Nat.le_of_lt hik, hi, hk⟩⟩) hik
  · refine Sat.bind (parseName_sat hi) ?_
    rintro ⟨name, j⟩ ⟨hij, hj⟩
    have hks : SpanOK src (i, j) := ⟨Nat.le_of_lt hij, hi, hj⟩
    refine Sat.from (parseWs_seq hj fun i1 hi1 => ?_) hij
    refine lookahead_bind hi1 (fun j2 hm => Sat.from ?_ hm.le)
      (Sat.pure ⟨Nat.le_refl _, hi1, hks, List.forall_mem_singleton.2 hks⟩)
    refine Sat.bind (parseSetting_sat fuel j2 hm.valid (Nat.lt_add_left _ hf)) ?_
    rintro ⟨val, j3⟩ ⟨h23, hj3, hval⟩
    exact Sat.pure ⟨Nat.le_of_lt h23, hj3, hks, hval⟩

def EntryOK (src : List Char) (e : Entry) : Prop := ∀ sp ∈ e.spans, SpanOK src sp

def ErrsOK (src : List Char) (es : List HErr) : Prop := es ≠ [] ∧ ∀ e ∈ es, ErrOK src e

theorem addDup_ok {src : List Char} {orig dup : Span} (ho : SpanOK src orig) (hd : SpanOK src dup) :
    ∀ errs : List HErr, (∀ e ∈ errs, ErrOK src e) → ∀ e ∈ addDup orig dup errs, ErrOK src e := by
  intro errs
  induction errs with
  | nil =>
    exact fun _ => List.forall_mem_singleton.2
      ⟨List.cons_ne_nil _ _, List.forall_mem_cons.2 ⟨ho, List.forall_mem_singleton.2 hd⟩⟩
  | cons x xs ih =>
    intro hall
    obtain ⟨hx, hxs⟩ := List.forall_mem_cons.1 hall
    unfold addDup
    split
    · exact List.forall_mem_cons.2 ⟨⟨List.concat_ne_nil _ _, forall_mem_snoc hx.2 hd⟩, hxs⟩
    · exact List.forall_mem_cons.2 ⟨hx, ih hxs⟩

theorem addDup_ne_nil (orig dup : Span) (errs : List HErr) : addDup orig dup errs ≠ [] := by
  cases errs with
  | nil => simp [addDup]
  | cons x xs => simp only [addDup]; split <;> simp

theorem insertEntry_ok {src : List Char} {ret : List Entry} {errs : List HErr} {key : List Char} {loc : Span}
    {val : Value} (hret : ∀ e ∈ ret, EntryOK src e) (herrs : ∀ e ∈ errs, ErrOK src e)
    (hloc : SpanOK src loc) (hval : ValueOK src val) :
    (∀ e ∈ (insertEntry ret errs key loc val).1, EntryOK src e) ∧
    (∀ e ∈ (insertEntry ret errs key loc val).2, ErrOK src e) := by
  unfold insertEntry
  split
  · next orig hfind =>
    have horig : SpanOK src orig.loc :=
      hret orig (List.mem_of_find?_eq_some hfind) orig.loc (List.mem_cons_self ..)
    exact ⟨hret, addDup_ok horig hloc errs herrs⟩
  · exact ⟨forall_mem_snoc hret (List.forall_mem_cons.2 ⟨hloc, hval⟩), herrs⟩

theorem keyLoop_sat {src : List Char} {sfuel : Nat} (hsf : byteLen src < sfuel) :
    ∀ f i, Valid src i → byteLen src < i + f → ∀ (ret : List Entry) (errs : List HErr),
      (∀ e ∈ ret, EntryOK src e) → (∀ e ∈ errs, ErrOK src e) →
      (keyLoop src sfuel f i ret errs).Sat
        (fun r => i ≤ r.1 ∧ Valid src r.1 ∧ (∀ e ∈ r.2.1, EntryOK src e) ∧ (∀ e ∈ r.2.2, ErrOK src e))
        (ErrsOK src) :=
  fuel_ind fun f i hi ih ret errs hret herrs => by
    refine lookahead_bind hi (fun _ _ => Sat.pure ⟨Nat.le_refl _, hi, hret, herrs⟩)
      (Sat.ite (fun _ => ?_) (fun _ => Sat.pure ⟨Nat.le_refl _, hi, hret, herrs⟩))
    refine Sat.bind (Sat.mapErr (parseKeyValue_sat hi hsf)
      (fun e he => ⟨List.concat_ne_nil _ _, forall_mem_snoc herrs he⟩)) ?_
    rintro ⟨key, keyLoc, val, j⟩ ⟨hij, hj, hloc, hval⟩
    obtain ⟨h1, h2⟩ := insertEntry_ok (key := key) hret herrs hloc hval
    refine lookahead_bind hj (fun j2 hm => ?_) ?_
    · refine Sat.bind (parseWs_sat hm.valid) fun i2 ⟨h22, hi2⟩ => ?_
      have hlt := Nat.lt_of_lt_of_le hij (Nat.le_trans hm.le h22)
      exact Sat.from (ih i2 hlt hi2 _ _ h1 h2) (Nat.le_of_lt hlt)
    · exact Sat.from (parseWs_seq hj fun i2 hi2 => Sat.pure ⟨Nat.le_refl _, hi2, h1, h2⟩) (Nat.le_of_lt hij)

/-- what `parse` may return: a value whose end position and spans are well-formed, or a non-empty
list of located, well-formed errors -/
theorem parseWith_sat {src : List Char} {required : Bool} {fuel : Nat} (hf : byteLen src < fuel) :
    (parseWith src required fuel).Sat
      (fun r => Valid src r.2 ∧ ∀ e ∈ r.1, EntryOK src e) (ErrsOK src) := by
  have snoc : ∀ {errs : List HErr} {k : ErrKind} {sp : Span}, (∀ e ∈ errs, ErrOK src e) → SpanOK src sp →
      ErrsOK src (errs ++ [⟨k, [sp]⟩]) := fun hall h =>
    ⟨List.concat_ne_nil _ _, forall_mem_snoc hall ⟨List.cons_ne_nil _ _, List.forall_mem_singleton.2 h⟩⟩
  have single : ∀ {k : ErrKind} {sp : Span}, SpanOK src sp → ErrsOK src [⟨k, [sp]⟩] :=
    snoc (errs := []) (fun _ h => nomatch h)
  unfold parseWith
  refine Sat.bind (parseWs_sat (valid_zero src)) fun i0 ⟨_, hi0⟩ => ?_
  refine lookahead_bind hi0 (fun i1 hm1 => ?_)
    (Sat.ite (fun _ => single (spanOK_refl (valid_zero src))) (fun _ => Sat.pure ⟨valid_zero src, fun _ h => nomatch h⟩))
  refine Sat.bind (parseWs_sat hm1.valid) fun i2 ⟨_, hi2⟩ => ?_
  refine lookahead_bind hi2 (fun j hm => ?_) (single (spanOK_refl hi2))
  refine Sat.bind (parseWs_sat hm.valid) fun i3 ⟨hji3, hi3⟩ => ?_
  refine Sat.bind (keyLoop_sat hf fuel i3 hi3 (Nat.lt_add_left _ hf) [] [] (fun _ h => nomatch h)
    (fun _ h => nomatch h)) ?_
  rintro ⟨i4, ret, errs⟩ ⟨h34, hi4, hret, herrs⟩
  have h24 : i2 ≤ i4 := Nat.le_trans hm.le (Nat.le_trans hji3 h34)
  refine lookahead_bind hi4 (fun j5 hm5 => snoc herrs ⟨hm5.le, hi4, hm5.valid⟩) ?_
  refine lookahead_bind hi4 (fun i5 hm5 => ?_) (snoc herrs ⟨h24, hi2, hi4⟩)
  refine Sat.ite (fun _ => Sat.pure ⟨hm5.valid, hret⟩) (fun hne => ⟨fun h => hne (h ▸ rfl), herrs⟩)

theorem parse_sat (src : List Char) (required : Bool) :
    (parse src required).Sat (fun r => Valid src r.2 ∧ ∀ e ∈ r.1, EntryOK src e) (ErrsOK src) :=
  parseWith_sat (Nat.lt_succ_self _)

end GrmVerif.Header
