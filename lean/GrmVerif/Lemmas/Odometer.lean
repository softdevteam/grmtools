import GrmVerif.Model.MinSentencesImpl
import GrmVerif.Lemmas.ImplLoop
/-! The combination loop of `min_sentences` (`Impl.odoLoop`): started with all counters at zero on lists
none of which is empty it pushes exactly the concatenations of one sentence per column, in lexicographic
order of the counters with the FIRST column most significant (`combos`), and the fuel `odoFuel` suffices. -/
namespace GrmVerif.Impl
open GrmVerif

/-- all concatenations of one element of each list, the first list varying slowest -/
def combos : List (List (List Nat)) → List (List Nat)
  | [] => [[]]
  | l :: ms => l.flatMap (fun s => (combos ms).map (fun w => s ++ w))

/-- the sentence the counters `todo` select -/
def curOf : List (List (List Nat)) → List Nat → List Nat
  | l :: ms, t :: ts => l.getD t [] ++ curOf ms ts
  | _, _ => []

/-- the counters are in range, one per column -/
inductive ValidTodo : List (List (List Nat)) → List Nat → Prop
  | nil : ValidTodo [] []
  | cons {l : List (List Nat)} {ms : List (List (List Nat))} {t : Nat} {ts : List Nat} :
      t < l.length → ValidTodo ms ts → ValidTodo (l :: ms) (t :: ts)

/-- the odometer step as a function of the whole counter: advance the last column that is not at its
maximum and reset the columns after it; `none` when every column is at its maximum -/
def nextTodo : List (List (List Nat)) → List Nat → Option (List Nat)
  | l :: ms, t :: ts =>
    match nextTodo ms ts with
    | some ts' => some (t :: ts')
    | none => if t + 1 = l.length then none else some ((t + 1) :: List.replicate ts.length 0)
  | _, _ => none

/-- the sentences selected by `todo` and by all later counters, in order -/
def suffixFrom : List (List (List Nat)) → List Nat → List (List Nat)
  | l :: ms, t :: ts =>
    (suffixFrom ms ts).map (fun w => l.getD t [] ++ w) ++
      (l.drop (t + 1)).flatMap (fun s => (combos ms).map (fun w => s ++ w))
  | _, _ => [[]]

theorem validTodo_length {ms : List (List (List Nat))} {todo : List Nat} (h : ValidTodo ms todo) :
    todo.length = ms.length := by
  induction h with
  | nil => rfl
  | cons _ _ ih => simp only [List.length_cons, ih]

theorem validTodo_zeros : ∀ (ms : List (List (List Nat))), (∀ l ∈ ms, l ≠ []) →
    ValidTodo ms (List.replicate ms.length 0) := by
  intro ms
  induction ms with
  | nil => intro _; exact .nil
  | cons l ms ih =>
    intro h
    simp only [List.length_cons, List.replicate_succ]
    exact .cons (List.length_pos_iff.mpr (h l List.mem_cons_self)) (ih fun x hx => h x (List.mem_cons_of_mem _ hx))

theorem validTodo_ne_nil {ms : List (List (List Nat))} {todo : List Nat} (hv : ValidTodo ms todo) :
    ∀ l ∈ ms, l ≠ [] := by
  induction hv with
  | nil => intro l hl; cases hl
  | cons ht _ ih =>
    intro l hl
    rcases List.mem_cons.mp hl with rfl | hl
    · intro he; rw [he] at ht; exact Nat.not_lt_zero _ ht
    · exact ih l hl

/-- column by column: index `i + 1` of the longer counter is index `i` of the shorter one -/
theorem odoCur_from {ms : List (List (List Nat))} {todo : List Nat} (hv : ValidTodo ms todo) : ∀ cur : List Nat,
    iterM (odoCurStep ms todo) (List.range todo.length) cur = some (cur ++ curOf ms todo) := by
  induction hv with
  | nil => intro cur; simp [iterM, curOf]
  | @cons l ms t ts ht _ ih =>
    intro cur
    have hs : l[t]? = some (l.getD t []) := by simp [List.getD_eq_getElem?_getD, ht]
    have hstep : (fun s i => odoCurStep (l :: ms) (t :: ts) s (i + 1)) = odoCurStep ms ts := rfl
    rw [List.length_cons, List.range_succ_eq_map, iterM]
    simp only [odoCurStep, List.getElem?_cons_zero, hs]
    rw [iterM_map, hstep, ih, curOf, List.append_assoc]

theorem odoCur_spec (ms : List (List (List Nat))) (todo : List Nat) (hv : ValidTodo ms todo) :
    odoCur ms todo = some (curOf ms todo) := by
  rw [odoCur, odoCur_from hv, List.nil_append]

/-- every column is at its maximum -/
def AtMax : List (List (List Nat)) → List Nat → Prop
  | [], [] => True
  | l :: ms, t :: ts => t + 1 = l.length ∧ AtMax ms ts
  | _, _ => False

theorem atMax_length : ∀ {ms : List (List (List Nat))} {todo : List Nat}, AtMax ms todo → todo.length = ms.length := by
  intro ms
  induction ms with
  | nil => intro todo h; cases todo with
    | nil => rfl
    | cons _ _ => exact h.elim
  | cons _ ms ih => intro todo h; cases todo with
    | nil => exact h.elim
    | cons _ ts => simp only [List.length_cons, ih h.2]

/-- one more column in front: the longer counter is incremented like the shorter one, unless that spills out of
its first column; then the new first column is advanced and the columns up to `j` of the shorter one are zero -/
theorem odoInc_cons (l0 : List (List Nat)) (ms : List (List (List Nat))) (t0 : Nat) :
    ∀ (j : Nat) (todo : List Nat),
      odoInc (l0 :: ms) (j + 1) (t0 :: todo) =
        match odoInc ms j todo with
        | none => none
        | some (some todo') => some (some (t0 :: todo'))
        | some none =>
          if t0 + 1 = l0.length then some none
          else some (some ((t0 + 1) :: (List.replicate (j + 1) 0 ++ todo.drop (j + 1)))) := by
  intro j
  induction j with
  | zero =>
    intro todo
    unfold odoInc
    simp only [Nat.zero_add, List.getElem?_cons_succ, List.set_cons_succ]
    cases todo with
    | nil => rfl
    | cons t rest =>
      cases h2 : ms[0]? with
      | none => rfl
      | some l =>
        simp only [List.getElem?_cons_zero, List.set_cons_zero]
        split
        · unfold odoInc; simp
        · rfl
  | succ j ih =>
    intro todo
    unfold odoInc
    simp only [List.getElem?_cons_succ, List.set_cons_succ]
    cases h1 : todo[j + 1]? with
    | none => rfl
    | some t =>
      cases h2 : ms[j + 1]? with
      | none => rfl
      | some l =>
        simp only []
        split
        · -- column `j + 1` spills: it is reset before the columns up to `j` are
          have hlt : j + 1 < todo.length := (List.getElem?_eq_some_iff.mp h1).1
          have hz : List.replicate (j + 1) 0 ++ (todo.set (j + 1) 0).drop (j + 1) =
              List.replicate (j + 1 + 1) 0 ++ todo.drop (j + 1 + 1) := by
            rw [List.drop_set, if_neg (Nat.lt_irrefl _), List.drop_eq_getElem_cons hlt, Nat.sub_self,
              List.set_cons_zero, List.replicate_succ' (n := j + 1), List.append_assoc]
            rfl
          rw [ih, hz]
        · rfl

/-- `let mut j = todo.len() - 1; loop {…}` is `nextTodo` -/
theorem odoInc_last {ms : List (List (List Nat))} {todo : List Nat} (hv : ValidTodo ms todo) : ∀ (n : Nat),
    todo.length = n + 1 → odoInc ms n todo = some (nextTodo ms todo) := by
  induction hv with
  | nil => intro n hlen; cases hlen
  | @cons l ms t ts ht hv ih =>
    intro n hlen
    have hts : ts.length = n := Nat.succ.inj hlen
    cases n with
    | zero =>
      obtain rfl := List.eq_nil_of_length_eq_zero hts
      obtain rfl : ms = [] := List.eq_nil_of_length_eq_zero (validTodo_length hv).symm
      unfold odoInc
      simp only [List.getElem?_cons_zero, List.set_cons_zero, nextTodo, List.length_nil, List.replicate_zero]
      split <;> rfl
    | succ n =>
      rw [odoInc_cons, ih n hts]
      simp only [nextTodo]
      cases nextTodo ms ts with
      | some ts' => rfl
      | none =>
        simp only [hts, List.drop_eq_nil_of_le (Nat.le_of_eq hts), List.append_nil]
        split <;> rfl

theorem suffixFrom_zeros : ∀ (ms : List (List (List Nat))), (∀ l ∈ ms, l ≠ []) →
    suffixFrom ms (List.replicate ms.length 0) = combos ms := by
  intro ms
  induction ms with
  | nil => intro _; rfl
  | cons l ms ih =>
    intro h
    simp only [List.length_cons, List.replicate_succ, suffixFrom,
      ih (fun x hx => h x (List.mem_cons_of_mem _ hx)), combos]
    have := h l (by simp)
    cases l with
    | nil => exact absurd rfl this
    | cons a l' => simp

/-- one step of the counter: the sentences from `todo` on are the one `todo` selects followed by those from the next
counter on, and the next counter is in range again -/
theorem nextTodo_spec {ms : List (List (List Nat))} {todo : List Nat} (hv : ValidTodo ms todo) :
    suffixFrom ms todo = curOf ms todo ::
      (match nextTodo ms todo with
       | some todo' => suffixFrom ms todo'
       | none => []) ∧
    ∀ todo', nextTodo ms todo = some todo' → ValidTodo ms todo' := by
  induction hv with
  | nil => exact ⟨rfl, fun _ h => nomatch h⟩
  | @cons l ms t ts hlt hv ihms =>
    obtain ⟨ih, ihv⟩ := ihms
    simp only [suffixFrom, nextTodo, curOf]
    cases hn : nextTodo ms ts with
    | some ts' =>
      rw [hn] at ih
      simp only at ih
      rw [ih]
      exact ⟨by simp [suffixFrom], fun _ h => Option.some.inj h ▸ .cons hlt (ihv ts' hn)⟩
    | none =>
      rw [hn] at ih
      simp only at ih
      rw [ih]
      simp only [List.map_cons, List.map_nil, List.cons_append, List.nil_append]
      by_cases ht : t + 1 = l.length
      · simp only [ht, if_true]
        rw [List.drop_eq_nil_of_le (by omega)]
        exact ⟨by simp, fun _ h => nomatch h⟩
      · simp only [ht, if_false]
        have hz := validTodo_ne_nil hv
        have hlt' : t + 1 < l.length := by omega
        have hd : l.drop (t + 1) = l[t + 1] :: l.drop (t + 1 + 1) := List.drop_eq_getElem_cons hlt'
        refine ⟨?_, fun _ h => Option.some.inj h ▸ .cons hlt' (validTodo_length hv ▸ validTodo_zeros ms hz)⟩
        rw [validTodo_length hv, suffixFrom, suffixFrom_zeros ms hz, hd]
        simp only [List.flatMap_cons, List.getD_eq_getElem?_getD, List.getElem?_eq_getElem hlt',
          Option.getD_some]

theorem length_combos : ∀ ms : List (List (List Nat)), (combos ms).length = lenProd ms
  | [] => rfl
  | l :: ms => by
    rw [combos, lenProd, List.length_flatMap]
    simp only [List.length_map, length_combos ms, List.map_const', List.sum_replicate_nat]

theorem odoLoop_from (ms : List (List (List Nat))) (hne : ms ≠ []) :
    ∀ (fuel : Nat) (todo : List Nat) (out : List (List Nat)), ValidTodo ms todo →
      (suffixFrom ms todo).length ≤ fuel →
      odoLoop ms fuel todo out = .done (out.reverse ++ suffixFrom ms todo) := by
  intro fuel
  induction fuel with
  | zero =>
    intro todo out hv hle
    rw [(nextTodo_spec hv).1] at hle
    simp at hle
  | succ fuel ih =>
    intro todo out hv hle
    obtain ⟨hstep, hnext⟩ := nextTodo_spec hv
    have hlen := validTodo_length hv
    obtain ⟨n, hn⟩ : ∃ n, todo.length = n + 1 := by
      cases ms with
      | nil => exact absurd rfl hne
      | cons _ _ => exact ⟨_, by rw [hlen]; rfl⟩
    simp only [odoLoop, odoCur_spec ms todo hv, hn, odoInc_last hv n hn]
    cases hnx : nextTodo ms todo with
    | none =>
      rw [hnx] at hstep
      simp only at hstep
      rw [hstep]
      simp
    | some todo' =>
      rw [hnx] at hstep
      simp only at hstep
      simp only []
      rw [ih todo' _ (hnext todo' hnx) (by rw [hstep] at hle; simpa using hle)]
      rw [hstep]
      simp

/-- **the odometer enumerates the combinations in order**: on columns none of which is empty the loop,
started with all counters at zero and given `odoFuel` iterations, pushes exactly `combos ms` -/
theorem odoLoop_spec (ms : List (List (List Nat))) (hne : ms ≠ []) (hall : ∀ l ∈ ms, l ≠ []) :
    odoLoop ms (odoFuel ms) (List.replicate ms.length 0) [] = .done (combos ms) := by
  have hv := validTodo_zeros ms hall
  have := odoLoop_from ms hne (odoFuel ms) _ [] hv (by
    rw [suffixFrom_zeros ms hall, length_combos]; unfold odoFuel; omega)
  rw [this, suffixFrom_zeros ms hall]
  simp

end GrmVerif.Impl
