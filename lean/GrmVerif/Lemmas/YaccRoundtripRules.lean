import GrmVerif.Lemmas.YaccRoundtripImage
import GrmVerif.Lemmas.YaccProdSpan
/-!
C10, text → AST stage: the parser on a rendered rules section, from the branches of the production loop of
`parse_rule` (`ruleStep`) up to `parse_rules`. Iterations are not counted: a loop at byte `i` has any fuel `f` with
`byteLen src < i + f`, and still has that after every item it reads (`LoopTo`).
-/
namespace GrmVerif.YaccRender
open GrmVerif.YaccParse
open GrmVerif.Header (Span byteLen byteLen_append slice_ok)

theorem atQuote_yes {src : List Char} {i : Nat} {q : Char} {t : List Char} (h : At src i (q :: t))
    (hq : q = '\'' ∨ q = '"') (st : St) : M.Ret (atQuote src i) st true st := by
  unfold atQuote
  rcases hq with rfl | rfl
  · exact M.Ret.bind (la_ne h String.toList_ofList (by decide) st)
      (M.Ret.bind (la_lit (l := ['\'']) String.toList_ofList h st rfl) M.Ret.pure)
  · exact M.Ret.bind (la_lit (l := ['"']) String.toList_ofList h st rfl) M.Ret.pure

theorem atQuote_no {src : List Char} {i : Nat} {c : Char} {t : List Char} (h : At src i (c :: t))
    (h1 : c ≠ '"') (h2 : c ≠ '\'') (st : St) : M.Ret (atQuote src i) st false st :=
  M.Ret.bind (la_ne h String.toList_ofList h1 st) (M.Ret.bind (la_ne h String.toList_ofList h2 st) M.Ret.pure)

theorem atBarOrSemi_yes {src : List Char} {i : Nat} {c : Char} {t : List Char} (h : At src i (c :: t))
    (hc : c = '|' ∨ c = ';') (st : St) : M.Ret (atBarOrSemi src i) st true st := by
  unfold atBarOrSemi
  rcases hc with rfl | rfl
  · exact M.Ret.bind (la_lit (l := ['|']) String.toList_ofList h st rfl) M.Ret.pure
  · exact M.Ret.bind (la_ne h String.toList_ofList (by decide) st)
      (M.Ret.bind (la_lit (l := [';']) String.toList_ofList h st rfl) M.Ret.pure)

theorem atBarOrSemi_no {src : List Char} {i : Nat} {c : Char} {t : List Char} (h : At src i (c :: t))
    (h1 : c ≠ '|') (h2 : c ≠ ';') (st : St) : M.Ret (atBarOrSemi src i) st false st :=
  M.Ret.bind (la_ne h String.toList_ofList h1 st) (M.Ret.bind (la_ne h String.toList_ofList h2 st) M.Ret.pure)

theorem ruleStep_of_sym {src : List Char} {fuel i : Nat} {rn : Name} {c : Char} {t : List Char} {p p' : PState}
    {st st' st'' : St} {j j' : Nat} (h : At src i (c :: t)) (hb : c ≠ '|') (hs : c ≠ ';')
    (hsym : M.Ret (ruleSym src fuel i p) st (j, p') st') (hws : M.Ret (ws src true j) st' j' st'') :
    M.Ret (ruleStep src fuel rn i p) st (.cont j' p') st'' :=
  M.Ret.bind (la_ne h String.toList_ofList hb st) (M.Ret.bind (la_ne h String.toList_ofList hs st)
    (M.Ret.bind hsym (M.Ret.bind hws M.Ret.pure)))

def RTok.isQuoted : RTok → Bool
  | .quoted _ _ => true
  | .bare _ => false

theorem parseToken_sep {src : List Char} {i : Nat} {t : RTok} {c : Char} {k : List Char}
    (h : At src i (t.text ++ c :: k)) (hw : wfTok t = true) (hc : c = ' ' ∨ c = '\n') :
    parseToken src i = .ok (i + byteLen t.text, t.name, t.span i, t.isQuoted) := by
  cases t with
  | quoted q t => exact parseToken_quoted (by simpa [RTok.text] using h) (wfTok_quoted hw).1 (wfTok_quoted hw).2
  | bare n =>
    exact parseToken_bare h hw (nameEnd_cons (by rcases hc with rfl | rfl <;> decide) k)

/-! In the lemmas `ruleStep_*` below, the run of `atQuote`, `la_ne`, `la_lit` steps is the chain of tests of `ruleSym` in
the order of the source: a quote, `%prec`, `{`, `%empty`; what passes all of them is a bare symbol. -/

theorem ruleStep_sym {src : List Char} {fuel i : Nat} {rn : Name} {s : RTok} {k : List Char}
    (p : PState) (st : St) (h : At src i (s.text ++ ' ' :: k)) (hw : wfTok s = true) (hk : Starts k) :
    M.Ret (ruleStep src fuel rn i p) st
      (.cont (i + byteLen s.text + 1) (stepSym i s p st).1) (stepSym i s p st).2 := by
  have htok := parseToken_sep h hw (.inl rfl)
  have hj : At src (i + byteLen s.text) (' ' :: k) := h.adv
  cases s with
  | quoted q t =>
    have hq := (wfTok_quoted hw).1
    have h0 : At src i (q :: (t ++ q :: ' ' :: k)) := by simpa [RTok.text] using h
    refine ruleStep_of_sym h0 (by rcases hq with rfl | rfl <;> decide) (by rcases hq with rfl | rfl <;> decide)
      ?_ (ws_none (hj.adv1 (by decide)) hk.stops _)
    unfold ruleSym
    refine M.Ret.bind (atQuote_yes h0 hq st) ?_
    rw [if_pos rfl]
    refine M.Ret.bind (liftR_ret htok) ?_
    dsimp only
    exact M.Ret.bind (ws_space hj hk.stops st) (M.Ret.bind (modifyAst_ret _ st) M.Ret.pure)
  | bare n =>
    obtain ⟨c, cs, rfl, hc, -⟩ := wfName_cons hw
    obtain ⟨f1, f2, f3, f4, f5, f6, _⟩ := nameStart_facts hc
    have h0 : At src i (c :: (cs ++ ' ' :: k)) := h
    refine ruleStep_of_sym h0 f1 f2 ?_ (ws_space hj hk.stops _)
    unfold ruleSym
    refine M.Ret.bind (atQuote_no h0 f3 f4 st) ?_
    rw [if_neg Bool.false_ne_true]
    refine M.Ret.bind (la_ne h0 String.toList_ofList f5 st) ?_
    dsimp only
    refine M.Ret.bind (la_ne h0 String.toList_ofList f6 st) ?_
    dsimp only
    refine M.Ret.bind (la_ne h0 String.toList_ofList f5 st) ?_
    dsimp only
    refine M.Ret.bind (liftR_ret htok) ?_
    dsimp only
    exact M.Ret.bind (getSt_ret st) M.Ret.pure

theorem bl_prec : byteLen ['%', 'p', 'r', 'e', 'c'] = 5 := by decide

theorem bl_empty : byteLen ['%', 'e', 'm', 'p', 't', 'y'] = 6 := by decide

theorem ruleStep_prec {src : List Char} {fuel i : Nat} {rn : Name} {t : RTok} {k : List Char}
    (p : PState) (st : St) (h : At src i (renderPrec (some t) ++ k)) (hw : wfTok t = true) (hk : Starts k) :
    M.Ret (ruleStep src fuel rn i p) st
      (.cont (runPrec i (some t) p st).1 (runPrec i (some t) p st).2.1) (runPrec i (some t) p st).2.2 := by
  have h0 : At src i (['%', 'p', 'r', 'e', 'c'] ++ ' ' :: (t.text ++ ' ' :: k)) := by
    simpa [renderPrec] using h
  have h5 : At src (i + 5) (' ' :: (t.text ++ ' ' :: k)) := bl_prec ▸ h0.adv
  have h6 : At src (i + 6) (t.text ++ ' ' :: k) := h5.adv1 (by decide)
  have hj : At src (i + 6 + byteLen t.text) (' ' :: k) := h6.adv
  refine ruleStep_of_sym h0 (by decide) (by decide) ?_ (ws_space hj hk.stops _)
  unfold ruleSym
  refine M.Ret.bind (atQuote_no h0 (by decide) (by decide) st) ?_
  rw [if_neg Bool.false_ne_true]
  refine M.Ret.bind (la_lit String.toList_ofList h0 st (congrArg (i + ·) bl_prec)) ?_
  dsimp only
  refine M.Ret.bind (ws_space h5 (wfTok_starts hw _).stops st) ?_
  refine M.Ret.bind (liftR_ret (parseToken_sep h6 hw (.inl rfl))) ?_
  dsimp only
  exact M.Ret.bind (modifyAst_ret _ st) M.Ret.pure

theorem ruleStep_action {src : List Char} {fuel i : Nat} {rn : Name} {a k : List Char}
    (p : PState) (st : St) (h : At src i (renderAction (some a) ++ k)) (hw : wfAction a = true)
    (hfuel : byteLen src < fuel) (hk : BarSemi k) :
    M.Ret (ruleStep src fuel rn i p) st
      (.cont (runAction i (some a) p st).1 (runAction i (some a) p st).2.1) (runAction i (some a) p st).2.2 := by
  have h0 : At src i ('{' :: (a ++ '}' :: ' ' :: k)) := by simpa [renderAction] using h
  have hf : a.length + 2 ≤ fuel := by
    have := At.fuel (t := '{' :: (a ++ ['}'])) (rest := ' ' :: k) (by simpa using h0) (Nat.lt_add_left i hfuel)
    simp only [List.length_cons, List.length_append, List.length_nil] at this
    omega
  have h3 : At src (i + byteLen a + 2) (' ' :: k) := by
    have := ((h0.adv1 (by decide)).adv).adv1 (c := '}') (by decide)
    rwa [show i + 1 + byteLen a + 1 = i + byteLen a + 2 by omega] at this
  have h4 : At src (i + byteLen a + 2 + 1) k := h3.adv1 (by decide)
  have hks := hk.starts.stops
  obtain ⟨c, t, rfl, hc⟩ := hk
  refine ruleStep_of_sym h0 (by decide) (by decide) ?_ (ws_none h4 hks _)
  unfold ruleSym
  refine M.Ret.bind (atQuote_no h0 (by decide) (by decide) st) ?_
  rw [if_neg Bool.false_ne_true]
  refine M.Ret.bind (la_ne h0 String.toList_ofList (by decide) st) ?_
  dsimp only
  refine M.Ret.bind (la_lit (l := ['{']) String.toList_ofList h0 st rfl) ?_
  dsimp only
  refine M.Ret.bind (parseAction_at st h0 hw hf) ?_
  refine M.Ret.bind (ws_space h3 hks _) ?_
  refine M.Ret.bind (atBarOrSemi_yes h4 hc _) ?_
  rw [if_pos rfl]
  exact M.Ret.pure

theorem emptyFollow_yes {src : List Char} {i : Nat} {k : List Char} (h : At src i k) (hk : FollowE k)
    (st : St) : M.Ret (emptyFollow src i) st true st := by
  unfold emptyFollow
  rcases hk with ⟨c, t, rfl, hc⟩ | ⟨t, rfl⟩ | ⟨t, rfl⟩
  · refine M.Ret.bind (atBarOrSemi_yes h hc st) ?_
    rw [if_pos rfl]
    exact M.Ret.pure
  · refine M.Ret.bind (atBarOrSemi_no h (by decide) (by decide) st) ?_
    rw [if_neg Bool.false_ne_true]
    exact M.Ret.bind (la_lit (l := ['{']) String.toList_ofList h st rfl) M.Ret.pure
  · refine M.Ret.bind (atBarOrSemi_no h (by decide) (by decide) st) ?_
    rw [if_neg Bool.false_ne_true]
    refine M.Ret.bind (la_ne h String.toList_ofList (by decide) st) ?_
    exact M.Ret.bind (la_lit (l := ['%', 'p', 'r', 'e', 'c']) String.toList_ofList h st rfl) M.Ret.pure

theorem ruleStep_empty {src : List Char} {fuel i : Nat} {rn : Name} {k : List Char}
    (p : PState) (st : St) (h : At src i (renderEmpty true ++ k)) (hp : p.syms = []) (hk : FollowE k) :
    M.Ret (ruleStep src fuel rn i p) st
      (.cont (runEmpty i true p).1 (runEmpty i true p).2) st := by
  have h0 : At src i (['%', 'e', 'm', 'p', 't', 'y'] ++ ' ' :: k) := h
  have h6 : At src (i + 6) (' ' :: k) := bl_empty ▸ h0.adv
  have h7 : At src (i + 7) k := h6.adv1 (by decide)
  refine ruleStep_of_sym h0 (by decide) (by decide) ?_ (ws_none h7 hk.starts.stops _)
  unfold ruleSym
  refine M.Ret.bind (atQuote_no h0 (by decide) (by decide) st) ?_
  rw [if_neg Bool.false_ne_true]
  refine M.Ret.bind (la_no h0 "%prec" st (by rw [String.toList_ofList (l := ['%', 'p', 'r', 'e', 'c'])]; rfl)) ?_
  dsimp only
  refine M.Ret.bind (la_ne h0 String.toList_ofList (by decide) st) ?_
  dsimp only
  refine M.Ret.bind (la_lit String.toList_ofList h0 st (congrArg (i + ·) bl_empty)) ?_
  dsimp only
  refine M.Ret.bind (ws_space h6 hk.starts.stops st) ?_
  refine M.Ret.bind (emptyFollow_yes h7 hk st) ?_
  split
  · next hc => simp [hp] at hc
  · exact M.Ret.pure

theorem finishProd_ret {rn : Name} {p : PState} {i : Nat} {st : St}
    (hle : p.prodStart ≤ p.prodEnd.getD i) (hr : st.ast.hasRule rn = true) :
    M.Ret (finishProd rn p i) st () (pushProd (mkProd rn p i) st) := by
  refine M.Ret.bind (liftR_ret (a := (p.prodStart, p.prodEnd.getD i)) ?_) ?_
  · simp only [mkSpan, if_neg (Nat.not_lt.2 hle)]
  · simp [M.Ret, addProd, hr, pushProd, mkProd, St.mapAst]

theorem ruleStep_bar {src : List Char} {fuel i : Nat} {rn : Name} {k : List Char}
    (p : PState) (st : St) (h : At src i ('|' :: ' ' :: k)) (hk : Starts k)
    (hle : p.prodStart ≤ p.prodEnd.getD i) (hr : st.ast.hasRule rn = true) :
    M.Ret (ruleStep src fuel rn i p) st (.cont (i + 2) { prodStart := i + 2 })
      (pushProd (mkProd rn p i) st) :=
  M.Ret.bind (la_lit (l := ['|']) String.toList_ofList h st rfl) (M.Ret.bind (finishProd_ret hle hr)
    (M.Ret.bind (ws_space (h.adv1 (by decide)) hk.stops _) M.Ret.pure))

theorem ruleStep_semi {src : List Char} {fuel i : Nat} {rn : Name} {k : List Char}
    (p : PState) (st : St) (h : At src i (';' :: k))
    (hle : p.prodStart ≤ p.prodEnd.getD i) (hr : st.ast.hasRule rn = true) :
    M.Ret (ruleStep src fuel rn i p) st (.done (i + 1)) (pushProd (mkProd rn p i) st) :=
  M.Ret.bind (la_ne h String.toList_ofList (by decide) st)
    (M.Ret.bind (la_lit (l := [';']) String.toList_ofList h st rfl) (M.Ret.bind (finishProd_ret hle hr) M.Ret.pure))

/-- From `(i, p, st)` the production loop gets to `r`, whatever fuel it has, provided that is more than the bytes
left at `i`; what it has at `r` is again more than the bytes left there. -/
def LoopTo (src : List Char) (fuel : Nat) (rn : Name) (i : Nat) (p : PState) (st : St) (r : Nat × PState × St) : Prop :=
  ∀ f, byteLen src < i + f →
    ∃ f', byteLen src < r.1 + f' ∧ ruleLoop src fuel rn f i p st = ruleLoop src fuel rn f' r.1 r.2.1 r.2.2

theorem LoopTo.refl {src : List Char} {fuel : Nat} {rn : Name} (i : Nat) (p : PState) (st : St) :
    LoopTo src fuel rn i p st (i, p, st) :=
  fun f hf => ⟨f, hf, rfl⟩

theorem LoopTo.trans {src : List Char} {fuel : Nat} {rn : Name} {i : Nat} {p : PState} {st : St}
    {r r' : Nat × PState × St} (h1 : LoopTo src fuel rn i p st r) (h2 : LoopTo src fuel rn r.1 r.2.1 r.2.2 r') :
    LoopTo src fuel rn i p st r' := fun f hf => by
  obtain ⟨f1, hf1, e1⟩ := h1 f hf
  obtain ⟨f2, hf2, e2⟩ := h2 f1 hf1
  exact ⟨f2, hf2, e1.trans e2⟩

theorem LoopTo.step {src : List Char} {fuel : Nat} {rn : Name} {i : Nat} {p : PState} {st : St}
    {i' : Nat} {p' : PState} {st' : St} (hlt : i < byteLen src) (hi : i < i')
    (h : M.Ret (ruleStep src fuel rn i p) st (.cont i' p') st') : LoopTo src fuel rn i p st (i', p', st') :=
  fun f hf => by
    obtain ⟨f, rfl⟩ := fuel_succ hlt hf
    exact ⟨f, Header.fuel_step hf hi, by rw [ruleLoop, if_pos hlt, M.bind_def, h]⟩

theorem ruleLoop_done {src : List Char} {fuel : Nat} {rn : Name} {f i : Nat} {p : PState} {st : St}
    {j : Nat} {st' : St} (hlt : i < byteLen src) (hf : byteLen src < i + f)
    (h : M.Ret (ruleStep src fuel rn i p) st (.done j) st') :
    ruleLoop src fuel rn f i p st = .ok (j, st') := by
  obtain ⟨f, rfl⟩ := fuel_succ hlt hf
  rw [ruleLoop, if_pos hlt, M.bind_def, h]; rfl

theorem stage_syms {src : List Char} {fuel : Nat} {rn : Name} : ∀ (ss : List RTok) (i : Nat) (p : PState)
    (st : St) (k : List Char), At src i (renderSyms ss ++ k) → ss.all wfTok = true → Starts k →
    LoopTo src fuel rn i p st (runSyms i ss p st)
  | [], i, p, st, _, _, _, _ => LoopTo.refl i p st
  | s :: ss, i, p, st, k, h, hw, hk => by
    simp only [List.all_cons, Bool.and_eq_true] at hw
    rw [renderSyms_cons_append] at h
    rw [runSyms]
    exact (LoopTo.step (h.lt_of_starts (wfTok_starts hw.1 _)) (Nat.lt_succ_of_le (Nat.le_add_right _ _))
      (ruleStep_sym p st h hw.1 (starts_syms hw.2 hk))).trans
      (stage_syms ss _ _ _ k (h.adv.adv1 (by decide)) hw.2 hk)

theorem stage_empty {src : List Char} {fuel : Nat} {rn : Name} (e : Bool) (i : Nat) (p : PState)
    (st : St) (k : List Char) (h : At src i (renderEmpty e ++ k))
    (he : e = true → p.syms = [] ∧ FollowE k) :
    LoopTo src fuel rn i p st ((runEmpty i e p).1, (runEmpty i e p).2, st) := by
  cases e with
  | false => exact LoopTo.refl i p st
  | true =>
    obtain ⟨hp, hk⟩ := he rfl
    exact LoopTo.step (h.lt_of_starts (starts_cons _ (by decide))) (Nat.lt_add_of_pos_right (by decide))
      (ruleStep_empty p st h hp hk)

theorem stage_prec {src : List Char} {fuel : Nat} {rn : Name} (o : Option RTok) (i : Nat) (p : PState)
    (st : St) (k : List Char) (h : At src i (renderPrec o ++ k)) (hw : o.all wfTok = true)
    (hk : Starts k) : LoopTo src fuel rn i p st (runPrec i o p st) := by
  cases o with
  | none => exact LoopTo.refl i p st
  | some t =>
    exact LoopTo.step (h.lt_of_starts (starts_prec _ hk)) (show i < i + 6 + byteLen t.text + 1 by omega)
      (ruleStep_prec p st h (by simpa using hw) hk)

theorem stage_action {src : List Char} {fuel : Nat} {rn : Name} (o : Option (List Char)) (i : Nat)
    (p : PState) (st : St) (k : List Char) (h : At src i (renderAction o ++ k))
    (hw : o.all wfAction = true) (hfuel : byteLen src < fuel) (hk : BarSemi k) :
    LoopTo src fuel rn i p st (runAction i o p st) := by
  cases o with
  | none => exact LoopTo.refl i p st
  | some a =>
    exact LoopTo.step (h.lt_of_starts (starts_action _ hk.starts)) (show i < i + byteLen a + 3 by omega)
      (ruleStep_action p st h (by simpa using hw) hfuel hk)

theorem ruleLoop_prod {src : List Char} {fuel : Nat} {rn : Name} (pr : RProd) (i : Nat) (st : St)
    (k : List Char) (h : At src i (renderProd pr ++ k)) (hw : wfProd pr = true)
    (hfuel : byteLen src < fuel) (hk : BarSemi k) :
    LoopTo src fuel rn i { prodStart := i } st (runProd i pr st) := by
  obtain ⟨hs, hc, ha, he⟩ := wfProd_spec hw
  rw [renderProd_append] at h
  have hk3 : Starts (renderAction pr.action ++ k) := starts_action _ hk.starts
  have hk2 : Starts (renderPrec pr.prec ++ (renderAction pr.action ++ k)) := starts_prec _ hk3
  obtain ⟨e, s, c, ee, es, ec, hr⟩ := runProd_stages i pr st
  rw [hr]
  have l0 := ee ▸ stage_empty (fuel := fuel) (rn := rn) pr.empty i { prodStart := i } st _ h fun hE => ⟨rfl, by
    rw [he hE]; exact followE_tail _ _ hk⟩
  have h1 := h.adv_to (ee ▸ runEmpty_pos i pr.empty { prodStart := i })
  have l1 := es ▸ stage_syms (fuel := fuel) (rn := rn) pr.syms e.1 e.2 st _ h1 hs hk2
  have h2 := h1.adv_to (es ▸ runSyms_pos pr.syms e.1 e.2 st)
  have l2 := ec ▸ stage_prec (fuel := fuel) (rn := rn) pr.prec s.1 s.2.1 s.2.2 _ h2 hc hk3
  have h3 := h2.adv_to (ec ▸ runPrec_pos s.1 pr.prec s.2.1 s.2.2)
  exact ((l0.trans l1).trans l2).trans (stage_action pr.action _ _ _ _ h3 ha hfuel hk)

theorem ruleLoop_prods {src : List Char} {fuel : Nat} {rn : Name} (hfuel : byteLen src < fuel) :
    ∀ (more : List RProd) (pr : RProd) (f i : Nat) (st : St) (post : List Char),
    At src i (renderProds pr more ++ post) → (∀ q ∈ pr :: more, wfProd q = true) →
    st.ast.hasRule rn = true → byteLen src < i + f →
    ruleLoop src fuel rn f i { prodStart := i } st = .ok (runProds rn i pr more st) ∧
      At src (runProds rn i pr more st).1 ('\n' :: post)
  | [], pr, f, i, st, post, h, hw, hr, hf => by
    rw [renderProds_nil_append] at h
    have h1 := h.adv_to (runProd_pos i pr st)
    refine ⟨?_, h1.adv1 (by decide)⟩
    obtain ⟨f1, hf1, e⟩ := ruleLoop_prod (rn := rn) pr i st _ h (hw pr (by simp)) hfuel ⟨_, _, rfl, .inr rfl⟩ f hf
    rw [e, ruleLoop_done h1.lt hf1 (ruleStep_semi _ _ h1 (runProd_start_le i pr st)
      ((runProd_adds (dirs := []) rn i pr st).1.hasRule hr))]
    rfl
  | q :: qs, pr, f, i, st, post, h, hw, hr, hf => by
    have hwq : wfProd q = true := hw q (by simp)
    rw [renderProds_cons_append] at h
    have h1 := h.adv_to (runProd_pos i pr st)
    have h2 : At src ((runProd i pr st).1 + 2) (renderProds q qs ++ post) :=
      (h1.adv1 (by decide)).adv1 (by decide)
    have hr' := (runProd_adds (dirs := []) rn i pr st).1.hasRule hr
    obtain ⟨f1, hf1, e1⟩ := ruleLoop_prod (rn := rn) pr i st _ h (hw pr (by simp)) hfuel ⟨_, _, rfl, .inl rfl⟩ f hf
    obtain ⟨f2, hf2, e2⟩ := LoopTo.step h1.lt (Nat.lt_add_of_pos_right (by decide))
      (ruleStep_bar _ _ h1 (starts_prods hwq post) (runProd_start_le i pr st) hr') f1 hf1
    rw [e1, e2]
    exact ruleLoop_prods hfuel qs q f2 _ _ post h2 (fun q' hq' => hw q' (List.mem_cons_of_mem _ hq')) hr' hf2

theorem colonLoop_end {src : List Char} {f j : Nat} {k : List Char} (st : St) (h : At src j (':' :: ' ' :: k))
    (hf : 0 < f) : colonLoop src f j st = .ok (j, st) := by
  obtain ⟨f, rfl⟩ := Nat.exists_eq_add_one.2 hf
  have h1 : At src (j + 1) (' ' :: k) := h.adv1 (by decide)
  rw [colonLoop, if_pos h.lt, M.Ret.bind_eq (liftR_ret (nextChar_ok h)), if_pos rfl]
  rw [if_neg (Nat.ne_of_lt h1.lt), M.Ret.bind_eq (liftR_ret (slice_ok h1))]
  rfl

theorem colonLoop_type {src : List Char} : ∀ (n : Nat) (ty : List Char) (f j : Nat) (st : St) (k : List Char),
    ty.length ≤ n → At src j (ty ++ ':' :: ' ' :: k) → typeScan ty = true → ty.length < f →
    colonLoop src f j st = .ok (j + byteLen ty, St.incNl (YaccLex.countEol ty) st) := by
  -- induction on a bound `n` of the length, not on `ty`: at `::` the loop goes on two characters further
  intro n
  induction n with
  | zero =>
    intro ty f j st k hn h _ hf
    obtain rfl : ty = [] := List.length_eq_zero_iff.1 (Nat.le_zero.1 hn)
    exact colonLoop_end st h hf
  | succ n ih =>
    intro ty f j st k hn h hs hf
    cases ty with
    | nil => exact colonLoop_end st h hf
    | cons c cs =>
      obtain ⟨f, rfl⟩ := Nat.exists_eq_add_one.2 (Nat.zero_lt_of_lt hf)
      have h0 : At src j (c :: (cs ++ ':' :: ' ' :: k)) := h
      have hlen : cs.length ≤ n := Nat.le_of_succ_le_succ hn
      have hf' : cs.length < f := Nat.lt_of_succ_lt_succ hf
      rw [colonLoop, if_pos h0.lt, M.Ret.bind_eq (liftR_ret (nextChar_ok h0)), incNl_countEol_cons,
        show j + byteLen (c :: cs) = j + c.utf8Size + byteLen cs from (Nat.add_assoc _ _ _).symm]
      rw [typeScan.eq_def] at hs
      dsimp only at hs
      by_cases hc : c = ':'
      · subst hc
        rw [if_pos rfl] at hs
        cases cs with
        | nil => cases hs
        | cons d ds =>
          by_cases hd : d = ':'
          · subst hd
            have h1 : At src (j + 1) (':' :: (ds ++ ':' :: ' ' :: k)) := h0.adv1 (by decide)
            have h2 : At src (j + 2) (ds ++ ':' :: ' ' :: k) := h1.adv1 (by decide)
            rw [if_pos rfl]
            rw [if_neg (Nat.ne_of_lt h1.lt), M.Ret.bind_eq (liftR_ret (slice_ok h1)),
              if_pos (show [':'].isPrefixOf (':' :: (ds ++ ':' :: ' ' :: k)) = true from rfl),
              ih ds f (j + 2) st k (Nat.le_of_succ_le hlen) h2 (by simpa using hs) (Nat.lt_of_succ_lt hf')]
            have e : j + Char.utf8Size ':' + byteLen (':' :: ds) = j + 2 + byteLen ds := by
              rw [show byteLen (':' :: ds) = Char.utf8Size ':' + byteLen ds from rfl, show Char.utf8Size ':' = 1 by decide]
              omega
            rw [e, if_neg (by decide), incNl_countEol_cons, if_neg (by decide)]
            rfl
          · simp [hd] at hs
      · rw [if_neg hc] at hs ⊢
        by_cases heol : YaccLex.isEol c = true
        · rw [if_pos heol, if_pos heol]
          exact ih cs f _ (St.incNl 1 st) k hlen h0.next hs hf'
        · rw [if_neg heol, if_neg heol]
          exact ih cs f _ st k hlen h0.next hs hf'

theorem parseToSingleColon_at {src : List Char} {fuel j : Nat} {ty k : List Char} (st : St)
    (h : At src j (ty ++ ':' :: ' ' :: k)) (hs : typeScan ty = true) (hf : ty.length < fuel) :
    M.Ret (parseToSingleColon src fuel j) st (j + byteLen ty) (St.incNl (YaccLex.countEol ty) st) :=
  M.Ret.bind (colonLoop_type ty.length ty fuel j st k (Nat.le_refl _) h hs hf)
    (M.Ret.bind (liftR_ret h.range) M.Ret.pure)

theorem wfType_starts {ty : List Char} (h : wfType ty = true) (k : List Char) :
    Starts (ty ++ k) ∧ typeScan ty = true := by
  cases ty with
  | nil => simp [wfType] at h
  | cons c cs =>
    simp only [wfType, Bool.and_eq_true, Bool.not_eq_true', bne_iff_ne, ne_eq] at h
    exact ⟨starts_cons _ ⟨h.1.1.1, h.1.1.2, h.1.2⟩, h.2⟩

/-- `g` says whether the kind is `YaccKind::Grmtools` -/
def kindIs (g : Bool) (kind : Kind) : Prop := (kind = .grmtools) ↔ g = true

theorem ruleHead_at {src : List Char} {kind : Kind} {fuel i : Nat} {g : Bool} (r : RRule) (st : St)
    (k : List Char) (h : At src i (renderHead g r ++ ':' :: ' ' :: k)) (hk : kindIs g kind)
    (hty : g = true → wfType r.ty = true) (hfuel : byteLen src < fuel) (sp : Span) :
    M.Ret (ruleHead src kind fuel r.name sp i) st (i + byteLen (renderHead g r))
      (St.mapAst (fun a => a.addRule r.name sp) (St.incNl (headNl g r) st)) := by
  cases g with
  | false =>
    have hk' : kind ≠ .grmtools := fun e => by have := hk.1 e; cases this
    unfold ruleHead
    rw [if_neg hk']
    refine M.Ret.bind (modifyAst_ret _ _) ?_
    simp only [renderHead, byteLen, Bool.false_eq_true, if_false, Nat.add_zero]
    exact M.Ret.pure
  | true =>
    have hk' : kind = .grmtools := hk.2 rfl
    obtain ⟨hst, hscan⟩ := wfType_starts (hty rfl) (':' :: ' ' :: k)
    have h0 : At src i (' ' :: '-' :: '>' :: ' ' :: (r.ty ++ ':' :: ' ' :: k)) := by
      simpa [renderHead] using h
    have h1 : At src (i + 1) ('-' :: '>' :: ' ' :: (r.ty ++ ':' :: ' ' :: k)) := h0.adv1 (by decide)
    have h3 : At src (i + 1 + 2) (' ' :: (r.ty ++ ':' :: ' ' :: k)) := by
      have := At.adv (a := ['-', '>']) (by simpa using h1)
      rwa [show byteLen ['-', '>'] = 2 by decide] at this
    have h4 : At src (i + 1 + 2 + 1) (r.ty ++ ':' :: ' ' :: k) := h3.adv1 (by decide)
    have hpc := parseToSingleColon_at st h4 hscan (h4.fuel (Nat.lt_add_left _ hfuel))
    unfold ruleHead
    rw [if_pos hk']
    refine M.Ret.bind (ws_space h0 (starts_cons _ (by decide)).stops st) ?_
    refine M.Ret.bind (la_lit (l := ['-', '>']) String.toList_ofList h1 st rfl) ?_
    dsimp only
    refine M.Ret.bind (ws_space h3 hst.stops st) ?_
    refine M.Ret.bind hpc ?_
    refine M.Ret.bind (modifyAst_ret _ _) ?_
    have e : i + 1 + 2 + 1 + byteLen r.ty = i + byteLen (renderHead true r) := by
      rw [show renderHead true r = [' ', '-', '>', ' '] ++ r.ty from rfl, byteLen_append,
        show byteLen [' ', '-', '>', ' '] = 4 by decide]
      omega
    rw [e]
    exact M.Ret.pure

theorem parseRule_at {src : List Char} {kind : Kind} {fuel i : Nat} {g : Bool} (r : RRule) (st : St)
    (post : List Char) (h : At src i (renderRule g r ++ post)) (hk : kindIs g kind)
    (hr : wfRule g r = true) (hfuel : byteLen src < fuel) :
    M.Ret (parseRule src kind fuel i) st
      (runProds r.name (i + byteLen r.name + byteLen (renderHead g r) + 2) r.first r.more (headSt g i r st)).1
      (runProds r.name (i + byteLen r.name + byteLen (renderHead g r) + 2) r.first r.more (headSt g i r st)).2 ∧
    At src (runProds r.name (i + byteLen r.name + byteLen (renderHead g r) + 2) r.first r.more (headSt g i r st)).1
      ('\n' :: post) := by
  obtain ⟨hn, hq, hty⟩ := wfRule_spec hr
  rw [renderRule_append] at h
  have hh : At src (i + byteLen r.name) (renderHead g r ++ ':' :: ' ' :: (renderProds r.first r.more ++ post)) :=
    h.adv
  have h1 : At src (i + byteLen r.name + byteLen (renderHead g r))
      (':' :: ' ' :: (renderProds r.first r.more ++ post)) := hh.adv
  have h2 : At src (i + byteLen r.name + byteLen (renderHead g r) + 1)
      (' ' :: (renderProds r.first r.more ++ post)) := h1.adv1 (by decide)
  have h3 : At src (i + byteLen r.name + byteLen (renderHead g r) + 2)
      (renderProds r.first r.more ++ post) := h2.adv1 (by decide)
  have hst := starts_prods (more := r.more) (hq r.first (by simp)) post
  obtain ⟨hloop, hend⟩ := ruleLoop_prods (rn := r.name) hfuel r.more r.first fuel _
    (headSt g i r st) post h3 hq (hasRule_addRule _ _ _) (Nat.lt_add_left _ hfuel)
  refine ⟨?_, hend⟩
  unfold parseRule
  refine M.Ret.bind (liftR_ret (parseName_at h hn (by cases g <;> exact nameEnd_cons (by decide) _))) ?_
  dsimp only
  refine M.Ret.bind (liftR_ret (mkSpan_le _ _)) ?_
  refine M.Ret.bind (modifyAst_ret _ st) ?_
  refine M.Ret.bind (ruleHead_at r _ _ hh hk hty hfuel _) ?_
  refine M.Ret.bind (ws_none h1 (starts_cons _ (by decide)).stops _) ?_
  refine M.Ret.bind (la_lit (l := [':']) String.toList_ofList h1 _ rfl) ?_
  dsimp only
  exact M.Ret.bind (ws_space h2 hst.stops _) hloop

def RulesEnd (post : List Char) : Prop := post = [] ∨ ∃ t, post = '%' :: '%' :: t

theorem stops_rules {g : Bool} {rs : List RRule} (hw : ∀ r ∈ rs, wfRule g r = true) {post : List Char}
    (hp : RulesEnd post) : Stops (renderRules g rs ++ post) := by
  cases rs with
  | nil =>
    rcases hp with rfl | ⟨t, rfl⟩
    · exact .nil
    · exact (starts_cons _ (by decide)).stops
  | cons r rs =>
    rw [renderRules_cons_append, renderRule_append]
    exact (wfName_starts (wfRule_spec (hw r (by simp))).1 _).stops

theorem rulesLoop_rules {src : List Char} {kind : Kind} {fuel : Nat} {g : Bool} (hk : kindIs g kind)
    (hfuel : byteLen src < fuel) :
    ∀ (rs : List RRule) (f i : Nat) (st : St) (post : List Char), At src i (renderRules g rs ++ post) →
    (∀ r ∈ rs, wfRule g r = true) → RulesEnd post → byteLen src < i + f →
    rulesLoop src kind fuel f i st = .ok (runRules g i rs st)
  | [], f, i, st, post, h, _, hp, hf => by
    have h0 : At src i post := h
    rcases hp with rfl | ⟨t, rfl⟩
    · have e := h0.eq_len
      obtain ⟨f, rfl⟩ : ∃ f', f = f' + 1 := Nat.exists_eq_add_one.2 (by omega)
      rw [rulesLoop, if_neg (by omega)]; rfl
    · obtain ⟨f, rfl⟩ := fuel_succ h0.lt hf
      rw [rulesLoop, if_pos h0.lt, M.Ret.bind_eq (la_lit (l := ['%', '%']) String.toList_ofList h0 st rfl)]
      rfl
  | r :: rs, f, i, st, post, h, hw, hp, hf => by
    have hr := hw r (by simp)
    rw [renderRules_cons_append] at h
    obtain ⟨c, t, e, f5⟩ : ∃ c t, renderRule g r = c :: t ∧ c ≠ '%' :=
      tok_not_pct (t := .bare r.name) (wfRule_spec hr).1 _
    have hhead : At src i (c :: t ++ (renderRules g rs ++ post)) := e ▸ h
    obtain ⟨hrule, hnl⟩ := parseRule_at r st _ h hk hr hfuel
    have hnext : At src (runRule g i r st).1 (renderRules g rs ++ post) := hnl.adv1 (by decide)
    have hlt : i < (runRule g i r st).1 := by
      rw [runRule_pos, e]
      exact Nat.lt_add_of_pos_right (Nat.add_pos_left (Char.utf8Size_pos c) _)
    obtain ⟨f, rfl⟩ := fuel_succ hhead.lt hf
    rw [rulesLoop, if_pos hhead.lt]
    change M.Ret _ st (runRules g i (r :: rs) st).1 (runRules g i (r :: rs) st).2
    refine M.Ret.bind (la_ne hhead String.toList_ofList f5 st) ?_
    dsimp only
    refine M.Ret.bind hrule ?_
    refine M.Ret.bind (ws_nl hnl (stops_rules (fun r' hr' => hw r' (List.mem_cons_of_mem _ hr')) hp) _) ?_
    exact rulesLoop_rules hk hfuel rs f _ _ post hnext (fun r' hr' => hw r' (List.mem_cons_of_mem _ hr')) hp
      (Header.fuel_step hf hlt)

theorem parseRules_at {src : List Char} {kind : Kind} {fuel i : Nat} {g : Bool} (hk : kindIs g kind)
    (rs : List RRule) (st : St) (post : List Char)
    (h : At src i ('%' :: '%' :: '\n' :: (renderRules g rs ++ post)))
    (hw : wfRules g rs = true) (hp : RulesEnd post) (hf : byteLen src < fuel) :
    parseRules src kind fuel i st = .ok (runRules g (i + 3) rs (St.incNl 1 st)) := by
  have hw' : ∀ r ∈ rs, wfRule g r = true := List.all_eq_true.1 hw
  have h2 : At src (i + 2) ('\n' :: (renderRules g rs ++ post)) := (h.adv1 (by decide)).adv1 (by decide)
  have h3 : At src (i + 2 + 1) (renderRules g rs ++ post) := h2.adv1 (by decide)
  have hloop := rulesLoop_rules hk hf rs fuel _ (St.incNl 1 st) post h3 hw' hp (Nat.lt_add_left _ hf)
  unfold parseRules
  change M.Ret _ st (runRules g (i + 3) rs (St.incNl 1 st)).1 (runRules g (i + 3) rs (St.incNl 1 st)).2
  refine M.Ret.bind (la_lit (l := ['%', '%']) String.toList_ofList h st rfl) ?_
  dsimp only
  refine M.Ret.bind (ws_nl h2 (stops_rules hw' hp) st) ?_
  exact hloop

end GrmVerif.YaccRender
