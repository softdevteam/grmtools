import GrmVerif.Model.LR
/-! Parse trees on their own: induction over a tree and the lists of its children at once, the list functions
of `Model/LR.lean` as the tree functions mapped over the list (so that on appended, reversed and split lists they
behave as `List.flatMap`, `List.all`, `List.map` do), and the shape of a tree. -/
namespace GrmVerif.Tree

theorem induction {M : Tree → Prop} {Ms : List Tree → Prop}
    (leaf : ∀ t i, M (.leaf t i)) (node : ∀ p kids, Ms kids → M (.node p kids))
    (nil : Ms []) (cons : ∀ k ks, M k → Ms ks → Ms (k :: ks)) : (∀ T, M T) ∧ (∀ ks, Ms ks) :=
  ⟨fun T => Tree.rec (motive_1 := M) (motive_2 := Ms) leaf node nil cons T,
   fun ks => Tree.rec_1 (motive_1 := M) (motive_2 := Ms) leaf node nil cons ks⟩

theorem induction_mem {M : Tree → Prop} (leaf : ∀ t i, M (.leaf t i))
    (node : ∀ p kids, (∀ k ∈ kids, M k) → M (.node p kids)) (T : Tree) : M T :=
  (induction (Ms := fun ks => ∀ k ∈ ks, M k) leaf node nofun
    fun _ _ hk hks => List.forall_mem_cons.mpr ⟨hk, hks⟩).1 T

end GrmVerif.Tree

namespace GrmVerif.Cert
open GrmVerif

theorem yieldList_eq : ∀ ts : List Tree, Tree.yieldList ts = ts.flatMap Tree.yield
  | [] => rfl
  | k :: ks => by rw [Tree.yieldList, yieldList_eq ks, List.flatMap_cons]

theorem leafIdxsList_eq : ∀ ts : List Tree, Tree.leafIdxsList ts = ts.flatMap Tree.leafIdxs
  | [] => rfl
  | k :: ks => by rw [Tree.leafIdxsList, leafIdxsList_eq ks, List.flatMap_cons]

theorem validList_eq (G : Grammar) : ∀ ts : List Tree, Tree.validList G ts = ts.all (Tree.valid G)
  | [] => rfl
  | k :: ks => by rw [Tree.validList, validList_eq G ks, List.all_cons]

theorem valid_node {G : Grammar} {p : Nat} {kids : List Tree} :
    Tree.valid G (.node p kids) = true ↔
      p < G.nprods ∧ kids.map (Tree.root G) = G.rhs p ∧ Tree.validList G kids = true := by
  simp only [Tree.valid, Bool.and_eq_true, decide_eq_true_eq, beq_iff_eq, and_assoc]

/-- the shape of a tree: lexeme indices forgotten -/
def shape : Tree → Tree
  | .leaf t _ => .leaf t 0
  | .node p kids => .node p (shapes kids)
where shapes : List Tree → List Tree
  | [] => []
  | k :: ks => shape k :: shapes ks

theorem shapes_eq : ∀ ts : List Tree, shape.shapes ts = ts.map shape
  | [] => rfl
  | k :: ks => by rw [shape.shapes, shapes_eq ks, List.map_cons]

theorem shapes_append (a b : List Tree) : shape.shapes (a ++ b) = shape.shapes a ++ shape.shapes b := by
  simp only [shapes_eq, List.map_append]

theorem shapes_length (a : List Tree) : (shape.shapes a).length = a.length := by
  rw [shapes_eq, List.length_map]

end GrmVerif.Cert
