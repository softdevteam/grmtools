import GrmVerif.Lemmas.KeptShift
import GrmVerif.Lemmas.Viable
import GrmVerif.Lemmas.LRLookahead
import GrmVerif.Lemmas.TreeFirst
import GrmVerif.Lemmas.RunSpec
/-!
`KeptShiftInvisible` holds of EVERY automaton that passes the certificates `Cert.check`,
`Cert.checkLA` and the closure-minimality half `Cert.vpClosed` of `Cert.checkVP`
(`keptShiftInvisible_of_cert`).

Proof. `LV σ p d la` is canonical LR(1) validity of the item `[p, d, la]` on the stack path `σ`,
defined on the automaton's own edges (start item with end-of-input; closure with
`la' ∈ FIRST(rest · la)`; goto along an edge); the lookahead `none` stands for "no information"
(LR(0) validity), so no productivity of the grammar is needed.
* `lv_lower`: the certified lookahead sets contain every valid lookahead (L1–L3 propagate them).
* `lv_of_closed`: every closed item of the top state of a path is LR(0)-valid (`vpClosed`, K3′). The hypothesis
  `hmin` of this and the later lemmas is what `vpClosed` certifies (`vpClosed_minimal`, `Lemmas/Viable.lean`):
  a closed set holds only closure items of its kernel.
* `lv_trace`: an item of the top state from which `t` can come next goes back to a KERNEL item from
  which `t` can come next, i.e. to an item `[B → γ · X δ, la]` of the state below with `t ∈ FIRST(δ la)`.
* `validNext_pull`: hence, if `t` is a valid next token after the reduction by `p`, then `[p, |p|, t]`
  is valid before it.
* `validNext_of_feed`: a run of `feed` under `t` that ends in a shift or an accept starts in a stack
  on which `t` is a valid next token (induction over the run, backwards through `validNext_pull`).
* `feed_reduce_same`: so the cell `(top, t)` of a stack on which the table reduces by `p` under some
  refused lexeme, and whose reduct goes on to shift `t`, holds a complete item of `p` with `t` in its
  lookahead set, and L4 (conflict-freedom) makes the cell that same reduction.
* `reds_same`: so all the reductions made under a refused lexeme are made again, in the same order, under
  every token with which the parse then goes on (`offer_invisible`; `kept_invisible` for a chain of offers).
-/
namespace GrmVerif.C05
open Rec Cert Spec Ref Term

section
variable (G : Grammar) (A : Automaton) (N : Nat → Bool) (F : Nat × Nat → Bool)

/-- **canonical LR(1) validity** of the item `[p, d]` with lookahead `la` (`none` = no information)
on the stack `σ` (top first) -/
inductive LV : List Nat → Nat → Nat → Option Nat → Prop
  | base (la : Option Nat) : (∀ t, la = some t → t = G.eof) → LV [A.start] G.startProd 0 la
  | close (σ : List Nat) (p d q : Nat) (la la' : Option Nat) :
      LV σ p d la → symAt G p d = some (.rule (G.lhs q)) → q < G.nprods →
      (∀ t, la' = some t → t < G.ntoks ∧ firstSeqL N F ((G.rhs p).drop (d + 1)) la.toList t = true) →
      LV σ q 0 la'
  | goto (s : Nat) (rest : List Nat) (p d : Nat) (la : Option Nat) (X : Sym) (t : Nat) :
      LV (s :: rest) p d la → symAt G p d = some X → A.edge s X = some t →
      LV (t :: s :: rest) p (d + 1) la

/-- `t` can come next on the stack `σ`: some valid item has `t` in FIRST of its rest followed by its
lookahead -/
def ValidNext (σ : List Nat) (t : Nat) : Prop :=
  ∃ p d la, LV G A N F σ p d la ∧ firstSeqL N F ((G.rhs p).drop d) la.toList t = true

end

section
variable {G : Grammar} {A : Automaton} {N : Nat → Bool} {F : Nat × Nat → Bool}

theorem lv_lower (P : Props G A) (PL : PropsLA G A N F) :
    ∀ {σ : List Nat} {p d : Nat} {la : Option Nat}, LV G A N F σ p d la → (∀ s ∈ σ, s < A.nstates) →
      ∃ s rest, σ = s :: rest ∧ ∃ j ∈ A.closed s, j.p = p ∧ j.dot = d ∧ ∀ t, la = some t → t ∈ j.la := by
  intro σ p d la h
  induction h with
  | base la hla =>
    intro _
    obtain ⟨k, hk, hkp, hkd⟩ := P.startHas
    obtain ⟨j, hj, hjp, hjd, hjla⟩ := PL.coreLA A.start P.startLt k hk
    refine ⟨A.start, [], rfl, j, hj, by rw [hjp, hkp], by rw [hjd, hkd], ?_⟩
    intro t ht
    rw [hla t ht]
    exact hjla _ (PL.startLA k hk)
  | close σ p d q la la' _ hsym hq hla' ih =>
    intro hσ
    obtain ⟨s, rest, rfl, j, hj, hjp, hjd, hjla⟩ := ih hσ
    have hs : s < A.nstates := hσ s (by simp)
    obtain ⟨j', hj', hj'p, hj'd, hj'la⟩ := PL.closeLA s hs j hj (G.lhs q) (by rw [hjp, hjd]; exact hsym) q
      (mem_prodsOf.mpr ⟨hq, rfl⟩)
    refine ⟨s, rest, rfl, j', hj', hj'p, hj'd, ?_⟩
    intro t ht
    obtain ⟨htl, hfs⟩ := hla' t ht
    refine hj'la t htl ?_
    rw [hjp, hjd]
    exact firstSeqL_mono (fun a ha => hjla a (Option.mem_toList.mp ha)) hfs
  | goto s rest p d la X t _ hsym he ih =>
    intro hσ
    obtain ⟨s0, rest0, heq, j, hj, hjp, hjd, hjla⟩ := ih (fun x hx => hσ x (List.mem_cons_of_mem _ hx))
    simp only [List.cons.injEq] at heq
    obtain ⟨rfl, rfl⟩ := heq
    have hs : s < A.nstates := hσ s (by simp)
    obtain ⟨-, j1, hj1, hj1p, hj1d, hj1la⟩ := advance P PL hs hj (by rw [hjp, hjd]; exact hsym) he
    exact ⟨t, s :: rest, rfl, j1, hj1, hj1p.trans hjp, by rw [hj1d, hjd], fun a ha => hj1la _ (hjla a ha)⟩

theorem firstSeqL_close (hN : ∀ r, N r = true ↔ NullableR G r) (hF : ∀ r t, F (r, t) = true ↔ FirstP G r t)
    {p d q : Nat} {la la' : Option Nat} (hsym : symAt G p d = some (.rule (G.lhs q))) (hq : q < G.nprods)
    (hla' : ∀ t, la' = some t → t < G.ntoks ∧ firstSeqL N F ((G.rhs p).drop (d + 1)) la.toList t = true)
    {t : Nat} (h : firstSeqL N F (G.rhs q) la'.toList t = true) :
    firstSeqL N F ((G.rhs p).drop d) la.toList t = true := by
  rw [drop_of_symAt hsym, firstSeqL_rule, Bool.or_eq_true, Bool.and_eq_true]
  rcases firstSeqL_eq_true.mp h with h | ⟨h1, h2⟩
  · -- `t ∈ FIRST(rhs q)`, so `t ∈ FIRST(lhs q)`
    exact Or.inl ((hF _ _).mpr (firstP_of_rhs hq ((firstSeq_iff hN hF _ _).mp h)))
  · -- `rhs q` nullable and `t` is the closure item's lookahead
    exact Or.inr ⟨(hN _).mpr (.mk q hq ((seqNullable_iff hN _).mp h1)), (hla' t (Option.mem_toList.mp h2)).2⟩

theorem lv_trace (hN : ∀ r, N r = true ↔ NullableR G r) (hF : ∀ r t, F (r, t) = true ↔ FirstP G r t) :
    ∀ {σ : List Nat} {p d : Nat} {la : Option Nat}, LV G A N F σ p d la →
      ∀ t, firstSeqL N F ((G.rhs p).drop d) la.toList t = true →
      ∀ s s0 rest, σ = s :: s0 :: rest →
      ∃ p' d' la' X, LV G A N F (s0 :: rest) p' d' la' ∧ symAt G p' d' = some X ∧ A.edge s0 X = some s ∧
        firstSeqL N F ((G.rhs p').drop (d' + 1)) la'.toList t = true := by
  intro σ p d la h
  induction h with
  | base la hla => intro t _ s s0 rest heq; simp at heq
  | close σ p d q la la' _ hsym hq hla' ih =>
    intro t ht s s0 rest heq
    rw [List.drop_zero] at ht
    exact ih t (firstSeqL_close hN hF hsym hq hla' ht) s s0 rest heq
  | goto s1 rest1 p d la X t1 hlv hsym he _ =>
    intro t ht s s0 rest heq
    simp only [List.cons.injEq] at heq
    obtain ⟨rfl, rfl, rfl⟩ := heq
    exact ⟨p, d, la, X, hlv, hsym, he, ht⟩

/-- if the top `d` edges of a path spell the first `d` symbols of `rhs p` and `[p, 0, la]` is valid `d` states
down, then `[p, d, la]` is valid on the whole stack (`d` goto steps) -/
theorem lv_goto_steps {p : Nat} {la : Option Nat} :
    ∀ (d : Nat) (σ : List Nat) (labels : List Sym), Path A σ labels → d ≤ labels.length →
      (labels.take d).reverse = (G.rhs p).take d → LV G A N F (σ.drop d) p 0 la → LV G A N F σ p d la := by
  intro d
  induction d with
  | zero => intro σ labels _ _ _ h; simpa using h
  | succ d ih =>
    intro σ labels hpath hd hl h
    cases hpath with
    | base => simp at hd
    | step s t rest labels1 X hp1 he =>
      simp only [List.length_cons] at hd
      simp only [List.take_succ_cons, List.reverse_cons] at hl
      have hlen : d < (G.rhs p).length := by
        have := congrArg List.length hl
        simp only [List.length_append, List.length_reverse, List.length_take, List.length_singleton] at this
        omega
      rw [List.take_add_one, List.getElem?_eq_getElem hlen] at hl
      simp only [Option.toList_some] at hl
      obtain ⟨hl1, hl2⟩ := List.append_inj' hl (by simp)
      simp only [List.cons.injEq, and_true] at hl2
      have hsym : symAt G p d = some X := by
        unfold symAt; rw [List.getElem?_eq_getElem hlen, hl2]
      simp only [List.drop_succ_cons] at h
      exact .goto s rest p d la X t (ih (s :: rest) labels1 hp1 (by omega) hl1 h) hsym he

theorem edge_label_unique (P : Props G A) {s g : Nat} {X Y : Sym} (hs : s < A.nstates)
    (h1 : A.edge s X = some g) (h2 : A.edge s Y = some g) : X = Y := by
  obtain ⟨_, hne, hc1⟩ := P.edgeTarget s hs _ (edge_mem h1)
  obtain ⟨_, _, hc2⟩ := P.edgeTarget s hs _ (edge_mem h2)
  obtain ⟨i, hi⟩ := List.exists_mem_of_ne_nil _ hne
  exact Option.some.inj ((hc1 i hi).2.1.symm.trans (hc2 i hi).2.1)

theorem validNext_pull (P : Props G A)
    (hN : ∀ r, N r = true ↔ NullableR G r) (hF : ∀ r t, F (r, t) = true ↔ FirstP G r t)
    {st : Nat} {tl : List Nat} {labels : List Sym} (hpath : Path A (st :: tl) labels) {p : Nat}
    (hplt : p < G.nprods) (hitem : HasItem (A.closed st) p (G.rhs p).length)
    {prior g : Nat} {rest : List Nat} (hd : (st :: tl).drop (G.rhs p).length = prior :: rest)
    (hg : A.edge prior (.rule (G.lhs p)) = some g) {t : Nat} (ht : t < G.ntoks)
    (hv : ValidNext G A N F (g :: prior :: rest) t) :
    LV G A N F (st :: tl) p (G.rhs p).length (some t) := by
  obtain ⟨p0, d0, la0, hlv0, hfs0⟩ := hv
  obtain ⟨p', d', la', X, hlv', hsym', he', hfs'⟩ := lv_trace hN hF hlv0 t hfs0 g prior rest rfl
  obtain ⟨h1, h2, _⟩ := path_item P (G.rhs p).length st tl labels p hpath hitem
  have hprior : prior < A.nstates := by
    have : prior ∈ st :: tl := List.mem_of_mem_drop (by rw [hd]; simp)
    exact hpath.states_lt P prior this
  have hX : X = .rule (G.lhs p) := edge_label_unique P hprior he' hg
  subst hX
  have hbase : LV G A N F ((st :: tl).drop (G.rhs p).length) p 0 (some t) := by
    rw [hd]
    refine .close _ p' d' p la' (some t) hlv' hsym' hplt ?_
    intro t' ht'
    injection ht' with ht'
    subst ht'
    exact ⟨ht, hfs'⟩
  exact lv_goto_steps _ _ labels hpath h1 h2 hbase

theorem lv_of_closed (P : Props G A)
    (hmin : ∀ s, s < A.nstates → ∀ i ∈ A.closed s, Clo0 G (A.core s) i.p i.dot)
    {σ : List Nat} {labels : List Sym} (h : Path A σ labels) :
    ∀ s rest, σ = s :: rest → ∀ p d, HasItem (A.closed s) p d → LV G A N F σ p d none :=
  h.closed_items P hmin (V := fun σ _ p d => LV G A N F σ p d none) (.base none nofun)
    (fun h hsym he => .goto _ _ _ _ none _ _ h hsym he) (fun h hsym hq => .close _ _ _ _ none none h hsym hq nofun)

/-- a result of `feed` with which the parse goes on: the lookahead was shifted or accepted -/
def goes : Fed → Prop
  | .shifted _ => True
  | .accept _ => True
  | _ => False

theorem reduce_step (P : Props G A) {la : Nat} (hla : la < G.ntoks) {st : Nat} {tl : List Nat}
    (hp : IsPath A (st :: tl)) {p : Nat} (hact : A.action st la = .reduce p) :
    p ≠ G.startProd ∧ p < G.nprods ∧ HasItem (A.closed st) p (G.rhs p).length ∧
    ∃ prior rest g, (st :: tl).drop (G.rhs p).length = prior :: rest ∧
      A.edge prior (.rule (G.lhs p)) = some g ∧ IsPath A (g :: prior :: rest) ∧
      ∀ t' n, A.action st t' = .reduce p →
        feed G A t' (n + 1) (st :: tl) = feed G A t' n (g :: prior :: rest) := by
  obtain ⟨labels, hpath⟩ := id hp
  obtain ⟨-, -, g, hr, -⟩ := hpath.reduce P hla hact
  obtain ⟨_, _, prior, rest, he, hpne, hplt, hitem, hd, hg, hp'⟩ := hp.reduce P hla hr
  obtain ⟨_, _, _, _, -, -, hd', hgo⟩ := hr
  cases he
  cases hd.symm.trans hd'
  rw [red, hd] at hp'
  refine ⟨hpne, hplt, hitem, prior, rest, g, hd, hg, hp', fun t' n hact' => ?_⟩
  rw [feed_red ⟨st, tl, prior, rest, rfl, hact', hd, hgo⟩, red, hd]

theorem validNext_of_feed (P : Props G A)
    (hN : ∀ r, N r = true ↔ NullableR G r) (hF : ∀ r t, F (r, t) = true ↔ FirstP G r t)
    (hmin : ∀ s, s < A.nstates → ∀ i ∈ A.closed s, Clo0 G (A.core s) i.p i.dot)
    {t : Nat} (ht : t < G.ntoks) :
    ∀ (fuel : Nat) (σ : List Nat), IsPath A σ → goes (feed G A t fuel σ) → ValidNext G A N F σ t := by
  intro fuel
  induction fuel with
  | zero => intro σ _ h; simp [feed, goes] at h
  | succ n ih =>
    intro σ hp h
    cases σ with
    | nil => obtain ⟨labels, hpath⟩ := hp; cases hpath
    | cons st tl =>
      have hst : st < A.nstates := hp.states_lt P st (by simp)
      cases hact : A.action st t with
      | error => simp [feed, hact, goes] at h
      | shift s' =>
        have hedge := P.actShift st t s' hst ht hact
        obtain ⟨_, hne, hcore⟩ := P.edgeTarget st hst _ (edge_mem hedge)
        obtain ⟨k, hk⟩ := List.exists_mem_of_ne_nil _ hne
        obtain ⟨_, hksym, hkprev⟩ := hcore k hk
        simp only at hksym hkprev
        obtain ⟨labels, hpath⟩ := hp
        refine ⟨k.p, k.dot - 1, none, lv_of_closed P hmin hpath st tl rfl _ _ hkprev, ?_⟩
        rw [drop_of_symAt hksym]
        simp [firstSeqL, Ref.firstSeq]
      | accept =>
        obtain ⟨labels, hpath⟩ := hp
        obtain ⟨hteof, rfl, S, hS, rfl⟩ := accept_path P hpath ht hact
        have hlv : LV G A N F [st, A.start] G.startProd 1 (some G.eof) :=
          lv_goto_steps 1 _ _ hpath (Nat.le_refl 1) (by rw [hS]; rfl)
            (.base _ (by intro x hx; injection hx with hx; exact hx.symm))
        refine ⟨G.startProd, 1, some G.eof, hlv, ?_⟩
        rw [hS, hteof]
        simp [firstSeqL, seqNullable]
      | reduce p =>
        obtain ⟨hpne, hplt, hitem, prior, rest, g, hd, hg, hpath', hfeed⟩ := reduce_step P ht hp hact
        rw [hfeed t n hact] at h
        have hv := ih _ hpath' h
        obtain ⟨labels, hpath⟩ := hp
        have hlv := validNext_pull P hN hF hpath hplt hitem hd hg ht hv
        refine ⟨p, (G.rhs p).length, some t, hlv, ?_⟩
        simp [firstSeqL, seqNullable]

theorem feed_reduce_same (P : Props G A) (PL : PropsLA G A N F)
    (hN : ∀ r, N r = true ↔ NullableR G r) (hF : ∀ r t, F (r, t) = true ↔ FirstP G r t)
    (hmin : ∀ s, s < A.nstates → ∀ i ∈ A.closed s, Clo0 G (A.core s) i.p i.dot)
    {st : Nat} {tl : List Nat} (hp : IsPath A (st :: tl)) {p : Nat} (hplt : p < G.nprods)
    (hpne : p ≠ G.startProd) (hitem : HasItem (A.closed st) p (G.rhs p).length)
    {prior g : Nat} {rest : List Nat} (hd : (st :: tl).drop (G.rhs p).length = prior :: rest)
    (hg : A.edge prior (.rule (G.lhs p)) = some g) (hp' : IsPath A (g :: prior :: rest))
    {t : Nat} (ht : t < G.ntoks) {f : Nat} (h : goes (feed G A t f (g :: prior :: rest))) :
    A.action st t = .reduce p := by
  have hv := validNext_of_feed P hN hF hmin ht f _ hp' h
  have hstates := hp.states_lt P
  obtain ⟨labels, hpath⟩ := hp
  have hlv := validNext_pull P hN hF hpath hplt hitem hd hg ht hv
  obtain ⟨s, r, heq, j, hj, hjp, hjd, hjla⟩ := lv_lower P PL hlv hstates
  simp only [List.cons.injEq] at heq
  obtain ⟨rfl, _⟩ := heq
  have hst : st < A.nstates := hstates st (by simp)
  have hcomplete : symAt G j.p j.dot = none := by
    unfold symAt; rw [hjp, hjd]; simp
  have := PL.actReduceC st hst j hj hcomplete (by rw [hjp]; exact hpne) t (hjla t rfl)
  rw [hjp] at this
  exact this

theorem goes_action {t f : Nat} {σ : List Nat} (h : goes (feed G A t f σ)) : ∃ st, A.action st t ≠ .error := by
  cases hf : feed G A t f σ with
  | shifted x => obtain ⟨st, s', ha⟩ := RankImpl.feed_shifted_action hf; exact ⟨st, by rw [ha]; simp⟩
  | accept x => obtain ⟨st, _, _, ha⟩ := feed_accept_top hf; exact ⟨st, by rw [ha]; simp⟩
  | _ => rw [hf] at h; cases h

/-- **The reductions made under a refused lexeme are the reductions the table makes under every token with
which the parse then goes on**: if `a` reduces under `la` by the productions `ps` to `s`, and under `t` the
stack `s` shifts or accepts (after whatever further reductions), then `a` reduces under `t` by the same `ps`
to `s`. -/
theorem reds_same (P : Props G A) (PL : PropsLA G A N F)
    (hN : ∀ r, N r = true ↔ NullableR G r) (hF : ∀ r t, F (r, t) = true ↔ FirstP G r t)
    (hmin : ∀ s, s < A.nstates → ∀ i ∈ A.closed s, Clo0 G (A.core s) i.p i.dot)
    (hcols : colsOk G A = true) {la : Nat} {a s : List Nat} {ps : List (Nat × Nat)}
    (h : Reds G A la a ps s) (hp : IsPath A a) :
    IsPath A s ∧ ∀ t f, goes (feed G A t f s) → Reds G A t a ps s := by
  induction h with
  | nil a => exact ⟨hp, fun _ _ _ => .nil a⟩
  | @cons a s p s' ps hr _ ih =>
    obtain ⟨st, tl, prior, rest, rfl, hact, hd, hgt⟩ := id hr
    have hla : la < G.ntoks := colsOk_action hcols (by rw [hact]; simp)
    obtain ⟨_, _, _, _, he, hpne, hplt, hitem, hd', hg, hp'⟩ := hp.reduce P hla hr
    cases he
    cases hd.symm.trans hd'
    obtain ⟨hps, hrest⟩ := ih hp'
    refine ⟨hps, fun t f hgo => ?_⟩
    have hr' := hrest t f hgo
    have ht : t < G.ntoks := by
      obtain ⟨st', hne⟩ := goes_action hgo
      exact colsOk_action hcols hne
    -- the reduct goes on under `t`, so the cell of the unreduced stack under `t` holds this very reduction
    rw [red, hd] at hp' hr'
    have hsame : A.action st t = .reduce p :=
      feed_reduce_same P PL hN hF hmin hp hplt hpne hitem hd hg hp' ht (f := ps.length + f)
        (by rw [feed_reds hr']; exact hgo)
    exact .cons ⟨st, tl, prior, rest, rfl, hsame, hd, hgt⟩ (by rw [red, hd]; exact hr')

theorem offer_invisible (P : Props G A) (PL : PropsLA G A N F)
    (hN : ∀ r, N r = true ↔ NullableR G r) (hF : ∀ r t, F (r, t) = true ↔ FirstP G r t)
    (hmin : ∀ s, s < A.nstates → ∀ i ∈ A.closed s, Clo0 G (A.core s) i.p i.dot)
    (hcols : colsOk G A = true) (la : Nat) :
    ∀ (fuel : Nat) (a s : List Nat), IsPath A a → feed G A la fuel a = .error s →
      IsPath A s ∧ ∀ t f, goes (feed G A t f s) → ∃ f', feed G A t f' a = feed G A t f s := by
  intro fuel a s hp h
  obtain ⟨ps, _, _, hr, -, -⟩ := feed_spec h
  obtain ⟨hps, hsame⟩ := reds_same P PL hN hF hmin hcols hr hp
  exact ⟨hps, fun t f hgo => ⟨ps.length + f, feed_reds (hsame t f hgo) f⟩⟩

theorem kept_invisible (P : Props G A) (PL : PropsLA G A N F)
    (hN : ∀ r, N r = true ↔ NullableR G r) (hF : ∀ r t, F (r, t) = true ↔ FirstP G r t)
    (hmin : ∀ s, s < A.nstates → ∀ i ∈ A.closed s, Clo0 G (A.core s) i.p i.dot)
    (hcols : colsOk G A = true) {a b : List Nat} (h : Kept G A a b) (hb : IsPath A b) :
    IsPath A a ∧ ∀ t f, goes (feed G A t f a) → ∃ f', feed G A t f' b = feed G A t f a := by
  induction h with
  | refl s => exact ⟨hb, fun t f _ => ⟨f, rfl⟩⟩
  | offer a b la s _ hf ih =>
    obtain ⟨hpa, hab⟩ := ih hb
    obtain ⟨hps, hsa⟩ := offer_invisible P PL hN hF hmin hcols la FUEL a s hpa hf
    refine ⟨hps, ?_⟩
    intro t f hgo
    obtain ⟨f1, h1⟩ := hsa t f hgo
    obtain ⟨f2, h2⟩ := hab t f1 (by rw [h1]; exact hgo)
    exact ⟨f2, by rw [h2, h1]⟩

/-- **Every certified conflict-free table satisfies `KeptShiftInvisible`.** `check` (K1–K6),
`checkLA` (L1–L4, with the exact nullable/FIRST sets `N`, `F`), `vpClosed` (closed sets hold only
closure items of their kernels) and `colsOk` (no action cell beyond the grammar's tokens): all
decidable, all evaluated by the driver on every dumped automaton. -/
theorem keptShiftInvisible_of_cert (hc : check G A = true) (hla : checkLA G A N F = true)
    (hN : ∀ r, N r = true ↔ NullableR G r) (hF : ∀ r t, F (r, t) = true ↔ FirstP G r t)
    (hvp : vpClosed G A = true) (hcols : colsOk G A = true) : KeptShiftInvisible G A := by
  have P := check_props G A hc
  have PL := checkLA_props G A N F hla
  have hmin := vpClosed_minimal hvp
  intro a b hab hb t
  obtain ⟨_, h⟩ := kept_invisible P PL hN hF hmin hcols hab hb
  refine ⟨?_, ?_⟩
  · intro x hx
    obtain ⟨f', hf'⟩ := h t FUEL (by rw [hx]; trivial)
    exact ⟨f', by rw [hf', hx]⟩
  · intro x hx
    obtain ⟨f', hf'⟩ := h t FUEL (by rw [hx]; trivial)
    exact ⟨f', x, by rw [hf', hx]⟩

end

theorem wholeRunCert_unpack {G : Grammar} {A : Automaton} (h : wholeRunCert G A = true) :
    check G A = true ∧ vpClosed G A = true ∧ colsOk G A = true ∧
    ∃ An, Ref.analyses G = some An ∧ checkLA G A (An.nullable.contains ·) (An.first.contains ·) = true := by
  simp only [wholeRunCert, Bool.and_eq_true] at h
  obtain ⟨⟨⟨h1, h2⟩, h3⟩, h5⟩ := h
  refine ⟨h1, h2, h3, ?_⟩
  cases ha : Ref.analyses G with
  | none => rw [ha] at h5; cases h5
  | some An => rw [ha] at h5; exact ⟨An, rfl, h5⟩

end GrmVerif.C05
