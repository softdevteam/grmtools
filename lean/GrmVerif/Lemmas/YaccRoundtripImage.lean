import GrmVerif.Lemmas.YaccRoundtripText
/-!
C10, text → AST stage: the image `runRules` read declaratively. What it does to the state is one relation,
`Adds`: token names and rule names are entered in order of first appearance, productions are appended — with spans
forgotten exactly the productions of the description, in order — and nothing else changes (`runRules_adds`, composed
from one such fact per image function). Every recorded name span delimits exactly the name's text in the rendered
source (`src[span] = name`): symbols of productions, rule names, token set, `%start` (`runRules_text`).
-/
namespace GrmVerif.YaccRender
open GrmVerif.YaccParse
open GrmVerif.Header (Res Span byteLen sliceRange)

/-- a production of the AST with spans forgotten: rule, symbols (`true` = token), `%prec`, action? -/
structure PView where
  rule : Name
  syms : List (Bool × Name)
  prec : Option Name
  action : Bool
deriving DecidableEq, Repr

def symView (s : Sym) : Bool × Name := (s.isTok, s.name)

def prodView (p : Prod) : PView := ⟨p.rule, p.syms.map symView, p.prec, p.action⟩

/-- how the parser classifies a written symbol: quoted → token; bare → token iff declared by `%token` -/
def RTok.isTok (dirs : List Name) : RTok → Bool
  | .quoted _ _ => true
  | .bare n => dirs.contains n

def descSym (dirs : List Name) (s : RTok) : Bool × Name := (s.isTok dirs, s.name)

def descProd (dirs : List Name) (rn : Name) (p : RProd) : PView :=
  ⟨rn, p.syms.map (descSym dirs), p.prec.map RTok.name, p.action.isSome⟩

def descProds (dirs : List Name) : List RRule → List PView
  | [] => []
  | r :: rs => r.prods.map (descProd dirs r.name) ++ descProds dirs rs

/-- the hypothesis on the state in which the rules section is entered: `dirs` are the names declared
by `%token`, and each of them is in the token set (the `%token` loop inserts both together) -/
def DirsOK (dirs : List Name) (st : St) : Prop :=
  st.ast.tokenDirs = dirs ∧ ∀ n, dirs.contains n = true → st.ast.hasToken n = true

theorem dirsOK_of_eq {D : List Name} {st st' : St} (h1 : st'.ast.tokens = st.ast.tokens)
    (h2 : st'.ast.tokenDirs = st.ast.tokenDirs) (h : DirsOK D st) : DirsOK D st' := by
  refine ⟨h2.trans h.1, fun n hn => ?_⟩
  have := h.2 n hn
  simp only [Ast.hasToken] at this ⊢
  rw [h1]; exact this

/-- `IndexSet::insert` / `IndexMap` entry on a list of names: append unless present -/
def addName (acc : List Name) (n : Name) : List Name := if acc.contains n then acc else acc ++ [n]

theorem any_eq_contains (l : List (Name × Span)) (n : Name) :
    l.any (fun t => t.1 == n) = (l.map (·.1)).contains n := by
  induction l with
  | nil => rfl
  | cons x xs ih =>
    simp only [List.any_cons, List.map_cons, List.contains_cons, ih]
    rw [BEq.comm (a := x.1)]

theorem insertToken_names (a : Ast) (n : Name) (sp : Span) :
    (a.insertToken n sp).tokens.map (·.1) = addName (a.tokens.map (·.1)) n := by
  unfold Ast.insertToken addName Ast.hasToken
  rw [any_eq_contains]
  split <;> simp

theorem addRule_names (a : Ast) (n : Name) (sp : Span) :
    (a.addRule n sp).rules.map (·.1) = addName (a.rules.map (·.1)) n := by
  unfold Ast.addRule addName Ast.hasRule
  rw [any_eq_contains]
  split <;> simp

theorem mem_addName {acc : List Name} {n m : Name} : m ∈ addName acc n ↔ m ∈ acc ∨ m = n := by
  unfold addName
  split
  · next h => exact ⟨.inl, fun h' => h'.elim id fun e => e ▸ List.contains_iff_mem.mp h⟩
  · rw [List.mem_append, List.mem_singleton]

theorem mem_foldl_addName {l acc : List Name} {m : Name} : m ∈ l.foldl addName acc ↔ m ∈ acc ∨ m ∈ l := by
  induction l generalizing acc with
  | nil => exact ⟨.inl, fun h => h.elim id nofun⟩
  | cons x xs ih => rw [List.foldl_cons, ih, mem_addName, List.mem_cons, or_assoc]

def tokNames (st : St) : List Name := st.ast.tokens.map (·.1)

def ruleNames (st : St) : List Name := st.ast.rules.map (·.1)

/-- the part of the state that the rules section leaves alone -/
def outside (st : St) : St :=
  { st with nl := 0, ast := { st.ast with start := none, rules := [], prods := [], tokens := [] } }

/-- What reading a piece of the rules section does to the state: the token names `T` and the rule names `R`
are entered in order (each unless it is there already), productions with the views `P` are appended, `start`
and the newline count may change, and nothing else does. The views are what they are only in a state with
`DirsOK dirs`, since a bare symbol is classified by the token set of the moment. -/
structure Adds (dirs : List Name) (st st' : St) (T R : List Name) (P : List PView) : Prop where
  frame : outside st' = outside st
  toks : tokNames st' = T.foldl addName (tokNames st)
  rules : ruleNames st' = R.foldl addName (ruleNames st)
  prods : DirsOK dirs st → st'.ast.prods.map prodView = st.ast.prods.map prodView ++ P

theorem Adds.refl {dirs : List Name} (st : St) : Adds dirs st st [] [] [] :=
  ⟨rfl, rfl, rfl, fun _ => (List.append_nil _).symm⟩

theorem Adds.errs {dirs : List Name} {st st' : St} {T R : List Name} {P : List PView} (h : Adds dirs st st' T R P) :
    st'.errs = st.errs :=
  show (outside st').errs = (outside st).errs from congrArg St.errs h.frame

theorem Adds.dirsOK {dirs : List Name} {st st' : St} {T R : List Name} {P : List PView} (h : Adds dirs st st' T R P)
    (hd : DirsOK dirs st) : DirsOK dirs st' := by
  refine ⟨(congrArg (·.ast.tokenDirs) h.frame).trans hd.1, fun n hn => ?_⟩
  have := hd.2 n hn
  rw [Ast.hasToken, any_eq_contains, List.contains_iff_mem] at this ⊢
  exact (h.toks ▸ mem_foldl_addName.mpr (.inl this) : n ∈ tokNames st')

theorem Adds.hasRule {dirs : List Name} {st st' : St} {T R : List Name} {P : List PView} (h : Adds dirs st st' T R P)
    {n : Name} (hr : st.ast.hasRule n = true) : st'.ast.hasRule n = true := by
  rw [Ast.hasRule, any_eq_contains, List.contains_iff_mem] at hr ⊢
  exact (h.rules ▸ mem_foldl_addName.mpr (.inl hr) : n ∈ ruleNames st')

theorem Adds.trans {dirs : List Name} {a b c : St} {T T' R R' : List Name} {P P' : List PView}
    (h1 : Adds dirs a b T R P) (h2 : Adds dirs b c T' R' P') : Adds dirs a c (T ++ T') (R ++ R') (P ++ P') :=
  ⟨h2.frame.trans h1.frame, by rw [h2.toks, h1.toks, List.foldl_append], by rw [h2.rules, h1.rules, List.foldl_append],
    fun h => by rw [h2.prods (h1.dirsOK h), h1.prods h, List.append_assoc]⟩

/-- the views may be named differently where the state classifies as `dirs` says -/
theorem Adds.of_prods {dirs : List Name} {st st' : St} {T R : List Name} {P P' : List PView}
    (h : Adds dirs st st' T R P) (hp : DirsOK dirs st → P = P') : Adds dirs st st' T R P' :=
  ⟨h.frame, h.toks, h.rules, fun hd => hp hd ▸ h.prods hd⟩

theorem Adds.incNl {dirs : List Name} {st st' : St} {T R : List Name} {P : List PView} (h : Adds dirs st st' T R P)
    (k : Nat) : Adds dirs st (St.incNl k st') T R P :=
  ⟨h.frame, h.toks, h.rules, h.prods⟩

theorem adds_insert {dirs : List Name} (st : St) (n : Name) (sp : Span) :
    Adds dirs st (St.mapAst (fun a => a.insertToken n sp) st) [n] [] [] := by
  have e : St.mapAst (fun a => a.insertToken n sp) st
      = { st with ast := { st.ast with tokens := (st.ast.insertToken n sp).tokens } } := by
    simp only [St.mapAst, Ast.insertToken]; split <;> rfl
  rw [e]
  exact ⟨rfl, insertToken_names st.ast n sp, rfl, fun _ => (List.append_nil _).symm⟩

theorem adds_push {dirs : List Name} (st : St) (p : Prod) : Adds dirs st (pushProd p st) [] [] [prodView p] :=
  ⟨rfl, rfl, rfl, fun _ => List.map_append⟩

theorem adds_start {dirs : List Name} (st : St) (n : Name) (sp : Span) :
    Adds dirs st (St.mapAst (setStart n sp) st) [] [] [] := by
  simp only [St.mapAst, setStart]
  split
  · exact ⟨rfl, rfl, rfl, fun _ => (List.append_nil _).symm⟩
  · exact Adds.refl st

theorem adds_rule {dirs : List Name} (st : St) (n : Name) (sp : Span) :
    Adds dirs st (St.mapAst (fun a => a.addRule n sp) st) [] [n] [] := by
  have e : St.mapAst (fun a => a.addRule n sp) st
      = { st with ast := { st.ast with rules := (st.ast.addRule n sp).rules } } := by
    simp only [St.mapAst, Ast.addRule]; split <;> rfl
  rw [e]
  exact ⟨rfl, rfl, addRule_names st.ast n sp, fun _ => (List.append_nil _).symm⟩

theorem adds_head {dirs : List Name} (g : Bool) (i : Nat) (r : RRule) (st : St) :
    Adds dirs st (headSt g i r st) [] [r.name] [] :=
  ((adds_start st _ _).trans (adds_rule _ _ _)).incNl _

/-- the token names inserted, in order: quoted symbols and `%prec` operands -/
def RTok.inserted : RTok → List Name
  | .quoted _ t => [t]
  | .bare _ => []

def prodToks (p : RProd) : List Name := p.syms.flatMap RTok.inserted ++ (p.prec.map RTok.name).toList

def rulesToks : List RRule → List Name
  | [] => []
  | r :: rs => r.prods.flatMap prodToks ++ rulesToks rs

def pview (p : PState) : List (Bool × Name) × Option Name × Bool := (p.syms.map symView, p.prec, p.action)

theorem stepSym_adds {dirs : List Name} (i : Nat) (s : RTok) (p : PState) (st : St) :
    Adds dirs st (stepSym i s p st).2 s.inserted [] [] ∧
      (DirsOK dirs st → pview (stepSym i s p st).1 = ((pview p).1 ++ [descSym dirs s], (pview p).2)) := by
  cases s with
  | quoted q t =>
    exact ⟨adds_insert _ _ _, fun _ => by simp [stepSym, pview, symView, descSym, RTok.isTok, RTok.name]⟩
  | bare n =>
    refine ⟨Adds.refl _, fun h => ?_⟩
    have : (st.ast.hasToken n && st.ast.tokenDirs.contains n) = dirs.contains n := by
      rw [h.1]
      cases hc : dirs.contains n with
      | false => simp
      | true => simp [h.2 n hc]
    simp only [stepSym, pview, List.map_append, List.map_cons, List.map_nil, symView, descSym, RTok.isTok,
      RTok.name, this]

theorem runSyms_adds {dirs : List Name} : ∀ (ss : List RTok) (i : Nat) (p : PState) (st : St),
    Adds dirs st (runSyms i ss p st).2.2 (ss.flatMap RTok.inserted) [] [] ∧
      (DirsOK dirs st → pview (runSyms i ss p st).2.1 = ((pview p).1 ++ ss.map (descSym dirs), (pview p).2))
  | [], _, _, st => ⟨Adds.refl st, fun _ => by simp [runSyms]⟩
  | s :: ss, i, p, st => by
    obtain ⟨k1, v1⟩ := stepSym_adds (dirs := dirs) i s p st
    obtain ⟨k2, v2⟩ := runSyms_adds ss (i + byteLen s.text + 1) (stepSym i s p st).1 (stepSym i s p st).2
    rw [runSyms]
    refine ⟨k1.trans k2, fun h => ?_⟩
    rw [v2 (k1.dirsOK h), v1 h]
    simp

theorem runEmpty_view (i : Nat) (e : Bool) (p : PState) : pview (runEmpty i e p).2 = pview p := by
  cases e <;> rfl

theorem runPrec_adds {dirs : List Name} (i : Nat) (o : Option RTok) (p : PState) (st : St) :
    Adds dirs st (runPrec i o p st).2.2 (o.map RTok.name).toList [] [] ∧
      pview (runPrec i o p st).2.1 = ((pview p).1, (o.map RTok.name).or (pview p).2.1, (pview p).2.2) := by
  cases o with
  | none => exact ⟨Adds.refl _, rfl⟩
  | some t => exact ⟨adds_insert _ _ _, rfl⟩

theorem runAction_adds {dirs : List Name} (i : Nat) (o : Option (List Char)) (p : PState) (st : St) :
    Adds dirs st (runAction i o p st).2.2 [] [] [] ∧
      pview (runAction i o p st).2.1 = ((pview p).1, (pview p).2.1, o.isSome || (pview p).2.2) := by
  cases o with
  | none => exact ⟨Adds.refl _, rfl⟩
  | some t => exact ⟨(Adds.refl st).incNl _, rfl⟩

theorem runProd_adds {dirs : List Name} (rn : Name) (i : Nat) (pr : RProd) (st : St) :
    Adds dirs st (runProd i pr st).2.2 (prodToks pr) [] [] ∧
      (DirsOK dirs st → ∀ j, prodView (mkProd rn (runProd i pr st).2.1 j) = descProd dirs rn pr) := by
  obtain ⟨e, s, c, he, hs, hc, hr⟩ := runProd_stages i pr st
  rw [hr]
  have ve : pview e.2 = ([], none, false) := he ▸ runEmpty_view i pr.empty { prodStart := i }
  obtain ⟨k1, v1⟩ := hs ▸ runSyms_adds (dirs := dirs) pr.syms e.1 e.2 st
  obtain ⟨k2, v2⟩ := hc ▸ runPrec_adds (dirs := dirs) s.1 pr.prec s.2.1 s.2.2
  obtain ⟨k3, v3⟩ := runAction_adds (dirs := dirs) c.1 pr.action c.2.1 c.2.2
  refine ⟨by simpa [prodToks] using (k1.trans k2).trans k3, fun h j => ?_⟩
  have hv : pview (runAction c.1 pr.action c.2.1 c.2.2).2.1
      = (pr.syms.map (descSym dirs), pr.prec.map RTok.name, pr.action.isSome) := by
    rw [v3, v2, v1 h, ve]
    simp
  simp only [pview, Prod.mk.injEq] at hv
  simp only [prodView, mkProd, descProd, hv.1, hv.2.1, hv.2.2]

theorem keeps_push_view (dirs : List Name) (st : St) (p : Prod) :
    (DirsOK dirs st → DirsOK dirs (pushProd p st)) ∧
      (pushProd p st).ast.prods = st.ast.prods ++ [p] := ⟨id, rfl⟩

theorem runProds_adds {dirs : List Name} (rn : Name) : ∀ (more : List RProd) (pr : RProd) (i : Nat) (st : St),
    Adds dirs st (runProds rn i pr more st).2 ((pr :: more).flatMap prodToks) []
      ((pr :: more).map (descProd dirs rn))
  | [], pr, i, st => by
    obtain ⟨k, v⟩ := runProd_adds (dirs := dirs) rn i pr st
    simpa [runProds] using (k.trans (adds_push _ (mkProd rn (runProd i pr st).2.1 (runProd i pr st).1))).of_prods
      fun h => congrArg (· :: []) (v h _)
  | q :: qs, pr, i, st => by
    obtain ⟨k, v⟩ := runProd_adds (dirs := dirs) rn i pr st
    rw [runProds]
    simpa using ((k.trans (adds_push _ (mkProd rn (runProd i pr st).2.1 (runProd i pr st).1))).trans
      (runProds_adds rn qs q _ _)).of_prods fun h => by rw [v h]; rfl

theorem runRule_adds {dirs : List Name} (g : Bool) (i : Nat) (r : RRule) (st : St) :
    Adds dirs st (runRule g i r st).2 (r.prods.flatMap prodToks) [r.name] (r.prods.map (descProd dirs r.name)) :=
  ((adds_head g i r st).trans (runProds_adds r.name r.more r.first _ _)).incNl 1

/-- the image of a rules section: the tokens, rules and productions of the description, and nothing else -/
theorem runRules_adds {dirs : List Name} (g : Bool) : ∀ (rs : List RRule) (i : Nat) (st : St),
    Adds dirs st (runRules g i rs st).2 (rulesToks rs) (rs.map (·.name)) (descProds dirs rs)
  | [], _, st => Adds.refl st
  | r :: rs, i, st => by
    rw [runRules]
    exact (runRule_adds g i r st).trans (runRules_adds g rs _ _)

theorem mem_descProds {dirs : List Name} {rs : List RRule} {v : PView} (h : v ∈ descProds dirs rs) :
    ∃ r ∈ rs, ∃ p ∈ r.prods, v = descProd dirs r.name p := by
  induction rs with
  | nil => simp [descProds] at h
  | cons r rs ih =>
    simp only [descProds, List.mem_append, List.mem_map] at h
    rcases h with ⟨p, hp, rfl⟩ | h
    · exact ⟨r, by simp, p, hp, rfl⟩
    · obtain ⟨r', hr', p, hp, e⟩ := ih h
      exact ⟨r', List.mem_cons_of_mem _ hr', p, hp, e⟩

/-- `&src[sp.0 .. sp.1]` is the text `n` -/
def Spells (src : List Char) (n : Name) (sp : Span) : Prop :=
  (sliceRange src sp.1 sp.2 : Res YErr (List Char)) = .ok n

structure TextOK (src : List Char) (a : Ast) : Prop where
  syms : ∀ p ∈ a.prods, ∀ s ∈ p.syms, Spells src s.name s.span
  rules : ∀ r ∈ a.rules, Spells src r.1 r.2
  tokens : ∀ t ∈ a.tokens, Spells src t.1 t.2
  start : ∀ s, a.start = some s → Spells src s.1 s.2

def PSyms (src : List Char) (p : PState) : Prop := ∀ s ∈ p.syms, Spells src s.name s.span

theorem tok_spells {src : List Char} {i : Nat} {t : RTok} {rest : List Char} (hw : wfTok t = true)
    (h : At src i (t.text ++ rest)) : Spells src t.name (t.span i) := by
  cases t with
  | quoted q t =>
    have h0 : At src i (q :: (t ++ q :: rest)) := by simpa [RTok.text] using h
    exact (h0.adv1 (quote_size (wfTok_quoted hw).1)).range
  | bare n => exact h.range

theorem textOK_insert {src : List Char} {a : Ast} {n : Name} {sp : Span} (h : TextOK src a)
    (hs : Spells src n sp) : TextOK src (a.insertToken n sp) := by
  unfold Ast.insertToken
  split
  · exact h
  · exact { h with tokens := Header.forall_mem_snoc h.tokens hs }

theorem stepSym_text {src : List Char} {i : Nat} {s : RTok} {rest : List Char} {p : PState} {st : St}
    (ht : TextOK src st.ast) (hp : PSyms src p) (hw : wfTok s = true) (h : At src i (s.text ++ rest)) :
    TextOK src (stepSym i s p st).2.ast ∧ PSyms src (stepSym i s p st).1 := by
  have hs := tok_spells hw h
  cases s with
  | quoted q t => exact ⟨textOK_insert ht hs, Header.forall_mem_snoc hp hs⟩
  | bare n => exact ⟨ht, Header.forall_mem_snoc hp hs⟩

theorem runSyms_text {src : List Char} : ∀ (ss : List RTok) (i : Nat) (p : PState) (st : St) (k : List Char),
    TextOK src st.ast → PSyms src p → ss.all wfTok = true → At src i (renderSyms ss ++ k) →
    TextOK src (runSyms i ss p st).2.2.ast ∧ PSyms src (runSyms i ss p st).2.1 := by
  intro ss
  induction ss with
  | nil => intro i p st k ht hp _ _; exact ⟨ht, hp⟩
  | cons s ss ih =>
    intro i p st k ht hp hw h
    simp only [List.all_cons, Bool.and_eq_true] at hw
    rw [renderSyms_cons_append] at h
    obtain ⟨t1, p1⟩ := stepSym_text ht hp hw.1 h
    rw [runSyms]
    exact ih _ _ _ k t1 p1 hw.2 (h.adv.adv1 (by decide))

theorem runPrec_text {src : List Char} {i : Nat} {o : Option RTok} {k : List Char} {p : PState} {st : St}
    (ht : TextOK src st.ast) (hp : PSyms src p) (hw : o.all wfTok = true) (h : At src i (renderPrec o ++ k)) :
    TextOK src (runPrec i o p st).2.2.ast ∧ PSyms src (runPrec i o p st).2.1 := by
  cases o with
  | none => exact ⟨ht, hp⟩
  | some t =>
    have h0 : At src i (['%', 'p', 'r', 'e', 'c', ' '] ++ (t.text ++ ' ' :: k)) := by
      simpa [renderPrec] using h
    have h6 := h0.adv
    rw [show byteLen ['%', 'p', 'r', 'e', 'c', ' '] = 6 by decide] at h6
    exact ⟨textOK_insert ht (tok_spells (by simpa using hw) h6), hp⟩

theorem runAction_text {src : List Char} {i : Nat} {o : Option (List Char)} {p : PState} {st : St}
    (ht : TextOK src st.ast) (hp : PSyms src p) :
    TextOK src (runAction i o p st).2.2.ast ∧ PSyms src (runAction i o p st).2.1 := by
  cases o <;> exact ⟨ht, hp⟩

theorem runProd_text {src : List Char} {i : Nat} {pr : RProd} {k : List Char} {st : St}
    (ht : TextOK src st.ast) (hw : wfProd pr = true) (h : At src i (renderProd pr ++ k)) :
    TextOK src (runProd i pr st).2.2.ast ∧ PSyms src (runProd i pr st).2.1 := by
  obtain ⟨hs, hc, -⟩ := wfProd_spec hw
  rw [renderProd_append] at h
  have h1 := h.adv_to (runEmpty_pos i pr.empty { prodStart := i })
  have h2 := h1.adv_to (runSyms_pos pr.syms _ (runEmpty i pr.empty { prodStart := i }).2 st)
  have pe : PSyms src (runEmpty i pr.empty { prodStart := i }).2 := by
    intro s hs'
    cases hE : pr.empty <;> rw [hE] at hs' <;> simp [runEmpty] at hs'
  obtain ⟨t1, p1⟩ := runSyms_text pr.syms _ _ st _ ht pe hs h1
  obtain ⟨t2, p2⟩ := runPrec_text t1 p1 hc h2
  exact runAction_text t2 p2

theorem textOK_push {src : List Char} {st : St} {p : PState} (ht : TextOK src st.ast) (hp : PSyms src p)
    (rn : Name) (j : Nat) : TextOK src (pushProd (mkProd rn p j) st).ast :=
  { ht with syms := Header.forall_mem_snoc ht.syms hp }

theorem runProds_text {src : List Char} (rn : Name) : ∀ (more : List RProd) (pr : RProd) (i : Nat) (st : St)
    (post : List Char), TextOK src st.ast → (∀ q ∈ pr :: more, wfProd q = true) →
    At src i (renderProds pr more ++ post) → TextOK src (runProds rn i pr more st).2.ast := by
  intro more
  induction more with
  | nil =>
    intro pr i st post ht hw h
    rw [renderProds_nil_append] at h
    obtain ⟨t1, p1⟩ := runProd_text ht (hw pr (by simp)) h
    exact textOK_push t1 p1 _ _
  | cons q qs ih =>
    intro pr i st post ht hw h
    rw [renderProds_cons_append] at h
    obtain ⟨t1, p1⟩ := runProd_text ht (hw pr (by simp)) h
    have h1 := h.adv_to (runProd_pos i pr st)
    rw [runProds]
    exact ih q _ _ post (textOK_push t1 p1 _ _) (fun q' hq' => hw q' (List.mem_cons_of_mem _ hq'))
      ((h1.adv1 (by decide)).adv1 (by decide))

theorem textOK_rule {src : List Char} {a : Ast} {n : Name} {sp : Span} (ht : TextOK src a)
    (hs : Spells src n sp) : TextOK src ((setStart n sp a).addRule n sp) := by
  have h1 : TextOK src (setStart n sp a) := by
    unfold setStart
    split
    · exact { ht with start := fun s hs' => Option.some.inj hs' ▸ hs }
    · exact ht
  unfold Ast.addRule
  split
  · exact h1
  · exact { h1 with rules := Header.forall_mem_snoc h1.rules hs }

theorem runRules_text {src : List Char} (g : Bool) : ∀ (rs : List RRule) (i : Nat) (st : St) (post : List Char),
    TextOK src st.ast → wfRules g rs = true → At src i (renderRules g rs ++ post) →
    TextOK src (runRules g i rs st).2.ast := by
  intro rs
  induction rs with
  | nil => intro i st post ht _ _; exact ht
  | cons r rs ih =>
    intro i st post ht hw h
    simp only [wfRules, List.all_cons, Bool.and_eq_true] at hw
    obtain ⟨hr, hrs⟩ := hw
    obtain ⟨-, hq, -⟩ := wfRule_spec hr
    rw [renderRules_cons_append] at h
    have hn := renderRule_append g r _ ▸ h
    have hp : At src (i + byteLen r.name + byteLen (renderHead g r) + 2)
        (renderProds r.first r.more ++ (renderRules g rs ++ post)) := by
      have := (hn.adv.adv.adv1 (by decide)).adv1 (by decide)
      rwa [show i + byteLen r.name + byteLen (renderHead g r) + 1 + 1
        = i + byteLen r.name + byteLen (renderHead g r) + 2 by omega] at this
    have t1 : TextOK src (headSt g i r st).ast := textOK_rule ht hn.range
    have t2 := runProds_text r.name r.more r.first _ _ _ t1 hq hp
    rw [runRules]
    exact ih _ _ post t2 (by simpa [wfRules] using hrs) (h.adv_to (runRule_pos g i r st))

end GrmVerif.YaccRender
