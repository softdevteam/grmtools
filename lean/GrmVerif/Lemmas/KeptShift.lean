import GrmVerif.Lemmas.RecEdited
import GrmVerif.Lemmas.TermAdj
import GrmVerif.Lemmas.RunSpec
/-!
The weakened form of `KeptInvisible` (C05) that certified conflict-free tables satisfy, and the
vocabulary of the whole-run theorems stated with it.

`KeptShiftInvisible G A`: if the stack `a` left by offering refused lexemes to a path stack `b`
(`Kept a b`) shifts a token, the unreduced stack `b` shifts it to the same stack, and if `a` accepts,
`b` accepts. Nothing is said about a token that `a` refuses (merged tables detect errors late: the
unreduced stack may shift what the reduced one refuses). The answer of `b` is given for SOME fuel of
`feed`: `b` has to redo the kept reductions first, so at the model's constant `FUEL` it can run out
where `a` does not; an answer other than "out of fuel" is the answer for every larger fuel
(`C07.feed_ge`), and the real parser's loop has no fuel.

`FirstValid`: the first sequence the recoverer reports at an error repairs (`validSeq … N`, `N ≥ 1`):
after it the plain parse shifts a lexeme or accepts. This is what makes the third clause of
`KeptInvisible` unnecessary: an error is never reported on a stack that still carries kept reductions.

The plain parse of the edited input is described without fuel (`ShiftsTo`, `FeedsTo`, `AcceptsAt`,
`RefusesAt`) and, as a function, with the fuel of `feed` as a parameter (`feedToksF`, `plainFromF`;
at `FUEL` these are `feedToks`, `plainFrom`).

Also here, what the column bound `colsOk` gives: a cell that is not `Error` lies within the table
(`colsOk_action`), and with the certificate the end-of-input discipline follows (`eof_discipline_of_cert`).
-/
namespace GrmVerif.C05
open Rec LR Cert Term

/-- **The reductions kept under refused lexemes cannot be observed by a token that is shifted or
accepted afterwards** (for some fuel of `feed` on the unreduced stack, hence for every larger one). -/
def KeptShiftInvisible (G : Grammar) (A : Automaton) : Prop :=
  ∀ a b, Kept G A a b → IsPath A b → ∀ t,
    (∀ x, feed G A t FUEL a = .shifted x → ∃ f, feed G A t f b = .shifted x) ∧
    (∀ x, feed G A t FUEL a = .accept x → ∃ f y, feed G A t f b = .accept y)

/-- the first sequence reported at every repaired error repairs: it applies and the plain parse then
runs over at least `N` further lexemes or to acceptance -/
def FirstValid (G : Grammar) (A : Automaton) (w : List Nat) (N : Nat)
    (recover : Pos → Option (Pos × List (List Repair))) : Prop :=
  ∀ c c' s0 rest, recover c = some (c', s0 :: rest) → validSeq G A w N c s0 = true

theorem colsOk_action {G : Grammar} {A : Automaton} (h : colsOk G A = true) {st t : Nat}
    (ha : A.action st t ≠ .error) : t < G.ntoks := by
  obtain ⟨sd, hs, hc⟩ := action_eq_some rfl ha
  simp only [colsOk, List.all_eq_true, decide_eq_true_eq] at h
  exact Nat.lt_of_lt_of_le (List.getElem?_eq_some_iff.mp hc).1 (h sd (List.mem_of_getElem? hs))

theorem action_state_lt {A : Automaton} {st t : Nat} (ha : A.action st t ≠ .error) : st < A.nstates := by
  obtain ⟨sd, hs, _⟩ := action_eq_some rfl ha
  exact (List.getElem?_eq_some_iff.mp hs).1

/-- the end-of-input discipline (`eofOk`'s meaning) follows from the certificate and the column bound:
K4 allows Accept only under end-of-input, and no edge carries the end-of-input token -/
theorem eof_discipline_of_cert {G : Grammar} {A : Automaton} (P : Props G A) (hcols : colsOk G A = true) :
    RankImpl.EofNeverShifted G A ∧ AcceptOnlyAtEof G A := by
  refine ⟨eofNeverShifted_of_props P, ?_⟩
  · intro st t ha
    have hst : st < A.nstates := action_state_lt (by rw [ha]; simp)
    have ht : t < G.ntoks := colsOk_action hcols (by rw [ha]; simp)
    exact (P.actAccept st t hst ht ha).1

/-- the plain stack automaton shifts `t` from `b` to `x` (after the reductions the table prescribes) -/
def ShiftsTo (G : Grammar) (A : Automaton) (t : Nat) (b x : List Nat) : Prop :=
  ∃ f, feed G A t f b = .shifted x

/-- the plain stack automaton accepts under lookahead `t` from `b` -/
def AcceptsAt (G : Grammar) (A : Automaton) (t : Nat) (b : List Nat) : Prop :=
  ∃ f y, feed G A t f b = .accept y

/-- the plain stack automaton refuses lookahead `t` from `b` -/
def RefusesAt (G : Grammar) (A : Automaton) (t : Nat) (b : List Nat) : Prop :=
  ∃ f y, feed G A t f b = .error y

/-- the plain stack automaton shifts the tokens one after the other, from `b` to `st` -/
def FeedsTo (G : Grammar) (A : Automaton) : List Nat → List Nat → List Nat → Prop
  | b, [], st => st = b
  | b, t :: ts, st => ∃ x, ShiftsTo G A t b x ∧ FeedsTo G A x ts st

theorem feedsTo_append {G : Grammar} {A : Automaton} :
    ∀ (l1 l2 : List Nat) (b m st : List Nat), FeedsTo G A b l1 m → FeedsTo G A m l2 st →
      FeedsTo G A b (l1 ++ l2) st := by
  intro l1
  induction l1 with
  | nil => intro l2 b m st h1 h2; simp only [FeedsTo] at h1; subst h1; simpa using h2
  | cons t ts ih =>
    intro l2 b m st h1 h2
    obtain ⟨x, hx, h1'⟩ := h1
    exact ⟨x, hx, ih l2 x m st h1' h2⟩

theorem feedsTo_of_feedToks {G : Grammar} {A : Automaton} :
    ∀ (l : List Nat) (b st : List Nat), feedToks G A b l = some st → FeedsTo G A b l st := by
  intro l
  induction l with
  | nil => intro b st h; simp only [feedToks, Option.some.injEq] at h; exact h.symm
  | cons t ts ih =>
    intro b st h
    simp only [feedToks] at h
    cases hf : feed G A t FUEL b with
    | shifted s => rw [hf] at h; exact ⟨s, ⟨FUEL, hf⟩, ih s st h⟩
    | _ => rw [hf] at h; cases h

def feedToksF (G : Grammar) (A : Automaton) (ff : Nat) : List Nat → List Nat → Option (List Nat)
  | stack, [] => some stack
  | stack, t :: ts =>
    match feed G A t ff stack with
    | .shifted s => feedToksF G A ff s ts
    | _ => none

/-- `plainFrom` with `feed` given fuel `ff` -/
def plainFromF (G : Grammar) (A : Automaton) (ff : Nat) : List Nat → List Nat → Nat → PlainOut
  | st, [], k =>
    match feed G A G.eof ff st with
    | .accept _ => .accepted
    | .error _ => .refusedAt k
    | _ => .other
  | st, t :: ts, k =>
    match feed G A t ff st with
    | .shifted s => plainFromF G A ff s ts (k + 1)
    | .error _ => .refusedAt k
    | _ => .other

theorem feedToksF_FUEL (G : Grammar) (A : Automaton) :
    ∀ (l : List Nat) (st : List Nat), feedToksF G A FUEL st l = feedToks G A st l := by
  intro l
  induction l with
  | nil => intro st; rfl
  | cons t ts ih =>
    intro st
    simp only [feedToksF, feedToks, ih]
    rfl

theorem plainFromF_FUEL (G : Grammar) (A : Automaton) :
    ∀ (l : List Nat) (st : List Nat) (k : Nat), plainFromF G A FUEL st l k = plainFrom G A st l k := by
  intro l
  induction l with
  | nil => intro st k; rfl
  | cons t ts ih =>
    intro st k
    simp only [plainFromF, plainFrom, ih]
    rfl

theorem plainFromF_mono {G : Grammar} {A : Automaton} {f f' : Nat} (hle : f ≤ f') :
    ∀ (l : List Nat) (st : List Nat) (k : Nat) (r : PlainOut), plainFromF G A f st l k = r → r ≠ .other →
      plainFromF G A f' st l k = r := by
  intro l
  -- a `feed` that ran out of fuel would have made the answer `other`; any other answer it gives again
  induction l with
  | nil =>
    intro st k r h hr
    have hfe : feed G A G.eof f' st = feed G A G.eof f st :=
      C07.feed_ge rfl (fun hfo => hr (by rw [← h]; simp only [plainFromF, hfo])) hle
    simp only [plainFromF, hfe] at h ⊢
    exact h
  | cons t ts ih =>
    intro st k r h hr
    have hfe : feed G A t f' st = feed G A t f st :=
      C07.feed_ge rfl (fun hfo => hr (by rw [← h]; simp only [plainFromF, hfo])) hle
    simp only [plainFromF, hfe] at h ⊢
    cases hf : feed G A t f st with
    | shifted s => rw [hf] at h; exact ih s (k + 1) r h hr
    | _ => rw [hf] at h; exact h

theorem feedToksF_of_feedsTo {G : Grammar} {A : Automaton} :
    ∀ (l : List Nat) (b st : List Nat), FeedsTo G A b l st →
      ∃ ff0, ∀ ff, ff0 ≤ ff → feedToksF G A ff b l = some st := by
  intro l
  induction l with
  | nil => intro b st h; simp only [FeedsTo] at h; subst h; exact ⟨0, fun _ _ => rfl⟩
  | cons t ts ih =>
    intro b st h
    obtain ⟨x, ⟨f, hf⟩, h'⟩ := h
    obtain ⟨f1, h1⟩ := ih x st h'
    refine ⟨f + f1, fun ff hff => ?_⟩
    simp only [feedToksF, C07.feed_ge hf (by simp) (Nat.le_of_add_right_le hff)]
    exact h1 ff (Nat.le_trans (Nat.le_add_left _ _) hff)

theorem plainFromF_append {G : Grammar} {A : Automaton} {ff : Nat} :
    ∀ (pre rest : List Nat) (st st' : List Nat) (k : Nat), feedToksF G A ff st pre = some st' →
      plainFromF G A ff st (pre ++ rest) k = plainFromF G A ff st' rest (k + pre.length) := by
  intro pre
  induction pre with
  | nil => intro rest st st' k h; simp only [feedToksF, Option.some.injEq] at h; subst h; simp
  | cons t ts ih =>
    intro rest st st' k h
    simp only [feedToksF] at h
    cases hf : feed G A t ff st with
    | shifted s =>
      rw [hf] at h
      simp only at h
      simp only [List.cons_append, plainFromF, hf, List.length_cons]
      rw [ih rest s st' (k + 1) h]
      congr 1
      omega
    | _ => rw [hf] at h; cases h

theorem plainFromF_accepts {G : Grammar} {A : Automaton} {ff : Nat} (toks b st y : List Nat)
    (h1 : feedToksF G A ff b toks = some st) (h2 : feed G A G.eof ff st = .accept y) :
    plainFromF G A ff b toks 0 = .accepted := by
  have := plainFromF_append (G := G) (A := A) (ff := ff) toks [] b st 0 h1
  rw [List.append_nil] at this
  rw [this]
  simp [plainFromF, h2]

theorem plainFromF_refuses {G : Grammar} {A : Automaton} {ff : Nat} (w pre b st y : List Nat) (q : Nat)
    (h1 : feedToksF G A ff b pre = some st) (h2 : feed G A (nextTok G w q) ff st = .error y) :
    plainFromF G A ff b (pre ++ (reals q w.length).map (itemTok w)) 0 = .refusedAt pre.length := by
  rw [plainFromF_append pre _ b st 0 h1, Nat.zero_add]
  -- the token refused is the first of the rest, or the end of input when nothing is left
  by_cases h : q < w.length
  · rw [reals_cons h, List.map_cons, itemTok, ← nextTok_getD h, plainFromF, h2]
  · have hle := Nat.le_of_not_lt h
    rw [reals_of_le hle, List.map_nil, plainFromF, ← nextTok_of_le hle, h2]

theorem plainFromF_eventually_accepts {G : Grammar} {A : Automaton} (toks b st : List Nat)
    (h1 : FeedsTo G A b toks st) (h2 : AcceptsAt G A G.eof st) :
    ∃ ff0, ∀ ff, ff0 ≤ ff → plainFromF G A ff b toks 0 = .accepted := by
  obtain ⟨f1, hf1⟩ := feedToksF_of_feedsTo toks b st h1
  obtain ⟨f2, y, hf2⟩ := h2
  exact ⟨f1 + f2, fun ff hff => plainFromF_accepts toks b st y (hf1 ff (Nat.le_of_add_right_le hff))
    (C07.feed_ge hf2 (by simp) (Nat.le_trans (Nat.le_add_left _ _) hff))⟩

theorem plainFromF_eventually_refuses {G : Grammar} {A : Automaton} (w pre b st : List Nat) (q : Nat)
    (h1 : FeedsTo G A b pre st) (h2 : RefusesAt G A (nextTok G w q) st) :
    ∃ ff0, ∀ ff, ff0 ≤ ff →
      plainFromF G A ff b (pre ++ (reals q w.length).map (itemTok w)) 0 = .refusedAt pre.length := by
  obtain ⟨f1, hf1⟩ := feedToksF_of_feedsTo pre b st h1
  obtain ⟨f2, y, hf2⟩ := h2
  exact ⟨f1 + f2, fun ff hff => plainFromF_refuses w pre b st y q (hf1 ff (Nat.le_of_add_right_le hff))
    (C07.feed_ge hf2 (by simp) (Nat.le_trans (Nat.le_add_left _ _) hff))⟩

/-- **the plain parse of `toks` from the stack `b` ends as `r`**: for every large enough fuel of
`feed`, and at the model's constant `FUEL` unless the plain parse runs out of fuel there
(`plainFrom … = other`) -/
def PlainIs (G : Grammar) (A : Automaton) (b toks : List Nat) (r : PlainOut) : Prop :=
  (∃ ff0, ∀ ff, ff0 ≤ ff → plainFromF G A ff b toks 0 = r) ∧
  (plainFrom G A b toks 0 ≠ .other → plainFrom G A b toks 0 = r)

theorem plainIs_of_large {G : Grammar} {A : Automaton} {b toks : List Nat} {r : PlainOut}
    (h : ∃ ff0, ∀ ff, ff0 ≤ ff → plainFromF G A ff b toks 0 = r) : PlainIs G A b toks r := by
  -- at `FUEL` a proper answer is the answer at `max FUEL ff0` (`plainFromF_mono`), which is `r`
  refine ⟨h, fun hne => ?_⟩
  obtain ⟨ff0, hff⟩ := h
  rw [← plainFromF_FUEL] at hne ⊢
  have := plainFromF_mono (G := G) (A := A) (Nat.le_max_left FUEL ff0) toks b 0 _ rfl hne
  rw [hff _ (Nat.le_max_right FUEL ff0)] at this
  exact this.symm

theorem plainIs_of_plainFrom {G : Grammar} {A : Automaton} {b toks : List Nat} {r : PlainOut}
    (h : plainFrom G A b toks 0 = r) (hr : r ≠ .other) : PlainIs G A b toks r := by
  refine ⟨⟨FUEL, fun ff hff => ?_⟩, fun _ => h⟩
  rw [← plainFromF_FUEL] at h
  exact plainFromF_mono hff toks b 0 r h hr

end GrmVerif.C05
