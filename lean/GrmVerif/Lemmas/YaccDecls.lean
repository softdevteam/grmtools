import GrmVerif.Lemmas.YaccSafe
/-!
Helper lemmas for the yacc part of C12: `parse_declarations`. Every update of the AST keeps
`AstOK`; every declaration body, started at the end of its keyword, returns a position that is not
smaller, or a located error; the loops finish because every iteration consumes at least one byte.
-/
namespace GrmVerif.YaccParse
open GrmVerif.Header (Res Span byteLen Valid SpanOK MatchAt forall_mem_snoc fuel_ind)

theorem AstOK.insertToken {src : List Char} {a : Ast} {sp : Span} (h : AstOK src a) (n : Name)
    (hsp : SpanOK src sp) : AstOK src (a.insertToken n sp) := by
  unfold Ast.insertToken
  split
  · exact h
  · exact { h with tokens := forall_mem_snoc h.tokens hsp }

theorem AstOK.addTokenDir {src : List Char} {a : Ast} (h : AstOK src a) (n : Name) :
    AstOK src (a.addTokenDir n) := by
  unfold Ast.addTokenDir
  split
  · exact h
  · exact { h with }

theorem AstOK.addRule {src : List Char} {a : Ast} {sp : Span} (h : AstOK src a) (n : Name)
    (hsp : SpanOK src sp) : AstOK src (a.addRule n sp) := by
  unfold Ast.addRule
  split
  · exact h
  · exact { h with rules := forall_mem_snoc h.rules hsp }

section Record
variable {src : List Char} {st : St}

theorem modifyAst_ok {g : Ast → Ast} (h : AstOK src st.ast → AstOK src (g st.ast)) :
    (modifyAst g).Safe src st (fun _ _ => True) := fun hst => ⟨⟨h hst.1, hst.2.1, hst.2.2⟩, trivial⟩

theorem recordActiontype_ok {span : Span} (hsp : SpanOK src span) :
    (recordActiontype span).Safe src st (fun _ _ => True) := by
  refine getSt_bind ?_
  cases heq : st.actiontype with
  | some orig => exact .of_stOK fun hst => addDupM_ok (hst.2.1 _ heq) hsp
  | none => exact fun hst => ⟨⟨hst.1, fun _ h => Option.some.inj h ▸ hsp, hst.2.2⟩, trivial⟩

theorem recordStart_ok {n : Name} {span : Span} (hsp : SpanOK src span) :
    (recordStart n span).Safe src st (fun _ _ => True) := by
  refine getSt_bind ?_
  cases heq : st.ast.start with
  | some x => exact .of_stOK fun hst => addDupM_ok (hst.1.start _ heq) hsp
  | none => exact modifyAst_ok fun h => { h with start := fun _ h => Option.some.inj h ▸ hsp }

theorem recordEpp_ok {n v : Name} {span vspan : Span} (hsp : SpanOK src span) (hvsp : SpanOK src vspan) :
    (recordEpp n span v vspan).Safe src st (fun _ _ => True) := by
  refine getSt_bind ?_
  cases heq : st.ast.epp.find? (fun e => e.1 == n) with
  | some x => exact .of_stOK fun hst => addDupM_ok (hst.1.epp _ (List.mem_of_find?_eq_some heq)).1 hsp
  | none => exact modifyAst_ok fun h => { h with epp := forall_mem_snoc h.epp ⟨hsp, hvsp⟩ }

theorem recordExpectRR_ok {n : Nat} {span : Span} (hsp : SpanOK src span) :
    (recordExpectRR n span).Safe src st (fun _ _ => True) := by
  refine getSt_bind ?_
  cases heq : st.ast.expectrr with
  | some x => exact .of_stOK fun hst => addDupM_ok (hst.1.expectrr _ heq) hsp
  | none => exact modifyAst_ok fun h => { h with expectrr := fun _ h => Option.some.inj h ▸ hsp }

theorem recordExpect_ok {n : Nat} {span : Span} (hsp : SpanOK src span) :
    (recordExpect n span).Safe src st (fun _ _ => True) := by
  refine getSt_bind ?_
  cases heq : st.ast.expect with
  | some x => exact .of_stOK fun hst => addDupM_ok (hst.1.expect _ heq) hsp
  | none => exact modifyAst_ok fun h => { h with expect := fun _ h => Option.some.inj h ▸ hsp }

theorem avoidEntry_ok {n : Name} {span : Span} (hsp : SpanOK src span) :
    (avoidEntry n span).Safe src st (fun _ _ => True) := by
  refine getSt_bind ?_
  cases heq : (st.ast.avoidInsert.getD []).find? (fun e => e.1 == n) with
  | some x => exact .of_stOK fun hst => addDupM_ok (hst.1.avoid _ (List.mem_of_find?_eq_some heq)) hsp
  | none => exact modifyAst_ok fun h => { h with avoid := forall_mem_snoc h.avoid hsp }

theorem implicitEntry_ok {n : Name} {span : Span} (hsp : SpanOK src span) :
    (implicitEntry n span).Safe src st (fun _ _ => True) := by
  refine getSt_bind ?_
  cases heq : (st.ast.implicitTokens.getD []).find? (fun e => e.1 == n) with
  | some x => exact .of_stOK fun hst => addDupM_ok (hst.1.implicit _ (List.mem_of_find?_eq_some heq)) hsp
  | none => exact modifyAst_ok fun h => { h with implicit := forall_mem_snoc h.implicit hsp }

theorem precEntry_ok {n : Name} {span : Span} {level : Nat} {kind : Assoc} (hsp : SpanOK src span) :
    (precEntry n span level kind).Safe src st (fun _ _ => True) := by
  refine getSt_bind ?_
  cases heq : st.ast.precs.find? (fun e => e.1 == n) with
  | some x => exact .of_stOK fun hst => addDupM_ok (hst.1.precs _ (List.mem_of_find?_eq_some heq)) hsp
  | none => exact modifyAst_ok fun h => { h with precs := forall_mem_snoc h.precs hsp }

end Record

section Decl
variable {src : List Char} {fuel : Nat} {st : St}

/-- `%actiontype`, `%start`, `%expect`, `%expect-rr`: white space, one item parsed by `p`, its span
handed to `rec`, white space -/
theorem declSpanned_ok {α : Type} {p : Nat → Res YErr (Nat × α)} {rec : α → Span → M Unit} {j : Nat}
    (hp : ∀ {i}, Valid src i → (p i).Sat (fun r => i ≤ r.1 ∧ Valid src r.1) (ErrOK src))
    (hrec : ∀ {x span st}, SpanOK src span → (rec x span).Safe src st (fun _ _ => True))
    (h : Valid src j) :
    (do let i ← ws src false j
        let (j, n) ← liftR (p i)
        let span ← liftR (mkSpan i j)
        rec n span
        ws src true j).Safe src st (PosOK src j) := by
  refine (ws_pos h).seq fun i hi st1 => ?_
  refine liftR_bind (hp hi) ?_
  rintro ⟨j2, n⟩ ⟨hij2, hj2⟩
  refine liftR_bind (mkSpan_sat hi hj2 hij2) fun span hspan => ?_
  refine (hrec hspan).bind fun _ st3 _ => ?_
  exact (ws_pos hj2).from hij2

theorem declActiontype_ok {j : Nat} (h : Valid src j) (hf : byteLen src < fuel) :
    (declActiontype src fuel j).Safe src st (PosOK src j) := by
  unfold declActiontype
  exact declSpanned_ok (p := parseToEol src fuel) (rec := fun _ => recordActiontype)
    (parseToEol_sat · hf) recordActiontype_ok h

theorem declStart_ok {j : Nat} (h : Valid src j) : (declStart src j).Safe src st (PosOK src j) := by
  unfold declStart
  exact declSpanned_ok (p := parseName src) (rec := recordStart)
    (fun hi => Header.Sat.from (parseName_sat hi) (Nat.le_succ _))
    recordStart_ok h

theorem declExpectRR_ok {j : Nat} (h : Valid src j) (hf : byteLen src < fuel) :
    (declExpectRR src fuel j).Safe src st (PosOK src j) := by
  unfold declExpectRR
  exact declSpanned_ok (p := parseInt src fuel) (rec := recordExpectRR) (parseInt_sat · hf)
    recordExpectRR_ok h

theorem declExpect_ok {j : Nat} (h : Valid src j) (hf : byteLen src < fuel) :
    (declExpect src fuel j).Safe src st (PosOK src j) := by
  unfold declExpect
  exact declSpanned_ok (p := parseInt src fuel) (rec := recordExpect) (parseInt_sat · hf)
    recordExpect_ok h

theorem declEpp_ok {j : Nat} (h : Valid src j) (hf : byteLen src < fuel) :
    (declEpp src fuel j).Safe src st (PosOK src j) := by
  unfold declEpp
  refine (ws_pos h).seq fun i hi st1 => ?_
  refine liftR_bind (parseToken_sat hi) ?_
  rintro ⟨j2, n, sp0, q⟩ ⟨hij2, hj2, _⟩
  refine liftR_bind (mkSpan_sat hi hj2 (Nat.le_of_lt hij2)) fun span hspan => ?_
  refine M.Safe.from ((ws_pos hj2).seq fun i2 hi2 st2 => ?_) (Nat.le_of_lt hij2)
  refine liftR_bind (parseString_sat hi2 hf) ?_
  rintro ⟨j3, v⟩ ⟨hi2j3, hj3⟩
  refine liftR_bind (mkSpan_sat hi2 hj3 (Nat.le_of_lt hi2j3)) fun vspan hvspan => ?_
  refine (recordEpp_ok hspan hvspan).bind fun _ st3 _ => ?_
  exact (ws_pos hj3).from (Nat.le_of_lt hi2j3)

theorem declParseParam_ok {j : Nat} (h : Valid src j) (hf : byteLen src < fuel) :
    (declParseParam src fuel j).Safe src st (PosOK src j) := by
  unfold declParseParam
  refine (ws_pos h).seq fun i hi st1 => ?_
  refine (parseToSingleColon_ok hi hf).seq fun j2 hj2 st2 => ?_
  refine la_bind hj2 (fun j3 hm => M.Safe.from ?_ hm.le) (throwAt_ok hj2)
  refine (ws_pos hm.valid).seq fun i4 hi4 st4 => ?_
  refine liftR_bind (parseToEol_sat hi4 hf) ?_
  rintro ⟨j5, ty⟩ ⟨h45, hj5⟩
  exact modifyAst_bind (fun h => { h with }) ((ws_pos hj5).from h45)

theorem declParseGenerics_ok {j : Nat} (h : Valid src j) (hf : byteLen src < fuel) :
    (declParseGenerics src fuel j).Safe src st (PosOK src j) := by
  unfold declParseGenerics
  refine (ws_pos h).seq fun i hi st1 => ?_
  refine liftR_bind (parseToEol_sat hi hf) ?_
  rintro ⟨j5, ty⟩ ⟨h45, hj5⟩
  exact modifyAst_bind (fun h => { h with }) ((ws_pos hj5).from h45)

/-! The five loops over tokens or symbols: each iteration parses at least one byte, then skips white
space and goes round (`ws_loop`). -/

theorem tokenLoop_ok : ∀ f i, Valid src i → byteLen src < i + f →
    ∀ st, (tokenLoop src f i).Safe src st (PosOK src i) :=
  fuel_ind fun f i hv ih st => by
    refine M.Safe.ite (fun _ => ?_) (fun _ => stay hv)
    refine la_bind hv (fun _ _ => stay hv) ?_
    refine liftR_bind (parseToken_sat hv) ?_
    rintro ⟨j, n, span, q⟩ ⟨hij, hj, hspan⟩
    exact modifyAst_bind (fun h => (h.insertToken n hspan).addTokenDir n) (ws_loop ih hij hj)

theorem unusedSym_ok {i : Nat} (h : Valid src i) : (unusedSym src i).Safe src st (PosOK src (i + 1)) := by
  have add : ∀ {j : Nat} {s : Sym}, i < j → Valid src j → SpanOK src s.span →
      (do modifyAst (fun a => { a with expectUnused := a.expectUnused ++ [s] }); pure j : M Nat).Safe src st
        (PosOK src (i + 1)) := fun hij hj hs =>
    modifyAst_bind (fun h => { h with unused := forall_mem_snoc h.unused hs }) (M.Safe.pure ⟨hij, hj⟩)
  unfold unusedSym
  rcases Header.Sat.cases (parseName_sat h) with ⟨r, e, hlt, hv⟩ | ⟨_, e, _⟩
  · rw [e]
    exact liftR_bind (mkSpan_sat h hv (Nat.le_of_lt hlt)) fun span hspan => add hlt hv hspan
  · rw [e]
    rcases Header.Sat.cases (parseToken_sat h) with ⟨r, e', hlt, hv, hsp⟩ | ⟨_, e', _⟩
    · rw [e']
      exact add hlt hv hsp
    · rw [e']
      exact throwAt_ok h

theorem unusedLoop_ok : ∀ f i, Valid src i → byteLen src < i + f →
    ∀ st, (unusedLoop src f i).Safe src st (PosOK src i) :=
  fuel_ind fun f i hv ih st => by
    refine M.Safe.ite (fun _ => ?_) (fun _ => stay hv)
    refine la_bind hv (fun _ _ => stay hv) ?_
    exact (unusedSym_ok hv).bind fun j st1 ⟨hij, hj⟩ => ws_loop ih hij hj

/-- the body shared by the loops of `%avoid_insert` and `%implicit_tokens` -/
theorem entryBody_ok {entry : Name → Span → M Unit} {loop : Nat → M Nat} {i : Nat}
    (hentry : ∀ {n span st}, SpanOK src span → (entry n span).Safe src st (fun _ _ => True))
    (ih : ∀ k, i < k → Valid src k → ∀ st', (loop k).Safe src st' (PosOK src k))
    (hv : Valid src i) :
    (do let (j, n, span, _) ← liftR (parseToken src i)
        modifyAst (fun a => a.insertToken n span)
        entry n span
        let i ← ws src true j
        loop i).Safe src st (PosOK src i) := by
  refine liftR_bind (parseToken_sat hv) ?_
  rintro ⟨j, n, span, q⟩ ⟨hij, hj, hspan⟩
  refine modifyAst_bind (fun h => h.insertToken n hspan) ?_
  exact (hentry hspan).bind fun _ st2 _ => ws_loop ih hij hj

theorem avoidLoop_ok (j0 nl0 : Nat) : ∀ f i, Valid src i → byteLen src < i + f →
    ∀ st, (avoidLoop src j0 nl0 f i).Safe src st (PosOK src i) :=
  fuel_ind fun f i hv ih st => by
    refine getSt_bind (M.Safe.ite (fun _ => ?_) (fun _ => stay hv))
    exact entryBody_ok avoidEntry_ok ih hv

theorem implicitLoop_ok (j0 nl0 : Nat) : ∀ f i, Valid src i → byteLen src < i + f →
    ∀ st, (implicitLoop src j0 nl0 f i).Safe src st (PosOK src i) :=
  fuel_ind fun f i hv ih st => by
    refine getSt_bind (M.Safe.ite (fun _ => ?_) (fun _ => stay hv))
    exact entryBody_ok implicitEntry_ok ih hv

theorem precLoop_ok (nl0 level : Nat) (kind : Assoc) : ∀ f i, Valid src i → byteLen src < i + f →
    ∀ st, (precLoop src nl0 level kind f i).Safe src st (PosOK src i) :=
  fuel_ind fun f i hv ih st => by
    refine getSt_bind (M.Safe.ite (fun _ => ?_) (fun _ => stay hv))
    refine liftR_bind (parseToken_sat hv) ?_
    rintro ⟨j, n, span, q⟩ ⟨hij, hj, hspan⟩
    exact (precEntry_ok hspan).bind fun _ st2 _ => ws_loop ih hij hj

theorem declToken_ok {j : Nat} (h : Valid src j) (hf : byteLen src < fuel) :
    (declToken src fuel j).Safe src st (PosOK src j) :=
  (ws_pos h).seq fun i hi => tokenLoop_ok fuel i hi (Nat.lt_add_left _ hf)

theorem declExpectUnused_ok {j : Nat} (h : Valid src j) (hf : byteLen src < fuel) :
    (declExpectUnused src fuel j).Safe src st (PosOK src j) :=
  (ws_pos h).seq fun i hi => unusedLoop_ok fuel i hi (Nat.lt_add_left _ hf)

/- `%avoid_insert` and `%implicit_tokens` first replace the field `o` by `some (o.getD [])`; `AstOK` reads
it through `getD []`, where the two agree by computation, so the fact about the field before the update is
the fact about it after. -/

theorem declAvoidInsert_ok {j : Nat} (h : Valid src j) (hf : byteLen src < fuel) :
    (declAvoidInsert src fuel j).Safe src st (PosOK src j) :=
  (ws_pos h).seq fun i hi _ => getSt_bind (modifyAst_bind (fun h => { h with avoid := h.avoid })
    (avoidLoop_ok j _ fuel i hi (Nat.lt_add_left _ hf) _))

theorem declImplicit_ok {j : Nat} (h : Valid src j) (hf : byteLen src < fuel) :
    (declImplicit src fuel j).Safe src st (PosOK src j) :=
  (ws_pos h).seq fun i hi _ => getSt_bind (modifyAst_bind (fun h => { h with implicit := h.implicit })
    (implicitLoop_ok j _ fuel i hi (Nat.lt_add_left _ hf) _))

theorem declPrec_ok {k level : Nat} {kind : Assoc} (h : Valid src k) (hf : byteLen src < fuel) :
    (declPrec src fuel k level kind).Safe src st (PosOK src k) :=
  (ws_pos h).seq fun i hi _ => getSt_bind (precLoop_ok _ level kind fuel i hi (Nat.lt_add_left _ hf) _)

/-- what one iteration of the declarations loop guarantees: `done` only at a `%%` (so the `unwrap`
of `parse_rules` cannot fail) and without moving; `cont` strictly further on -/
def StepOK (src : List Char) (i : Nat) : Step → St → Prop
  | .done i', _ => i' = i ∧ Valid src i ∧ ∃ j, MatchAt src "%%".toList i j
  | .cont i' _, st' => PosOK src (i + 1) i' st'

theorem cont_ok {m : M Nat} {i j level : Nat} (hij : i < j) (h : m.Safe src st (PosOK src j)) :
    (do let i' ← m; pure (Step.cont i' level) : M Step).Safe src st (StepOK src i) :=
  (h.from hij).bind fun _ _ h' => M.Safe.pure h'

theorem declPrecOrUnknown_ok {i level : Nat} (h : Valid src i) (hf : byteLen src < fuel) :
    (declPrecOrUnknown src fuel i level).Safe src st (StepOK src i) := by
  unfold declPrecOrUnknown
  refine la_bind h (fun k hm => cont_ok (hm.lt_str (by simp)) (declPrec_ok hm.valid hf)) ?_
  refine la_bind h (fun k hm => cont_ok (hm.lt_str (by simp)) (declPrec_ok hm.valid hf)) ?_
  refine la_bind h (fun k hm => cont_ok (hm.lt_str (by simp)) (declPrec_ok hm.valid hf)) ?_
  exact throwAt_ok h

theorem declStep2_ok {kind : Kind} {i level : Nat} (h : Valid src i) (hf : byteLen src < fuel) :
    (declStep2 src kind fuel i level).Safe src st (StepOK src i) := by
  unfold declStep2
  refine la_bind h (fun j hm => cont_ok (hm.lt_str (by simp)) (declExpectUnused_ok hm.valid hf)) ?_
  refine la_bind h (fun j hm => cont_ok (hm.lt_str (by simp)) (declExpect_ok hm.valid hf)) ?_
  refine la_bind h (fun j hm => cont_ok (hm.lt_str (by simp)) (declAvoidInsert_ok hm.valid hf)) ?_
  refine la_bind h (fun j hm => cont_ok (hm.lt_str (by simp)) (declParseParam_ok hm.valid hf)) ?_
  refine la_bind h (fun j hm => cont_ok (hm.lt_str (by simp)) (declParseGenerics_ok hm.valid hf)) ?_
  refine laWhen_bind h (fun j hm => cont_ok (hm.lt_str (by simp)) (declImplicit_ok hm.valid hf)) ?_
  exact declPrecOrUnknown_ok h hf

theorem declStep_ok {kind : Kind} {i level : Nat} (h : Valid src i) (hf : byteLen src < fuel) :
    (declStep src kind fuel i level).Safe src st (StepOK src i) := by
  unfold declStep
  refine la_bind h (fun j hm => M.Safe.pure ⟨rfl, h, j, hm⟩) ?_
  refine la_bind h (fun j hm => cont_ok (hm.lt_str (by simp)) (declToken_ok hm.valid hf)) ?_
  refine laWhen_bind h (fun j hm => cont_ok (hm.lt_str (by simp)) (declActiontype_ok hm.valid hf)) ?_
  refine la_bind h (fun j hm => cont_ok (hm.lt_str (by simp)) (declStart_ok hm.valid)) ?_
  refine la_bind h (fun j hm => cont_ok (hm.lt_str (by simp)) (declEpp_ok hm.valid hf)) ?_
  refine la_bind h (fun j hm => cont_ok (hm.lt_str (by simp)) (declExpectRR_ok hm.valid hf)) ?_
  exact declStep2_ok h hf

/-- what `parse_declarations` guarantees on `Ok(i)`: `i` is sliceable and a `%%` stands there -/
def DeclOK (src : List Char) : Nat → St → Prop :=
  fun i _ => Valid src i ∧ ∃ j, MatchAt src "%%".toList i j

theorem declLoop_ok {kind : Kind} (hf : byteLen src < fuel) : ∀ f i, Valid src i → byteLen src < i + f →
    ∀ level st, (declLoop src kind fuel f i level).Safe src st (DeclOK src) :=
  fuel_ind fun f i hv ih level st => by
    refine M.Safe.ite (fun _ => ?_) (fun hge => M.Safe.ite (fun _ => throwAt_ok hv)
      (fun hne => absurd (Nat.le_antisymm hv.le (Nat.le_of_not_lt hge)) hne))
    refine (declStep_ok hv hf).bind fun s st1 hs => ?_
    cases s with
    | done i' => exact M.Safe.pure (hs.1 ▸ hs.2)
    | cont i' level' => exact ih i' hs.1 hs.2 level' st1

theorem parseDeclarations_ok {kind : Kind} {i : Nat} (h : Valid src i) (hf : byteLen src < fuel) :
    (parseDeclarations src kind fuel i).Safe src st (DeclOK src) :=
  (ws_pos h).bind fun i1 st1 ⟨_, hi1⟩ => declLoop_ok hf fuel i1 hi1 (Nat.lt_add_left _ hf) 0 st1

end Decl
end GrmVerif.YaccParse
