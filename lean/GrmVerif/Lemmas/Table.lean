import GrmVerif.Lemmas.TableSpec
import GrmVerif.Model.Table
/-! The reduce/accept loop of a cell computes `specReduce`, the shift step `specSR`. Both rest on a closed form of the
loop started on a cell that already holds a reduction. -/
namespace GrmVerif.Table
open GrmVerif

theorem min?_eq_minList (a : Nat) : ∀ l : List Nat, (a :: l).min? = some (minList (a :: l))
  | [] => rfl
  | b :: rest => by rw [List.min?_cons, min?_eq_minList b rest]; rfl

theorem minList_spec : ∀ (l : List Nat), l ≠ [] → minList l ∈ l ∧ ∀ x ∈ l, minList l ≤ x
  | [], h => absurd rfl h
  | a :: l, _ => List.min?_eq_some_iff.mp (min?_eq_minList a l)

theorem minList_congr (l l' : List Nat) (h : ∀ x, x ∈ l ↔ x ∈ l') (hne : l ≠ []) : minList l = minList l' := by
  have hne' : l' ≠ [] := by
    intro h'; subst h'
    cases l with
    | nil => exact hne rfl
    | cons a as => exact nomatch (h a).mp (List.mem_cons_self ..)
  obtain ⟨m, hl⟩ := minList_spec l hne
  obtain ⟨m', hl'⟩ := minList_spec l' hne'
  exact Nat.le_antisymm (hl _ ((h _).mpr m')) (hl' _ ((h _).mp m))

theorem minList_cons (a : Nat) (l : List Nat) (hne : l ≠ []) : minList (a :: l) = min a (minList l) := by
  cases l with
  | nil => exact absurd rfl hne
  | cons b rest => simp [minList]

/-- `minList (r :: R)` as a fold (which `min?` is): the cell after each further candidate holds the smaller production -/
theorem minList_cons_cons (r p : Nat) (ps : List Nat) : minList (r :: p :: ps) = minList (min r p :: ps) :=
  Option.some.inj ((min?_eq_minList r (p :: ps)).symm.trans (min?_eq_minList (min r p) ps))

/-- what one further candidate does to a cell that holds a reduction -/
theorem reduceStep_reduce (G : Grammar) (t : Nat) (r p : Nat) (rr : List (Nat × Nat))
    (hna : ¬ (p = G.startProd ∧ t = G.eof)) :
    reduceStep G t (.reduce r) rr p =
      .ok (.reduce (min r p)) (if p = r then rr else rr ++ [(min r p, max r p)]) := by
  simp only [reduceStep, if_neg hna]
  rcases Nat.lt_trichotomy p r with h | h | h
  · rw [if_pos h, if_neg (Nat.ne_of_lt h), Nat.min_eq_right (Nat.le_of_lt h), Nat.max_eq_left (Nat.le_of_lt h)]
  · rw [if_neg (h ▸ Nat.lt_irrefl _), if_neg (h ▸ Nat.lt_irrefl _), if_pos h, h, Nat.min_self]
  · rw [if_neg (Nat.lt_asymm h), if_pos h, if_neg (Nat.ne_of_gt h), Nat.min_eq_left (Nat.le_of_lt h),
      Nat.max_eq_right (Nat.le_of_lt h)]

/-- a candidate that is not the accepting one does not matter for whether the accepting one is still to come -/
theorem accepting_mem_cons {G : Grammar} {t p : Nat} {ps : List Nat} (hp : ¬ (p = G.startProd ∧ t = G.eof)) :
    (t = G.eof ∧ G.startProd ∈ p :: ps) ↔ (t = G.eof ∧ G.startProd ∈ ps) :=
  and_congr_right fun ht => ⟨fun h => (List.mem_cons.mp h).resolve_left fun e => hp ⟨e.symm, ht⟩,
    List.mem_cons_of_mem _⟩

/-- **the loop from a cell that holds a reduction**: it stops with the accept/reduce error at the accepting
production if that is still to come, and otherwise leaves the least candidate, having recorded one pair
`(kept, displaced)` per further candidate (distinct candidates: every step displaces one) -/
theorem reducePhase_reduce (G : Grammar) (t : Nat) :
    ∀ (R : List Nat) (r : Nat) (rr0 : List (Nat × Nat)),
      if t = G.eof ∧ G.startProd ∈ R then ∃ o, reducePhase G t R (.reduce r) rr0 = .acceptReduce o
      else ∃ rr, reducePhase G t R (.reduce r) rr0 = .ok (.reduce (minList (r :: R))) (rr0 ++ rr) ∧
        (∀ kd ∈ rr, kd.1 < kd.2 ∧ kd.1 ∈ r :: R ∧ kd.2 ∈ r :: R) ∧ ((r :: R).Nodup → rr.length = R.length) := by
  intro R
  induction R with
  | nil => intro r rr0; rw [if_neg (fun h => nomatch h.2)]; exact ⟨[], by rw [List.append_nil]; rfl, nofun, fun _ => rfl⟩
  | cons p ps ih =>
    intro r rr0
    by_cases hp : p = G.startProd ∧ t = G.eof
    · rw [if_pos ⟨hp.2, hp.1 ▸ List.mem_cons_self⟩]
      exact ⟨some r, by simp only [reducePhase, reduceStep, if_pos hp]⟩
    · have hiff := accepting_mem_cons (ps := ps) hp
      have IH := ih (min r p) (if p = r then rr0 else rr0 ++ [(min r p, max r p)])
      rw [reducePhase, reduceStep_reduce G t r p rr0 hp, minList_cons_cons]
      dsimp only
      by_cases hs : t = G.eof ∧ G.startProd ∈ ps
      · rw [if_pos (hiff.mpr hs)]; rw [if_pos hs] at IH; exact IH
      · rw [if_neg (mt hiff.mp hs)]; rw [if_neg hs] at IH
        obtain ⟨rr, h1, h2, h3⟩ := IH
        -- the smaller of the two is one of them, the larger the other
        have hmm : (min r p = r ∧ max r p = p) ∨ (min r p = p ∧ max r p = r) :=
          (Nat.le_total r p).imp (fun h => ⟨Nat.min_eq_left h, Nat.max_eq_right h⟩)
            (fun h => ⟨Nat.min_eq_right h, Nat.max_eq_left h⟩)
        have hsub : ∀ x ∈ min r p :: ps, x ∈ r :: p :: ps := by
          intro x hx
          rcases List.mem_cons.mp hx with rfl | hx
          · rcases hmm with h | h <;> rw [h.1] <;> simp
          · simp [hx]
        have h2' : ∀ kd ∈ rr, kd.1 < kd.2 ∧ kd.1 ∈ r :: p :: ps ∧ kd.2 ∈ r :: p :: ps :=
          fun kd hkd => ⟨(h2 kd hkd).1, hsub _ (h2 kd hkd).2.1, hsub _ (h2 kd hkd).2.2⟩
        by_cases hpr : p = r
        · rw [if_pos hpr] at h1 ⊢
          exact ⟨rr, h1, h2', fun hnd => absurd (hpr ▸ List.mem_cons_self) (List.nodup_cons.mp hnd).1⟩
        · rw [if_neg hpr] at h1 ⊢
          refine ⟨(min r p, max r p) :: rr, by rw [h1, List.append_assoc]; rfl, ?_, fun hnd => ?_⟩
          · intro kd hkd
            rcases List.mem_cons.mp hkd with rfl | hkd
            · rcases hmm with h | h <;> rw [h.1, h.2]
              · exact ⟨Nat.lt_of_le_of_ne (h.1 ▸ Nat.min_le_right r p) (Ne.symm hpr), by simp, by simp⟩
              · exact ⟨Nat.lt_of_le_of_ne (h.1 ▸ Nat.min_le_left r p) hpr, by simp, by simp⟩
            · exact h2' kd hkd
          · obtain ⟨hr, hnd'⟩ := List.nodup_cons.mp hnd
            obtain ⟨hp', hnd''⟩ := List.nodup_cons.mp hnd'
            refine congrArg Nat.succ (h3 (List.nodup_cons.mpr ⟨?_, hnd''⟩))
            rcases hmm with h | h <;> rw [h.1]
            · exact fun h => hr (List.mem_cons_of_mem _ h)
            · exact hp'

theorem reducePhase_accept (G : Grammar) (t : Nat) (p : Nat) (ps : List Nat) (rr0 : List (Nat × Nat)) :
    reducePhase G t (p :: ps) .accept rr0 = .acceptReduce none := by
  simp [reducePhase, reduceStep]

theorem reducePhase_cons_error (G : Grammar) (t p : Nat) (ps : List Nat) :
    reducePhase G t (p :: ps) .error [] =
      reducePhase G t ps (if p = G.startProd ∧ t = G.eof then .accept else .reduce p) [] := by
  rw [reducePhase, reduceStep]
  by_cases h : p = G.startProd ∧ t = G.eof
  · rw [if_pos h, if_pos h]
  · rw [if_neg h, if_neg h]

/-- **the reduce/accept loop computes `specReduce`**, whatever the order of the candidates -/
theorem reducePhase_spec (G : Grammar) (t : Nat) (R : List Nat) (hnd : R.Nodup) :
    match specReduce G t R with
    | none => ∃ o, reducePhase G t R .error [] = .acceptReduce o
    | some a => ∃ rr, reducePhase G t R .error [] = .ok a rr ∧ rr.length = R.length - 1 ∧
        ∀ kd ∈ rr, kd.1 < kd.2 ∧ kd.1 ∈ R ∧ kd.2 ∈ R := by
  cases R with
  | nil => exact ⟨[], rfl, rfl, nofun⟩
  | cons p ps =>
    rw [reducePhase_cons_error]
    by_cases hp : p = G.startProd ∧ t = G.eof
    · have hm : t = G.eof ∧ G.startProd ∈ p :: ps := ⟨hp.2, hp.1 ▸ List.mem_cons_self⟩
      rw [if_pos hp, specReduce, if_neg (List.cons_ne_nil _ _), if_pos hm]
      cases ps with
      | nil => exact ⟨[], rfl, rfl, nofun⟩
      | cons q qs => exact ⟨none, reducePhase_accept G t q qs []⟩
    · have hiff := accepting_mem_cons (ps := ps) hp
      have h := reducePhase_reduce G t ps p []
      rw [if_neg hp, specReduce, if_neg (List.cons_ne_nil _ _)]
      by_cases hs : t = G.eof ∧ G.startProd ∈ ps
      · rw [if_pos hs] at h
        have hlen : (p :: ps).length ≠ 1 := fun e => by cases ps with
          | nil => exact nomatch hs.2
          | cons _ _ => cases e
        rw [if_pos (hiff.mpr hs), if_neg hlen]; exact h
      · rw [if_neg hs] at h
        obtain ⟨rr, h1, h2, h3⟩ := h
        rw [if_neg (mt hiff.mp hs)]
        exact ⟨rr, by rw [h1, List.nil_append], h3 hnd, h2⟩

/-- what the loop can leave: an error exactly when there was no candidate (so the `state_actions` bit it sets says
whether the cell is an error), and never a shift -/
theorem reducePhase_ok (G : Grammar) (t : Nat) (R : List Nat) (c : Act) (rr : List (Nat × Nat))
    (h : reducePhase G t R .error [] = .ok c rr) : (!R.isEmpty) = decide (c ≠ .error) ∧ ∀ x, c ≠ .shift x := by
  cases R with
  | nil => cases h; exact ⟨rfl, nofun⟩
  | cons p ps =>
    rw [reducePhase_cons_error] at h
    split at h
    · cases ps with
      | nil => cases h; exact ⟨rfl, nofun⟩
      | cons q qs => rw [reducePhase_accept] at h; cases h
    · have h' := reducePhase_reduce G t ps p []
      split at h'
      · obtain ⟨o, ho⟩ := h'; rw [ho] at h; cases h
      · obtain ⟨rr', h1, _⟩ := h'; rw [h1] at h; cases h; exact ⟨rfl, nofun⟩

theorem resolveSR_spec (tp pp : Option Prec) (tgt r : Nat)
    (hc : ∀ a b, tp = some a → pp = some b → a.level = b.level → a.kind = b.kind ∧ a.kind ≤ 2) :
    resolveSR tp pp tgt r = some (specSR tp pp tgt r) := by
  cases tp with
  | none => rfl
  | some a =>
    cases pp with
    | none => rfl
    | some b =>
      simp only [resolveSR, specSR]
      by_cases hl : a.level = b.level
      · obtain ⟨hk, h2⟩ := hc a b rfl rfl hl
        rw [if_pos hl, if_neg (hl ▸ Nat.lt_irrefl _), if_neg (hl ▸ Nat.lt_irrefl _), ← hk]
        generalize a.kind = k at h2
        match k, h2 with
        | 0, _ => rfl
        | 1, _ => rfl
        | 2, _ => rfl
        | n + 3, h => exact absurd (Nat.le_trans (Nat.le_add_left 3 n) h) (by decide)
      · rw [if_neg hl]
        by_cases hg : a.level > b.level
        · rw [if_pos hg, if_pos hg]
        · rw [if_neg hg, if_neg hg, if_pos (Nat.lt_of_le_of_ne (Nat.le_of_not_lt hg) hl)]

/-- consistency of the precedence tables gives the side condition of `resolveSR_spec` -/
theorem precConsistent_cond (G : Grammar) (h : precConsistent G = true) (t r : Nat) :
    ∀ a b, (G.tokPrec[t]?).getD none = some a → (G.prodPrec[r]?).getD none = some b →
      a.level = b.level → a.kind = b.kind ∧ a.kind ≤ 2 := by
  intro a b ha hb hl
  simp only [precConsistent, List.all_eq_true, List.mem_filterMap, id, Bool.and_eq_true,
    decide_eq_true_eq, Bool.or_eq_true, bne_iff_ne, ne_eq, beq_iff_eq] at h
  have hget : ∀ (l : List (Option Prec)) (i : Nat) (c : Prec), (l[i]?).getD none = some c → some c ∈ l := by
    intro l i c hc
    cases hg : l[i]? with
    | none => rw [hg] at hc; cases hc
    | some v => rw [hg] at hc; exact hc ▸ List.mem_of_getElem? hg
  have hma : ∃ x, x ∈ G.tokPrec ++ G.prodPrec ∧ x = some a := ⟨_, List.mem_append_left _ (hget _ t a ha), rfl⟩
  have hmb : ∃ x, x ∈ G.tokPrec ++ G.prodPrec ∧ x = some b := ⟨_, List.mem_append_right _ (hget _ r b hb), rfl⟩
  have h1 := h a hma
  have h2 := h1.2 b hmb
  rcases h2 with h2 | h2
  · exact absurd hl h2
  · exact ⟨h2, h1.1⟩

theorem resolveSR_shift {tp pp : Option Prec} {tgt r x : Nat} {b : Bool}
    (h : resolveSR tp pp tgt r = some (.shift x, b)) : x = tgt := by
  cases tp with
  | none => cases h; rfl
  | some a =>
    cases pp with
    | none => cases h; rfl
    | some c =>
      simp only [resolveSR] at h
      by_cases hl : a.level = c.level
      · rw [if_pos hl] at h
        split at h
        · cases h
        · cases h; rfl
        · cases h
        · cases h
      · rw [if_neg hl] at h
        by_cases hg : a.level > c.level
        · rw [if_pos hg] at h; cases h; rfl
        · rw [if_neg hg] at h; cases h

/-- a shift that the edge loop writes over what the reduce loop left goes to the edge's target -/
theorem shiftStep_shift {G : Grammar} {t tg x : Nat} {cell : Act} {b : Bool} (hns : ∀ s, cell ≠ .shift s)
    (h : shiftStep G t cell tg = some (.shift x, b)) : x = tg := by
  cases cell with
  | shift s => exact absurd rfl (hns s)
  | reduce r => exact resolveSR_shift h
  | accept => cases h
  | error => cases h; rfl

theorem specSR_reported (tp pp : Option Prec) (tgt r : Nat) : (specSR tp pp tgt r).2 = true ↔ (tp = none ∨ pp = none) := by
  cases tp with
  | none => exact ⟨fun _ => Or.inl rfl, fun _ => rfl⟩
  | some a =>
    cases pp with
    | none => exact ⟨fun _ => Or.inr rfl, fun _ => rfl⟩
    | some b =>
      -- every branch of the precedence comparison has `false` as its second component
      have : (specSR (some a) (some b) tgt r).2 = false := by simp only [specSR, apply_ite Prod.snd, ite_self]
      rw [this]
      exact ⟨nofun, fun h => h.elim nofun nofun⟩

/-- **a cell that is written**, for every state, edge and order of the items: its `state_actions` bit is set exactly
when its final action is not an error, and a shift in it goes to the edge's target -/
theorem cellOf_ok {G : Grammar} {items : List Item} {tgt : Option Nat} {t : Nat} {a : Act} {rr : List (Nat × Nat)}
    {sr : Option Nat} {b : Bool} (h : cellOf G items tgt t = .ok a rr sr b) :
    b = decide (a ≠ .error) ∧ ∀ x, a = .shift x → tgt = some x := by
  simp only [cellOf] at h
  cases hr : reducePhase G t (reduceCands G items t) .error [] with
  | acceptReduce o => rw [hr] at h; cases h
  | internal => rw [hr] at h; cases h
  | ok cell rr0 =>
    rw [hr] at h
    obtain ⟨hflag, hns⟩ := reducePhase_ok G t _ cell rr0 hr
    cases tgt with
    | none => cases h; exact ⟨hflag, fun x e => absurd e (hns x)⟩
    | some tg =>
      dsimp only at h
      cases hs : shiftStep G t cell tg with
      | none => rw [hs] at h; cases h
      | some v =>
        obtain ⟨a', rec⟩ := v
        rw [hs] at h; cases h
        exact ⟨by cases a <;> rfl, fun x e => by subst e; rw [shiftStep_shift hns hs]⟩

end GrmVerif.Table
