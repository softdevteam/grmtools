import GrmVerif.Lemmas.CloseData
/-! The work-list loop of the model of `Itemset::close`: one iteration (`process_spec`), the loop
invariant (`Inv`), termination within the fuel bound and exactness of the final map (`loop_spec`,
`inv_final_exact`). -/
namespace GrmVerif.CloseImpl
open GrmVerif Ref Closure Spec

/-- the closure condition of ONE item `[p, d]` with respect to the map `is`: every production of the
rule behind the dot is present with dot 0, and its context contains FIRST of what follows that rule
and, if that is nullable, the context of `[p, d]` -/
def Done (G : Grammar) (N : Nat → Bool) (F : Nat × Nat → Bool) (is : List Item) (p d : Nat) : Prop :=
  ∀ r, symAfter G p d = some (.rule r) → ∀ q ∈ G.prodsOf r,
    HasItem is q 0 ∧ ∀ t, ((t < G.ntoks ∧ firstSeq N F ((G.rhs p).drop (d + 1)) t = true) ∨
      (seqNullable N ((G.rhs p).drop (d + 1)) = true ∧ HasLa is p d t)) → HasLa is q 0 t

theorem Done.transfer {G : Grammar} {N : Nat → Bool} {F : Nat × Nat → Bool} {is is' : List Item} {p d : Nat}
    (h : Done G N F is p d) (hi : ∀ p' d', HasItem is p' d' → HasItem is' p' d')
    (hl : ∀ p' d' t, HasLa is p' d' t → HasLa is' p' d' t)
    (hsame : ∀ t, HasLa is' p d t → HasLa is p d t) : Done G N F is' p d := by
  intro r hr q hq
  obtain ⟨h1, h2⟩ := h r hr q hq
  refine ⟨hi _ _ h1, ?_⟩
  intro t ht
  apply hl
  apply h2
  rcases ht with ht | ⟨hn, ht⟩
  · exact Or.inl ht
  · exact Or.inr ⟨hn, hsame t ht⟩

/-- the map holds only facts of the closure, under distinct keys -/
structure Sound (G : Grammar) (core : List Item) (is : List Item) : Prop where
  nodup : KeysNodup is
  item : ∀ p d, HasItem is p d → ClosureP G core (.item p d)
  la : ∀ p d t, HasLa is p d t → ClosureP G core (.la p d t)

/-- what one iteration for the item `[p, d]` guarantees (see `process_spec`): the map stays sound and only grows,
marks are only added, every entry that is new or grew is marked, `[p, d]` satisfies the closure condition
afterwards unless it was marked again, and the measure does not increase -/
structure StepSpec (G : Grammar) (N : Nat → Bool) (F : Nat × Nat → Bool) (core : List Item) (p d : Nat)
    (is : List Item) (todo : Ctx) (is' : List Item) (todo' : Ctx) : Prop where
  sound : Sound G core is'
  mono_item : ∀ p' d', HasItem is p' d' → HasItem is' p' d'
  mono_la : ∀ p' d' t, HasLa is p' d' t → HasLa is' p' d' t
  todo_mono : ∀ x ∈ todo, x ∈ todo'
  todo_from : ∀ x ∈ todo', x ∈ todo ∨ HasItem is' x 0
  new_item : ∀ p' d', HasItem is' p' d' → HasItem is p' d' ∨ (d' = 0 ∧ p' ∈ todo')
  new_la : ∀ p' d' t, HasLa is' p' d' t → HasLa is p' d' t ∨ (d' = 0 ∧ p' ∈ todo')
  done : Done G N F is' p d ∨ (d = 0 ∧ p ∈ todo')
  measure : todo'.length + missingOf G is' ≤ todo.length + missingOf G is

theorem StepSpec.skip {G : Grammar} {N : Nat → Bool} {F : Nat × Nat → Bool} {core : List Item} {p d : Nat}
    {is : List Item} {todo : Ctx} (hs : Sound G core is) (hd : ∀ r, symAfter G p d ≠ some (.rule r)) :
    StepSpec G N F core p d is todo is todo :=
  ⟨hs, fun _ _ h => h, fun _ _ _ h => h, fun _ h => h, fun _ h => Or.inl h, fun _ _ h => Or.inl h,
    fun _ _ _ h => Or.inl h, Or.inl (fun r hr => absurd hr (hd r)), Nat.le_refl _⟩

theorem inheritCtx_spec {is : List Item} (hnd : KeysNodup is) {p d : Nat} (h : HasItem is p d) (c : Ctx) (b : Bool) :
    ∃ ctx, inheritCtx is p d c b = some ctx ∧ ∀ t, t ∈ ctx ↔ t ∈ c ∨ (b = true ∧ HasLa is p d t) := by
  cases b with
  | false => exact ⟨c, by simp [inheritCtx], by simp⟩
  | true =>
    obtain ⟨l, hl, hm⟩ := lookup_spec hnd h
    refine ⟨(vobOr c l).1, by simp [inheritCtx, hl], ?_⟩
    intro t
    rw [mem_vobOr, hm t]; simp

section
variable {G : Grammar} (hwf : G.wf = true) {N : Nat → Bool} {F : Nat × Nat → Bool}
  (hN : ∀ r, N r = true ↔ NullableR G r) (hF : ∀ r t, F (r, t) = true ↔ FirstP G r t)
  {core : List Item} (hcore : CoreOk G core)
include hwf hN hF hcore

/-- **one iteration**: it does not panic, keeps the map sound, marks everything it changed, leaves the
processed item closed (or marked again), and does not increase the measure -/
theorem process_spec {is : List Item} (hs : Sound G core is) {p d : Nat} (hpd : HasItem is p d) (todo : Ctx) :
    ∃ is' todo', process G N F p d is todo = some (is', todo') ∧ StepSpec G N F core p d is todo is' todo' := by
  have hcl := hs.item p d hpd
  obtain ⟨hp, hd⟩ := mem_universe_item.mp (closureP_univ hwf hcore hcl)
  unfold process
  rw [if_pos hp]
  by_cases hlen : d = (G.rhs p).length
  · rw [if_pos hlen]
    refine ⟨is, todo, rfl, StepSpec.skip hs ?_⟩
    intro r hr
    rw [symAfter, hlen, List.getElem?_eq_none (Nat.le_refl _)] at hr
    cases hr
  · rw [if_neg hlen]
    have hdlt : d < (G.rhs p).length := Nat.lt_of_le_of_ne hd hlen
    have hget : (G.rhs p)[d]? = some (G.rhs p)[d] := List.getElem?_eq_getElem hdlt
    rw [hget]
    cases hX : (G.rhs p)[d] with
    | tok a =>
      refine ⟨is, todo, rfl, StepSpec.skip hs ?_⟩
      intro r hr
      rw [symAfter, hget, hX] at hr
      cases hr
    | rule r =>
      have hsym : symAfter G p d = some (.rule r) := by rw [symAfter, hget, hX]
      have hr : r < G.nrules := wf_rule hwf hp (hX ▸ List.getElem_mem hdlt)
      have hβ : ∀ s ∈ (G.rhs p).drop (d + 1), G.symOk s = true :=
        fun s hs' => wf_sym hwf hp (List.mem_of_mem_drop hs')
      obtain ⟨c, hc, hcm⟩ := ctxLoop_spec G N F ((G.rhs p).drop (d + 1)) hβ []
      obtain ⟨ctx, hctx, hctxm⟩ := inheritCtx_spec hs.nodup hpd c (seqNullable N ((G.rhs p).drop (d + 1)))
      have hctx' : ∀ t, t ∈ ctx ↔ (t < G.ntoks ∧ firstSeq N F ((G.rhs p).drop (d + 1)) t = true) ∨
          (seqNullable N ((G.rhs p).drop (d + 1)) = true ∧ HasLa is p d t) := by
        intro t; rw [hctxm t, hcm t]; simp
      have hctxlt : ∀ t ∈ ctx, t < G.ntoks := by
        intro t ht
        rcases (hctx' t).mp ht with h | ⟨_, h⟩
        · exact h.1
        · exact (mem_universe_la.mp (closureP_univ hwf hcore (hs.la p d t h))).2.2
      have hqs : ∀ q ∈ G.prodsOf r, q < G.nprods := fun q hq => (mem_prodsOf.mp hq).1
      have A := addAll_spec G ctx hctxlt (G.prodsOf r) hqs is todo hs.nodup
      refine ⟨(addAll (G.prodsOf r) ctx is todo).1, (addAll (G.prodsOf r) ctx is todo).2, ?_, ?_⟩
      · simp only [processSym, processRule, if_pos hr, hc, Option.bind_some, hctx, Option.map_some]
      · refine ⟨⟨A.nodup, ?_, ?_⟩, ?_, ?_, A.todo_mono, ?_, A.new_item, A.new_la, ?_, A.measure⟩
        · intro p' d' h
          rcases (A.item p' d').mp h with h | ⟨rfl, hq⟩
          · exact hs.item _ _ h
          · obtain ⟨hq1, hq2⟩ := mem_prodsOf.mp hq
            exact .citem p d p' hcl (by rw [hq2]; exact hsym) hq1
        · intro p' d' t h
          rcases (A.la p' d' t).mp h with h | ⟨rfl, hq, ht⟩
          · exact hs.la _ _ _ h
          · obtain ⟨hq1, hq2⟩ := mem_prodsOf.mp hq
            rcases (hctx' t).mp ht with ⟨_, hf⟩ | ⟨hn, hl⟩
            · exact .cfirst p d p' t hcl (by rw [hq2]; exact hsym) hq1 ((firstSeq_iff hN hF _ t).mp hf)
            · exact .cinherit p d p' t hcl (by rw [hq2]; exact hsym) hq1 ((seqNullable_iff hN _).mp hn)
                (hs.la p d t hl)
        · intro p' d' h; exact (A.item p' d').mpr (Or.inl h)
        · intro p' d' t h; exact (A.la p' d' t).mpr (Or.inl h)
        · intro x hx
          rcases A.todo_from x hx with h | h
          · exact Or.inl h
          · exact Or.inr ((A.item x 0).mpr (Or.inr ⟨rfl, h⟩))
        · by_cases hmk : d = 0 ∧ p ∈ (addAll (G.prodsOf r) ctx is todo).2
          · exact Or.inr hmk
          · left
            intro r' hr' q hq
            have : r' = r := by rw [hsym] at hr'; injection hr' with e; injection e with e; exact e.symm
            subst this
            refine ⟨(A.item q 0).mpr (Or.inr ⟨rfl, hq⟩), ?_⟩
            intro t ht
            apply (A.la q 0 t).mpr
            refine Or.inr ⟨rfl, hq, (hctx' t).mpr ?_⟩
            rcases ht with ht | ⟨hn, hl⟩
            · exact Or.inl ht
            · rcases A.new_la p d t hl with h | h
              · exact Or.inr ⟨hn, h⟩
              · exact absurd h hmk

end

/-- the item `[p, d]` is still to be processed: in `keys_iter`, or marked in `zero_todos` -/
def Pend (keys : List (Nat × Nat)) (todo : Ctx) (p d : Nat) : Prop := (p, d) ∈ keys ∨ (d = 0 ∧ p ∈ todo)

structure Inv (G : Grammar) (N : Nat → Bool) (F : Nat × Nat → Bool) (core : List Item)
    (keys : List (Nat × Nat)) (todo : Ctx) (is : List Item) : Prop where
  sound : Sound G core is
  kernel_item : ∀ i ∈ core, HasItem is i.p i.dot
  kernel_la : ∀ i ∈ core, ∀ t ∈ i.la, HasLa is i.p i.dot t
  pend_in : ∀ p d, Pend keys todo p d → HasItem is p d
  pending : ∀ p d, HasItem is p d → Pend keys todo p d ∨ Done G N F is p d

theorem inv_step {G : Grammar} {N : Nat → Bool} {F : Nat × Nat → Bool} {core : List Item}
    {keys keys' : List (Nat × Nat)} {todo todoIn : Ctx} {is : List Item} {p d : Nat} {is' : List Item} {todo' : Ctx}
    (hinv : Inv G N F core keys todo is)
    (hsub : ∀ p' d', Pend keys' todoIn p' d' → Pend keys todo p' d')
    (hpend : ∀ p' d', Pend keys todo p' d' → (p' = p ∧ d' = d) ∨ Pend keys' todoIn p' d')
    (hstep : StepSpec G N F core p d is todoIn is' todo') : Inv G N F core keys' todo' is' := by
  refine ⟨hstep.sound, ?_, ?_, ?_, ?_⟩
  · intro i hi; exact hstep.mono_item _ _ (hinv.kernel_item i hi)
  · intro i hi t ht; exact hstep.mono_la _ _ _ (hinv.kernel_la i hi t ht)
  · rintro p' d' (hk | ⟨rfl, hq⟩)
    · exact hstep.mono_item _ _ (hinv.pend_in _ _ (hsub _ _ (Or.inl hk)))
    · rcases hstep.todo_from p' hq with h | h
      · exact hstep.mono_item _ _ (hinv.pend_in _ _ (hsub _ _ (Or.inr ⟨rfl, h⟩)))
      · exact h
  · intro p' d' h
    by_cases hmk : d' = 0 ∧ p' ∈ todo'
    · exact Or.inl (Or.inr hmk)
    · -- not marked: the item and its context are as before the iteration
      have hold : HasItem is p' d' := (hstep.new_item p' d' h).resolve_right hmk
      have hsame : ∀ t, HasLa is' p' d' t → HasLa is p' d' t := fun t ht => (hstep.new_la p' d' t ht).resolve_right hmk
      rcases hinv.pending p' d' hold with hp | h
      · rcases hpend p' d' hp with ⟨rfl, rfl⟩ | hk | ⟨h1, h2⟩
        · exact hstep.done.symm.imp_left Or.inr
        · exact Or.inl (Or.inl hk)
        · exact absurd ⟨h1, hstep.todo_mono _ h2⟩ hmk
      · exact Or.inr (h.transfer hstep.mono_item hstep.mono_la hsame)

section
variable {G : Grammar} (hwf : G.wf = true) {N : Nat → Bool} {F : Nat × Nat → Bool}
  (hN : ∀ r, N r = true ↔ NullableR G r) (hF : ∀ r t, F (r, t) = true ↔ FirstP G r t)
  {core : List Item} (hcore : CoreOk G core)
include hwf hN hF hcore

theorem loop_spec : ∀ (fuel : Nat) (keys : List (Nat × Nat)) (todo : Ctx) (is : List Item),
    Inv G N F core keys todo is → keys.length + todo.length + missingOf G is < fuel →
    ∃ R, loop G N F fuel keys todo is = .done R ∧ Inv G N F core [] [] R := by
  intro fuel
  induction fuel with
  | zero => intro _ _ _ _ h; exact absurd h (Nat.not_lt_zero _)
  | succ n ih =>
    intro keys todo is hinv hfuel
    cases keys with
    | cons k ks =>
      obtain ⟨is', todo', hproc, hstep⟩ :=
        process_spec hwf hN hF hcore hinv.sound (hinv.pend_in _ _ (Or.inl (List.mem_cons_self ..))) todo
      simp only [loop, hproc, continueWith]
      apply ih ks todo' is'
      · refine inv_step hinv (fun _ _ h => h.imp_left (List.mem_cons_of_mem _)) ?_ hstep
        rintro p' d' (h | h)
        · rcases List.mem_cons.mp h with h | h
          · left; rw [← h]; exact ⟨rfl, rfl⟩
          · exact Or.inr (Or.inl h)
        · exact Or.inr (Or.inr h)
      · -- one key less, and the rest of the measure did not grow
        rw [List.length_cons, Nat.add_right_comm _ 1, Nat.add_right_comm _ 1] at hfuel
        refine Nat.lt_of_le_of_lt ?_ (Nat.lt_of_succ_lt_succ hfuel)
        rw [Nat.add_assoc, Nat.add_assoc]
        exact Nat.add_le_add_left hstep.measure _
    | nil =>
      simp only [loop]
      split
      · next hmin =>
        rw [List.min?_eq_none_iff] at hmin
        subst hmin
        exact ⟨is, rfl, hinv⟩
      · next p hmin =>
        have hp : p ∈ todo := List.min?_mem hmin
        obtain ⟨is', todo', hproc, hstep⟩ :=
          process_spec hwf hN hF hcore hinv.sound (hinv.pend_in _ _ (Or.inr ⟨rfl, hp⟩)) (vobClear todo p)
        simp only [hproc, continueWith]
        apply ih [] todo' is'
        · refine inv_step hinv (fun _ _ h => h.imp_right fun h => ⟨h.1, (mem_vobClear.mp h.2).1⟩) ?_ hstep
          rintro p' d' (h | ⟨h1, h2⟩)
          · cases h
          · by_cases hpp : p' = p
            · exact Or.inl ⟨hpp, h1⟩
            · exact Or.inr (Or.inr ⟨h1, mem_vobClear.mpr ⟨h2, hpp⟩⟩)
        · -- one marked production less, and the rest of the measure did not grow
          rw [List.length_nil, Nat.zero_add] at hfuel ⊢
          exact Nat.lt_of_le_of_lt hstep.measure
            (Nat.lt_of_lt_of_le (Nat.add_lt_add_right (vobClear_length hp) _) (Nat.le_of_lt_succ hfuel))

theorem inv_final_exact {R : List Item} (hinv : Inv G N F core [] [] R) :
    (∀ p d, HasItem R p d ↔ ClosureP G core (.item p d)) ∧
    (∀ p d t, HasLa R p d t ↔ ClosureP G core (.la p d t)) := by
  have hdone : ∀ p d, HasItem R p d → Done G N F R p d := fun p d h =>
    (hinv.pending p d h).resolve_left fun hp => hp.elim nofun fun h => nomatch h.2
  have hcomp : ∀ x, ClosureP G core x → x ∈ factsOf R := by
    intro x hx
    induction hx with
    | kitem i hi => exact mem_factsOf_item.mpr (hinv.kernel_item i hi)
    | kla i t hi ht => exact mem_factsOf_la.mpr (hinv.kernel_la i hi t ht)
    | citem p d q _ hsym hq ih =>
      have hi := mem_factsOf_item.mp ih
      exact mem_factsOf_item.mpr (hdone p d hi (G.lhs q) hsym q (mem_prodsOf.mpr ⟨hq, rfl⟩)).1
    | cfirst p d q t hcl hsym hq hfs ih =>
      have hi := mem_factsOf_item.mp ih
      have ht := (mem_universe_la.mp (closureP_univ hwf hcore (.cfirst p d q t hcl hsym hq hfs))).2.2
      exact mem_factsOf_la.mpr ((hdone p d hi (G.lhs q) hsym q (mem_prodsOf.mpr ⟨hq, rfl⟩)).2 t
        (Or.inl ⟨ht, (firstSeq_iff hN hF _ t).mpr hfs⟩))
    | cinherit p d q t _ hsym hq hnull _ ih1 ih2 =>
      have hi := mem_factsOf_item.mp ih1
      exact mem_factsOf_la.mpr ((hdone p d hi (G.lhs q) hsym q (mem_prodsOf.mpr ⟨hq, rfl⟩)).2 t
        (Or.inr ⟨(seqNullable_iff hN _).mpr hnull, mem_factsOf_la.mp ih2⟩))
  exact ⟨fun p d => ⟨hinv.sound.item p d, fun h => mem_factsOf_item.mp (hcomp _ h)⟩,
    fun p d t => ⟨hinv.sound.la p d t, fun h => mem_factsOf_la.mp (hcomp _ h)⟩⟩

theorem close_spec (hnd : KeysNodup core) {order : List (Nat × Nat)} (horder : ∀ p d, (p, d) ∈ order ↔ HasItem core p d)
    {fuel : Nat} (hfuel : closeFuel G order ≤ fuel) :
    ∃ R, close G N F core order fuel = .done R ∧ KeysNodup R ∧
      (∀ p d, HasItem R p d ↔ ClosureP G core (.item p d)) ∧
      (∀ p d t, HasLa R p d t ↔ ClosureP G core (.la p d t)) := by
  have hinv : Inv G N F core order [] core :=
    ⟨⟨hnd, fun _ _ ⟨i, hi, e1, e2⟩ => e1 ▸ e2 ▸ .kitem i hi, fun _ _ t ⟨i, hi, e1, e2, ht⟩ => e1 ▸ e2 ▸ .kla i t hi ht⟩,
      fun i hi => ⟨i, hi, rfl, rfl⟩, fun i hi t ht => ⟨i, hi, rfl, rfl, ht⟩,
      fun p d h => h.elim (horder p d).mp (fun h => nomatch h.2), fun p d h => Or.inl (Or.inl ((horder p d).mpr h))⟩
  have hm := missingOf_le_universe G core
  obtain ⟨R, hR, hfin⟩ := loop_spec hwf hN hF hcore fuel order [] core hinv
    (Nat.lt_of_lt_of_le (Nat.lt_succ_of_le (Nat.add_le_add_left hm order.length)) hfuel)
  obtain ⟨h1, h2⟩ := inv_final_exact hwf hN hF hcore hfin
  exact ⟨R, hR, hfin.sound.nodup, h1, h2⟩

end

theorem subCtx_iff {a b : Ctx} : subCtx a b = true ↔ ∀ t ∈ a, t ∈ b := by
  simp [subCtx]

theorem sameEntry_lookup {R : List Item} (hR : KeysNodup R) {p d : Nat} {la : Ctx} :
    sameEntry la (lookup R p d) = true ↔ HasItem R p d ∧ ∀ t, t ∈ la ↔ HasLa R p d t := by
  cases hl : lookup R p d with
  | none =>
    refine ⟨nofun, fun ⟨hit, _⟩ => ?_⟩
    obtain ⟨l, hl', _⟩ := lookup_spec hR hit
    rw [hl] at hl'; cases hl'
  | some l =>
    obtain ⟨hit, hm⟩ := lookup_some hR hl
    simp only [sameEntry, Bool.and_eq_true, subCtx_iff]
    exact ⟨fun h => ⟨hit, fun t => ⟨fun ht => (hm t).mp (h.2 t ht), fun ht => h.1 t ((hm t).mpr ht)⟩⟩,
      fun h => ⟨fun t ht => (h.2 t).mpr ((hm t).mp ht), fun t ht => (hm t).mpr ((h.2 t).mp ht)⟩⟩

theorem sameItems_iff {R closed : List Item} (hR : KeysNodup R) (hC : KeysNodup closed) :
    sameItems R closed = true ↔
      (∀ p d, HasItem closed p d ↔ HasItem R p d) ∧ (∀ p d t, HasLa closed p d t ↔ HasLa R p d t) := by
  -- every entry of `closed` is in `R` with the same context, and every key of `R` is one of `closed`
  simp only [sameItems, Bool.and_eq_true, List.all_eq_true, List.any_eq_true, sameEntry_lookup hR, isKey_iff]
  constructor
  · rintro ⟨h1, h2⟩
    refine ⟨fun p d => ⟨?_, ?_⟩, fun p d t => ⟨?_, ?_⟩⟩
    · rintro ⟨i, hi, rfl, rfl⟩; exact (h1 i hi).1
    · rintro ⟨j, hj, rfl, rfl⟩; exact h2 j hj
    · rintro ⟨i, hi, rfl, rfl, ht⟩; exact ((h1 i hi).2 t).mp ht
    · rintro ⟨j, hj, rfl, rfl, ht⟩
      obtain ⟨i, hi, e1, e2⟩ := h2 j hj
      refine ⟨i, hi, e1, e2, ((h1 i hi).2 t).mpr ?_⟩
      rw [e1, e2]; exact ⟨j, hj, rfl, rfl, ht⟩
  · rintro ⟨h1, h2⟩
    exact ⟨fun i hi => ⟨(h1 _ _).mp ⟨i, hi, rfl, rfl⟩, fun t => (hasLa_iff_mem hC hi).symm.trans (h2 _ _ t)⟩,
      fun j hj => (h1 _ _).mpr ⟨j, hj, rfl, rfl⟩⟩

end GrmVerif.CloseImpl
