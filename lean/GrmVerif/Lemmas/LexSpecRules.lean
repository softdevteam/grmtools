import GrmVerif.Lemmas.LexSpecProps
import GrmVerif.Lemmas.LexSpecErrs
/-!
The rules section of the line specification. What one rule line does (`ruleStepSpec_cases`: it stops
the parse, or is `Booked`), and how the section goes through its rule lines (`Reads`,
`ruleSpec_reads`); what holds of the section is proved of `Reads`.
-/
namespace GrmVerif.LexSpecParse
open GrmVerif.LexUnescape GrmVerif.LexParse

theorem pushParsed_cases (env : Env) (i : Nat) (name : Option (List Char)) (span : Nat × Nat)
    (tgt : Option (Nat × Nat)) (st : PState) (names : List (List Char)) (re : List Char) :
    (∃ ids, resolveAll st.states names = some ids ∧ env.compiles re = true ∧
      pushParsed env i name span tgt st (.ok (names, re))
        = .ok { st with rules := st.rules ++ [⟨st.rules.length, name, span, re, ids, tgt⟩] }) ∨
    (∃ k, fatalKind k = true ∧
      pushParsed env i name span tgt st (.ok (names, re)) = .error (st.errs ++ [mkErr k i])) := by
  unfold pushParsed
  dsimp only
  cases hra : resolveAll st.states names with
  | none => exact Or.inr ⟨.unknownStartState, rfl, rfl⟩
  | some ids =>
    by_cases hc : env.compiles re = true
    · exact Or.inl ⟨ids, rfl, hc, by simp only [hc, if_true]⟩
    · exact Or.inr ⟨.regexError, rfl, by simp only [hc, Bool.false_eq_true, if_false]⟩

theorem pushRuleSpec_cases (env : Env) (i : Nat) (pre : List Char) (name : Option (List Char))
    (span : Nat × Nat) (tgt : Option (Nat × Nat)) (st : PState) :
    (∃ names re ids, reSpec env.cfg isPWS (trimEndUnescaped isPWS pre) = .ok (names, re) ∧
      resolveAll st.states names = some ids ∧ env.compiles re = true ∧
      pushRuleSpec env i pre name span tgt st
        = .ok { st with rules := st.rules ++ [⟨st.rules.length, name, span, re, ids, tgt⟩] }) ∨
    (∃ k, fatalKind k = true ∧
      pushRuleSpec env i pre name span tgt st = .error (st.errs ++ [mkErr k i])) := by
  unfold pushRuleSpec
  cases reSpec env.cfg isPWS (trimEndUnescaped isPWS pre) with
  | error k => exact Or.inr ⟨ofLineKind k, by cases k <;> rfl, rfl⟩
  | ok v =>
    obtain ⟨names, re⟩ := v
    rcases pushParsed_cases env i name span tgt st names re with ⟨ids, h1, h2, h3⟩ | h
    · exact Or.inl ⟨names, re, ids, rfl, h1, h2, h3⟩
    · exact Or.inr h

/-- the name a rule line carries, with its span in the text: read off the name side alone, whatever
the regular expression in front of it -/
def nameOcc (ln : Line) : Option (List Char × (Nat × Nat)) :=
  match nameSide isPWS isSpaceSep ln.2 with
  | .ok ns =>
    match ns.name with
    | some (some n, a, b) => some (n, (ln.1 + a, ln.1 + b))
    | _ => none
  | .error _ => none

theorem nameOcc_of_spec (cfg : Cfg) (ln : Line) (rl : RuleLine)
    (h : ruleLineSpec cfg isPWS isSpaceSep ln.2 = .ok rl) :
    nameOcc ln = rl.name.map fun n => (n, (ln.1 + rl.spanStart, ln.1 + rl.spanEnd)) := by
  obtain ⟨ns, hns, hname, _⟩ := ruleLineSpec_ok cfg isPWS isSpaceSep ln.2 rl h
  unfold nameOcc
  rw [hns]; dsimp only; rw [hname]
  cases rl.name <;> rfl

theorem nameOcc_of_rule {env : Env} {sts : List StartState} {ln : Line} {k : Nat} {r : Rule}
    (h : ruleOfLine env sts ln k = some r) : nameOcc ln = r.name.map fun n => (n, r.span) := by
  unfold ruleOfLine at h
  split at h
  · next rl hrl =>
    obtain ⟨_, _, _, _, rfl⟩ := resolveRule_some h
    exact nameOcc_of_spec env.cfg ln rl hrl
  · cases h

/-- what a rule line does when it does not stop the parse: its name being taken, it books one more
duplicate occurrence (the regular expression is not looked at); or it pushes the rule it denotes (`ruleOfLine`) — the
line-level reading of the line with its names looked up, its name not taken, numbered with the number
of rules so far -/
def Booked (env : Env) (ln : Line) (st st' : PState) : Prop :=
  (∃ n s r, nameOcc ln = some (n, s) ∧ findRule st.rules n = some r ∧
    st' = { st with errs := addDup st.errs .duplicateName r.span s }) ∨
  (∃ r, ruleOfLine env st.states ln st.rules.length = some r ∧
    (∀ n, r.name = some n → findRule st.rules n = none) ∧ st' = { st with rules := st.rules ++ [r] })

/-- a rule line stops the parse with an error that lies within the line, or is booked -/
def RuleOutcome (env : Env) (ln : Line) (st : PState) (res : Except (List Err) PState) : Prop :=
  (∃ es, res = .error es ∧ StoppedAt (fun p => ln.1 ≤ p ∧ p ≤ ln.1 + byteLen ln.2) st.errs es) ∨
  (∃ st', res = .ok st' ∧ Booked env ln st st')

theorem pushRuleSpec_outcome (env : Env) (ln : Line) (st : PState) (ns : NameSide)
    (tgt : Option (Nat × Nat)) (name : Option (List Char)) (a b : Nat)
    (hns : nameSide isPWS isSpaceSep ln.2 = .ok ns) (hnm : ns.name = some (name, a, b))
    (hrt : resolveTarget st.states ns.target = some tgt)
    (hfresh : ∀ n, name = some n → findRule st.rules n = none) :
    RuleOutcome env ln st (pushRuleSpec env ln.1 ns.pre name (ln.1 + a, ln.1 + b) tgt st) := by
  rcases pushRuleSpec_cases env ln.1 ns.pre name (ln.1 + a, ln.1 + b) tgt st with
    ⟨names, re, ids, hre, hra, _, heq⟩ | ⟨k, hk, heq⟩
  · refine Or.inr ⟨_, heq, Or.inr ⟨_, ?_, hfresh, rfl⟩⟩
    simp only [ruleOfLine, ruleLineSpec, hns, hnm, hre, resolveRule, hrt, hra, Option.bind_some, Option.map_some]
  · exact Or.inl ⟨_, heq, k, ln.1, rfl, hk, Nat.le_refl _, Nat.le_add_right _ _⟩

theorem ruleStepSpec_cases (env : Env) (ln : Line) (st : PState) :
    RuleOutcome env ln st (ruleStepSpec env ln.1 ln.2 st) := by
  have hspec := nameSide_spec isPWS isSpaceSep ln.2
  rw [ruleStepSpec_eq]
  cases hns : nameSide isPWS isSpaceSep ln.2 with
  | error e =>
    obtain ⟨k, p⟩ := e
    rw [hns] at hspec
    exact Or.inl ⟨_, rfl, _, _, rfl, by cases k <;> rfl, Nat.le_add_right _ _, Nat.add_le_add_left hspec _⟩
  | ok ns =>
    rw [hns] at hspec
    have hle := hspec.1
    dsimp only
    cases hrt : resolveTarget st.states ns.target with
    | none => exact Or.inl ⟨_, rfl, _, _, rfl, rfl, Nat.le_add_right _ _, Nat.add_le_add_left hle _⟩
    | some tgt =>
      dsimp only
      cases hnm : ns.name with
      | none => exact Or.inl ⟨_, rfl, _, _, rfl, rfl, Nat.le_add_right _ _, Nat.add_le_add_left hle _⟩
      | some v =>
        obtain ⟨name, a, b⟩ := v
        cases name with
        | none => exact pushRuleSpec_outcome env ln st ns tgt none a b hns hnm hrt (fun n hn => by cases hn)
        | some n =>
          dsimp only
          cases hf : findRule st.rules n with
          | some r => exact Or.inr ⟨_, rfl, Or.inl ⟨n, _, r, by simp only [nameOcc, hns, hnm], hf, rfl⟩⟩
          | none =>
            exact pushRuleSpec_outcome env ln st ns tgt (some n) a b hns hnm hrt
              (fun n' hn => by rw [← Option.some.inj hn]; exact hf)

theorem findState_some (sts : List StartState) (n : List Char) (s : StartState)
    (h : findState sts n = some s) : s ∈ sts ∧ s.name = n := by
  unfold findState at h
  exact ⟨List.mem_of_find?_eq_some h, by simpa using List.find?_some h⟩

theorem resolveAll_none_iff (sts : List StartState) (names : List (List Char)) :
    resolveAll sts names = none ↔ ∃ n ∈ names, findState sts n = none := by
  induction names with
  | nil => simp [resolveAll]
  | cons n ns ih =>
    rw [resolveAll]
    cases hf : findState sts n with
    | none => simp [hf]
    | some s =>
      simp only [Option.map_eq_none_iff, ih, List.mem_cons, exists_eq_or_imp, hf, reduceCtorEq, false_or]

theorem resolveAll_some (sts : List StartState) : ∀ (names : List (List Char)) (ids : List Nat),
    resolveAll sts names = some ids →
    names.map (fun n => (findState sts n).map (·.id)) = ids.map some := by
  intro names
  induction names with
  | nil => intro ids h; simp only [resolveAll, Option.some.injEq] at h; subst h; rfl
  | cons n ns ih =>
    intro ids h
    rw [resolveAll] at h
    cases hf : findState sts n with
    | none => simp [hf] at h
    | some s =>
      simp only [hf] at h
      cases hr : resolveAll sts ns with
      | none => simp [hr] at h
      | some ids' =>
        simp only [hr, Option.map_some, Option.some.injEq] at h
        subst h
        simp only [List.map_cons, hf, Option.map_some, ih ids' hr]

theorem nameOffOf_eq (raw : List Char) (ns : NameSide) (h : nameSide isPWS isSpaceSep raw = .ok ns) :
    nameOffOf raw = ns.nameOff := by
  unfold nameOffOf
  unfold nameSide at h
  split at h
  · cases h
  · next pre s post hl =>
    rw [hl]
    split at h
    · cases h
    · cases h; rfl

theorem step_unknown_target (env : Env) (off : Nat) (raw : List Char) (rl : RuleLine) (st : PState)
    (op : Nat) (n : List Char) (hrl : ruleLineSpec env.cfg isPWS isSpaceSep raw = .ok rl)
    (ht : rl.target = some (op, n)) (hu : findState st.states n = none) :
    ruleStepSpec env off raw st
      = .error (st.errs ++ [mkErr .unknownStartState (off + nameOffOf raw)]) := by
  obtain ⟨ns, hns, _, htgt, _⟩ := ruleLineSpec_ok env.cfg isPWS isSpaceSep raw rl hrl
  rw [ruleStepSpec_eq, hns, nameOffOf_eq raw ns hns]
  simp only [← htgt, ht, resolveTarget, hu, Option.map_none]

theorem step_unknown_restriction (env : Env) (off : Nat) (raw : List Char) (rl : RuleLine) (st : PState)
    (tgt : Option (Nat × Nat)) (hrl : ruleLineSpec env.cfg isPWS isSpaceSep raw = .ok rl)
    (htgt : resolveTarget st.states rl.target = some tgt)
    (hfresh : ∀ n, rl.name = some n → findRule st.rules n = none)
    (hu : ∃ n ∈ rl.states, findState st.states n = none) :
    ruleStepSpec env off raw st = .error (st.errs ++ [mkErr .unknownStartState off]) := by
  obtain ⟨ns, hns, hname, ht, hre⟩ := ruleLineSpec_ok env.cfg isPWS isSpaceSep raw rl hrl
  have hra := (resolveAll_none_iff st.states rl.states).mpr hu
  rw [ruleStepSpec_eq, hns]
  simp only [← ht, htgt, hname]
  cases hn : rl.name with
  | none => simp [pushRuleSpec, hre, pushParsed, hra]
  | some n => simp [hfresh n hn, pushRuleSpec, hre, pushParsed, hra]

/-- the name `n` is taken, and the occurrence at `s1` is the rule that took it or is booked as a
duplicate of it -/
def NameSeen (n : List Char) (s1 : Nat × Nat) (st : PState) : Prop :=
  ∃ r, findRule st.rules n = some r ∧ Listed .duplicateName r.span s1 st.errs

theorem NameSeen.appendErr {n : List Char} {s1 : Nat × Nat} {st : PState} (h : NameSeen n s1 st)
    (x : Err) : NameSeen n s1 { st with errs := st.errs ++ [x] } := by
  obtain ⟨r, hr, h⟩ := h
  exact ⟨r, hr, h.append x⟩

theorem Booked.keepsRec {env : Env} {ln : Line} {st st' : PState} (h : Booked env ln st st') {k : EKind}
    {S : List (Nat × Nat)} (hr : Rec k S st.errs) : Rec k S st'.errs := by
  rcases h with ⟨_, _, _, _, _, rfl⟩ | ⟨_, _, _, rfl⟩
  · exact hr.addDup _ _ _
  · exact hr

theorem Booked.seen {env : Env} {ln : Line} {st st' : PState} (h : Booked env ln st st') {n : List Char}
    {s1 : Nat × Nat} (hs : NameSeen n s1 st) : NameSeen n s1 st' := by
  obtain ⟨r, hr, hl⟩ := hs
  rcases h with ⟨_, _, _, _, _, rfl⟩ | ⟨_, _, _, rfl⟩
  · exact ⟨r, hr, hl.addDup _ _ _⟩
  · refine ⟨r, ?_, hl⟩
    simp only [findRule] at hr ⊢
    rw [List.find?_append, hr]; rfl

/-- a line that carries a name and is booked: from then on its occurrence is seen, and it is in one
record with every occurrence seen before -/
theorem Booked.after {env : Env} {ln : Line} {st st' : PState} (h : Booked env ln st st') {n : List Char}
    {s : Nat × Nat} (ho : nameOcc ln = some (n, s)) :
    NameSeen n s st' ∧ ∀ s1, NameSeen n s1 st → Rec .duplicateName [s1, s] st'.errs := by
  rcases h with ⟨n', s', r, ho', hf, rfl⟩ | ⟨r, hr, hfresh, rfl⟩
  · obtain ⟨rfl, rfl⟩ := Prod.mk.inj (Option.some.inj (ho.symm.trans ho'))
    refine ⟨⟨r, hf, listed_addDup _ _ _ _⟩, ?_⟩
    rintro s1 ⟨r', hr', hs⟩
    obtain rfl := Option.some.inj (hf.symm.trans hr')
    exact hs.record _
  · rw [nameOcc_of_rule hr] at ho
    cases hn : r.name with
    | none => rw [hn] at ho; cases ho
    | some n' =>
      rw [hn] at ho
      obtain ⟨rfl, rfl⟩ := Prod.mk.inj (Option.some.inj ho)
      have hnone := hfresh n' hn
      refine ⟨⟨r, ?_, Or.inl rfl⟩, ?_⟩
      · simp only [findRule] at hnone ⊢
        rw [List.find?_append, hnone]
        simp [hn]
      · rintro s1 ⟨r', hr', _⟩
        rw [hnone] at hr'; cases hr'

/-- `Reads env st done st'`: from `st` the rules section gets to `st'` by reading the rule lines
`done`, none of which stops the parse (the lines in between are skipped; one that starts with a blank
leaves an error behind, `VerbatimNotSupported`, of which only that it is there matters) -/
inductive Reads (env : Env) (st : PState) : List Line → PState → Prop
  | start : Reads env st [] st
  | verbatim {done st'} (x : Err) : Reads env st done st' →
      Reads env st done { st' with errs := st'.errs ++ [x] }
  | line {done st' st''} (ln : Line) : Reads env st done st' → Booked env ln st' st'' →
      Reads env st (done ++ [ln]) st''

/-- **the rules section** reads its rule lines in order: all of them, and then ends well or with
`RoutinesNotSupported`; or up to one that stops the parse, with an error that lies within it -/
theorem ruleSpec_reads (env : Env) (st0 : PState) : ∀ (ls done : List Line) (st : PState),
    Reads env st0 done st →
    (∃ st', Reads env st0 (done ++ ruleLinesOf env.comments ls) st' ∧
      (ruleSpec env ls st = .ok st' ∨
        ∃ off, ruleSpec env ls st = .error (st'.errs ++ [mkErr .routinesNotSupported off]))) ∨
    (∃ A y B st' es, ruleLinesOf env.comments ls = A ++ y :: B ∧ Reads env st0 (done ++ A) st' ∧
      ruleSpec env ls st = .error es ∧
      StoppedAt (fun p => y.1 ≤ p ∧ p ≤ y.1 + byteLen y.2) st'.errs es) := by
  intro ls
  induction ls with
  | nil => intro done st h; exact Or.inl ⟨st, by simpa [ruleLinesOf] using h, Or.inl rfl⟩
  | cons ln ls ih =>
    intro done st h
    obtain ⟨off, l⟩ := ln
    rcases rule_cons env off l ls st with ⟨hl, st1, hst1, heq⟩ | ⟨hl, heq | heq⟩ | ⟨hl, herr, hok⟩ <;> rw [hl]
    · rw [heq]
      rcases hst1 with rfl | ⟨x, rfl⟩
      · exact ih done _ h
      · exact ih done _ (h.verbatim x)
    · exact Or.inl ⟨st, by simpa using h, Or.inl heq⟩
    · exact Or.inl ⟨st, by simpa using h, Or.inr ⟨off, heq⟩⟩
    · rcases ruleStepSpec_cases env (off, l) st with ⟨es, hs, hstop⟩ | ⟨st', hs, hb⟩
      · exact Or.inr ⟨[], (off, l), _, st, es, rfl, by simpa using h, herr _ hs, hstop⟩
      · rw [hok _ hs]
        rcases ih (done ++ [(off, l)]) st' (h.line _ hb) with
          ⟨st2, h2, hr⟩ | ⟨A, y, B, st2, es, hA, h2, hr, hstop⟩
        · exact Or.inl ⟨st2, by simpa using h2, hr⟩
        · exact Or.inr ⟨(off, l) :: A, y, B, st2, es, by rw [hA]; rfl, by simpa using h2, hr, hstop⟩

theorem Reads.keepsRec {env : Env} {st st' : PState} {done : List Line} (h : Reads env st done st')
    {k : EKind} {S : List (Nat × Nat)} (hr : Rec k S st.errs) : Rec k S st'.errs := by
  induction h with
  | start => exact hr
  | verbatim x _ ih => exact ih.append x
  | line ln _ hb ih => exact hb.keepsRec ih

theorem ruleSpec_ok {env : Env} {ls : List Line} {st st' : PState} (h : ruleSpec env ls st = .ok st') :
    Reads env st (ruleLinesOf env.comments ls) st' := by
  rcases ruleSpec_reads env st ls [] st .start with
    ⟨_, hrd, hr | ⟨_, hr⟩⟩ | ⟨_, _, _, _, _, _, _, hr, _⟩ <;> rw [hr] at h <;> cases h
  exact hrd

theorem ruleSpec_err (env : Env) : ∀ (ls : List Line) (st : PState) (es : List Err),
    ruleSpec env ls st = .error es → Aborted es := by
  intro ls st es h
  rcases ruleSpec_reads env st ls [] st .start with
    ⟨_, _, hr | ⟨_, hr⟩⟩ | ⟨_, _, _, _, _, _, _, hr, hstop⟩ <;> rw [hr] at h <;> cases h
  · exact aborted_snoc _ _ _ rfl
  · exact hstop.aborted

theorem ruleSpec_keeps_rec (env : Env) (k : EKind) (S : List (Nat × Nat)) (ls : List Line)
    (st : PState) (h : Rec k S st.errs) : Rec k S (errsOf (ruleSpec env ls st)) := by
  rcases ruleSpec_reads env st ls [] st .start with
    ⟨_, hrd, hr | ⟨_, hr⟩⟩ | ⟨_, _, _, _, _, _, hrd, hr, hstop⟩ <;> rw [hr]
  · exact hrd.keepsRec h
  · exact (hrd.keepsRec h).append _
  · exact hstop.rec (hrd.keepsRec h)

/-- of two lines that carry the name `n`: once the first is read its occurrence is seen; once both
are read they are in one record -/
theorem Reads.dup {env : Env} {st st' : PState} {done : List Line} (h : Reads env st done st')
    {n : List Char} {ln1 ln2 : Line} {s1 s2 : Nat × Nat}
    (h1 : nameOcc ln1 = some (n, s1)) (h2 : nameOcc ln2 = some (n, s2)) :
    (ln1 ∈ done → NameSeen n s1 st') ∧
    ([ln1, ln2].Sublist done → Rec .duplicateName [s1, s2] st'.errs) := by
  induction h with
  | start => exact ⟨fun h => (nomatch h), fun h => (nomatch h)⟩
  | verbatim x _ ih => exact ⟨fun h => NameSeen.appendErr (ih.1 h) x, fun h => Rec.append (ih.2 h) x⟩
  | line ln _ hb ih =>
    refine ⟨fun hm => ?_, fun hs => ?_⟩
    · rcases List.mem_append.mp hm with hm | hm
      · exact hb.seen (ih.1 hm)
      · obtain rfl := List.mem_singleton.mp hm
        exact (hb.after h1).1
    · rcases pair_cut hs with hs | ⟨hm1, hm2⟩ | hs
      · exact hb.keepsRec (ih.2 hs)
      · obtain rfl := List.mem_singleton.mp hm2
        exact (hb.after h2).2 s1 (ih.1 hm1)
      · exact absurd hs.length_le (by simp)

/-- **two rule lines that carry the same name**, whatever stands in front of it: both occurrences end
up in one record, unless the parse is stopped by an error that lies at or before the end of the second
line -/
theorem ruleSpec_dup (env : Env) (n : List Char) (ln1 ln2 : Line) (s1 s2 : Nat × Nat)
    (h1 : nameOcc ln1 = some (n, s1)) (h2 : nameOcc ln2 = some (n, s2)) (ls : List Line) (st : PState)
    (hsub : [ln1, ln2].Sublist (ruleLinesOf env.comments ls)) (hsorted : Sorted ls) :
    Rec .duplicateName [s1, s2] (errsOf (ruleSpec env ls st)) ∨
      ∃ es errs, ruleSpec env ls st = .error es ∧ StoppedAt (· ≤ ln2.1 + byteLen ln2.2) errs es := by
  rcases ruleSpec_reads env st ls [] st .start with
    ⟨st', hrd, hr | ⟨off, hr⟩⟩ | ⟨A, y, B, st', es, hA, hrd, hr, hstop⟩ <;> rw [hr]
  · exact Or.inl ((hrd.dup h1 h2).2 hsub)
  · exact Or.inl (Rec.append ((hrd.dup h1 h2).2 hsub) _)
  · have hs : Sorted (ruleLinesOf env.comments ls) := hsorted.sublist (ruleLinesOf_sublist env ls)
    rw [hA] at hsub hs
    have hbefore := (List.pairwise_cons.mp (List.pairwise_append.mp hs).2.1).1
    -- the second line is the one that stops the parse, or comes after it
    have hpos : ln2 ∈ y :: B → StoppedAt (· ≤ ln2.1 + byteLen ln2.2) st'.errs es := fun hm =>
      hstop.mono fun p hp => by
        rcases List.mem_cons.mp hm with rfl | hm
        · exact hp.2
        · have := hbefore ln2 hm; omega
    rcases pair_cut hsub with hs | ⟨_, hm⟩ | hs
    · exact Or.inl (hstop.rec ((hrd.dup h1 h2).2 hs))
    · exact Or.inr ⟨es, _, rfl, hpos hm⟩
    · exact Or.inr ⟨es, _, rfl, hpos (hs.subset (by simp))⟩

theorem Reads.clean {env : Env} {st st' : PState} {done : List Line} (h : Reads env st done st')
    (he : st'.errs = []) :
    st.errs = [] ∧ st'.states = st.states ∧ ∃ new, st'.rules = st.rules ++ new ∧
      (done.zipIdx st.rules.length).map (fun p => ruleOfLine env st.states p.1 p.2) = new.map some := by
  induction h with
  | start => exact ⟨he, rfl, [], by simp, rfl⟩
  | verbatim x _ _ => simp at he
  | @line done st1 _ ln _ hb ih =>
    rcases hb with ⟨_, _, _, _, _, rfl⟩ | ⟨r, hr, _, rfl⟩
    · exact absurd he (addDup_ne_nil _ _ _ _)
    · obtain ⟨he0, hs, new, hnew, hmap⟩ := ih he
      refine ⟨he0, hs, new ++ [r], by simp only [hnew, List.append_assoc], ?_⟩
      -- the line is numbered with the rules so far: those of `st` and one for each line read
      have hlen : done.length = new.length := by simpa using congrArg List.length hmap
      rw [hs, hnew, List.length_append, ← hlen] at hr
      simp only [List.zipIdx_append, List.map_append, hmap, List.zipIdx_cons, List.zipIdx_nil, List.map_cons,
        List.map_nil, hr]

end GrmVerif.LexSpecParse
