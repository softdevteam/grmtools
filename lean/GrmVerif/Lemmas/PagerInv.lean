import GrmVerif.Lemmas.PagerWeak
import GrmVerif.Lemmas.CloseLoop
/-!
The main loop of `pager_stategraph` (`PagerImpl.mainLoop`), for every order parameter: the invariant that holds
between any two steps of either loop, and what the functions of the loop do in a state that satisfies it. Under
the invariant every one of them ends normally, except that `newState` refuses a state `StorageT` cannot number;
so each gets ONE lemma, stated forwards: the result exists and is this, or that guard fired.
`InvA`: cores only grow; a closed state whose core grows is re-opened, so every state that is not open is the
closure of its core; state 0 is never a merge target; edge targets are in range. `InvT` adds the counting:
`todo` is the number of `None` entries of `closed_states`, the candidate tables have one entry per rule / per
token (plus eof), no core state is empty.
-/
namespace GrmVerif.PagerImpl
open CloseImpl Closure

/-- item set in range, with distinct keys (the content of a hash map) -/
def ItemsOk (G : Grammar) (c : List Item) : Prop := CoreOk G c ∧ KeysNodup c

/-- `cl` denotes exactly the LR(1) closure of `core` -/
def ClosedOf (G : Grammar) (core cl : List Item) : Prop :=
  KeysNodup cl ∧ (∀ p d, HasItem cl p d ↔ ClosureP G core (.item p d)) ∧
    (∀ p d t, HasLa cl p d t ↔ ClosureP G core (.la p d t))

/-- the main loop runs one iteration per element of the list of orders (`todo > 0` before each) and
arrives at the state `st'` -/
inductive Steps (G : Grammar) (N : Nat → Bool) (F : Nat × Nat → Bool) (maxStates : Nat) : List Order → St → St → Prop
  | nil (st : St) : Steps G N F maxStates [] st st
  | cons {o : Order} {rest : List Order} {st : St} {r : St × Nat × List Sym} {st' : St} :
      st.todo ≠ 0 → iter G N F maxStates o st = .ok r → Steps G N F maxStates rest r.1 st' →
      Steps G N F maxStates (o :: rest) st st'

theorem getElem?_some_lt {α : Type} {l : List α} {i : Nat} {a : α} (h : l[i]? = some a) : i < l.length :=
  (List.getElem?_eq_some_iff.mp h).1

theorem getElem?_of_lt {α : Type} {l : List α} {i : Nat} (h : i < l.length) : ∃ a, l[i]? = some a :=
  ⟨l[i], List.getElem?_eq_getElem h⟩

theorem getElem?_set_some {α : Type} {l : List α} {k s : Nat} {a c : α} (h : (l.set k a)[s]? = some c) :
    (s = k ∧ c = a) ∨ (s ≠ k ∧ l[s]? = some c) := by
  by_cases hks : k = s
  · subst hks
    rw [List.getElem?_set_self (List.length_set ▸ getElem?_some_lt h)] at h
    exact Or.inl ⟨rfl, (Option.some.inj h).symm⟩
  · rw [List.getElem?_set_ne hks] at h
    exact Or.inr ⟨Ne.symm hks, h⟩

theorem getElem?_concat_some {α : Type} {l : List α} {a c : α} {s : Nat} (h : (l ++ [a])[s]? = some c) :
    l[s]? = some c ∨ (s = l.length ∧ c = a) := by
  by_cases hlt : s < l.length
  · rw [List.getElem?_append_left hlt] at h; exact Or.inl h
  · have hs : s < (l ++ [a]).length := getElem?_some_lt h
    rw [List.length_append, List.length_singleton] at hs
    have hs : s = l.length := Nat.le_antisymm (Nat.le_of_lt_succ hs) (Nat.le_of_not_lt hlt)
    rw [hs, List.getElem?_concat_length] at h
    exact Or.inr ⟨hs, (Option.some.inj h).symm⟩

theorem Res.bind_ok {α β : Type} {x : Res α} {f : α → Res β} {r : β} (h : x.bind f = .ok r) :
    ∃ a, x = .ok a ∧ f a = .ok r := by
  cases x with
  | ok a => exact ⟨a, rfl, h⟩
  | _ => cases h

theorem ofOption_ok {α : Type} {o : Option α} {a : α} (h : ofOption o = .ok a) : o = some a := by
  cases o with
  | none => cases h
  | some b => cases h; rfl

theorem closeRes_ok {r : CloseImpl.Res} {cl : List Item} (h : closeRes r = .ok cl) : r = .done cl := by
  cases r with
  | done is => cases h; rfl
  | _ => cases h

theorem coreOk_of_facts {G : Grammar} {c : List Item}
    (h1 : ∀ p d, HasItem c p d → p < G.nprods ∧ d ≤ (G.rhs p).length)
    (h2 : ∀ p d t, HasLa c p d t → t < G.ntoks) : CoreOk G c := by
  intro i hi
  obtain ⟨a, b⟩ := h1 i.p i.dot ⟨i, hi, rfl, rfl⟩
  exact ⟨a, b, fun t ht => h2 i.p i.dot t ⟨i, hi, rfl, rfl, ht⟩⟩

theorem coreOk_item {G : Grammar} {c : List Item} (h : CoreOk G c) {p d : Nat} (hi : HasItem c p d) :
    p < G.nprods ∧ d ≤ (G.rhs p).length := by
  obtain ⟨i, hi, rfl, rfl⟩ := hi
  exact ⟨(h i hi).1, (h i hi).2.1⟩

theorem coreOk_la {G : Grammar} {c : List Item} (h : CoreOk G c) {p d t : Nat} (hl : HasLa c p d t) : t < G.ntoks := by
  obtain ⟨i, hi, _, _, ht⟩ := hl
  exact (h i hi).2.2 t ht

theorem closedOf_coreOk {G : Grammar} (hwf : G.wf = true) {core cl : List Item} (hc : CoreOk G core)
    (h : ClosedOf G core cl) : ItemsOk G cl :=
  ⟨coreOk_of_facts (fun p d hi => mem_universe_item.mp (closureP_univ hwf hc ((h.2.1 p d).mp hi)))
    (fun p d t hl => (mem_universe_la.mp (closureP_univ hwf hc ((h.2.2 p d t).mp hl))).2.2), h.1⟩

theorem goto_itemsOk {G : Grammar} {sym : Sym} {cl n : List Item} (hcl : CoreOk G cl) (h : goto G sym cl = some n) :
    ItemsOk G n ∧
    (∀ p d, HasItem n p d ↔ ∃ d0, d = d0 + 1 ∧ HasItem cl p d0 ∧ (G.rhs p)[d0]? = some sym) ∧
    (∀ p d t, HasLa n p d t ↔ ∃ d0, d = d0 + 1 ∧ HasLa cl p d0 t ∧ (G.rhs p)[d0]? = some sym) := by
  obtain ⟨R, e, hnd, a1, a2⟩ := goto_spec G sym cl (fun i hi => ⟨(hcl i hi).1, (hcl i hi).2.1⟩)
  rw [h] at e; cases e
  refine ⟨⟨coreOk_of_facts ?_ ?_, hnd⟩, a1, a2⟩
  · intro p d hi
    obtain ⟨d0, rfl, hc0, hs⟩ := (a1 p d).mp hi
    exact ⟨(coreOk_item hcl hc0).1, getElem?_some_lt hs⟩
  · intro p d t hl
    obtain ⟨d0, rfl, hc0, _⟩ := (a2 p d t).mp hl
    exact coreOk_la hcl hc0

/-- what a merge does to a core state: the same items in the same order, contexts only larger. Facts
about a core (an edge into it, a symbol after a dot of its closure) survive such a step (`….mono`). -/
def Grow (a b : List Item) : Prop := keysOf b = keysOf a ∧ ∀ p d t, HasLa a p d t → HasLa b p d t

theorem Grow.refl (a : List Item) : Grow a a := ⟨rfl, fun _ _ _ h => h⟩

theorem Grow.trans {a b c : List Item} (h1 : Grow a b) (h2 : Grow b c) : Grow a c :=
  ⟨h2.1.trans h1.1, fun p d t h => h2.2 p d t (h1.2 p d t h)⟩

theorem Grow.hasItem {a b : List Item} (h : Grow a b) (p d : Nat) : HasItem b p d ↔ HasItem a p d := by
  rw [← @mem_keysOf b (p, d), h.1, mem_keysOf]

theorem weaklyMerge_ok {G : Grammar} {ck n : List Item} (hck : ItemsOk G ck) (hn : ItemsOk G n) (hsame : SameCores ck n) :
    ∃ R ch, weaklyMerge ck n = some (R, ch) ∧ Grow ck R ∧ ItemsOk G R ∧ (∀ p d t, HasLa n p d t → HasLa R p d t) ∧
      (ch = false → R = ck) := by
  obtain ⟨R, ch, e, hk, hla, _, hun⟩ := weaklyMerge_spec ck n hck.2 hn.2 (fun p d => (hsame p d).mp)
  have hg : Grow ck R := ⟨hk, fun p d t hl => (hla p d t).mpr (Or.inl hl)⟩
  refine ⟨R, ch, e, hg, ⟨coreOk_of_facts ?_ ?_, ?_⟩, ?_, hun⟩
  · intro p d hi; exact coreOk_item hck.1 ((hg.hasItem p d).mp hi)
  · intro p d t hl
    rcases (hla p d t).mp hl with h1 | ⟨_, h2⟩
    · exact coreOk_la hck.1 h1
    · exact coreOk_la hn.1 h2
  · unfold KeysNodup; rw [hk]; exact hck.2
  · intro p d t hl
    exact (hla p d t).mpr (Or.inr ⟨(hsame p d).mpr (hasLa_hasItem hl), hl⟩)

/-- the entry comparison of `HashMap ==` is the one the closure check uses -/
theorem entryEq_eq_sameEntry (la : Ctx) : ∀ (o : Option Ctx), entryEq la o = sameEntry la o
  | none => rfl
  | some _ => Bool.and_comm ..

theorem itemsetEq_spec {a b : List Item} (ha : KeysNodup a) (hb : KeysNodup b) (h : itemsetEq a b = true) :
    SameCores a b ∧ ∀ p d t, HasLa a p d t ↔ HasLa b p d t := by
  simp only [itemsetEq, Bool.and_eq_true, beq_iff_eq, List.all_eq_true, entryEq_eq_sameEntry, sameEntry_lookup hb] at h
  obtain ⟨hlen, hent⟩ := h
  have hsame : SameCores a b := (sameCores_iff ha hb).mp ⟨hlen, fun p d ⟨i, hi, e1, e2⟩ => by
    rw [← e1, ← e2]; exact (hent i hi).1⟩
  refine ⟨hsame, ?_⟩
  intro p d t
  constructor
  · rintro ⟨i, hi, rfl, rfl, ht⟩
    exact ((hent i hi).2 t).mp ht
  · intro hl
    obtain ⟨i, hi, e1, e2⟩ := (hsame p d).mpr (hasLa_hasItem hl)
    subst e1 e2
    exact ⟨i, hi, rfl, rfl, ((hent i hi).2 t).mpr hl⟩

/-- `HashMap::insert`: the entry for `sym` is `(sym, t)`, the others stay -/
theorem mem_edgeInsert {es : List (Sym × Nat)} {sym : Sym} {t : Nat} {e : Sym × Nat} :
    e ∈ edgeInsert es sym t ↔ e = (sym, t) ∨ (e ∈ es ∧ e.1 ≠ sym) := by
  unfold edgeInsert
  by_cases hany : es.any (fun e => e.1 == sym) = true
  · rw [if_pos hany, List.mem_map]
    obtain ⟨e1, he1, hk1⟩ := List.any_eq_true.mp hany
    constructor
    · rintro ⟨e0, he0, rfl⟩
      by_cases hc : (e0.1 == sym) = true
      · rw [if_pos hc]; exact Or.inl rfl
      · rw [if_neg hc]; exact Or.inr ⟨he0, fun h => hc (beq_iff_eq.mpr h)⟩
    · rintro (rfl | ⟨he, hne⟩)
      · exact ⟨e1, he1, if_pos hk1⟩
      · exact ⟨e, he, if_neg fun h => hne (beq_iff_eq.mp h)⟩
  · rw [if_neg hany, List.mem_append, List.mem_singleton, or_comm]
    refine or_congr_right ⟨fun he => ⟨he, fun h => hany ?_⟩, fun h => h.1⟩
    exact List.any_eq_true.mpr ⟨e, he, beq_iff_eq.mpr h⟩

theorem edges_set_range {edges : List (List (Sym × Nat))} {s t n : Nat} {sym : Sym} {es : List (Sym × Nat)}
    (hes : edges[s]? = some es) (ht : t < n)
    (hr : ∀ (s' : Nat) (es' : List (Sym × Nat)), edges[s']? = some es' → ∀ e ∈ es', e.2 < n) :
    ∀ (s' : Nat) (es' : List (Sym × Nat)), (edges.set s (edgeInsert es sym t))[s']? = some es' → ∀ e ∈ es', e.2 < n := by
  intro s' es' hes' e he
  rcases getElem?_set_some hes' with ⟨rfl, rfl⟩ | ⟨_, h⟩
  · rcases mem_edgeInsert.mp he with rfl | ⟨h1, _⟩
    · exact ht
    · exact hr _ es hes e h1
  · exact hr s' es' h e he

/-- `cnd_…_weaklies[…].push(x)` seen through `cndOf` -/
theorem cndPush_some {st : St} {x : Nat} {sym : Sym} {cnd : List (List Nat) × List (List Nat)} (h : cndPush st x sym = some cnd) :
    (∀ sym' l, cndOf { st with cndRule := cnd.1, cndTok := cnd.2 } sym' = some l →
      ∀ k ∈ l, k = x ∨ ∃ l1, cndOf st sym' = some l1 ∧ k ∈ l1) ∧
    cnd.1.length = st.cndRule.length ∧ cnd.2.length = st.cndTok.length := by
  have hpush : ∀ {tbl : List (List Nat)} {r : Nat} {l0 : List Nat}, tbl[r]? = some l0 → ∀ (r' : Nat) (l : List Nat),
      (tbl.set r (l0 ++ [x]))[r']? = some l → ∀ k ∈ l, k = x ∨ ∃ l1, tbl[r']? = some l1 ∧ k ∈ l1 := by
    intro tbl r l0 hr r' l hl k hk
    rcases getElem?_set_some hl with ⟨rfl, rfl⟩ | ⟨_, hl⟩
    · exact (List.mem_append.mp hk).elim (fun h => Or.inr ⟨l0, hr, h⟩) (fun h => Or.inl (List.mem_singleton.mp h))
    · exact Or.inr ⟨l, hl, hk⟩
  cases sym with
  | rule r =>
    obtain ⟨l0, hr, rfl⟩ := Option.map_eq_some_iff.mp h
    refine ⟨fun sym' l hl k hk => ?_, List.length_set, rfl⟩
    cases sym' with
    | rule r' => exact hpush hr r' l hl k hk
    | tok t' => exact Or.inr ⟨l, hl, hk⟩
  | tok t =>
    obtain ⟨l0, hr, rfl⟩ := Option.map_eq_some_iff.mp h
    refine ⟨fun sym' l hl k hk => ?_, rfl, List.length_set⟩
    cases sym' with
    | rule r' => exact Or.inr ⟨l, hl, hk⟩
    | tok t' => exact hpush hr t' l hl k hk

/-- number of `None` entries of `closed_states` -/
def cnone (l : List (Option (List Item))) : Nat := l.countP Option.isNone

theorem cnone_append_none (l : List (Option (List Item))) : cnone (l ++ [none]) = cnone l + 1 :=
  List.countP_append

theorem cnone_set (l : List (Option (List Item))) (k : Nat) (a v : Option (List Item)) (h : l[k]? = some a) :
    cnone (l.set k v) + cnone [a] = cnone l + cnone [v] := by
  obtain ⟨hk, rfl⟩ := List.getElem?_eq_some_iff.mp h
  -- both lists are `take k l ++ _ :: drop (k + 1) l`
  conv => rhs; rw [← List.take_append_drop k l, List.drop_eq_getElem_cons hk]
  rw [List.set_eq_take_append_cons_drop, if_pos hk]
  simp only [cnone, List.countP_append, List.countP_cons, List.countP_nil]
  omega

theorem positionNone_eq : ∀ (l : List (Option (List Item))), positionNone l = l.findIdx? Option.isNone
  | [] => rfl
  | none :: _ => rfl
  | some _ :: r => by rw [positionNone, positionNone_eq r, List.findIdx?_cons]; rfl

theorem positionNone_some_of_pos (l : List (Option (List Item))) (h : 0 < cnone l) : ∃ i, positionNone l = some i := by
  obtain ⟨a, ha, hp⟩ := List.countP_pos_iff.mp h
  rw [positionNone_eq, List.findIdx?_eq_some_of_exists ⟨a, ha, hp⟩]
  exact ⟨_, rfl⟩

theorem positionNone_get (l : List (Option (List Item))) (i : Nat) (h : positionNone l = some i) : l[i]? = some none := by
  obtain ⟨hi, hp, _⟩ := List.findIdx?_eq_some_iff_getElem.mp (positionNone_eq l ▸ h)
  rw [List.getElem?_eq_getElem hi, Option.isNone_iff_eq_none.mp hp]

theorem nextState_spec {closed : List (Option (List Item))} {off : Nat} (h : 0 < cnone closed) :
    ∃ i, nextState closed off = some i ∧ closed[i]? = some none := by
  unfold nextState
  cases hp : positionNone (closed.drop off) with
  | some i =>
    refine ⟨off + i, rfl, ?_⟩
    have := positionNone_get _ _ hp
    rwa [List.getElem?_drop] at this
  | none =>
    obtain ⟨i, hi⟩ := positionNone_some_of_pos closed h
    exact ⟨i, hi, positionNone_get _ _ hi⟩

/-- the part of the invariant without counting. `0 < k` in `cnd`: state 0 is in no candidate list,
so it is never a merge target and `start` is kept. `closedOk` speaks of the closed entries only: a state
whose core grew has been re-opened. -/
structure InvA (G : Grammar) (st : St) : Prop where
  len1 : st.closed.length = st.core.length
  len2 : st.edges.length = st.core.length
  coreOk : ∀ (s : Nat) (c : List Item), st.core[s]? = some c → ItemsOk G c
  start : st.core[0]? = some [⟨G.startProd, 0, [G.eof]⟩]
  cnd : ∀ (sym : Sym) (cnds : List Nat), cndOf st sym = some cnds → ∀ k ∈ cnds, 0 < k ∧ k < st.core.length
  closedOk : ∀ (s : Nat) (cl c : List Item), st.closed[s]? = some (some cl) → st.core[s]? = some c → ClosedOf G c cl
  edgeRange : ∀ (s : Nat) (es : List (Sym × Nat)), st.edges[s]? = some es → ∀ e ∈ es, e.2 < st.core.length

/-- `InvA` and the counting; `todo` counts the open states, so `position(Option::is_none).unwrap()` finds one -/
structure InvT (G : Grammar) (st : St) : Prop extends InvA G st where
  todo : st.todo = cnone st.closed
  cndRLen : st.cndRule.length = G.nrules
  cndTLen : st.cndTok.length = G.ntoks + 1
  coreNe : ∀ (s : Nat) (c : List Item), st.core[s]? = some c → c ≠ []

theorem InvA.pos {G : Grammar} {st : St} (inv : InvA G st) : 0 < st.core.length := getElem?_some_lt inv.start

/-- a closed entry of the table after a possible re-opening of `t` was there before, and is not `t`'s if `t` was
re-opened -/
theorem getElem?_reopen {closed : List (Option (List Item))} {t s : Nat} {b : Bool} {cl : List Item}
    (h : (if b = true then closed.set t none else closed)[s]? = some (some cl)) :
    closed[s]? = some (some cl) ∧ (s = t → b = false) := by
  cases b
  · exact ⟨h, fun _ => rfl⟩
  · rcases getElem?_set_some h with ⟨_, h⟩ | ⟨hne, h⟩
    · cases h
    · exact ⟨h, fun e => absurd e hne⟩

theorem findExact_spec {G : Grammar} {core : List (List Item)} {n : List Item}
    (hcore : ∀ (s : Nat) (c : List Item), core[s]? = some c → ItemsOk G c ∧ c ≠ []) (hn : KeysNodup n) :
    ∀ (l : List Nat), (∀ k ∈ l, k < core.length) →
      ∃ e, findExact core n l = some e ∧
        ∀ c, e = some c → c ∈ l ∧ ∃ cs, core[c]? = some cs ∧ SameCores cs n ∧ ∀ p d t, HasLa cs p d t ↔ HasLa n p d t := by
  intro l
  induction l with
  | nil => intro _; exact ⟨none, rfl, nofun⟩
  | cons c rest ih =>
    intro h
    obtain ⟨cs, hcs⟩ := getElem?_of_lt (h c (List.mem_cons_self ..))
    simp only [findExact, hcs]
    by_cases heq : itemsetEq cs n = true
    · rw [if_pos heq]
      exact ⟨_, rfl, fun c' e => by cases e; exact ⟨List.mem_cons_self .., cs, hcs, itemsetEq_spec (hcore c cs hcs).1.2 hn heq⟩⟩
    · rw [if_neg heq]
      obtain ⟨e, he, hm⟩ := ih (fun k hk => h k (List.mem_cons_of_mem _ hk))
      exact ⟨e, he, fun c' e' => ⟨List.mem_cons_of_mem _ (hm c' e').1, (hm c' e').2⟩⟩

theorem findWeak_spec {G : Grammar} {core : List (List Item)} {n : List Item}
    (hcore : ∀ (s : Nat) (c : List Item), core[s]? = some c → ItemsOk G c ∧ c ≠ []) (hn : KeysNodup n) :
    ∀ (l : List Nat), (∀ k ∈ l, k < core.length) →
      ∃ e, findWeak core n l = some e ∧ ∀ k, e = some k → k ∈ l ∧ ∃ ck, core[k]? = some ck ∧ SameCores ck n := by
  intro l
  induction l with
  | nil => intro _; exact ⟨none, rfl, nofun⟩
  | cons c rest ih =>
    intro h
    obtain ⟨cs, hcs⟩ := getElem?_of_lt (h c (List.mem_cons_self ..))
    obtain ⟨hok, hne⟩ := hcore c cs hcs
    obtain ⟨b, hb, hspec⟩ := weaklyCompatible_spec hok.2 hn (keysOf cs) hok.2 (fun k => mem_keysOf) hne
    simp only [findWeak, hcs, hb]
    cases b with
    | true => exact ⟨_, rfl, fun k e => by cases e; exact ⟨List.mem_cons_self .., cs, hcs, (hspec.mp rfl).1⟩⟩
    | false =>
      obtain ⟨e, he, hm⟩ := ih (fun k hk => h k (List.mem_cons_of_mem _ hk))
      exact ⟨e, he, fun k e' => ⟨List.mem_cons_of_mem _ (hm k e').1, (hm k e').2⟩⟩

theorem cndOf_total {G : Grammar} {st : St} (inv : InvT G st) {sym : Sym} (h : G.symOk sym = true) :
    ∃ cnds, cndOf st sym = some cnds := by
  cases sym with
  | rule r => exact getElem?_of_lt (by rw [inv.cndRLen]; exact Spec.symOk_rule.mp h)
  | tok t => exact getElem?_of_lt (by rw [inv.cndTLen]; exact Nat.lt_succ_of_lt (Spec.symOk_tok.mp h))

theorem cndPush_of_cndOf {st : St} {x : Nat} {sym : Sym} {cnds : List Nat} (h : cndOf st sym = some cnds) :
    ∃ cnd, cndPush st x sym = some cnd := by
  cases sym <;> (simp only [cndOf] at h; simp only [cndPush, h, Option.map_some]; exact ⟨_, rfl⟩)

/-- The three arms of the body of the `new_states` loop. In each an edge `(sym, t)` is inserted into the edge
map of `state_i`; `t` is a candidate whose core `==` the new item set, a weakly compatible candidate into which the
new item set is merged (its core grows to `R`, and it is re-opened if it was closed and its core changed), or a new
state, which is where the `StorageT` guard sits: nothing else can make the body panic. -/
theorem processNew_spec {G : Grammar} {maxStates stateI : Nat} {st : St} {sn : Sym × List Item}
    (inv : InvT G st) (hI : stateI < st.core.length) (hsym : G.symOk sn.1 = true) (hn : ItemsOk G sn.2) :
    ∃ cnds es t, cndOf st sn.1 = some cnds ∧ st.edges[stateI]? = some es ∧
    ((t ∈ cnds ∧ (∃ cs, st.core[t]? = some cs ∧ SameCores cs sn.2 ∧ ∀ p d a, HasLa cs p d a ↔ HasLa sn.2 p d a) ∧
        processNew maxStates stateI st sn =
          some { st with edges := st.edges.set stateI (edgeInsert es sn.1 t), nexact := st.nexact + 1 }) ∨
     (∃ ck R ch clk, t ∈ cnds ∧ st.core[t]? = some ck ∧ st.closed[t]? = some clk ∧ SameCores ck sn.2 ∧
        weaklyMerge ck sn.2 = some (R, ch) ∧ Grow ck R ∧ ItemsOk G R ∧ (∀ p d a, HasLa sn.2 p d a → HasLa R p d a) ∧
        (ch = false → R = ck) ∧
        processNew maxStates stateI st sn =
          some { st with edges := st.edges.set stateI (edgeInsert es sn.1 t), core := st.core.set t R,
                         closed := if (ch && clk.isSome) = true then st.closed.set t none else st.closed,
                         todo := if (ch && clk.isSome) = true then st.todo + 1 else st.todo,
                         nweak := st.nweak + 1, nmerge := st.nmerge + (if ch then 1 else 0),
                         nreopen := if (ch && clk.isSome) = true then st.nreopen + 1 else st.nreopen }) ∨
     (∃ cnd, t = st.core.length ∧ cndPush st st.core.length sn.1 = some cnd ∧
        processNew maxStates stateI st sn = if st.core.length ≥ maxStates then none else
          some { st with cndRule := cnd.1, cndTok := cnd.2,
                         edges := st.edges.set stateI (edgeInsert es sn.1 t) ++ [[]], closed := st.closed ++ [none],
                         core := st.core ++ [sn.2], todo := st.todo + 1 })) := by
  obtain ⟨es, hes⟩ := getElem?_of_lt (show stateI < st.edges.length by rw [inv.len2]; exact hI)
  have hadd : ∀ t, addEdge st.edges stateI sn.1 t = some (st.edges.set stateI (edgeInsert es sn.1 t)) := by
    intro t; rw [addEdge, hes]; rfl
  obtain ⟨cnds, hc⟩ := cndOf_total inv hsym
  have hcnd : ∀ k ∈ cnds, k < st.core.length := fun k hk => (inv.cnd _ _ hc k hk).2
  have hcore : ∀ (s : Nat) (c : List Item), st.core[s]? = some c → ItemsOk G c ∧ c ≠ [] :=
    fun s c hs => ⟨inv.coreOk s c hs, inv.coreNe s c hs⟩
  obtain ⟨e, he, hem⟩ := findExact_spec hcore hn.2 cnds hcnd
  cases e with
  | some c =>
    refine ⟨cnds, es, c, hc, hes, Or.inl ⟨(hem c rfl).1, (hem c rfl).2, ?_⟩⟩
    simp only [processNew, hc, he, hadd, Option.bind_some, Option.map_some]
  | none =>
    obtain ⟨m, hw, hwm⟩ := findWeak_spec hcore hn.2 cnds hcnd
    cases m with
    | some k =>
      obtain ⟨hk, ck, hck, hsame⟩ := hwm k rfl
      obtain ⟨R, ch, hm, hmerge⟩ := weaklyMerge_ok (inv.coreOk k ck hck) hn hsame
      obtain ⟨clk, hclk⟩ := getElem?_of_lt (show k < st.closed.length by rw [inv.len1]; exact hcnd k hk)
      refine ⟨cnds, es, k, hc, hes, Or.inr (Or.inl ⟨ck, R, ch, clk, hk, hck, hclk, hsame, hm, hmerge.1, hmerge.2.1,
        hmerge.2.2.1, hmerge.2.2.2, ?_⟩)⟩
      simp only [processNew, hc, he, hw, mergeInto, hadd, hck, hm, hclk, Option.bind_some, Option.map_some]
      cases ch <;> cases clk <;> rfl
    | none =>
      obtain ⟨cnd, hp⟩ := cndPush_of_cndOf (x := st.core.length) hc
      refine ⟨cnds, es, st.core.length, hc, hes, Or.inr (Or.inr ⟨cnd, rfl, hp, ?_⟩)⟩
      simp only [processNew, hc, he, hw, newState, hp, hadd, Option.bind_some, Option.map_some]

theorem keysOk_iff {is : List Item} {keys : List (Nat × Nat)} (h : keysOk is keys = true) :
    ∀ p d, (p, d) ∈ keys ↔ HasItem is p d := by
  simp only [keysOk, Bool.and_eq_true, List.all_eq_true] at h
  intro p d
  constructor
  · intro hm; exact hasKey_iff.mp (h.1 (p, d) hm)
  · rintro ⟨i, hi, rfl, rfl⟩
    simpa using h.2 i hi

/-- `close` ends normally with the closure of the open state that was picked, and the invariant holds of the
state in which the `new_states` loop starts -/
theorem InvT.close {G : Grammar} (hwf : G.wf = true) {N : Nat → Bool} {F : Nat × Nat → Bool}
    (hN : ∀ r, N r = true ↔ Spec.NullableR G r) (hF : ∀ r t, F (r, t) = true ↔ Spec.FirstP G r t)
    {st : St} (inv : InvT G st) {stateI : Nat} (hnone : st.closed[stateI]? = some none) {core : List Item}
    (hcore : st.core[stateI]? = some core) {keys : List (Nat × Nat)} (hk : keysOk core keys = true) :
    ∃ cl, close G N F core keys (closeFuel G keys) = .done cl ∧ ClosedOf G core cl ∧ ItemsOk G cl ∧
      InvT G { st with closed := st.closed.set stateI (some cl), todoOff := stateI + 1, todo := st.todo - 1 } := by
  have hcOk := inv.coreOk stateI core hcore
  obtain ⟨cl, hR, hclosed⟩ := close_spec hwf hN hF hcOk.1 hcOk.2 (keysOk_iff hk) (Nat.le_refl _)
  refine ⟨cl, hR, hclosed, closedOf_coreOk hwf hcOk.1 hclosed,
    ⟨List.length_set.trans inv.len1, inv.len2, inv.coreOk, inv.start, inv.cnd, ?_, inv.edgeRange⟩,
    ?_, inv.cndRLen, inv.cndTLen, inv.coreNe⟩
  · intro s cl' c hcl' hs
    rcases getElem?_set_some hcl' with ⟨rfl, h⟩ | ⟨_, hcl'⟩
    · cases h
      rw [hcore] at hs; cases hs
      exact hclosed
    · exact inv.closedOk s cl' c hcl' hs
  · show st.todo - 1 = cnone (st.closed.set stateI (some cl))
    rw [inv.todo, ← (show cnone (st.closed.set stateI (some cl)) + 1 = cnone st.closed from
      cnone_set st.closed stateI none (some cl) hnone)]
    rfl

def seenHas (sR sT : List Nat) : Sym → Bool
  | .rule r => sR.contains r
  | .tok t => sT.contains t

theorem seenGet_eq {G : Grammar} {sR sT : List Nat} {X : Sym} (h : G.symOk X = true) :
    seenGet G sR sT X = some (seenHas sR sT X) := by
  cases X with
  | rule r => exact if_pos (Spec.symOk_rule.mp h)
  | tok t => exact if_pos (Spec.symOk_tok.mp h)

theorem seenHas_set {sR sT : List Nat} {sym X : Sym} (h : seenHas (seenSetR sR sym) (seenSetT sT sym) X = true) :
    X = sym ∨ seenHas sR sT X = true := by
  cases sym with
  | rule r =>
    cases X with
    | rule r' =>
      rw [seenHas, seenSetR, List.contains_cons, Bool.or_eq_true, beq_iff_eq] at h
      exact h.imp (congrArg Sym.rule) id
    | tok t' => exact Or.inr h
  | tok t =>
    cases X with
    | rule r' => exact Or.inr h
    | tok t' =>
      rw [seenHas, seenSetT, List.contains_cons, Bool.or_eq_true, beq_iff_eq] at h
      exact h.imp (congrArg Sym.tok) id

theorem symLoop_spec {G : Grammar} (hwf : G.wf = true) {cl : List Item} (hcl : CoreOk G cl) :
    ∀ (keys : List (Nat × Nat)), (∀ k ∈ keys, HasItem cl k.1 k.2) → ∀ (sR sT : List Nat),
      ∃ news, symLoop G cl keys sR sT = some news ∧ news.length ≤ keys.length ∧
        (∀ k ∈ keys, ∀ X, (G.rhs k.1)[k.2]? = some X → seenHas sR sT X = true ∨ ∃ sn ∈ news, sn.1 = X) ∧
        (∀ sn ∈ news, goto G sn.1 cl = some sn.2 ∧ ∃ k ∈ keys, (G.rhs k.1)[k.2]? = some sn.1) := by
  intro keys
  induction keys with
  | nil => intro _ sR sT; exact ⟨[], rfl, Nat.le_refl _, fun k hk => (nomatch hk), fun sn hsn => (nomatch hsn)⟩
  | cons k rest ih =>
    intro hk sR sT
    obtain ⟨hp, hd⟩ := coreOk_item hcl (hk k (List.mem_cons_self ..))
    -- the rest of the keys, whatever the first one did: it pushed `pre` (nothing or one pair), `hfirst` says what
    -- happened to its symbol
    have hrest : ∀ (sR' sT' : List Nat) (pre : List (Sym × List Item)), pre.length ≤ 1 →
        (∀ sn ∈ pre, goto G sn.1 cl = some sn.2 ∧ (G.rhs k.1)[k.2]? = some sn.1) →
        (∀ X, (G.rhs k.1)[k.2]? = some X → seenHas sR sT X = true ∨ ∃ sn ∈ pre, sn.1 = X) →
        (∀ X, seenHas sR' sT' X = true → seenHas sR sT X = true ∨ ∃ sn ∈ pre, sn.1 = X) →
        ∃ news', symLoop G cl rest sR' sT' = some news' ∧ (pre ++ news').length ≤ (k :: rest).length ∧
        (∀ k' ∈ k :: rest, ∀ X, (G.rhs k'.1)[k'.2]? = some X → seenHas sR sT X = true ∨ ∃ sn ∈ pre ++ news', sn.1 = X) ∧
        (∀ sn ∈ pre ++ news', goto G sn.1 cl = some sn.2 ∧ ∃ k' ∈ k :: rest, (G.rhs k'.1)[k'.2]? = some sn.1) := by
      intro sR' sT' pre hpl hpre hfirst hseen
      obtain ⟨news', e, hl, a, b⟩ := ih (fun x hx => hk x (List.mem_cons_of_mem _ hx)) sR' sT'
      refine ⟨news', e, ?_, fun k' hk' X hX => ?_, fun sn hsn => ?_⟩
      · rw [List.length_append, List.length_cons, Nat.add_comm]; exact Nat.add_le_add hl hpl
      · rcases List.mem_cons.mp hk' with rfl | hk'
        · exact (hfirst X hX).imp id fun ⟨sn, h1, h2⟩ => ⟨sn, List.mem_append_left _ h1, h2⟩
        · rcases a k' hk' X hX with h1 | ⟨sn, hsn, e⟩
          · exact (hseen X h1).imp id fun ⟨sn, h1, h2⟩ => ⟨sn, List.mem_append_left _ h1, h2⟩
          · exact Or.inr ⟨sn, List.mem_append_right _ hsn, e⟩
      · rcases List.mem_append.mp hsn with h | h
        · exact ⟨(hpre sn h).1, k, List.mem_cons_self .., (hpre sn h).2⟩
        · obtain ⟨hg, k', hk', hh⟩ := b sn h
          exact ⟨hg, k', List.mem_cons_of_mem _ hk', hh⟩
    simp only [symLoop, if_pos hp]
    by_cases hlen : k.2 = (G.rhs k.1).length
    · rw [if_pos hlen]
      exact hrest sR sT [] (Nat.zero_le _) nofun (fun X hX => by rw [hlen] at hX; simp at hX) (fun _ h => Or.inl h)
    rw [if_neg hlen]
    obtain ⟨sym, hget⟩ := getElem?_of_lt (Nat.lt_of_le_of_ne hd hlen)
    simp only [hget, seenGet_eq (sR := sR) (sT := sT) (Spec.wf_sym hwf hp (List.mem_of_getElem? hget))]
    cases hseen : seenHas sR sT sym with
    | true =>
      exact hrest sR sT [] (Nat.zero_le _) nofun (fun X hX => by rw [hget] at hX; cases hX; exact Or.inl hseen)
        (fun _ h => Or.inl h)
    | false =>
      obtain ⟨n, hn', _⟩ := goto_spec G sym cl (fun i hi => ⟨(hcl i hi).1, (hcl i hi).2.1⟩)
      have hpushed : ∀ X, X = sym → seenHas sR sT X = true ∨ ∃ sn ∈ [(sym, n)], sn.1 = X :=
        fun X e => Or.inr ⟨(sym, n), List.mem_singleton.mpr rfl, e.symm⟩
      obtain ⟨news', e, h⟩ := hrest (seenSetR sR sym) (seenSetT sT sym) [(sym, n)] (Nat.le_refl _)
        (fun sn hsn => by cases List.mem_singleton.mp hsn; exact ⟨hn', hget⟩)
        (fun X hX => by rw [hget] at hX; exact hpushed X (Option.some.inj hX).symm)
        (fun X h1 => (seenHas_set h1).elim (hpushed X) Or.inl)
      exact ⟨(sym, n) :: news', by simp only [hn', e, Option.bind_some, Option.map_some], h⟩

theorem mainLoop_zero {G : Grammar} {N : Nat → Bool} {F : Nat × Nat → Bool} {maxStates : Nat} {orders : List Order}
    {st : St} (h0 : st.todo = 0) : mainLoop G N F maxStates orders st = .ok (st, []) := by
  cases orders <;> exact if_pos h0

theorem initSt_inv {G : Grammar} (hwf : G.wf = true) : InvT G (initSt G) := by
  have hw : G.startProd < G.nprods ∧ G.eof < G.ntoks := (Spec.wf_iff.mp hwf).2
  have hnil : ∀ (sym : Sym) (cnds : List Nat), cndOf (initSt G) sym = some cnds → ∀ k ∈ cnds, 0 < k ∧ k < (initSt G).core.length := by
    intro sym cnds h k hk
    cases sym <;> (rw [List.eq_of_mem_replicate (List.mem_of_getElem? h)] at hk; cases hk)
  refine ⟨⟨rfl, rfl, ?_, rfl, hnil, ?_, ?_⟩, rfl, List.length_replicate, List.length_replicate, ?_⟩
  · intro s c hs
    cases List.mem_singleton.mp (List.mem_of_getElem? hs)
    refine ⟨fun i hi => ?_, by simp [KeysNodup, keysOf]⟩
    cases List.mem_singleton.mp hi
    exact ⟨hw.1, Nat.zero_le _, fun t ht => by cases List.mem_singleton.mp ht; exact hw.2⟩
  · intro s cl c hcl
    cases List.mem_singleton.mp (List.mem_of_getElem? hcl)
  · intro s es hes e he
    cases List.mem_singleton.mp (List.mem_of_getElem? hes)
    cases he
  · intro s c hs
    cases List.mem_singleton.mp (List.mem_of_getElem? hs)
    exact List.cons_ne_nil _ _

theorem zipStates_spec : ∀ (core : List (List Item)) (closed : List (Option (List Item))),
    closed.length = core.length → cnone closed = 0 →
    ∃ zs, zipStates core closed = some zs ∧ zs.length = core.length ∧
      ∀ (s : Nat) (z : List Item × List Item), zs[s]? = some z → core[s]? = some z.1 ∧ closed[s]? = some (some z.2)
  | [], _, _, _ => ⟨[], rfl, rfl, fun _ _ hz => nomatch hz⟩
  | _ :: _, [], hl, _ => nomatch hl
  | _ :: _, none :: _, _, h => absurd rfl (List.countP_eq_zero.mp h none (List.mem_cons_self ..))
  | c :: cs, some cl :: cls, hl, h => by
    obtain ⟨r, hr, h1, h2⟩ := zipStates_spec cs cls (Nat.succ.inj hl) h
    refine ⟨(c, cl) :: r, by rw [zipStates, hr]; rfl, congrArg Nat.succ h1, fun s z hz => ?_⟩
    cases s with
    | zero => cases hz; exact ⟨rfl, rfl⟩
    | succ s => exact h2 s z hz

end GrmVerif.PagerImpl
