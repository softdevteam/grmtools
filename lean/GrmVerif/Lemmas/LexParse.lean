import GrmVerif.Model.LexParse
import GrmVerif.Lemmas.LexUnescape
/-!
One line of a `.l` file. Specification of a rule line (`nameSide`, `ruleLineSpec`): written with forward
scans and with offsets that are sums of the lengths of the pieces in front of the name — not the
reverse scans and subtractions of the code — so that "the span spells the name" can be read off it;
the model `parseRuleLine` computes it. Then declaration lines: the names `RE_WS.split` yields tile the
text (`Tiles`), and the model `parseDeclLine` computes the specification `declLineSpec` (maximal runs
of non-blanks). At the end `trim_end_unescaped` and the combination of flags.
-/
namespace GrmVerif.LexParse
open GrmVerif.LexUnescape

/-- split at the last character satisfying `p`, scanning forward -/
def lastSplit (p : Char → Bool) : List Char → Option (List Char × Char × List Char)
  | [] => none
  | c :: cs =>
    match lastSplit p cs with
    | some (b, s, a) => some (c :: b, s, a)
    | none => if p c then some ([], c, cs) else none

/-- `s` without its trailing run of `p` characters, scanning forward -/
def dropTrailing (p : Char → Bool) : List Char → List Char
  | [] => []
  | c :: cs =>
    match dropTrailing p cs with
    | [] => if p c then [] else [c]
    | r => c :: r

/-- the regular-expression part: optional `<a,b>` prefix, then the one-pass escape rewriting -/
def reSpec (cfg : Cfg) (ws : Char → Bool) (re : List Char) :
    Except ErrKind (List (List Char) × List Char) :=
  match re with
  | '<' :: r =>
    match splitFirst '>' r with
    | none => .error .invalidStartState
    | some (names, rest) => .ok ((splitCommas names).map (trimBoth ws), unescapeSpec cfg rest)
  | _ => .ok ([], unescapeSpec cfg re)

/-- the optional `<[+-]state>` in front of the name, with the number of bytes it takes -/
def targetSpec : List Char → Option (Option (Nat × List Char) × Nat × List Char)
  | '<' :: r =>
    match splitFirst '>' r with
    | some (st, orig) => some (some (parseOps st), 1 + byteLen st + 1, orig)
    | none => none
  | post => some (none, 0, post)

/-- what a rule line says apart from its regular expression: the text before the last blank, the
target as written, the offset of what follows that blank, and the name (`none` for `;`, `""`, `''`)
with its span — `none` if what follows is not a name -/
structure NameSide where
  pre : List Char
  target : Option (Nat × List Char)
  nameOff : Nat
  name : Option (Option (List Char) × Nat × Nat)

/-- The name side of a rule line `pre ␣ [<target>] name`: the line without its trailing white space
is split at its last space or tab; what follows is an optional `<[+-]state>` and then `;`, `""`, `''`
or a quoted name, whose span starts after `pre`, the separator, the `<..>` part if any, and the
opening quote. The line-level specification (`ruleLineSpec`) and the whole-specification one
(`LexSpecParse.ruleStepSpec`) both go on from this reading. -/
def nameSide (ws sp : Char → Bool) (raw : List Char) : Except (ErrKind × Nat) NameSide :=
  match lastSplit sp (dropTrailing ws raw) with
  | none => .error (.missingSpace, 0)
  | some (pre, s, post) =>
    match targetSpec post with
    | none => .error (.invalidStartState, byteLen pre)
    | some (target, tlen, orig) =>
      let nameOff := byteLen pre + s.utf8Size
      .ok ⟨pre, target, nameOff,
        if isSkipName orig then some (none, nameOff, nameOff)
        else if !quotedOk orig then none
        else some (some ((orig.drop 1).dropLast), nameOff + tlen + 1,
          nameOff + tlen + 1 + byteLen ((orig.drop 1).dropLast))⟩

/-- A rule line: its name side; then `pre` (less unescaped trailing white space) is the regular
expression, with its optional `<a,b>` restriction. -/
def ruleLineSpec (cfg : Cfg) (ws sp : Char → Bool) (raw : List Char) : Except (ErrKind × Nat) RuleLine :=
  match nameSide ws sp raw with
  | .error e => .error e
  | .ok ns =>
    match ns.name with
    | none => .error (.invalidName, ns.nameOff)
    | some (name, a, b) =>
      match reSpec cfg ws (trimEndUnescaped ws ns.pre) with
      | .error k => .error (k, 0)
      | .ok (states, re) => .ok ⟨states, re, ns.target, name, a, b⟩

/-- the maximal runs of non-`p` characters of `s` with the byte offsets at which they start and
end; `cur` (reversed) is the run being read, begun at `st`; `off` is the offset of the next character -/
def wordsAt (p : Char → Bool) : List Char → List Char → Nat → Nat → List (List Char × Nat × Nat)
  | [], cur, st, off => if cur.isEmpty then [] else [(cur.reverse, st, off)]
  | c :: cs, cur, st, off =>
    if p c then
      (if cur.isEmpty then [] else [(cur.reverse, st, off)])
        ++ wordsAt p cs [] (off + c.utf8Size) (off + c.utf8Size)
    else wordsAt p cs (c :: cur) st (off + c.utf8Size)

/-- A declaration line: `%s…`/`%x…` keyword (the first run of non-blanks), then at least one name;
the names are the further maximal runs of non-blank characters, each with the offsets at which it
starts and ends; the first one that is not `[a-zA-Z][a-zA-Z0-9_.]*` is an error at its start. -/
def declLineSpec (ws : Char → Bool) (raw : List Char) :
    Except (DeclErr × Nat) (Bool × List (List Char × Nat × Nat)) :=
  match wordsAt ws (dropTrailing ws raw) [] 0 0 with
  | [] => .error (.unknownDeclaration, 0)
  | (kw, a, _) :: names =>
    if a ≠ 0 then .error (.unknownDeclaration, 0)      -- the line starts with a blank: no keyword
    else match declKind kw with
      | none => .error (.unknownDeclaration, 0)
      | some excl =>
        if names.isEmpty then .error (.unknownDeclaration, 0)
        else match firstInvalid names with
          | some e => .error (.invalidStartStateName, e)
          | none => .ok (excl, names)

theorem drop_takeWhile_eq_dropWhile (q : Char → Bool) (l : List Char) :
    l.drop (l.takeWhile q).length = l.dropWhile q := by
  have := List.drop_left' (l₁ := l.takeWhile q) (l₂ := l.dropWhile q) rfl
  rwa [List.takeWhile_append_dropWhile] at this

theorem mem_takeWhile_sat (q : Char → Bool) (l : List Char) (c : Char) (h : c ∈ l.takeWhile q) :
    q c = true :=
  List.all_eq_true.mp List.all_takeWhile c h

theorem dropWhile_head (q : Char → Bool) (l : List Char) (c : Char) (cs : List Char)
    (h : l.dropWhile q = c :: cs) : q c = false := by
  have := List.head?_dropWhile_not q l
  rwa [h] at this

/-- the reverse scans of the code are the forward scans of the specification -/
theorem trimEnd_eq_dropTrailing (p : Char → Bool) (s : List Char) : trimEnd p s = dropTrailing p s := by
  induction s with
  | nil => rfl
  | cons c cs ih =>
    rw [dropTrailing, ← ih]
    unfold trimEnd
    rw [List.reverse_cons, List.dropWhile_append]
    cases List.dropWhile p cs.reverse with
    | nil => by_cases hc : p c = true <;> simp [hc]
    | cons x xs => simp

theorem splitLast_eq_lastSplit (p : Char → Bool) (s : List Char) : splitLast p s = lastSplit p s := by
  induction s with
  | nil => rfl
  | cons c cs ih =>
    rw [lastSplit, ← ih]
    unfold splitLast
    have hsplit := List.takeWhile_append_dropWhile (p := fun c => !p c) (l := cs.reverse)
    simp only [List.reverse_cons, List.dropWhile_append, List.takeWhile_append]
    cases hd : List.dropWhile (fun c => !p c) cs.reverse with
    | nil =>
      rw [hd, List.append_nil] at hsplit
      by_cases hc : p c = true <;> simp [hsplit, hc]
    | cons x xs =>
      have hlen : (List.takeWhile (fun c => !p c) cs.reverse).length ≠ cs.length := by
        have := congrArg List.length hsplit
        rw [hd] at this; simp only [List.length_append, List.length_cons, List.length_reverse] at this; omega
      simp [hlen]

theorem lastSplit_some (p : Char → Bool) (l b a : List Char) (x : Char)
    (h : lastSplit p l = some (b, x, a)) : l = b ++ x :: a ∧ p x = true := by
  rw [← splitLast_eq_lastSplit, splitLast] at h
  have hl := List.takeWhile_append_dropWhile (p := fun c => !p c) (l := l.reverse)
  split at h
  · cases h
  · next s bRev hd =>
    obtain ⟨rfl, rfl, rfl⟩ : bRev.reverse = b ∧ s = x ∧ _ = a := by simpa using h
    rw [hd] at hl
    exact ⟨by simpa using (congrArg List.reverse hl).symm, by simpa using dropWhile_head _ _ _ _ hd⟩

theorem splitFirst_some (c : Char) (l a b : List Char) (h : splitFirst c l = some (a, b)) :
    l = a ++ c :: b := by
  induction l generalizing a with
  | nil => cases h
  | cons d ds ih =>
    rw [splitFirst] at h
    by_cases hd : d = c
    · rw [if_pos hd] at h; cases h; rw [hd]; rfl
    · rw [if_neg hd] at h
      cases hs : splitFirst c ds with
      | none => rw [hs] at h; cases h
      | some t =>
        obtain ⟨a', b'⟩ := t
        rw [hs] at h
        cases h
        exact congrArg (d :: ·) (ih a' hs)

theorem dropTrailing_prefix (p : Char → Bool) (s : List Char) :
    ∃ t, s = dropTrailing p s ++ t ∧ ∀ c ∈ t, p c = true := by
  refine ⟨(s.reverse.takeWhile p).reverse, ?_, fun c hc => mem_takeWhile_sat p _ c (List.mem_reverse.mp hc)⟩
  rw [← trimEnd_eq_dropTrailing, trimEnd, ← List.reverse_append, List.takeWhile_append_dropWhile,
    List.reverse_reverse]

theorem quote_size1 : ('\'' : Char).utf8Size = 1 := by decide
theorem quote_size2 : ('"' : Char).utf8Size = 1 := by decide

theorem quotedOk_shape (o : List Char) (h : quotedOk o = true) :
    ∃ q q', o = q :: ((o.drop 1).dropLast ++ [q']) ∧ q.utf8Size = 1 ∧ q'.utf8Size = 1 := by
  simp only [quotedOk, Bool.and_eq_true, decide_eq_true_eq, Bool.or_eq_true, beq_iff_eq] at h
  obtain ⟨hlen, hq⟩ := h
  have hquotes : ∃ q q', o.head? = some q ∧ o.getLast? = some q' ∧ q.utf8Size = 1 ∧ q'.utf8Size = 1 := by
    rcases hq with ⟨h1, h2⟩ | ⟨h1, h2⟩
    · exact ⟨_, _, h1, h2, quote_size1, quote_size1⟩
    · exact ⟨_, _, h1, h2, quote_size2, quote_size2⟩
  obtain ⟨q, q', h1, h2, s1, s2⟩ := hquotes
  obtain ⟨ys, rfl⟩ := List.getLast?_eq_some_iff.mp h2
  cases ys with
  | nil => simp only [List.nil_append, byteLen, s2] at hlen; omega
  | cons y ys =>
    obtain rfl : y = q := by simpa using h1
    exact ⟨y, q', by simp, s1, s2⟩

theorem quotedOk_len (o : List Char) (h : quotedOk o = true) :
    byteLen o = byteLen ((o.drop 1).dropLast) + 2 := by
  obtain ⟨q, q', ho, hq1, hq2⟩ := quotedOk_shape o h
  conv => lhs; rw [ho]
  simp only [byteLen_append, byteLen, hq1, hq2]; omega

/-- `&line[rspace + 1..]`: what follows the last separator, when that separator is one byte long -/
theorem dropB_after_split (p : Char → Bool) (line pre post : List Char) (s : Char)
    (h : lastSplit p line = some (pre, s, post)) (hs : s.utf8Size = 1) :
    dropB line (byteLen pre + 1) = some post := by
  have := dropB_append (pre ++ [s]) post
  rw [byteLen_append] at this
  simp only [byteLen, hs, Nat.add_zero] at this
  rw [(lastSplit_some p line pre post s h).1]; simpa using this

theorem parseStartStates_eq (cfg : Cfg) (hb : cfg.BOk) (ws : Char → Bool) (re : List Char) :
    parseStartStates cfg ws re = some (reSpec cfg ws re) := by
  unfold parseStartStates reSpec
  split
  · next r =>
    cases hsf : splitFirst '>' r with
    | none => simp [hsf]
    | some t => obtain ⟨a, b⟩ := t; simp [hsf, unescape_spec cfg hb]
  · next hne =>
    split
    · next r => exact absurd rfl (hne r)
    · simp [unescape_spec cfg hb]

theorem byteLen_cons (c : Char) (s : List Char) : byteLen (c :: s) = c.utf8Size + byteLen s := rfl

theorem lt_size : ('<' : Char).utf8Size = 1 := by decide
theorem gt_size : ('>' : Char).utf8Size = 1 := by decide

theorem targetOf_eq (post : List Char) :
    targetOf post = (targetSpec post).map (fun t => (t.1, t.2.2)) := by
  unfold targetOf targetSpec
  split
  · next r =>
    cases hsf : splitFirst '>' r with
    | none => simp [hsf]
    | some t => obtain ⟨a, b⟩ := t; simp [hsf]
  · next hne =>
    split
    · next r => exact absurd rfl (hne r)
    · rfl

theorem targetSpec_some (post : List Char) (target : Option (Nat × List Char)) (tlen : Nat)
    (orig : List Char) (h : targetSpec post = some (target, tlen, orig)) :
    ∃ tp, post = tp ++ orig ∧ byteLen tp = tlen := by
  unfold targetSpec at h
  split at h
  · next r =>
    cases hsf : splitFirst '>' r with
    | none => simp [hsf] at h
    | some t =>
      obtain ⟨st, o⟩ := t
      simp only [hsf, Option.some.injEq, Prod.mk.injEq] at h
      obtain ⟨_, h2, h3⟩ := h
      subst h2; subst h3
      refine ⟨'<' :: st ++ ['>'], ?_, ?_⟩
      · rw [splitFirst_some '>' r st o hsf]; simp
      · simp only [List.cons_append, byteLen_cons, byteLen_append, byteLen, lt_size, gt_size]; omega
  · simp only [Option.some.injEq, Prod.mk.injEq] at h
    obtain ⟨_, h2, h3⟩ := h
    subst h2; subst h3
    exact ⟨[], rfl, rfl⟩

/-- the span of a quoted name as the code computes it, from the end of the line (subtracting the length of
`orig`), and as the specification does, from its start (`pre`, the separator, `tlen` bytes of target, the quote) -/
theorem name_span (p : Char → Bool) (line pre post orig : List Char) (s : Char)
    (target : Option (Nat × List Char)) (tlen : Nat) (hl : lastSplit p line = some (pre, s, post))
    (hs : s.utf8Size = 1) (hts : targetSpec post = some (target, tlen, orig)) (hq : quotedOk orig = true)
    (i : Nat) :
    i + byteLen line - byteLen orig + 1 = i + byteLen pre + 1 + tlen + 1 ∧
    i + byteLen line - byteLen orig + byteLen orig - 1
      = i + byteLen pre + 1 + tlen + 1 + byteLen ((orig.drop 1).dropLast) := by
  obtain ⟨tp, hpost, htl⟩ := targetSpec_some post target tlen orig hts
  have hlen : byteLen line = byteLen pre + 1 + tlen + byteLen orig := by
    rw [(lastSplit_some p line pre post s hl).1, hpost]
    simp only [byteLen_append, byteLen_cons, hs, htl]; omega
  rw [hlen, quotedOk_len orig hq, ← Nat.add_assoc i, Nat.add_sub_cancel, ← Nat.add_assoc i, ← Nat.add_assoc i]
  -- `… + name + 2 - 1` computes to `… + name + 1`
  exact ⟨rfl, Nat.add_right_comm _ _ 1⟩

/-- **rule-line splitting**: the model of `parse_rule` (reverse scans, offsets by subtraction)
returns, without panicking, what `ruleLineSpec` says — provided every separator character is one
byte long (true of space and tab, `LexSpecParse.spaceSep_size`). -/
theorem parseRuleLine_eq (cfg : Cfg) (hb : cfg.BOk) (ws sp : Char → Bool)
    (hsp : ∀ c, sp c = true → c.utf8Size = 1) (raw : List Char) :
    parseRuleLine cfg ws sp raw = some (ruleLineSpec cfg ws sp raw) := by
  unfold parseRuleLine ruleLineSpec nameSide
  simp only [trimEnd_eq_dropTrailing, splitLast_eq_lastSplit]
  cases hl : lastSplit sp (dropTrailing ws raw) with
  | none => rfl
  | some t =>
    obtain ⟨pre, s, post⟩ := t
    have hs1 := hsp s (lastSplit_some sp _ pre post s hl).2
    simp only [dropB_after_split sp _ pre post s hl hs1, Option.bind_some, hs1,
      parseStartStates_eq cfg hb, Option.map_some]
    have htgt := targetOf_eq post
    cases hts : targetSpec post with
    | none => simp [htgt, hts]
    | some t2 =>
      obtain ⟨target, tlen, orig⟩ := t2
      simp only [htgt, hts, Option.map_some]
      by_cases hskip : isSkipName orig = true
      · simp only [hskip, if_true]
        cases reSpec cfg ws (trimEndUnescaped ws pre) <;> rfl
      · simp only [hskip, Bool.false_eq_true, if_false]
        by_cases hq : quotedOk orig = true
        · simp only [hq, Bool.not_true, Bool.false_eq_true, if_false]
          obtain ⟨e1, e2⟩ := name_span sp _ pre post orig s target tlen hl hs1 hts hq 0
          simp only [Nat.zero_add] at e1 e2
          rw [e1, e2]
          cases reSpec cfg ws (trimEndUnescaped ws pre) <;> rfl
        · simp [hq]

theorem nameSide_spec (ws sp : Char → Bool) (raw : List Char) :
    match nameSide ws sp raw with
    | .error (_, p) => p ≤ byteLen raw
    | .ok ns =>
      ns.nameOff ≤ byteLen raw ∧
      (∀ a b, ns.name = some (none, a, b) → a = b) ∧
      (∀ n a b, ns.name = some (some n, a, b) → PieceOf (a, n) (0, raw) ∧ b = a + byteLen n) := by
  unfold nameSide
  cases hl : lastSplit sp (dropTrailing ws raw) with
  | none => exact Nat.zero_le _
  | some t =>
    obtain ⟨pre, s, post⟩ := t
    obtain ⟨hline, _⟩ := lastSplit_some sp _ pre post s hl
    obtain ⟨trail, hraw, _⟩ := dropTrailing_prefix ws raw
    have hpre : byteLen pre + s.utf8Size ≤ byteLen raw := by
      rw [hraw, hline]; simp only [byteLen_append, byteLen_cons]; omega
    dsimp only
    cases hts : targetSpec post with
    | none => exact Nat.le_trans (Nat.le_add_right _ _) hpre
    | some t2 =>
      obtain ⟨target, tlen, orig⟩ := t2
      obtain ⟨tp, hpost, htl⟩ := targetSpec_some post target tlen orig hts
      dsimp only
      by_cases hskip : isSkipName orig = true
      · rw [if_pos hskip]
        exact ⟨hpre, fun a b hn => (by cases hn; rfl), fun n a b hn => (by cases hn)⟩
      · rw [if_neg hskip]
        by_cases hq : quotedOk orig = true
        · simp only [hq, Bool.not_true, Bool.false_eq_true, if_false]
          refine ⟨hpre, fun a b hn => (by cases hn), fun n a b hn => ?_⟩
          cases hn
          obtain ⟨q, q', ho, hq1, _⟩ := quotedOk_shape orig hq
          refine ⟨⟨pre ++ [s] ++ tp ++ [q], [q'] ++ trail, ?_, ?_⟩, rfl⟩
          · show raw = _
            rw [hraw, hline, hpost]; conv => lhs; rw [ho]
            simp
          · simp only [byteLen_append, byteLen, htl, hq1, Nat.add_zero, Nat.zero_add]
        · simp only [hq, Bool.not_false, if_true]
          exact ⟨hpre, fun a b hn => (by cases hn), fun n a b hn => (by cases hn)⟩

theorem ruleLineSpec_ok (cfg : Cfg) (ws sp : Char → Bool) (raw : List Char) (r : RuleLine)
    (h : ruleLineSpec cfg ws sp raw = .ok r) :
    ∃ ns, nameSide ws sp raw = .ok ns ∧ ns.name = some (r.name, r.spanStart, r.spanEnd) ∧
      r.target = ns.target ∧ reSpec cfg ws (trimEndUnescaped ws ns.pre) = .ok (r.states, r.re) := by
  unfold ruleLineSpec at h
  split at h
  · cases h
  · next ns hns =>
    split at h
    · cases h
    · next name a b hnm =>
      split at h
      · cases h
      · next states re hre =>
        obtain rfl := Except.ok.inj h
        exact ⟨ns, hns, hnm, rfl, hre⟩

theorem ruleLineSpec_piece (cfg : Cfg) (ws sp : Char → Bool) (raw : List Char) (r : RuleLine)
    (n : List Char) (h : ruleLineSpec cfg ws sp raw = .ok r) (hn : r.name = some n) :
    PieceOf (r.spanStart, n) (0, raw) ∧ r.spanEnd = r.spanStart + byteLen n := by
  obtain ⟨ns, hns, hname, _⟩ := ruleLineSpec_ok cfg ws sp raw r h
  rw [hn] at hname
  have hspec := nameSide_spec ws sp raw
  rw [hns] at hspec
  exact hspec.2.2 n _ _ hname

theorem ruleLineSpec_span (cfg : Cfg) (ws sp : Char → Bool) (raw : List Char) (r : RuleLine)
    (n : List Char) (h : ruleLineSpec cfg ws sp raw = .ok r) (hn : r.name = some n)
    (a b : List Char) :
    sliceB (a ++ raw ++ b) (byteLen a + r.spanStart) (byteLen a + r.spanEnd) = some n := by
  obtain ⟨hp, he⟩ := ruleLineSpec_piece cfg ws sp raw r n h hn
  rw [he, ← Nat.add_assoc]
  exact (hp.shift (byteLen a)).slice b

theorem ruleLineSpec_skip_span (cfg : Cfg) (ws sp : Char → Bool) (raw : List Char) (r : RuleLine)
    (h : ruleLineSpec cfg ws sp raw = .ok r) (hn : r.name = none) : r.spanStart = r.spanEnd := by
  obtain ⟨ns, hns, hname, _⟩ := ruleLineSpec_ok cfg ws sp raw r h
  rw [hn] at hname
  have hspec := nameSide_spec ws sp raw
  rw [hns] at hspec
  exact hspec.2.1 _ _ hname

theorem byteLen_eq_zero (u : List Char) (h : byteLen u = 0) : u = [] := by
  cases u with
  | nil => rfl
  | cons c cs => have := Char.utf8Size_pos c; simp only [byteLen] at h; omega

theorem splitWsAt_head (p : Char → Bool) (s : List Char) (off : Nat) :
    ∃ t rest, splitWsAt p s off = (t, off) :: rest := by
  induction s generalizing off with
  | nil => exact ⟨[], [], rfl⟩
  | cons c cs ih =>
    simp only [splitWsAt]
    by_cases hp : p c = true
    · simp only [hp, if_true]; exact ⟨[], _, rfl⟩
    · obtain ⟨t, rest, h⟩ := ih (off + c.utf8Size)
      simp only [hp, Bool.false_eq_true, if_false, h]; exact ⟨c :: t, rest, rfl⟩

/-- a run of characters as a word starting at `st` (nothing if empty) -/
def wordOf (w : List Char) (st : Nat) : List (List Char × Nat × Nat) :=
  if w.isEmpty then [] else [(w, st, st + byteLen w)]

/-- the non-empty pieces with their start and end offsets -/
def spansOf (l : List (List Char × Nat)) : List (List Char × Nat × Nat) :=
  (l.filter (fun t => !t.1.isEmpty)).map (fun t => (t.1, t.2, t.2 + byteLen t.1))

theorem spansOf_cons (t : List Char) (a : Nat) (rest : List (List Char × Nat)) :
    spansOf ((t, a) :: rest) = wordOf t a ++ spansOf rest := by
  unfold spansOf wordOf
  cases t <;> simp

/-- the words `words` tile the text `s` that starts at offset `off`: blanks, a word with the offsets at
which it starts and ends, blanks, a word, …, blanks -/
def Tiles (p : Char → Bool) : Nat → List Char → List (List Char × Nat × Nat) → Prop
  | _, s, [] => ∀ c ∈ s, p c = true
  | off, s, (w, a, b) :: words =>
    ∃ gap rest, s = gap ++ w ++ rest ∧ (∀ c ∈ gap, p c = true) ∧ w ≠ [] ∧ a = off + byteLen gap ∧
      b = a + byteLen w ∧ Tiles p b rest words

theorem Tiles.blank {p : Char → Bool} {c : Char} (hc : p c = true) {off : Nat} {s : List Char}
    {words : List (List Char × Nat × Nat)} (h : Tiles p (off + c.utf8Size) s words) : Tiles p off (c :: s) words := by
  cases words with
  | nil => exact List.forall_mem_cons.mpr ⟨hc, h⟩
  | cons w words =>
    obtain ⟨gap, rest, hs, hg, hw, ha, hb, ht⟩ := h
    exact ⟨c :: gap, rest, by rw [hs]; rfl, List.forall_mem_cons.mpr ⟨hc, hg⟩, hw,
      by rw [ha, byteLen_cons, Nat.add_assoc], hb, ht⟩

/-- **what `RE_WS.split` yields**: the non-empty pieces, with the offsets at which they start and end,
tile the text -/
theorem spansOf_tiles (p : Char → Bool) (s : List Char) :
    ∀ off, Tiles p off s (spansOf (splitWsAt p s off)) := by
  induction s with
  | nil => intro off; exact fun _ h => nomatch h
  | cons c cs ih =>
    intro off
    have ih' := ih (off + c.utf8Size)
    obtain ⟨t, rest, hh⟩ := splitWsAt_head p cs (off + c.utf8Size)
    rw [hh, spansOf_cons] at ih'
    by_cases hc : p c = true
    · have e : splitWsAt p (c :: cs) off = ([], off) :: (t, off + c.utf8Size) :: rest := by
        rw [splitWsAt]; simp only [hc, if_true, hh]
      rw [e, spansOf_cons, spansOf_cons]
      exact Tiles.blank hc ih'
    · simp only [Bool.not_eq_true] at hc
      have e : splitWsAt p (c :: cs) off = (c :: t, off) :: rest := by
        rw [splitWsAt]; simp only [hc, Bool.false_eq_true, if_false, hh]
      rw [e, spansOf_cons]
      cases t with
      | nil => exact ⟨[], cs, rfl, fun _ h => (nomatch h), by simp, rfl, rfl, ih'⟩
      | cons d t' =>
        -- the piece that starts right after `c` goes on the word `c` begins
        obtain ⟨gap, rest', hs, _, _, ha, hb, ht⟩ := ih'
        obtain rfl : gap = [] := byteLen_eq_zero gap (by omega)
        refine ⟨[], rest', by rw [hs]; rfl, fun _ h => (nomatch h), by simp, rfl, rfl, ?_⟩
        rw [hb, ha] at ht
        simpa only [byteLen, Nat.add_zero, Nat.add_assoc] using ht

/-- every word is a piece of the text, at its offsets -/
theorem Tiles.mem {p : Char → Bool} {words : List (List Char × Nat × Nat)} : ∀ {off : Nat} {s : List Char},
    Tiles p off s words → ∀ {n a b}, (n, a, b) ∈ words → PieceOf (a, n) (off, s) ∧ b = a + byteLen n := by
  induction words with
  | nil => intro _ _ _ _ _ _ hm; cases hm
  | cons w0 words ih =>
    obtain ⟨w, a', b'⟩ := w0
    rintro off s ⟨gap, rest, hs, _, _, ha, hb, ht⟩ n a b hm
    rcases List.mem_cons.mp hm with h | h
    · obtain ⟨rfl, rfl, rfl⟩ := h
      exact ⟨⟨gap, rest, hs, ha⟩, hb⟩
    · obtain ⟨hp, hbn⟩ := ih ht h
      refine ⟨hp.trans ?_, hbn⟩
      have := PieceOf.suffix off (gap ++ w) rest
      rwa [← hs, byteLen_append, ← Nat.add_assoc, ← ha, ← hb] at this

theorem parseDeclLine_parts (ws : Char → Bool) (raw : List Char) :
    parseDeclLine ws raw =
      match declLineParts ws raw with
      | none => .error (.unknownDeclaration, 0)
      | some (excl, names) =>
        match firstInvalid names with
        | some a => .error (.invalidStartStateName, a)
        | none => .ok (excl, names) := by
  unfold parseDeclLine declLineParts
  simp only
  cases declKind ((trimEnd ws raw).takeWhile fun c => !ws c) with
  | none => rfl
  | some excl =>
    simp only
    split
    · rfl
    · simp only
      split
      · next a h => rw [h]
      · next h => rw [h]

/-- a line as `parse_declaration` cuts it: the first run of non-blanks (the keyword), the blanks after it,
what is left -/
theorem line_cut (ws : Char → Bool) (line : List Char) :
    ∃ D lead params, line.takeWhile (fun c => !ws c) = D ∧
      (line.dropWhile fun c => !ws c).takeWhile ws = lead ∧
      (line.dropWhile fun c => !ws c).dropWhile ws = params ∧ line = D ++ (lead ++ params) ∧
      (∀ c ∈ D, ws c = false) ∧ (∀ c ∈ lead, ws c = true) ∧
      (∀ c cs, lead ++ params = c :: cs → ws c = true) ∧ (∀ c cs, params = c :: cs → ws c = false) := by
  refine ⟨_, _, _, rfl, rfl, rfl, by simp, fun c hc => by simpa using mem_takeWhile_sat _ line c hc,
    fun c hc => mem_takeWhile_sat ws _ c hc, fun c cs h => ?_, fun c cs h => dropWhile_head ws _ c cs h⟩
  rw [List.takeWhile_append_dropWhile] at h
  simpa using dropWhile_head _ line c cs h

/-- an accepted declaration line: keyword and blanks (`front`), then the text the names tile, then
blanks -/
theorem declLineParts_some (ws : Char → Bool) (raw : List Char) (excl : Bool)
    (names : List (List Char × Nat × Nat)) (h : declLineParts ws raw = some (excl, names)) :
    ∃ front params trail, raw = front ++ params ++ trail ∧ (∀ c ∈ trail, ws c = true) ∧
      names ≠ [] ∧ Tiles ws (byteLen front) params names := by
  unfold declLineParts at h
  simp only at h
  obtain ⟨trail, hraw, htrail⟩ := dropTrailing_prefix ws raw
  rw [← trimEnd_eq_dropTrailing] at hraw
  generalize trimEnd ws raw = line at *
  obtain ⟨D, lead, params, e1, e2, e3, rfl, -, -, -, hP⟩ := line_cut ws line
  rw [drop_takeWhile_eq_dropWhile, e1, e2, e3] at h
  cases hk : declKind D with
  | none => simp [hk] at h
  | some ex =>
    simp only [hk] at h
    split at h
    · simp at h
    · next hne =>
      simp only [Option.some.injEq, Prod.mk.injEq] at h
      have ht := spansOf_tiles ws params (byteLen D + byteLen lead)
      rw [spansOf, h.2, ← byteLen_append] at ht
      refine ⟨D ++ lead, params, trail, by rw [hraw]; simp, htrail, ?_, ht⟩
      -- `params` is not empty and starts with a non-blank
      rintro rfl
      cases params with
      | nil => exact absurd rfl hne
      | cons c cs => exact absurd ((hP c cs rfl).symm.trans (ht c List.mem_cons_self)) (by simp)

/-- a name of a declaration line is a piece of the line -/
theorem declLineParts_piece (ws : Char → Bool) (raw : List Char) (excl : Bool)
    (names : List (List Char × Nat × Nat)) (h : declLineParts ws raw = some (excl, names))
    {n : List Char} {a b : Nat} (hm : (n, a, b) ∈ names) : PieceOf (a, n) (0, raw) ∧ b = a + byteLen n := by
  obtain ⟨front, params, trail, hraw, _, _, htiles⟩ := declLineParts_some ws raw excl names h
  obtain ⟨hp, hb⟩ := htiles.mem hm
  exact ⟨hp.trans ⟨front, trail, hraw, (Nat.zero_add _).symm⟩, hb⟩

theorem declLineParts_bound (ws : Char → Bool) (raw : List Char) (excl : Bool)
    (names : List (List Char × Nat × Nat)) (h : declLineParts ws raw = some (excl, names)) :
    ∀ t ∈ names, t.2.1 ≤ byteLen raw := by
  rintro ⟨n, a, b⟩ ht
  have := (declLineParts_piece ws raw excl names h ht).1.bounds
  simp only [Nat.zero_add] at this ⊢
  omega

theorem parseDeclLine_span (ws : Char → Bool) (raw : List Char) (excl : Bool)
    (names : List (List Char × Nat × Nat)) (h : parseDeclLine ws raw = .ok (excl, names))
    (n : List Char) (a b : Nat) (hm : (n, a, b) ∈ names) (before after : List Char) :
    sliceB (before ++ raw ++ after) (byteLen before + a) (byteLen before + b) = some n := by
  rw [parseDeclLine_parts] at h
  cases hparts : declLineParts ws raw with
  | none => simp [hparts] at h
  | some pn =>
    obtain ⟨excl', names'⟩ := pn
    simp only [hparts] at h
    split at h
    · cases h
    · obtain ⟨_, rfl⟩ := Prod.mk.inj (Except.ok.inj h)
      obtain ⟨hp, rfl⟩ := declLineParts_piece ws raw excl' _ hparts hm
      rw [← Nat.add_assoc]
      exact (hp.shift (byteLen before)).slice after

theorem wordsAt_eq (p : Char → Bool) (s : List Char) :
    ∀ (cur : List Char) (st off : Nat), st + byteLen cur.reverse = off →
      wordsAt p s cur st off =
        match splitWsAt p s off with
        | (t, _) :: rest => wordOf (cur.reverse ++ t) st ++ spansOf rest
        | [] => [] := by
  induction s with
  | nil =>
    intro cur st off h
    simp only [wordsAt, splitWsAt, wordOf, spansOf, List.append_nil, List.filter_nil, List.map_nil]
    cases cur with
    | nil => simp
    | cons c cs => simp [← h]
  | cons c cs ih =>
    intro cur st off h
    simp only [wordsAt, splitWsAt]
    by_cases hp : p c = true
    · simp only [hp, if_true]
      rw [ih [] _ _ (by simp [byteLen])]
      obtain ⟨t, rest, hh⟩ := splitWsAt_head p cs (off + c.utf8Size)
      simp only [hh, List.reverse_nil, List.nil_append, List.append_nil, spansOf_cons]
      congr 1
      unfold wordOf
      cases cur with
      | nil => simp
      | cons d ds => simp [← h]
    · simp only [hp, Bool.false_eq_true, if_false]
      rw [ih (c :: cur) st _ (by simp only [List.reverse_cons, byteLen_append, byteLen]; omega)]
      obtain ⟨t, rest, hh⟩ := splitWsAt_head p cs (off + c.utf8Size)
      simp [hh]

theorem wordsAt_zero (p : Char → Bool) (s : List Char) (off : Nat) :
    wordsAt p s [] off off = spansOf (splitWsAt p s off) := by
  rw [wordsAt_eq p s [] off off (by simp [byteLen])]
  obtain ⟨t, rest, hh⟩ := splitWsAt_head p s off
  simp [hh, spansOf_cons]

theorem splitWsAt_append_nonsep (p : Char → Bool) (D R : List Char) (hD : ∀ c ∈ D, p c = false)
    (off : Nat) :
    splitWsAt p (D ++ R) off =
      match splitWsAt p R (off + byteLen D) with
      | (t, _) :: rest => (D ++ t, off) :: rest
      | [] => [] := by
  induction D generalizing off with
  | nil =>
    obtain ⟨t, rest, hh⟩ := splitWsAt_head p R off
    simp [byteLen, hh]
  | cons d ds ih =>
    have hd : p d = false := hD d (by simp)
    simp only [List.cons_append, splitWsAt, hd, Bool.false_eq_true, if_false]
    rw [ih (fun c hc => hD c (by simp [hc]))]
    have e : off + d.utf8Size + byteLen ds = off + byteLen (d :: ds) := by simp only [byteLen]; omega
    rw [e]
    obtain ⟨t, rest, hh⟩ := splitWsAt_head p R (off + byteLen (d :: ds))
    simp [hh]

theorem spansOf_lead (p : Char → Bool) (lead params : List Char) (hl : ∀ c ∈ lead, p c = true)
    (off : Nat) :
    spansOf (splitWsAt p (lead ++ params) off) = spansOf (splitWsAt p params (off + byteLen lead)) := by
  induction lead generalizing off with
  | nil => simp [byteLen]
  | cons l ls ih =>
    have h1 : p l = true := hl l (by simp)
    simp only [List.cons_append, splitWsAt, h1, if_true, spansOf_cons, wordOf, List.isEmpty_nil,
      List.nil_append]
    rw [ih (fun c hc => hl c (by simp [hc]))]
    simp only [byteLen]
    congr 2; omega

theorem spansOf_word (p : Char → Bool) (D R : List Char) (hD : ∀ c ∈ D, p c = false)
    (hR : ∀ c cs, R = c :: cs → p c = true) (off : Nat) :
    spansOf (splitWsAt p (D ++ R) off) = wordOf D off ++ spansOf (splitWsAt p R (off + byteLen D)) := by
  rw [splitWsAt_append_nonsep p D R hD off]
  cases R with
  | nil => simp [splitWsAt, spansOf_cons, wordOf]
  | cons r rs => simp [splitWsAt, hR r rs rfl, spansOf_cons, wordOf]

/-- `D`, `lead`, `params` and the hypotheses on them as `line_cut` delivers them -/
theorem wordsAt_line (p : Char → Bool) (D lead params : List Char) (hD : ∀ c ∈ D, p c = false)
    (hl : ∀ c ∈ lead, p c = true) (hR : ∀ c cs, lead ++ params = c :: cs → p c = true) :
    wordsAt p (D ++ (lead ++ params)) [] 0 0
      = wordOf D 0 ++ spansOf (splitWsAt p params (byteLen D + byteLen lead)) := by
  rw [wordsAt_zero, spansOf_word p _ _ hD hR 0, Nat.zero_add, spansOf_lead p _ _ hl]

theorem spansOf_isEmpty (p : Char → Bool) (s : List Char) (hs : ∀ c cs, s = c :: cs → p c = false)
    (off : Nat) : (spansOf (splitWsAt p s off)).isEmpty = s.isEmpty := by
  cases s with
  | nil => rfl
  | cons c cs =>
    obtain ⟨t, rest, hh⟩ := splitWsAt_head p cs (off + c.utf8Size)
    simp [splitWsAt, hs c cs rfl, hh, spansOf_cons, wordOf]

/-- **declaration lines**: the model (`RE_WS.split`, pointer offsets, keyword cut at the first blank)
computes the specification (maximal runs of non-blanks) -/
theorem parseDeclLine_eq (ws : Char → Bool) (raw : List Char) :
    parseDeclLine ws raw = declLineSpec ws raw := by
  unfold parseDeclLine declLineSpec
  simp only [trimEnd_eq_dropTrailing]
  generalize dropTrailing ws raw = line
  obtain ⟨D, lead, params, e1, e2, e3, hline, hD, hl, hR, hP⟩ := line_cut ws line
  rw [drop_takeWhile_eq_dropWhile, e1, e2, e3, hline, wordsAt_line ws D lead params hD hl hR]
  cases D with
  | nil =>
    -- no keyword: the line is empty or starts with a blank, so its first word does not start at 0
    simp only [declKind, wordOf, List.isEmpty_nil, if_true, List.nil_append, byteLen, Nat.zero_add]
    cases hN : spansOf (splitWsAt ws params (byteLen lead)) with
    | nil => rfl
    | cons w names =>
      obtain ⟨kw, a, b⟩ := w
      obtain ⟨⟨u, v, _, (ha : a = _ + byteLen u)⟩, _⟩ := (spansOf_tiles ws params _).mem (hN ▸ List.mem_cons_self)
      cases lead with
      | nil =>
        -- no blank after the (empty) keyword: nothing is left
        cases params with
        | nil => cases hN
        | cons c cs => exact absurd ((hR c cs rfl).symm.trans (hP c cs rfl)) (by simp)
      | cons l ls =>
        have := Char.utf8Size_pos l
        have ha0 : a ≠ 0 := by rw [ha, byteLen_cons]; omega
        simp only [ne_eq, ha0, not_false_eq_true, if_true]
  | cons d ds =>
    simp only [wordOf, List.isEmpty_cons, Bool.false_eq_true, if_false, List.singleton_append,
      ne_eq, not_true_eq_false, Nat.zero_add, spansOf_isEmpty ws params hP]
    rfl

theorem trimEnd_append (ws : Char → Bool) (body tail : List Char)
    (hbody : ∀ c, body.getLast? = some c → ws c = false) (htail : ∀ c ∈ tail, ws c = true) :
    trimEnd ws (body ++ tail) = body := by
  unfold trimEnd
  rw [List.reverse_append, List.dropWhile_append_of_pos (by simpa using htail)]
  cases hr : body.reverse with
  | nil => simp [List.reverse_eq_nil_iff.mp hr]
  | cons c r =>
    have : body.getLast? = some c := by rw [← List.head?_reverse, hr]; rfl
    rw [List.dropWhile_cons, hbody c this]
    simp [← hr]

theorem trimEndUnescaped_eq (ws : Char → Bool) (body tail : List Char)
    (hbody : ∀ c, body.getLast? = some c → ws c = false) (htail : ∀ c ∈ tail, ws c = true) :
    trimEndUnescaped ws (body ++ tail) =
      if tail = [] then body
      else if trailingBackslashes body % 2 = 1 then body ++ tail.take 1 else body := by
  unfold trimEndUnescaped
  simp only [trimEnd_append ws body tail hbody htail, List.length_append]
  cases tail with
  | nil => simp
  | cons t ts =>
    have : ¬ (body.length = body.length + (ts.length + 1)) := by omega
    simp only [List.length_cons, this, if_false, reduceCtorEq]
    by_cases hodd : trailingBackslashes body % 2 = 1
    · simp [hodd, List.take_append, List.take_of_length_le]
    · simp [hodd]

theorem effectiveFlags_getElem? (dflt hdr bld : List (Option Bool)) (i : Nat) (d h b : Option Bool)
    (hd : dflt[i]? = some d) (hh : hdr[i]? = some h) (hb : bld[i]? = some b) :
    (effectiveFlags dflt hdr bld)[i]? = some ((b.or h).or d) := by
  simp only [effectiveFlags, withDefaults, mergeOurs, List.getElem?_zipWith, hb, hh, hd]

end GrmVerif.LexParse
