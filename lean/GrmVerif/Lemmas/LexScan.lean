import GrmVerif.Lemmas.Lex
/-! Helper lemmas for C09, the choice of the rule: the scan of the model (`scanRules`) and the choice function of
the reference lexer (`bestFrom`) compute the same pair, the `LongestEarliest` one. -/
namespace GrmVerif.Lex

theorem stateMatches_iff (cur : St) (r : Rule) : stateMatches cur r.states = true ↔ Active cur r := by
  unfold stateMatches Active
  cases r.states <;> simp

theorem candLen_eq_some_iff {cur : St} {mli : Nat → Option Nat} {r : Rule} {k l : Nat} :
    candLen cur mli r k = some l ↔ Active cur r ∧ mli k = some l ∧ 0 < l := by
  unfold candLen
  by_cases ha : Active cur r
  · rw [if_pos ha]
    cases mli k with
    | none => exact ⟨nofun, fun h => nomatch h.2.1⟩
    | some l' =>
      by_cases hp : 0 < l'
      · simp only [if_pos hp]
        exact ⟨fun h => by cases h; exact ⟨ha, rfl, hp⟩, fun h => by cases h.2.1; rfl⟩
      · simp only [if_neg hp]
        exact ⟨nofun, fun h => by cases h.2.1; exact absurd h.2.2 hp⟩
  · rw [if_neg ha]; exact ⟨nofun, fun h => absurd h.1 ha⟩

theorem scanRules_cons (cur : St) (mli : Nat → Option Nat) (r : Rule) (rs : List Rule) (k L x : Nat) :
    scanRules cur mli (r :: rs) k (L, x) =
      match candLen cur mli r k with
      | some len => if L < len then scanRules cur mli rs (k + 1) (len, k) else scanRules cur mli rs (k + 1) (L, x)
      | none => scanRules cur mli rs (k + 1) (L, x) := by
  rw [scanRules, candLen]
  by_cases ha : Active cur r
  · rw [if_neg (by rw [(stateMatches_iff cur r).mpr ha]; decide), if_pos ha]
    cases mli k with
    | none => rfl
    | some len =>
      by_cases hp : 0 < len
      · simp only [if_pos hp]
      · simp only [if_neg hp, if_neg (show ¬ len > L from fun h => hp (Nat.lt_of_le_of_lt (Nat.zero_le L) h))]
  · rw [if_pos (by rw [Bool.not_eq_true', ← Bool.not_eq_true, stateMatches_iff]; exact ha), if_neg ha]

/-- both keep the first of the longest candidates: a rule replaces the current best only with a strictly longer match -/
theorem scanRules_eq_bestFrom (cur : St) (mli : Nat → Option Nat) : ∀ (rs : List Rule) (k L x : Nat),
    scanRules cur mli rs k (L, x) =
      match bestFrom cur mli rs k with
      | some (j, l) => if L < l then (l, j) else (L, x)
      | none => (L, x) := by
  intro rs
  induction rs with
  | nil => intro k L x; rfl
  | cons r rs ih =>
    intro k L x
    rw [scanRules_cons, bestFrom]
    cases candLen cur mli r k with
    | none => exact ih ..
    | some len =>
      simp only [ih]
      cases bestFrom cur mli rs (k + 1) with
      | none => rfl
      | some p =>
        obtain ⟨j, l⟩ := p
        simp only
        by_cases h1 : len < l
        · by_cases h2 : L < len
          · simp only [if_pos h1, if_pos h2, if_pos (Nat.lt_trans h2 h1)]
          · simp only [if_pos h1, if_neg h2]
        · by_cases h2 : L < len
          · simp only [if_neg h1, if_pos h2]
          · simp only [if_neg h1, if_neg h2,
              if_neg (Nat.not_lt.mpr (Nat.le_trans (Nat.not_lt.mp h1) (Nat.not_lt.mp h2)))]

theorem bestFrom_spec (cur : St) (mli : Nat → Option Nat) : ∀ (rs : List Rule) (k : Nat),
    match bestFrom cur mli rs k with
    | none => ∀ p ∈ rs.zipIdx k, candLen cur mli p.1 p.2 = none
    | some (x, L) =>
      (∃ r, (r, x) ∈ rs.zipIdx k ∧ candLen cur mli r x = some L) ∧
      ∀ p ∈ rs.zipIdx k, ∀ l, candLen cur mli p.1 p.2 = some l → l < L ∨ (l = L ∧ x ≤ p.2) := by
  intro rs
  induction rs with
  | nil => intro k p h; cases h
  | cons r rs ih =>
    intro k
    have ih := ih (k + 1)
    rw [bestFrom, List.zipIdx_cons]
    cases hc : candLen cur mli r k with
    | none =>
      cases hb : bestFrom cur mli rs (k + 1) with
      | none => rw [hb] at ih; exact List.forall_mem_cons.mpr ⟨hc, ih⟩
      | some p =>
        rw [hb] at ih
        obtain ⟨⟨r', hr, hl⟩, hmax⟩ := ih
        exact ⟨⟨r', List.mem_cons_of_mem _ hr, hl⟩,
          List.forall_mem_cons.mpr ⟨fun l hl => (nomatch hc.symm.trans hl), hmax⟩⟩
    | some l0 =>
      -- the rule at `k` is the answer unless a later candidate is strictly longer
      have here : ∀ {L x : Nat}, L ≤ l0 →
          (∀ p ∈ rs.zipIdx (k + 1), ∀ l, candLen cur mli p.1 p.2 = some l → l < L ∨ (l = L ∧ x ≤ p.2)) →
          (∃ r', (r', k) ∈ (r, k) :: rs.zipIdx (k + 1) ∧ candLen cur mli r' k = some l0) ∧
          ∀ p ∈ (r, k) :: rs.zipIdx (k + 1), ∀ l, candLen cur mli p.1 p.2 = some l → l < l0 ∨ (l = l0 ∧ k ≤ p.2) :=
        fun hle hmax => ⟨⟨r, List.mem_cons_self, hc⟩, List.forall_mem_cons.mpr
          ⟨fun l hl => Or.inr ⟨Option.some.inj (hl.symm.trans hc), Nat.le_refl k⟩, fun p hp l hl =>
            have hk : k ≤ p.2 := Nat.le_of_succ_le (List.le_snd_of_mem_zipIdx hp)
            (hmax p hp l hl).elim (fun h => Or.inl (Nat.lt_of_lt_of_le h hle)) fun h =>
              (Nat.lt_or_eq_of_le hle).elim (fun h' => Or.inl (h.1 ▸ h')) fun h' => Or.inr ⟨h.1.trans h', hk⟩⟩⟩
      cases hb : bestFrom cur mli rs (k + 1) with
      | none =>
        rw [hb] at ih
        exact here (L := 0) (x := 0) (Nat.zero_le _) fun p hp l hl => nomatch (ih p hp).symm.trans hl
      | some p =>
        rw [hb] at ih
        obtain ⟨⟨r', hr, hl⟩, hmax⟩ := ih
        by_cases hlt : l0 < p.2
        · simp only [if_pos hlt]
          exact ⟨⟨r', List.mem_cons_of_mem _ hr, hl⟩, List.forall_mem_cons.mpr
            ⟨fun l hl => Or.inl (Option.some.inj (hc.symm.trans hl) ▸ hlt), hmax⟩⟩
        · simp only [if_neg hlt]
          exact here (Nat.le_of_not_lt hlt) hmax

theorem bestFrom_some {cfg : Cfg} {ml : Nat → Nat → Option Nat} {cur : St} {i x L : Nat}
    (h : bestFrom cur (fun r => ml r i) cfg.rules 0 = some (x, L)) : LongestEarliest cfg ml cur i x L := by
  have hs := bestFrom_spec cur (fun r => ml r i) cfg.rules 0
  rw [h] at hs
  obtain ⟨⟨r, hr, hl⟩, hmax⟩ := hs
  obtain ⟨ha, hm, hp⟩ := candLen_eq_some_iff.mp hl
  refine ⟨hp, ⟨r, List.mk_mem_zipIdx_iff_getElem?.mp hr, ha⟩, hm, fun j' r' l hr' ha' hl' => ?_,
    fun j' r' hr' ha' hl' => ?_⟩
  · cases l with
    | zero => exact Nat.zero_le _
    | succ l =>
      exact (hmax (r', j') (List.mk_mem_zipIdx_iff_getElem?.mpr hr') _
        (candLen_eq_some_iff.mpr ⟨ha', hl', Nat.succ_pos l⟩)).elim Nat.le_of_lt fun h => Nat.le_of_eq h.1
  · exact (hmax (r', j') (List.mk_mem_zipIdx_iff_getElem?.mpr hr') _
      (candLen_eq_some_iff.mpr ⟨ha', hl', hp⟩)).elim (fun h => absurd h (Nat.lt_irrefl _)) (·.2)

theorem bestFrom_none {cfg : Cfg} {ml : Nat → Nat → Option Nat} {cur : St} {i : Nat}
    (h : bestFrom cur (fun r => ml r i) cfg.rules 0 = none) : Stuck cfg ml cur i := by
  have hs := bestFrom_spec cur (fun r => ml r i) cfg.rules 0
  rw [h] at hs
  intro j r l hr ha hl
  cases l with
  | zero => rfl
  | succ l =>
    have := (candLen_eq_some_iff (mli := fun r => ml r i) (k := j)).mpr ⟨ha, hl, Nat.succ_pos l⟩
    rw [hs (r, j) (List.mk_mem_zipIdx_iff_getElem?.mpr hr)] at this; cases this

theorem LongestEarliest.unique {cfg : Cfg} {ml : Nat → Nat → Option Nat} {cur : St} {i a la b lb : Nat}
    (h1 : LongestEarliest cfg ml cur i a la) (h2 : LongestEarliest cfg ml cur i b lb) : a = b ∧ la = lb := by
  obtain ⟨ra, hra, haa⟩ := h1.rule
  obtain ⟨rb, hrb, hab⟩ := h2.rule
  have hl : la = lb := Nat.le_antisymm (h2.longest a ra la hra haa h1.hit) (h1.longest b rb lb hrb hab h2.hit)
  subst hl
  exact ⟨Nat.le_antisymm (h1.earliest b rb hrb hab h2.hit) (h2.earliest a ra hra haa h1.hit), rfl⟩

theorem LongestEarliest.not_stuck {cfg : Cfg} {ml : Nat → Nat → Option Nat} {cur : St} {i a la : Nat}
    (h1 : LongestEarliest cfg ml cur i a la) : ¬ Stuck cfg ml cur i := fun hs => by
  obtain ⟨ra, hra, haa⟩ := h1.rule
  exact absurd h1.pos (hs a ra la hra haa h1.hit ▸ Nat.lt_irrefl 0)

theorem bestFrom_eq_some_iff {cfg : Cfg} {ml : Nat → Nat → Option Nat} {cur : St} {i x L : Nat} :
    bestFrom cur (fun r => ml r i) cfg.rules 0 = some (x, L) ↔ LongestEarliest cfg ml cur i x L := by
  refine ⟨bestFrom_some, fun h => ?_⟩
  -- `bestFrom` answers within the specification, and the specification has one answer
  cases hb : bestFrom cur (fun r => ml r i) cfg.rules 0 with
  | none => exact absurd (bestFrom_none hb) h.not_stuck
  | some p => obtain ⟨rfl, rfl⟩ := (bestFrom_some hb).unique h; rfl

theorem bestFrom_eq_none_iff {cfg : Cfg} {ml : Nat → Nat → Option Nat} {cur : St} {i : Nat} :
    bestFrom cur (fun r => ml r i) cfg.rules 0 = none ↔ Stuck cfg ml cur i := by
  refine ⟨bestFrom_none, fun h => ?_⟩
  cases hb : bestFrom cur (fun r => ml r i) cfg.rules 0 with
  | none => rfl
  | some p => exact absurd h (bestFrom_some hb).not_stuck

end GrmVerif.Lex
