import GrmVerif.Lemmas.LRIter
/-! Facts about where the LR driver reports its error. -/
namespace GrmVerif.Cert
open GrmVerif LR

variable {G : Grammar} {A : Automaton} {w : List Nat}

theorem step_laidx_mono {c c' : Cfg} (h : step G A w c = .cont c') : c.laidx ≤ c'.laidx := by
  obtain ⟨_, _, s', _, _, rfl⟩ | ⟨p, s', _, rfl⟩ := step_cont_inv h
  · exact Nat.le_succ _
  · exact Nat.le_refl _

theorem Steps.laidx_le {a b : Cfg} (h : Steps G A w a b) : a.laidx ≤ b.laidx :=
  h.keeps (Q := fun c => a.laidx ≤ c.laidx) (fun _ _ hc hs => Nat.le_trans hc (step_laidx_mono hs)) (Nat.le_refl _)

theorem step_congr {w w' : List Nat} {c : Cfg}
    (h : nextTok G w c.laidx = nextTok G w' c.laidx) : step G A w c = step G A w' c := by
  unfold step
  rw [h]

/-- steps read the input only up to where they end -/
theorem Steps.congr {w' : List Nat} {a b : Cfg} (h : Steps G A w a b)
    (hagree : ∀ k, k ≤ b.laidx → nextTok G w k = nextTok G w' k) : Steps G A w' a b := by
  induction h with
  | refl _ => exact .refl _
  | step x y z hs hyz ih =>
    exact .step x y z (step_congr (hagree _ (Nat.le_trans (step_laidx_mono hs) hyz.laidx_le)) ▸ hs) (ih hagree)

end GrmVerif.Cert
