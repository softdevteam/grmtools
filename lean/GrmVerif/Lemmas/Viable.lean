import GrmVerif.Model.CertVP
import GrmVerif.Lemmas.Closure
import GrmVerif.Lemmas.LRPath
import GrmVerif.Lemmas.Tree
/-! Viable prefixes: on a certified automaton whose closed states hold only closure items, over a
grammar with only productive rules, whatever is on the parse stack is a prefix of a sentence. -/
namespace GrmVerif.Cert
open GrmVerif Spec Fix Closure

/-- LR(0) closure of a kernel as an inductive predicate -/
inductive Clo0 (G : Grammar) (core : List Item) : Nat → Nat → Prop
  | kernel (i : Item) : i ∈ core → Clo0 G core i.p i.dot
  | close (p d q : Nat) : Clo0 G core p d → symAt G p d = some (.rule (G.lhs q)) → q < G.nprods →
      Clo0 G core q 0

theorem close0_sound (G : Grammar) (core : List Item) (S : List (Nat × Nat)) (h : close0 G core = some S) :
    ∀ x ∈ S, Clo0 G core x.1 x.2 := by
  refine lfp_sound (itemUniverse G) (derive0 G core) (fun x => Clo0 G core x.1 x.2) ?_ _ [] S (by simp) h
  intro T hT x hx hd
  simp only [derive0, Bool.or_eq_true, List.any_eq_true, Bool.and_eq_true, beq_iff_eq] at hd
  rcases hd with ⟨i, hi, h1, h2⟩ | ⟨h0, y, _, hSy, hsym⟩
  · rw [← h1, ← h2]; exact .kernel i hi
  · obtain ⟨a, b⟩ := x
    simp only at h0 hsym ⊢
    subst h0
    have hq : a < G.nprods := (mem_itemUniverse.mp hx).1
    have hy : y ∈ T := by simpa using hSy
    exact .close y.1 y.2 a (hT y hy) hsym hq

/-- some valid tree has root `X` -/
def ProdTree (G : Grammar) (X : Sym) : Prop := ∃ T, Tree.valid G T = true ∧ Tree.root G T = X

theorem trees_of_syms (G : Grammar) : ∀ (l : List Sym), (∀ X ∈ l, ProdTree G X) →
    ∃ ks, Tree.validList G ks = true ∧ ks.map (Tree.root G) = l := by
  intro l
  induction l with
  | nil => intro _; exact ⟨[], rfl, rfl⟩
  | cons X xs ih =>
    intro h
    obtain ⟨T, hv, hr⟩ := h X (by simp)
    obtain ⟨ks, hks, hm⟩ := ih (fun Y hY => h Y (by simp [hY]))
    exact ⟨T :: ks, by simp [Tree.validList, hv, hks], by simp [hr, hm]⟩

theorem productive_sound (G : Grammar) (S : List Nat) (h : productive G = some S) :
    ∀ r ∈ S, ProdTree G (.rule r) := by
  refine lfp_sound (List.range G.nrules) (deriveProd G) (fun r => ProdTree G (.rule r)) ?_ _ [] S (by simp) h
  intro T hT r _ hd
  simp only [deriveProd, List.any_eq_true, List.mem_range, Bool.and_eq_true, beq_iff_eq, List.all_eq_true] at hd
  obtain ⟨p, hp, hl, hall⟩ := hd
  have : ∀ X ∈ G.rhs p, ProdTree G X := by
    intro X hX
    have := hall X hX
    cases X with
    | tok t => exact ⟨.leaf t 0, rfl, rfl⟩
    | rule q => simp only [List.contains_eq_mem, decide_eq_true_eq] at this; exact hT q this
  obtain ⟨ks, hks, hm⟩ := trees_of_syms G _ this
  exact ⟨.node p ks, valid_node.mpr ⟨hp, hm, hks⟩, by simp [Tree.root, hl]⟩

structure PropsVP (G : Grammar) (A : Automaton) : Prop where
  minimal : ∀ s, s < A.nstates → ∀ i ∈ A.closed s, Clo0 G (A.core s) i.p i.dot
  productive : ∀ r, r < G.nrules → ProdTree G (.rule r)

-- in namespace `C05` because C05's certificate reads it on its own; it stands here because `checkVP_props` below does too
theorem _root_.GrmVerif.C05.vpClosed_minimal {G : Grammar} {A : Automaton} (h : vpClosed G A = true) :
    ∀ s, s < A.nstates → ∀ i ∈ A.closed s, Clo0 G (A.core s) i.p i.dot := by
  rw [vpClosed, allStates_iff] at h
  intro s hs i hi
  have := h s hs
  cases hc : close0 G (A.core s) with
  | none => rw [hc] at this; cases this
  | some S =>
    rw [hc] at this
    simp only [List.all_eq_true, List.contains_eq_mem, decide_eq_true_eq] at this
    exact close0_sound G _ S hc _ (this i hi)

theorem checkVP_props (G : Grammar) (A : Automaton) (h : checkVP G A = true) : PropsVP G A := by
  simp only [checkVP, Bool.and_eq_true, allProductive] at h
  obtain ⟨h1, h2⟩ := h
  refine ⟨C05.vpClosed_minimal h1, fun r hr => ?_⟩
  split at h2
  · cases h2
  · rename_i S hc
    simp only [List.all_eq_true, List.mem_range, List.contains_eq_mem, decide_eq_true_eq] at h2
    exact productive_sound G S hc r (h2 r hr)

/-- a token that may occur in an input -/
def OkTok (G : Grammar) (t : Nat) : Prop := t < G.ntoks ∧ t ≠ G.eof

def OkRoot (G : Grammar) : Sym → Prop
  | .tok t => OkTok G t
  | .rule _ => True

theorem okRoot_of_mem_rhs {G : Grammar} {A : Automaton} (P : Props G A) {p : Nat} (hp : p < G.nprods) {X : Sym}
    (hX : X ∈ G.rhs p) : OkRoot G X := by
  cases X with
  | rule _ => trivial
  | tok t =>
    refine ⟨by simpa [Grammar.symOk] using wf_sym P.wf hp hX, ?_⟩
    intro he; subst he
    exact P.noEofRhs p hp hX

theorem yield_ok {G : Grammar} {A : Automaton} (P : Props G A) :
    ∀ (T : Tree), Tree.valid G T = true → OkRoot G (Tree.root G T) → ∀ t ∈ Tree.yield T, OkTok G t := by
  refine Tree.induction_mem ?_ ?_
  · intro t _ _ hr x hx
    simp only [Tree.yield, List.mem_singleton] at hx
    subst hx; exact hr
  · intro p kids ih hv _ t ht
    obtain ⟨hp, hm, hk⟩ := valid_node.mp hv
    rw [validList_eq, List.all_eq_true] at hk
    rw [Tree.yield, yieldList_eq, List.mem_flatMap] at ht
    obtain ⟨k, hk', htk⟩ := ht
    exact ih k hk' (hk k hk') (okRoot_of_mem_rhs P hp (hm ▸ List.mem_map.mpr ⟨k, hk', rfl⟩)) t htk

theorem tail_trees {G : Grammar} {A : Automaton} (P : Props G A) (PV : PropsVP G A) {p : Nat} (hp : p < G.nprods)
    (d : Nat) : ∃ zs, Tree.validList G zs = true ∧ zs.map (Tree.root G) = (G.rhs p).drop d ∧
      ∀ t ∈ Tree.yieldList zs, OkTok G t := by
  have hall : ∀ X ∈ (G.rhs p).drop d, ProdTree G X := by
    intro X hX
    have hX' : X ∈ G.rhs p := List.mem_of_mem_drop hX
    cases X with
    | tok t => exact ⟨.leaf t 0, rfl, rfl⟩
    | rule r =>
      have : r < G.nrules := by simpa [Grammar.symOk] using wf_sym P.wf hp hX'
      exact PV.productive r this
  obtain ⟨zs, hv, hm⟩ := trees_of_syms G _ hall
  refine ⟨zs, hv, hm, fun t ht => ?_⟩
  rw [yieldList_eq, List.mem_flatMap] at ht
  obtain ⟨k, hk, htk⟩ := ht
  have : Tree.root G k ∈ (G.rhs p).drop d := by rw [← hm]; exact List.mem_map.mpr ⟨k, hk, rfl⟩
  exact yield_ok P k (List.all_eq_true.mp (validList_eq G zs ▸ hv) k hk)
    (okRoot_of_mem_rhs P hp (List.mem_of_mem_drop this)) t htk

/-- **viable-prefix context** of an item `[p, d]` on top of a stack with edge labels `labels` (top
first): a token string `v` such that WHATEVER valid trees `ts` stand for the stack symbols and `us`
for the rest of the production, a derivation tree of the start rule exists whose leaves are those of
`ts` (bottom to top), then those of `us`, then `v`. -/
def VP (G : Grammar) (S : Nat) (labels : List Sym) (p d : Nat) : Prop :=
  ∃ v : List Nat, (∀ t ∈ v, OkTok G t) ∧
    ∀ ts us, Tree.validList G ts = true → ts.map (Tree.root G) = labels →
      Tree.validList G us = true → us.map (Tree.root G) = (G.rhs p).drop d →
      ∃ T, Tree.valid G T = true ∧ Tree.root G T = .rule S ∧
        Tree.yield T = Tree.yieldList ts.reverse ++ Tree.yieldList us ++ v

theorem VP.start {G : Grammar} {S : Nat} (hS : G.rhs G.startProd = [.rule S]) : VP G S [] G.startProd 0 := by
  refine ⟨[], nofun, ?_⟩
  intro ts us _ htm hus hum
  rw [List.map_eq_nil_iff] at htm
  subst htm
  rw [hS, List.drop_zero] at hum
  obtain ⟨U, rfl, hU⟩ := List.map_eq_singleton_iff.mp hum
  simp only [Tree.validList, Bool.and_true] at hus
  exact ⟨U, hus, hU, by simp [Tree.yieldList]⟩

theorem VP.shift {G : Grammar} {S : Nat} {labels : List Sym} {p d : Nat} {X : Sym} (h : VP G S labels p d)
    (hsym : symAt G p d = some X) : VP G S (X :: labels) p (d + 1) := by
  obtain ⟨v, hv, hctx⟩ := h
  refine ⟨v, hv, ?_⟩
  intro ts us hts htm hus hum
  cases ts with
  | nil => simp at htm
  | cons tx ts0 =>
    simp only [List.map_cons, List.cons.injEq] at htm
    simp only [Tree.validList, Bool.and_eq_true] at hts
    obtain ⟨T, hT, hr, hy⟩ := hctx ts0 (tx :: us) hts.2 htm.2
      (by simp [Tree.validList, hts.1, hus])
      (by rw [drop_of_symAt hsym]; simp [htm.1, hum])
    refine ⟨T, hT, hr, ?_⟩
    rw [hy]
    simp [yieldList_eq, List.append_assoc]

theorem VP.close {G : Grammar} {A : Automaton} (P : Props G A) (PV : PropsVP G A) {S : Nat} {labels : List Sym}
    {p d q : Nat} (h : VP G S labels p d) (hsym : symAt G p d = some (.rule (G.lhs q))) (hq : q < G.nprods) :
    VP G S labels q 0 := by
  obtain ⟨v, hv, hctx⟩ := h
  have hp : p < G.nprods := symAt_lt hsym
  obtain ⟨zs, hzv, hzm, hzok⟩ := tail_trees P PV hp (d + 1)
  refine ⟨Tree.yieldList zs ++ v, ?_, ?_⟩
  · intro t ht
    rcases List.mem_append.mp ht with ht | ht
    · exact hzok t ht
    · exact hv t ht
  · intro ts us hts htm hus hum
    simp only [List.drop_zero] at hum
    have hN : Tree.valid G (.node q us) = true := valid_node.mpr ⟨hq, hum, hus⟩
    obtain ⟨T, hT, hr, hy⟩ := hctx ts (.node q us :: zs) hts htm
      (by simp [Tree.validList, hN, hzv])
      (by rw [drop_of_symAt hsym]; simp [Tree.root, hzm])
    refine ⟨T, hT, hr, ?_⟩
    rw [hy]
    simp [Tree.yieldList, Tree.yield, List.append_assoc]

/-- what holds of the start item, is kept along an edge and passes to closure items holds of every closed item of
the top state of a path (`hmin`: closed sets hold only closure items of their kernels) -/
theorem Path.closed_items {G : Grammar} {A : Automaton} (P : Props G A)
    (hmin : ∀ s, s < A.nstates → ∀ i ∈ A.closed s, Clo0 G (A.core s) i.p i.dot)
    {V : List Nat → List Sym → Nat → Nat → Prop} (hstart : V [A.start] [] G.startProd 0)
    (hgoto : ∀ {s t rest labels p d X}, V (s :: rest) labels p d → symAt G p d = some X → A.edge s X = some t →
      V (t :: s :: rest) (X :: labels) p (d + 1))
    (hclose : ∀ {σ labels p d q}, V σ labels p d → symAt G p d = some (.rule (G.lhs q)) → q < G.nprods →
      V σ labels q 0)
    {σ : List Nat} {labels : List Sym} (h : Path A σ labels) :
    ∀ s rest, σ = s :: rest → ∀ p d, HasItem (A.closed s) p d → V σ labels p d := by
  have clo : ∀ {σ labels core}, (∀ k ∈ core, V σ labels k.p k.dot) → ∀ {p d}, Clo0 G core p d → V σ labels p d := by
    intro σ labels core hk p d h
    induction h with
    | kernel i hi => exact hk i hi
    | close p d q _ hsym hq ih => exact hclose ih hsym hq
  induction h with
  | base =>
    intro s rest hs p d hi
    obtain ⟨rfl, -⟩ := List.cons.inj hs
    obtain ⟨i, him, rfl, rfl⟩ := hi
    refine clo (fun k hk => ?_) (hmin _ P.startLt i him)
    obtain ⟨hkp, hkd⟩ := P.startCore k hk
    rw [hkp, hkd]
    exact hstart
  | step s t rest labels X hp he ih =>
    intro s' rest' hs p d hi
    obtain ⟨rfl, -⟩ := List.cons.inj hs
    obtain ⟨htlt, _, hcore⟩ := P.edgeTarget s (hp.states_lt P s (by simp)) _ (edge_mem he)
    obtain ⟨i, him, rfl, rfl⟩ := hi
    refine clo (fun k hk => ?_) (hmin _ htlt i him)
    obtain ⟨hk0, hksym, hkprev⟩ := hcore k hk
    have := hgoto (ih s rest rfl k.p (k.dot - 1) hkprev) hksym he
    rwa [Nat.sub_add_cancel hk0] at this

theorem viable {G : Grammar} {A : Automaton} (P : Props G A) (PV : PropsVP G A) (S : Nat)
    (hS : G.rhs G.startProd = [.rule S]) {states : List Nat} {labels : List Sym} (h : Path A states labels) :
    ∀ s rest, states = s :: rest → ∀ p d, HasItem (A.closed s) p d → VP G S labels p d :=
  h.closed_items P PV.minimal (V := fun _ labels p d => VP G S labels p d) (.start hS) (fun h hsym _ => h.shift hsym)
    (.close P PV)

theorem path_top_item {G : Grammar} {A : Automaton} (P : Props G A) {s : Nat} {rest : List Nat} {labels : List Sym}
    (h : Path A (s :: rest) labels) : ∃ p d, HasItem (A.closed s) p d := by
  have hs : s < A.nstates := h.states_lt P s (by simp)
  have : ∃ i, i ∈ A.core s := by
    cases h with
    | base => obtain ⟨i, hi, _⟩ := P.startHas; exact ⟨i, hi⟩
    | step s1 _ rest1 labels1 X hp he =>
      exact List.exists_mem_of_ne_nil _ (P.edgeTarget s1 (hp.states_lt P s1 (by simp)) _ (edge_mem he)).2.1
  obtain ⟨i, hi⟩ := this
  exact ⟨i.p, i.dot, P.coreSub s hs i hi⟩

end GrmVerif.Cert
