import GrmVerif.Model.QueryProg
/-! A strategy (`Prog`) and the plain LR loop (`lrRun`) see a grammar and a table only through the answers to the queries
they put: two records of query functions that agree on the indices in range (`Agree`), the first of which never answers
out of range (`Closed`), give the same run. -/
namespace GrmVerif.C14

theorem Prog.run_congr {Q A β : Type} (P : Prog Q A β) (o₁ o₂ : Q → A)
    (h : ∀ q ∈ P.asked o₁, o₁ q = o₂ q) : P.run o₁ = P.run o₂ := by
  induction P with
  | ret b => rfl
  | ask q k ih =>
    rw [Prog.run, Prog.run, ← h q (.head _)]
    exact ih _ fun q' hq' => h q' (.tail _ hq')

/-- agreement of two query records on all in-range indices -/
structure Agree (T₁ T₂ : Queries) (ns nt nr np : Nat) : Prop where
  action : ∀ s t, s < ns → t < nt → T₁.action s t = T₂.action s t
  goto : ∀ s r, s < ns → r < nr → T₁.goto s r = T₂.goto s r
  prodLen : ∀ p, p < np → T₁.prodLen p = T₂.prodLen p
  prodRule : ∀ p, p < np → T₁.prodRule p = T₂.prodRule p
  start : T₁.start = T₂.start
  eof : T₁.eof = T₂.eof

theorem afterReduce_congr {T₁ T₂ : Queries} {ns nt nr np : Nat} (hc : Closed T₁ ns nt nr np)
    (ha : Agree T₁ T₂ ns nt nr np) (p : Nat) (hp : p < np) (stack : List Nat)
    (hs : ∀ s ∈ stack, s < ns) :
    afterReduce T₁ p stack = afterReduce T₂ p stack ∧
      ∀ st', afterReduce T₁ p stack = some st' → ∀ s ∈ st', s < ns := by
  unfold afterReduce
  rw [← ha.prodLen p hp, ← ha.prodRule p hp]
  cases hd : stack.drop (T₁.prodLen p) with
  | nil => simp
  | cons prior below =>
    have hsub : ∀ s ∈ prior :: below, s < ns := fun s hm => hs s (List.mem_of_mem_drop (hd ▸ hm))
    have hprior : prior < ns := hsub prior (by simp)
    have hr : T₁.prodRule p < nr := hc.rule p hp
    simp only []
    rw [← ha.goto prior _ hprior hr]
    refine ⟨rfl, ?_⟩
    intro st' h
    cases hg : T₁.goto prior (T₁.prodRule p) with
    | none => simp [hg] at h
    | some s =>
      simp only [hg, Option.some.injEq] at h
      subst h
      exact List.forall_mem_cons.mpr ⟨hc.goto prior _ _ hprior hr hg, hsub⟩

theorem lrRun_congr {T₁ T₂ : Queries} {ns nt nr np : Nat} (hc : Closed T₁ ns nt nr np)
    (ha : Agree T₁ T₂ ns nt nr np) :
    ∀ (fuel : Nat) (stack input : List Nat) (pos : Nat) (log : List Nat),
      (∀ s ∈ stack, s < ns) → (∀ t ∈ input, t < nt) →
      lrRun T₁ fuel stack input pos log = lrRun T₂ fuel stack input pos log := by
  intro fuel
  induction fuel with
  | zero => intro stack input pos log _ _; simp [lrRun]
  | succ fuel ih =>
    intro stack input pos log hs hi
    cases stack with
    | nil => simp [lrRun]
    | cons st below =>
      have hst : st < ns := hs st (by simp)
      have hla : input.headD T₁.eof < nt := by
        cases input with
        | nil => simpa using hc.eof
        | cons t _ => simpa using hi t (by simp)
      have hact : T₁.action st (input.headD T₁.eof) = T₂.action st (input.headD T₂.eof) := by
        rw [← ha.eof]; exact ha.action st _ hst hla
      simp only [lrRun]
      rw [← hact]
      by_cases h1 : T₁.action st (input.headD T₁.eof) % 4 = 1
      · simp only [h1, if_true]
        cases input with
        | nil => rfl
        | cons t rest =>
          exact ih _ _ _ _ (List.forall_mem_cons.mpr ⟨hc.shift st _ hst hla h1, hs⟩)
            fun t' hm => hi t' (.tail _ hm)
      · simp only [h1, if_false]
        by_cases h2 : T₁.action st (input.headD T₁.eof) % 4 = 2
        · simp only [h2, if_true]
          have hp := hc.reduce st _ hst hla h2
          obtain ⟨he, hin⟩ := afterReduce_congr hc ha _ hp (st :: below) hs
          rw [← he]
          cases hr : afterReduce T₁ (T₁.action st (input.headD T₁.eof) / 4) (st :: below) with
          | none => rfl
          | some st' =>
            simp only []
            exact ih st' input pos _ (hin st' hr) hi
        · simp only [h2, if_false]

end GrmVerif.C14
