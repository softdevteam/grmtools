import GrmVerif.Lemmas.PagerInv
/-!
The soundness invariant of the main loop of `pager_stategraph`, part B: the edges. An edge is inserted
with its goto set included in the target's core at that moment, and cores only grow; the edges of a
state are completely regenerated when it is processed again. Then the `new_states` loop, carrying all parts of
the invariant (`processNew_step`, `processAll_spec`).
-/
namespace GrmVerif.PagerImpl
open CloseImpl Closure

/-- the goto set of `cl` over `X` is non-empty, has the core items of `tgt`, and its contexts are included
in those of `tgt` -/
def GotoInto (G : Grammar) (cl : List Item) (X : Sym) (tgt : List Item) : Prop :=
  ∃ n, goto G X cl = some n ∧ n ≠ [] ∧ SameCores n tgt ∧ ∀ p d t, HasLa n p d t → HasLa tgt p d t

theorem GotoInto.mono {G : Grammar} {cl : List Item} {X : Sym} {a b : List Item} (h : GotoInto G cl X a)
    (hg : Grow a b) : GotoInto G cl X b := by
  obtain ⟨n, h1, h2, h3, h4⟩ := h
  exact ⟨n, h1, h2, fun p d => (h3 p d).trans (hg.hasItem p d).symm, fun p d t hl => hg.2 p d t (h4 p d t hl)⟩

/-- `X` follows the dot of some item of the closure of `c` -/
def SymIn (G : Grammar) (c : List Item) (X : Sym) : Prop :=
  ∃ p d, ClosureP G c (.item p d) ∧ (G.rhs p)[d]? = some X

/-- cores only grow, so closures only grow -/
theorem closureP_mono {G : Grammar} {a b : List Item} (hg : Grow a b) {x : CFact} (h : ClosureP G a x) : ClosureP G b x := by
  induction h with
  | kitem i hi =>
    obtain ⟨j, hj, e1, e2⟩ := (hg.hasItem i.p i.dot).mpr ⟨i, hi, rfl, rfl⟩
    rw [← e1, ← e2]; exact .kitem j hj
  | kla i t hi ht =>
    obtain ⟨j, hj, e1, e2, ht'⟩ := hg.2 i.p i.dot t ⟨i, hi, rfl, rfl, ht⟩
    rw [← e1, ← e2]; exact .kla j t hj ht'
  | citem p d q _ hs hq ih => exact .citem p d q ih hs hq
  | cfirst p d q t _ hs hq hf ih => exact .cfirst p d q t ih hs hq hf
  | cinherit p d q t _ hs hq hn _ ih1 ih2 => exact .cinherit p d q t ih1 hs hq hn ih2

theorem SymIn.mono {G : Grammar} {a b : List Item} {X : Sym} (h : SymIn G a X) (hg : Grow a b) : SymIn G b X := by
  obtain ⟨p, d, h1, h2⟩ := h
  exact ⟨p, d, closureP_mono hg h1, h2⟩

/-- the target of edge `e` out of a state whose closed item set is `cl` is a state whose core includes the
goto set of `cl` over `e`'s symbol (`GotoInto`) -/
def EdgeOkAt (G : Grammar) (core : List (List Item)) (cl : List Item) (e : Sym × Nat) : Prop :=
  ∃ tgt, core[e.2]? = some tgt ∧ GotoInto G cl e.1 tgt

/-- edges of the closed states (except the one being processed, `skip`) and symbols of all edges.
`staleOk` is about the edges a re-opened state still has from its earlier pass, of which `edgeOk` says nothing
until the state is closed again: each is over a symbol after a dot of the closure of the (grown) core, so the
new pass inserts an edge over that symbol and overwrites it. -/
structure InvB (G : Grammar) (st : St) (skip : Option Nat) : Prop where
  edgeOk : ∀ (s : Nat) (cl : List Item) (es : List (Sym × Nat)), some s ≠ skip →
    st.closed[s]? = some (some cl) → st.edges[s]? = some es →
      (∀ e ∈ es, EdgeOkAt G st.core cl e) ∧
      (∀ p d X, HasItem cl p d → (G.rhs p)[d]? = some X → ∃ e ∈ es, e.1 = X)
  staleOk : ∀ (s : Nat) (c : List Item) (es : List (Sym × Nat)), st.core[s]? = some c → st.edges[s]? = some es →
    ∀ e ∈ es, SymIn G c e.1

/-- the state being processed: its core has only grown since it was closed to `cl`; the edges for the
symbols handled so far (`done`) are in place and sound -/
structure InvP (G : Grammar) (st : St) (stateI : Nat) (core0 cl : List Item) (done : List Sym) : Prop where
  grow : ∃ c, st.core[stateI]? = some c ∧ Grow core0 c
  curCl : ∀ cl', st.closed[stateI]? = some (some cl') → cl' = cl
  cur : ∀ es, st.closed[stateI]? = some (some cl) → st.edges[stateI]? = some es →
    (∀ e ∈ es, e.1 ∈ done → EdgeOkAt G st.core cl e) ∧ (∀ X ∈ done, ∃ e ∈ es, e.1 = X)

theorem EdgeOkAt.mono {G : Grammar} {core core' : List (List Item)} {cl : List Item} {e : Sym × Nat}
    (h : EdgeOkAt G core cl e)
    (hcg : ∀ (s : Nat) (x : List Item), core[s]? = some x → ∃ x', core'[s]? = some x' ∧ Grow x x') :
    EdgeOkAt G core' cl e := by
  obtain ⟨tgt, h1, h2⟩ := h
  obtain ⟨x', h3, h4⟩ := hcg _ _ h1
  exact ⟨x', h3, h2.mono h4⟩

/-- one step of the inner loop, abstractly: cores grow pointwise, closed states stay as they were or are
re-opened, only the edge map of `stateI` changes (by one insertion whose target is sound), new states
have no edges -/
theorem step_invB {G : Grammar} {st st' : St} {stateI : Nat} {core0 cl : List Item} {done : List Sym}
    {sym : Sym} {t : Nat} {es0 : List (Sym × Nat)}
    (inv : InvA G st) (invB : InvB G st (some stateI)) (invP : InvP G st stateI core0 cl done)
    (hcg : ∀ (s : Nat) (x : List Item), st.core[s]? = some x → ∃ x', st'.core[s]? = some x' ∧ Grow x x')
    (hcl : ∀ (s : Nat) (cl' : List Item), st'.closed[s]? = some (some cl') → st.closed[s]? = some (some cl'))
    (hedges : ∀ (s : Nat), s ≠ stateI → ∀ es : List (Sym × Nat), st'.edges[s]? = some es →
      st.edges[s]? = some es ∨ (es = [] ∧ st.core[s]? = none))
    (he0 : st.edges[stateI]? = some es0) (he1 : st'.edges[stateI]? = some (edgeInsert es0 sym t))
    (hnew : st'.closed[stateI]? = some (some cl) → EdgeOkAt G st'.core cl (sym, t))
    (hsym : SymIn G core0 sym) :
    InvB G st' (some stateI) ∧ InvP G st' stateI core0 cl (sym :: done) := by
  have hcore_of_edges : ∀ (s : Nat) (es : List (Sym × Nat)), st.edges[s]? = some es → ∃ c, st.core[s]? = some c :=
    fun s es hes => getElem?_of_lt (by rw [← inv.len2]; exact getElem?_some_lt hes)
  constructor
  · constructor
    · intro s cl' es hne hc he
      have hne' : s ≠ stateI := fun e => hne (by rw [e])
      have hc0 := hcl s cl' hc
      rcases hedges s hne' es he with h1 | ⟨_, h2⟩
      · obtain ⟨a, b⟩ := invB.edgeOk s cl' es hne hc0 h1
        exact ⟨fun e he' => (a e he').mono hcg, b⟩
      · have := getElem?_some_lt hc0
        rw [inv.len1] at this
        exact absurd this (Nat.not_lt.mpr (List.getElem?_eq_none_iff.mp h2))
    · intro s c' es hc' he e hee
      by_cases hs : s = stateI
      · subst hs
        rw [he1] at he; cases he
        obtain ⟨c, hc, hg⟩ := invP.grow
        obtain ⟨x', hx', hg'⟩ := hcg _ _ hc
        rw [hc'] at hx'; cases hx'
        rcases mem_edgeInsert.mp hee with rfl | ⟨h1, _⟩
        · exact hsym.mono (hg.trans hg')
        · exact (invB.staleOk s c es0 hc he0 e h1).mono hg'
      · rcases hedges s hs es he with h1 | ⟨h2, _⟩
        · obtain ⟨c, hc⟩ := hcore_of_edges s es h1
          obtain ⟨x', hx', hg'⟩ := hcg _ _ hc
          rw [hc'] at hx'; cases hx'
          exact (invB.staleOk s c es hc h1 e hee).mono hg'
        · subst h2; cases hee
  · constructor
    · obtain ⟨c, hc, hg⟩ := invP.grow
      obtain ⟨x', hx', hg'⟩ := hcg _ _ hc
      exact ⟨x', hx', hg.trans hg'⟩
    · intro cl' hc
      exact invP.curCl cl' (hcl _ _ hc)
    · intro es hc he
      rw [he1] at he; cases he
      obtain ⟨a0, b0⟩ := invP.cur es0 (hcl _ _ hc) he0
      constructor
      · intro e hee hd
        rcases mem_edgeInsert.mp hee with rfl | ⟨h1, hk⟩
        · exact hnew hc
        · exact (a0 e h1 ((List.mem_cons.mp hd).resolve_left hk)).mono hcg
      · intro X hX
        rcases List.mem_cons.mp hX with rfl | hX
        · exact ⟨_, mem_edgeInsert.mpr (Or.inl rfl), rfl⟩
        · obtain ⟨e, he, hk⟩ := b0 X hX
          by_cases hs : X = sym
          · exact ⟨_, mem_edgeInsert.mpr (Or.inl rfl), hs.symm⟩
          · exact ⟨e, mem_edgeInsert.mpr (Or.inr ⟨he, fun h => hs (hk.symm.trans h)⟩), hk⟩

/-- what the `new_states` loop is handed for the closed state `cl` of core `core0`: a symbol after a dot of `cl`
with the goto set over it -/
def NewOk (G : Grammar) (core0 cl : List Item) (sn : Sym × List Item) : Prop :=
  goto G sn.1 cl = some sn.2 ∧ G.symOk sn.1 = true ∧ ItemsOk G sn.2 ∧ sn.2 ≠ [] ∧ SymIn G core0 sn.1

theorem processNew_step {G : Grammar} {maxStates stateI : Nat} {st : St} {sn : Sym × List Item}
    {core0 cl : List Item} {done : List Sym}
    (inv : InvT G st) (invB : InvB G st (some stateI)) (invP : InvP G st stateI core0 cl done)
    (hsn : NewOk G core0 cl sn) :
    (processNew maxStates stateI st sn = none ∧ maxStates ≤ st.core.length) ∨
    ∃ st', processNew maxStates stateI st sn = some st' ∧ InvT G st' ∧ st'.core.length ≤ st.core.length + 1 ∧
      InvB G st' (some stateI) ∧ InvP G st' stateI core0 cl (sn.1 :: done) := by
  obtain ⟨hg, hsok, hn, hne, hsym⟩ := hsn
  obtain ⟨c0, hc0, _⟩ := invP.grow
  obtain ⟨cnds, es, t, hc, hes, hcase⟩ := processNew_spec (maxStates := maxStates) inv (getElem?_some_lt hc0) hsok hn
  have hlen : (st.edges.set stateI (edgeInsert es sn.1 t)).length = st.core.length := by rw [List.length_set, inv.len2]
  -- the edge table after the insertion, before a possible `push`
  have hE1 : (st.edges.set stateI (edgeInsert es sn.1 t))[stateI]? = some (edgeInsert es sn.1 t) :=
    List.getElem?_set_self (getElem?_some_lt hes)
  have hE2 : ∀ s, s ≠ stateI → ∀ es' : List (Sym × Nat), (st.edges.set stateI (edgeInsert es sn.1 t))[s]? = some es' →
      st.edges[s]? = some es' ∨ (es' = [] ∧ st.core[s]? = none) :=
    fun s hs es' h => Or.inl (by rwa [List.getElem?_set_ne (Ne.symm hs)] at h)
  rcases hcase with ⟨hcm, ⟨cs, hcs, hsame, hla⟩, e⟩ |
    ⟨ck, R, ch, clk, hk, hck, hclk, hsame, _, hgr, hR, hgrow2, hun, e⟩ | ⟨cnd, rfl, hp, e⟩
  · -- exact match: only an edge is added
    refine Or.inr ⟨_, e, ⟨⟨inv.len1, hlen, inv.coreOk, inv.start, inv.cnd, inv.closedOk,
      edges_set_range hes (inv.cnd _ _ hc t hcm).2 inv.edgeRange⟩, inv.todo, inv.cndRLen, inv.cndTLen, inv.coreNe⟩,
      Nat.le_succ _, ?_⟩
    exact step_invB inv.toInvA invB invP (fun s x hx => ⟨x, hx, Grow.refl x⟩) (fun s cl' h => h) hE2 hes hE1
      (fun _ => ⟨cs, hcs, sn.2, hg, hne, fun p d => (hsame p d).symm, fun p d t hl => (hla p d t).mpr hl⟩) hsym
  · -- weakly compatible match: merge into `t`
    obtain ⟨hpos, hlt⟩ := inv.cnd _ _ hc t hk
    refine Or.inr ⟨_, e, ⟨⟨?_, hlen.trans List.length_set.symm, ?_, ?_, ?_, ?_, ?_⟩,
      ?_, inv.cndRLen, inv.cndTLen, fun s c hs => ?_⟩, Nat.le_trans (Nat.le_of_eq List.length_set) (Nat.le_succ _), ?_⟩
    · show List.length (if (ch && clk.isSome) = true then st.closed.set t none else st.closed) = (st.core.set t R).length
      rw [apply_ite List.length, List.length_set, ite_self, List.length_set]; exact inv.len1
    · intro s c hs
      rcases getElem?_set_some hs with ⟨_, rfl⟩ | ⟨_, hs⟩
      · exact hR
      · exact inv.coreOk s c hs
    · show (st.core.set t R)[0]? = _
      rw [List.getElem?_set_ne (Nat.ne_of_gt hpos)]; exact inv.start
    · dsimp only; rw [List.length_set]; exact inv.cnd
    · intro s cl c hcl' hs
      obtain ⟨hcl0, hb⟩ := getElem?_reopen hcl'
      rcases getElem?_set_some hs with ⟨rfl, rfl⟩ | ⟨_, hs⟩
      · -- still closed: the merge did not change the core
        rw [hclk] at hcl0; cases hcl0
        rw [hun (by simpa using hb rfl)]
        exact inv.closedOk s cl ck hclk hck
      · exact inv.closedOk s cl c hcl0 hs
    · dsimp only; rw [List.length_set]
      exact edges_set_range hes hlt inv.edgeRange
    · show (if (ch && clk.isSome) = true then st.todo + 1 else st.todo) =
        cnone (if (ch && clk.isSome) = true then st.closed.set t none else st.closed)
      by_cases hb : (ch && clk.isSome) = true
      · rw [if_pos hb, if_pos hb]
        cases clk with
        | none => simp at hb
        | some x => rw [inv.todo]; exact (cnone_set _ _ (some x) none hclk).symm
      · rw [if_neg hb, if_neg hb]; exact inv.todo
    · rcases getElem?_set_some hs with ⟨_, rfl⟩ | ⟨_, hs⟩
      · exact fun e => inv.coreNe t ck hck (List.map_eq_nil_iff.mp (hgr.1.symm.trans (congrArg keysOf e)))
      · exact inv.coreNe s c hs
    · refine step_invB inv.toInvA invB invP ?_ (fun s cl' hcl' => (getElem?_reopen hcl').1) hE2 hes hE1
        (fun _ => ⟨R, List.getElem?_set_self hlt, sn.2, hg, hne,
          fun p d => ((hsame p d).symm.trans (hgr.hasItem p d).symm), hgrow2⟩) hsym
      intro s x hx
      by_cases hts : t = s
      · subst hts
        rw [hck] at hx; cases hx
        exact ⟨R, List.getElem?_set_self hlt, hgr⟩
      · exact ⟨x, by rw [← hx]; exact List.getElem?_set_ne hts, Grow.refl x⟩
  · -- a new state, unless `StorageT` cannot number it
    by_cases hmax : st.core.length ≥ maxStates
    · rw [if_pos hmax] at e; exact Or.inl ⟨e, hmax⟩
    rw [if_neg hmax] at e
    obtain ⟨hp1, l1, l2⟩ := cndPush_some hp
    have hsI : stateI < (st.edges.set stateI (edgeInsert es sn.1 st.core.length)).length := getElem?_some_lt hE1
    refine Or.inr ⟨_, e, ⟨⟨by rw [List.length_append, List.length_append, inv.len1]; rfl,
      by rw [List.length_append, List.length_append, hlen]; rfl, ?_, ?_, ?_, ?_, ?_⟩,
      ?_, l1.trans inv.cndRLen, l2.trans inv.cndTLen, fun s c hs => ?_⟩,
      Nat.le_of_eq (List.length_append (bs := [sn.2])), ?_⟩
    · intro s c hs
      rcases getElem?_concat_some hs with hs | ⟨_, rfl⟩
      · exact inv.coreOk s c hs
      · exact hn
    · show (st.core ++ [sn.2])[0]? = _
      rw [List.getElem?_append_left inv.pos]; exact inv.start
    · intro sym cnds h k hk
      show _ ∧ k < (st.core ++ [sn.2]).length
      rw [List.length_append, List.length_singleton]
      rcases hp1 sym cnds h k hk with rfl | ⟨l0, h0, hk0⟩
      · exact ⟨inv.pos, Nat.lt_succ_self _⟩
      · exact ⟨(inv.cnd _ _ h0 k hk0).1, Nat.lt_succ_of_lt (inv.cnd _ _ h0 k hk0).2⟩
    · intro s cl c hcl hs
      rcases getElem?_concat_some hcl with hcl | ⟨_, h⟩
      · rcases getElem?_concat_some hs with hs | ⟨rfl, _⟩
        · exact inv.closedOk s cl c hcl hs
        · exact absurd (getElem?_some_lt hcl) (by rw [inv.len1]; exact Nat.lt_irrefl _)
      · cases h
    · intro s es' hes' e he
      show e.2 < (st.core ++ [sn.2]).length
      rw [List.length_append, List.length_singleton]
      rcases getElem?_concat_some hes' with hes' | ⟨_, rfl⟩
      · exact edges_set_range hes (Nat.lt_succ_self _) (fun s' es'' h e' he' =>
          Nat.lt_succ_of_lt (inv.edgeRange s' es'' h e' he')) s es' hes' e he
      · cases he
    · show st.todo + 1 = cnone (st.closed ++ [none])
      rw [cnone_append_none, inv.todo]
    · rcases getElem?_concat_some hs with hs | ⟨_, rfl⟩
      · exact inv.coreNe s c hs
      · exact hne
    · refine step_invB inv.toInvA invB invP ?_ ?_ ?_ hes (by rw [← hE1]; exact List.getElem?_append_left hsI)
        (fun _ => ⟨sn.2, List.getElem?_concat_length, sn.2, hg, hne, fun p d => Iff.rfl, fun p d t hl => hl⟩) hsym
      · intro s x hx
        exact ⟨x, by rw [← hx]; exact List.getElem?_append_left (getElem?_some_lt hx), Grow.refl x⟩
      · intro s cl' hcl'
        rcases getElem?_concat_some hcl' with h | ⟨_, h⟩
        · exact h
        · cases h
      · intro s hs es' hes'
        rcases getElem?_concat_some hes' with h | ⟨rfl, rfl⟩
        · exact hE2 s hs es' h
        · exact Or.inr ⟨rfl, List.getElem?_eq_none (by rw [List.length_set, inv.len2]; exact Nat.le_refl _)⟩

theorem processAll_spec {G : Grammar} {maxStates stateI : Nat} {core0 cl : List Item} (news : List (Sym × List Item)) :
    ∀ {st : St} {done : List Sym}, InvT G st → InvB G st (some stateI) → InvP G st stateI core0 cl done →
      (∀ sn ∈ news, NewOk G core0 cl sn) →
      (processAll maxStates stateI st news = none ∧ maxStates < st.core.length + news.length) ∨
      ∃ st', processAll maxStates stateI st news = some st' ∧ InvT G st' ∧ InvB G st' (some stateI) ∧
        InvP G st' stateI core0 cl (news.reverse.map (·.1) ++ done) ∧ st'.core.length ≤ st.core.length + news.length := by
  induction news with
  | nil => intro st done inv invB invP _; exact Or.inr ⟨st, rfl, inv, invB, invP, Nat.le_refl _⟩
  | cons sn rest ih =>
    intro st done inv invB invP hn
    rw [processAll, List.length_cons]
    rcases processNew_step (maxStates := maxStates) inv invB invP (hn sn (List.mem_cons_self ..)) with
      ⟨hp, hm⟩ | ⟨st1, hp, inv1, hle, invB1, invP1⟩
    · rw [hp]; exact Or.inl ⟨rfl, Nat.lt_of_le_of_lt hm (Nat.lt_add_of_pos_right (Nat.succ_pos _))⟩
    rw [hp]
    have hle' : st1.core.length + rest.length ≤ st.core.length + (rest.length + 1) := by
      rw [Nat.add_comm rest.length 1, ← Nat.add_assoc]; exact Nat.add_le_add_right hle _
    rcases ih inv1 invB1 invP1 (fun x hx => hn x (List.mem_cons_of_mem _ hx)) with ⟨e, hlt⟩ | ⟨st', e, a, b, c, hl⟩
    · exact Or.inl ⟨e, Nat.lt_of_lt_of_le hlt hle'⟩
    · refine Or.inr ⟨st', e, a, b, ?_, Nat.le_trans hl hle'⟩
      rw [List.reverse_cons, List.map_append, List.append_assoc]; exact c

theorem initSt_invB (G : Grammar) : InvB G (initSt G) none := by
  constructor
  · intro s cl es _ hc _
    cases List.mem_singleton.mp (List.mem_of_getElem? hc)
  · intro s c es _ he e hee
    cases List.mem_singleton.mp (List.mem_of_getElem? he)
    cases hee

end GrmVerif.PagerImpl
