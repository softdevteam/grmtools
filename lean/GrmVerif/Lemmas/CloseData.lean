import GrmVerif.Model.CloseImpl
import GrmVerif.Lemmas.Closure
import GrmVerif.Lemmas.Nodup
/-! Data-structure lemmas for the model of `Itemset::close` (`Model/CloseImpl.lean`): bit vectors as
lists of set bits, the item map as an association list with distinct keys, `Itemset::add`, the
lookahead loop, the inner `for` loop over the productions of a rule. -/
namespace GrmVerif.CloseImpl
open GrmVerif Ref Closure Fix

/-- the same predicate as `Cert.HasItem` of `Lemmas/CertProps.lean`, which the certificate side speaks -/
def HasItem (is : List Item) (p d : Nat) : Prop := ∃ i ∈ is, i.p = p ∧ i.dot = d
/-- token `t` is in the context of the item `[p, d]` -/
def HasLa (is : List Item) (p d t : Nat) : Prop := ∃ i ∈ is, i.p = p ∧ i.dot = d ∧ t ∈ i.la
/-- the keys of a hash map are distinct -/
def KeysNodup (is : List Item) : Prop := (keysOf is).Nodup

def factsOf (is : List Item) : List CFact :=
  is.flatMap (fun i => CFact.item i.p i.dot :: i.la.map (fun t => CFact.la i.p i.dot t))

theorem mem_factsOf_item {is : List Item} {p d : Nat} : CFact.item p d ∈ factsOf is ↔ HasItem is p d := by
  simp only [factsOf, List.mem_flatMap, List.mem_cons, List.mem_map, HasItem]
  constructor
  · rintro ⟨i, hi, h | ⟨t, _, h⟩⟩
    · cases h; exact ⟨i, hi, rfl, rfl⟩
    · cases h
  · rintro ⟨i, hi, rfl, rfl⟩; exact ⟨i, hi, Or.inl rfl⟩

theorem mem_factsOf_la {is : List Item} {p d t : Nat} : CFact.la p d t ∈ factsOf is ↔ HasLa is p d t := by
  simp only [factsOf, List.mem_flatMap, List.mem_cons, List.mem_map, HasLa]
  constructor
  · rintro ⟨i, hi, h | ⟨t', ht', h⟩⟩
    · cases h
    · cases h; exact ⟨i, hi, rfl, rfl, ht'⟩
  · rintro ⟨i, hi, rfl, rfl, ht⟩; exact ⟨i, hi, Or.inr ⟨t, ht, rfl⟩⟩

theorem mem_vobOr {a b : Ctx} {t : Nat} : t ∈ (vobOr a b).1 ↔ t ∈ a ∨ t ∈ b := by
  simp only [vobOr, List.mem_append, List.mem_filter, Bool.not_eq_true', List.contains_eq_mem,
    decide_eq_false_iff_not]
  exact ⟨fun h => h.imp_right And.left,
    fun h => if ha : t ∈ a then Or.inl ha else h.imp_right fun hb => ⟨hb, ha⟩⟩

theorem vobOr_flag {a b : Ctx} : (vobOr a b).2 = true ↔ ∃ t ∈ b, t ∉ a := by
  simp only [vobOr, Bool.not_eq_true', List.isEmpty_eq_false_iff_exists_mem, List.mem_filter, List.contains_eq_mem,
    decide_eq_false_iff_not]

theorem vobOr_changed {a b : Ctx} (h : (vobOr a b).2 = true) : ∃ t ∈ b, t ∉ a := vobOr_flag.mp h

theorem vobOr_unchanged {a b : Ctx} (h : (vobOr a b).2 = false) : (vobOr a b).1 = a ∧ ∀ t ∈ b, t ∈ a := by
  refine ⟨?_, fun t ht => Decidable.byContradiction fun hn => ?_⟩
  · simp only [vobOr, Bool.not_eq_false', List.isEmpty_iff] at h
    show a ++ b.filter (fun t => !a.contains t) = a
    rw [h, List.append_nil]
  · rw [vobOr_flag.mpr ⟨t, ht, hn⟩] at h; cases h

theorem mem_vobSet {a : Ctx} {t x : Nat} : x ∈ vobSet a t ↔ x ∈ a ∨ x = t := by
  unfold vobSet
  split
  · next h => exact ⟨Or.inl, fun h' => h'.elim id fun e => e ▸ List.contains_iff_mem.mp h⟩
  · simp

theorem vobSet_length (a : Ctx) (t : Nat) : (vobSet a t).length ≤ a.length + 1 := by
  unfold vobSet; split <;> simp

theorem mem_vobClear {a : Ctx} {t x : Nat} : x ∈ vobClear a t ↔ x ∈ a ∧ x ≠ t := by
  simp [vobClear]

theorem vobClear_length {a : Ctx} {t : Nat} (h : t ∈ a) : (vobClear a t).length < a.length := by
  unfold vobClear
  rw [List.length_filter_lt_length_iff_exists]
  exact ⟨t, h, by simp⟩

theorem mem_firstsRow {G : Grammar} {F : Nat × Nat → Bool} {r t : Nat} :
    t ∈ firstsRow G F r ↔ t < G.ntoks ∧ F (r, t) = true := by
  simp [firstsRow]

theorem isKey_iff {p d : Nat} {i : Item} : isKey p d i = true ↔ i.p = p ∧ i.dot = d := by
  simp [isKey]

theorem keysNodup_cons {i : Item} {is : List Item} :
    KeysNodup (i :: is) ↔ ¬ HasItem is i.p i.dot ∧ KeysNodup is := by
  simp only [KeysNodup, keysOf, List.map_cons, List.nodup_cons, List.mem_map, Prod.mk.injEq, HasItem]

theorem hasItem_cons {i : Item} {is : List Item} {p d : Nat} :
    HasItem (i :: is) p d ↔ (i.p = p ∧ i.dot = d) ∨ HasItem is p d := by
  simp [HasItem]

theorem hasLa_cons {i : Item} {is : List Item} {p d t : Nat} :
    HasLa (i :: is) p d t ↔ (i.p = p ∧ i.dot = d ∧ t ∈ i.la) ∨ HasLa is p d t := by
  simp [HasLa]

theorem hasLa_hasItem {is : List Item} {p d t : Nat} (h : HasLa is p d t) : HasItem is p d := by
  obtain ⟨i, hi, h1, h2, _⟩ := h; exact ⟨i, hi, h1, h2⟩

theorem keysNodup_mem_eq {is : List Item} (h : KeysNodup is) {x y : Item} (hx : x ∈ is) (hy : y ∈ is)
    (e1 : x.p = y.p) (e2 : x.dot = y.dot) : x = y :=
  eq_of_nodup_map h hx hy (Prod.ext e1 e2)

theorem hasLa_iff_mem {is : List Item} (hnd : KeysNodup is) {i : Item} (hi : i ∈ is) {t : Nat} :
    HasLa is i.p i.dot t ↔ t ∈ i.la :=
  ⟨fun ⟨_, hj, e1, e2, ht⟩ => keysNodup_mem_eq hnd hj hi e1 e2 ▸ ht, fun ht => ⟨i, hi, rfl, rfl, ht⟩⟩

theorem lookup_some {is : List Item} (hnd : KeysNodup is) {p d : Nat} {l : Ctx} (h : lookup is p d = some l) :
    HasItem is p d ∧ ∀ t, t ∈ l ↔ HasLa is p d t := by
  obtain ⟨i, hf, rfl⟩ := Option.map_eq_some_iff.mp h
  obtain ⟨rfl, rfl⟩ := isKey_iff.mp (List.find?_some hf)
  have hi := List.mem_of_find?_eq_some hf
  exact ⟨⟨i, hi, rfl, rfl⟩, fun t => (hasLa_iff_mem hnd hi).symm⟩

theorem lookup_spec {is : List Item} (hnd : KeysNodup is) {p d : Nat} (h : HasItem is p d) :
    ∃ l, lookup is p d = some l ∧ ∀ t, t ∈ l ↔ HasLa is p d t := by
  cases hl : lookup is p d with
  | some l => exact ⟨l, rfl, (lookup_some hnd hl).2⟩
  | none =>
    obtain ⟨j, hj, e1, e2⟩ := h
    rw [lookup, Option.map_eq_none_iff, List.find?_eq_none] at hl
    exact absurd (isKey_iff.mpr ⟨e1, e2⟩) (hl j hj)

theorem add_hasItem (is : List Item) (q e : Nat) (ctx : Ctx) (p d : Nat) :
    HasItem (add is q e ctx).1 p d ↔ HasItem is p d ∨ (p = q ∧ d = e) := by
  induction is with
  | nil => exact ⟨fun ⟨i, hi, h1, h2⟩ => by cases List.mem_singleton.mp hi; exact Or.inr ⟨h1.symm, h2.symm⟩,
      fun h => h.elim (fun ⟨_, hi, _⟩ => nomatch hi) (fun ⟨h1, h2⟩ => ⟨_, List.mem_singleton.mpr rfl, h1.symm, h2.symm⟩)⟩
  | cons i rest ih =>
    simp only [add]
    by_cases hk : isKey q e i = true
    · obtain ⟨e1, e2⟩ := isKey_iff.mp hk
      rw [if_pos hk, hasItem_cons, hasItem_cons]
      exact (or_iff_left_of_imp (fun h => Or.inl ⟨e1.trans h.1.symm, e2.trans h.2.symm⟩)).symm
    · rw [if_neg hk, hasItem_cons, ih, hasItem_cons, or_assoc]

theorem add_hasLa (is : List Item) (q e : Nat) (ctx : Ctx) (p d t : Nat) :
    HasLa (add is q e ctx).1 p d t ↔ HasLa is p d t ∨ (p = q ∧ d = e ∧ t ∈ ctx) := by
  induction is with
  | nil => exact ⟨fun ⟨i, hi, h1, h2, h3⟩ => by cases List.mem_singleton.mp hi; exact Or.inr ⟨h1.symm, h2.symm, h3⟩,
      fun h => h.elim (fun ⟨_, hi, _⟩ => nomatch hi)
        (fun ⟨h1, h2, h3⟩ => ⟨_, List.mem_singleton.mpr rfl, h1.symm, h2.symm, h3⟩)⟩
  | cons i rest ih =>
    simp only [add]
    by_cases hk : isKey q e i = true
    · obtain ⟨e1, e2⟩ := isKey_iff.mp hk
      rw [if_pos hk, hasLa_cons, hasLa_cons]
      simp only [mem_vobOr]
      constructor
      · rintro (⟨h1, h2, h3 | h3⟩ | h)
        · exact Or.inl (Or.inl ⟨h1, h2, h3⟩)
        · exact Or.inr ⟨h1.symm.trans e1, h2.symm.trans e2, h3⟩
        · exact Or.inl (Or.inr h)
      · rintro ((⟨h1, h2, h3⟩ | h) | ⟨rfl, rfl, h⟩)
        · exact Or.inl ⟨h1, h2, Or.inl h3⟩
        · exact Or.inr h
        · exact Or.inl ⟨e1, e2, Or.inr h⟩
    · rw [if_neg hk, hasLa_cons, ih, hasLa_cons, or_assoc]

theorem add_nodup (is : List Item) (q e : Nat) (ctx : Ctx) (h : KeysNodup is) : KeysNodup (add is q e ctx).1 := by
  induction is with
  | nil => simp [add, KeysNodup, keysOf]
  | cons i rest ih =>
    obtain ⟨hni, hnd⟩ := keysNodup_cons.mp h
    simp only [add]
    split
    · exact keysNodup_cons.mpr ⟨hni, hnd⟩
    · next hk =>
      refine keysNodup_cons.mpr ⟨?_, ih hnd⟩
      rw [add_hasItem]
      rintro (h | ⟨h1, h2⟩)
      · exact hni h
      · exact hk (isKey_iff.mpr ⟨h1, h2⟩)

theorem add_unchanged (is : List Item) (q e : Nat) (ctx : Ctx) (h : (add is q e ctx).2 = false) :
    (add is q e ctx).1 = is := by
  induction is with
  | nil => simp [add] at h
  | cons i rest ih =>
    simp only [add] at h ⊢
    split
    · next hk =>
      rw [if_pos hk] at h
      rw [(vobOr_unchanged h).1]
    · next hk =>
      rw [if_neg hk] at h
      rw [ih h]

theorem add_changed (is : List Item) (q e : Nat) (ctx : Ctx) (hnd : KeysNodup is)
    (h : (add is q e ctx).2 = true) : ¬ HasItem is q e ∨ ∃ t ∈ ctx, ¬ HasLa is q e t := by
  induction is with
  | nil => left; rintro ⟨i, hi, _⟩; cases hi
  | cons i rest ih =>
    obtain ⟨hni, hnd'⟩ := keysNodup_cons.mp hnd
    simp only [add] at h
    split at h
    · next hk =>
      obtain ⟨e1, e2⟩ := isKey_iff.mp hk
      obtain ⟨t, ht, hta⟩ := vobOr_changed h
      right
      refine ⟨t, ht, ?_⟩
      rw [hasLa_cons]
      rintro (⟨_, _, h3⟩ | h3)
      · exact hta h3
      · exact hni (by rw [e1, e2]; exact hasLa_hasItem h3)
    · next hk =>
      have hk' : ¬ (i.p = q ∧ i.dot = e) := fun x => hk (isKey_iff.mpr x)
      rcases ih hnd' h with h1 | ⟨t, ht, h2⟩
      · left; rw [hasItem_cons]; rintro (x | x)
        · exact hk' x
        · exact h1 x
      · right; refine ⟨t, ht, ?_⟩
        rw [hasLa_cons]; rintro (⟨x1, x2, _⟩ | x)
        · exact hk' ⟨x1, x2⟩
        · exact h2 x

theorem ctxLoop_spec (G : Grammar) (N : Nat → Bool) (F : Nat × Nat → Bool) (β : List Sym)
    (hβ : ∀ s ∈ β, G.symOk s = true) (ctx : Ctx) :
    ∃ c, ctxLoop G N F β ctx = some (c, seqNullable N β) ∧
      ∀ t, t ∈ c ↔ t ∈ ctx ∨ (t < G.ntoks ∧ firstSeq N F β t = true) := by
  induction β generalizing ctx with
  | nil => exact ⟨ctx, by simp [ctxLoop, seqNullable], by simp [firstSeq]⟩
  | cons s rest ih =>
    have hs := hβ s (by simp)
    have hrest : ∀ s ∈ rest, G.symOk s = true := fun x hx => hβ x (by simp [hx])
    cases s with
    | tok a =>
      have ha : a < G.ntoks := Spec.symOk_tok.mp hs
      refine ⟨vobSet ctx a, by simp [ctxLoop, ha, Spec.seqNullable_tok], ?_⟩
      intro t
      simp only [mem_vobSet, firstSeq, beq_iff_eq]
      constructor
      · rintro (h | rfl)
        · exact Or.inl h
        · exact Or.inr ⟨ha, rfl⟩
      · rintro (h | ⟨_, rfl⟩)
        · exact Or.inl h
        · exact Or.inr rfl
    | rule r =>
      have hr : r < G.nrules := Spec.symOk_rule.mp hs
      cases hN : N r with
      | false =>
        refine ⟨(vobOr ctx (firstsRow G F r)).1, by simp [ctxLoop, hr, hN, Spec.seqNullable_rule], ?_⟩
        intro t
        simp only [mem_vobOr, mem_firstsRow, firstSeq, hN, Bool.false_and, Bool.or_false]
      | true =>
        obtain ⟨c, hc, hm⟩ := ih hrest (vobOr ctx (firstsRow G F r)).1
        refine ⟨c, ?_, ?_⟩
        · simp only [ctxLoop, hr, hN, if_true]
          rw [hc]; simp [Spec.seqNullable_rule, hN]
        · intro t
          rw [hm t]
          simp only [mem_vobOr, mem_firstsRow, firstSeq, hN, Bool.true_and, Bool.or_eq_true]
          constructor
          · rintro ((h | h) | h)
            · exact Or.inl h
            · exact Or.inr ⟨h.1, Or.inl h.2⟩
            · exact Or.inr ⟨h.1, Or.inr h.2⟩
          · rintro (h | ⟨h1, h2 | h2⟩)
            · exact Or.inl (Or.inl h)
            · exact Or.inl (Or.inr ⟨h1, h2⟩)
            · exact Or.inr ⟨h1, h2⟩

/-! ### the termination measure: facts of the universe not yet in the map -/

def missingOf (G : Grammar) (is : List Item) : Nat := missing (factUniverse G) (factsOf is)

theorem missing_le {α : Type} [DecidableEq α] (U S S' : List α) (h : ∀ x ∈ S, x ∈ S') :
    missing U S' ≤ missing U S := by
  unfold missing
  rw [← List.countP_eq_length_filter, ← List.countP_eq_length_filter]
  refine List.countP_mono_left fun y _ hy => ?_
  simp only [Bool.not_eq_true', List.contains_eq_mem, decide_eq_false_iff_not] at hy ⊢
  exact fun hs => hy (h y hs)

theorem missing_lt {α : Type} [DecidableEq α] (U S S' : List α) (h : ∀ x ∈ S, x ∈ S')
    (hx : ∃ x ∈ U, x ∉ S ∧ x ∈ S') : missing U S' < missing U S := by
  unfold missing
  apply filter_length_lt
  · intro y hy
    simp only [Bool.not_eq_true', List.contains_eq_mem, decide_eq_false_iff_not] at hy ⊢
    exact fun hs => hy (h y hs)
  · obtain ⟨x, hxU, hxS, hxS'⟩ := hx
    exact ⟨x, hxU, by simpa using hxS, by simpa using hxS'⟩

theorem missingOf_le_universe (G : Grammar) (is : List Item) : missingOf G is ≤ (factUniverse G).length := by
  unfold missingOf missing; exact List.length_filter_le _ _

theorem factsOf_add_subset (is : List Item) (q e : Nat) (ctx : Ctx) :
    ∀ x ∈ factsOf is, x ∈ factsOf (add is q e ctx).1 := by
  intro x hx
  cases x with
  | item p d => rw [mem_factsOf_item] at hx ⊢; rw [add_hasItem]; exact Or.inl hx
  | la p d t => rw [mem_factsOf_la] at hx ⊢; rw [add_hasLa]; exact Or.inl hx

theorem add_measure (G : Grammar) (is : List Item) (q : Nat) (ctx todo : Ctx) (hnd : KeysNodup is)
    (hq : q < G.nprods) (hctx : ∀ t ∈ ctx, t < G.ntoks) :
    (if (add is q 0 ctx).2 then vobSet todo q else todo).length + missingOf G (add is q 0 ctx).1 ≤
      todo.length + missingOf G is := by
  cases hch : (add is q 0 ctx).2 with
  | false => rw [add_unchanged is q 0 ctx hch]; simp
  | true =>
    have hlt : missingOf G (add is q 0 ctx).1 < missingOf G is := by
      apply missing_lt _ _ _ (factsOf_add_subset is q 0 ctx)
      rcases add_changed is q 0 ctx hnd hch with h | ⟨t, ht, h⟩
      · exact ⟨.item q 0, mem_universe_item.mpr ⟨hq, Nat.zero_le _⟩, by rw [mem_factsOf_item]; exact h,
          by rw [mem_factsOf_item, add_hasItem]; exact Or.inr ⟨rfl, rfl⟩⟩
      · exact ⟨.la q 0 t, mem_universe_la.mpr ⟨hq, Nat.zero_le _, hctx t ht⟩, by rw [mem_factsOf_la]; exact h,
          by rw [mem_factsOf_la, add_hasLa]; exact Or.inr ⟨rfl, rfl, ht⟩⟩
    -- at most one bit more in `zero_todos`, at least one missing fact less
    refine Nat.le_trans (Nat.add_le_add_right (vobSet_length todo q) _) ?_
    rw [Nat.add_assoc, Nat.add_comm 1]
    exact Nat.add_le_add_left hlt _

/-- what the inner `for` loop over the productions `qs` of a rule does to the map and to `zero_todos`: the facts
afterwards are the facts before plus `[q, 0]` with context `ctx` for every `q ∈ qs`; a production is marked only if
it is one of `qs`, and is marked whenever its entry is new or grew; the measure does not increase -/
structure AddAllSpec (G : Grammar) (qs : List Nat) (ctx : Ctx) (is : List Item) (todo : Ctx)
    (is' : List Item) (todo' : Ctx) : Prop where
  nodup : KeysNodup is'
  item : ∀ p d, HasItem is' p d ↔ HasItem is p d ∨ (d = 0 ∧ p ∈ qs)
  la : ∀ p d t, HasLa is' p d t ↔ HasLa is p d t ∨ (d = 0 ∧ p ∈ qs ∧ t ∈ ctx)
  todo_mono : ∀ x ∈ todo, x ∈ todo'
  todo_from : ∀ x ∈ todo', x ∈ todo ∨ x ∈ qs
  /-- every item that is new is marked -/
  new_item : ∀ p d, HasItem is' p d → HasItem is p d ∨ (d = 0 ∧ p ∈ todo')
  /-- every item whose context grew is marked -/
  new_la : ∀ p d t, HasLa is' p d t → HasLa is p d t ∨ (d = 0 ∧ p ∈ todo')
  measure : todo'.length + missingOf G is' ≤ todo.length + missingOf G is

theorem addAll_spec (G : Grammar) (ctx : Ctx) (hctx : ∀ t ∈ ctx, t < G.ntoks) (qs : List Nat)
    (hqs : ∀ q ∈ qs, q < G.nprods) (is : List Item) (todo : Ctx) (hnd : KeysNodup is) :
    AddAllSpec G qs ctx is todo (addAll qs ctx is todo).1 (addAll qs ctx is todo).2 := by
  induction qs generalizing is todo with
  | nil =>
    simp only [addAll]
    exact ⟨hnd, by simp, by simp, fun _ h => h, fun _ h => Or.inl h, fun _ _ h => Or.inl h,
      fun _ _ _ h => Or.inl h, Nat.le_refl _⟩
  | cons q qs ih =>
    simp only [addAll]
    have hq : q < G.nprods := hqs q (by simp)
    have IH := ih (fun x hx => hqs x (by simp [hx])) (add is q 0 ctx).1
      (if (add is q 0 ctx).2 then vobSet todo q else todo) (add_nodup is q 0 ctx hnd)
    have hm := add_measure G is q ctx todo hnd hq hctx
    have htodo1 : ∀ x ∈ todo, x ∈ (if (add is q 0 ctx).2 then vobSet todo q else todo) := by
      intro x hx; split
      · exact mem_vobSet.mpr (Or.inl hx)
      · exact hx
    -- a fact that `add` introduced: the changed flag was set, so `q` is marked
    have hmark : (add is q 0 ctx).2 = true → q ∈ (addAll qs ctx (add is q 0 ctx).1
        (if (add is q 0 ctx).2 then vobSet todo q else todo)).2 := by
      intro hch
      apply IH.todo_mono
      rw [if_pos hch]; exact mem_vobSet.mpr (Or.inr rfl)
    refine ⟨IH.nodup, ?_, ?_, ?_, ?_, ?_, ?_, Nat.le_trans IH.measure hm⟩
    · intro p d
      rw [IH.item, add_hasItem, or_assoc, List.mem_cons]
      exact or_congr_right ⟨fun h => h.elim (fun h => ⟨h.2, Or.inl h.1⟩) (fun h => ⟨h.1, Or.inr h.2⟩),
        fun h => h.2.elim (fun e => Or.inl ⟨e, h.1⟩) (fun m => Or.inr ⟨h.1, m⟩)⟩
    · intro p d t
      rw [IH.la, add_hasLa, or_assoc, List.mem_cons]
      exact or_congr_right ⟨fun h => h.elim (fun h => ⟨h.2.1, Or.inl h.1, h.2.2⟩) (fun h => ⟨h.1, Or.inr h.2.1, h.2.2⟩),
        fun h => h.2.1.elim (fun e => Or.inl ⟨e, h.1, h.2.2⟩) (fun m => Or.inr ⟨h.1, m, h.2.2⟩)⟩
    · intro x hx; exact IH.todo_mono x (htodo1 x hx)
    · intro x hx
      rcases IH.todo_from x hx with h | h
      · split at h
        · rcases mem_vobSet.mp h with h | rfl
          · exact Or.inl h
          · exact Or.inr (by simp)
        · exact Or.inl h
      · exact Or.inr (by simp [h])
    · intro p d h
      rcases IH.new_item p d h with h1 | h1
      · rcases Bool.eq_false_or_eq_true (add is q 0 ctx).2 with hch | hch
        · rcases (add_hasItem is q 0 ctx p d).mp h1 with h2 | ⟨rfl, rfl⟩
          · exact Or.inl h2
          · exact Or.inr ⟨rfl, hmark hch⟩
        · rw [add_unchanged is q 0 ctx hch] at h1; exact Or.inl h1
      · exact Or.inr h1
    · intro p d t h
      rcases IH.new_la p d t h with h1 | h1
      · rcases Bool.eq_false_or_eq_true (add is q 0 ctx).2 with hch | hch
        · rcases (add_hasLa is q 0 ctx p d t).mp h1 with h2 | ⟨rfl, rfl, _⟩
          · exact Or.inl h2
          · exact Or.inr ⟨rfl, hmark hch⟩
        · rw [add_unchanged is q 0 ctx hch] at h1; exact Or.inl h1
      · exact Or.inr h1

end GrmVerif.CloseImpl
