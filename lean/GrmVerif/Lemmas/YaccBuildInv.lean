import GrmVerif.Lemmas.YaccBuildSteps
/-!
C10, stage A: the invariant of the main loop that holds for every AST and every `Cfg` — every index
stored anywhere is in range, and `prod_to_rule` and `rule_to_prods` agree: every production is listed
under the rule it names as its left-hand side.
-/
namespace GrmVerif.YaccBuild

def RecOk (R T : Nat) (r : PRec) : Prop := r.rule < R ∧ ∀ s ∈ r.rhs, SymOk R T s

structure Inv (R T : Nat) (st : St) : Prop where
  recs : ∀ r, some r ∈ st.slots → RecOk R T r
  rp : ∀ l ∈ st.rulesProds, ∀ p ∈ l, p < st.slots.length
  rpLen : st.rulesProds.length = R
  atLen : st.actiontypes.length = R
  listed : ∀ (i : Nat) (r : PRec), st.slots[i]? = some (some r) → ∃ l, st.rulesProds[r.rule]? = some l ∧ i ∈ l

structure MapsOk (c : Ctx) (R T : Nat) : Prop where
  r : ∀ n j, c.rmap n = some j → j < R
  t : ∀ n j, c.tmap n = some j → j < T

section
variable {c : Ctx} {R T : Nat} {st : St} {ridx : Nat}

/-- `Inv` goes through an update that lists `xs` under rule `ridx` and writes, at positions of `xs` only, records of
that rule with indices in range -/
theorem Inv.grow {st' : St} {xs : List Nat} (hi : Inv R T st) (hr : ridx < R)
    (hlen : st.slots.length ≤ st'.slots.length) (hrp : st'.rulesProds = st.rulesProds.modify ridx (· ++ xs))
    (hat : st'.actiontypes.length = st.actiontypes.length) (hxs : ∀ x ∈ xs, x < st'.slots.length)
    (hsl : ∀ i r, st'.slots[i]? = some (some r) →
      st.slots[i]? = some (some r) ∨ (RecOk R T r ∧ r.rule = ridx ∧ i ∈ xs)) : Inv R T st' := by
  have hq : ∀ q, st'.rulesProds[q]? = (st.rulesProds[q]?).map fun l => if ridx = q then l ++ xs else l :=
    fun q => hrp ▸ List.getElem?_modify ..
  refine ⟨?_, ?_, (hrp ▸ List.length_modify ..).trans hi.rpLen, hat.trans hi.atLen, ?_⟩
  · intro r hm
    obtain ⟨i, hs⟩ := List.mem_iff_getElem?.mp hm
    rcases hsl i r hs with h | h
    · exact hi.recs r (List.mem_of_getElem? h)
    · exact h.1
  · intro l' hl' p hp
    obtain ⟨q, hl'⟩ := List.mem_iff_getElem?.mp hl'
    rw [hq] at hl'
    obtain ⟨l, hl, rfl⟩ := Option.map_eq_some_iff.mp hl'
    have old : p ∈ l → p < st'.slots.length := fun h => Nat.lt_of_lt_of_le (hi.rp l (List.mem_of_getElem? hl) p h) hlen
    split at hp
    · exact (List.mem_append.mp hp).elim old (hxs p)
    · exact old hp
  · intro i r hs
    rcases hsl i r hs with h | ⟨_, h1, h2⟩
    · obtain ⟨l, hl, hil⟩ := hi.listed i r h
      refine ⟨_, by rw [hq, hl]; rfl, ?_⟩
      split
      · exact List.mem_append_left _ hil
      · exact hil
    · have hlt : ridx < st.rulesProds.length := hi.rpLen ▸ hr
      exact ⟨_, by rw [h1, hq, List.getElem?_eq_getElem hlt, Option.map_some, if_pos rfl], List.mem_append_right _ h2⟩

theorem Inv.push {r : PRec} (hi : Inv R T st) (hr : RecOk R T r) (hrule : r.rule = ridx) :
    Inv R T (st.push ridx r) := by
  refine hi.grow (hrule ▸ hr.1) (List.length_append ▸ Nat.le_add_right ..) rfl rfl
    (List.forall_mem_singleton.mpr (List.length_append ▸ Nat.lt_succ_self _)) fun i r' hs => ?_
  by_cases hlt : i < st.slots.length
  · exact .inl ((List.getElem?_append_left hlt).symm.trans hs)
  · have hie : i = st.slots.length := by
      have := (List.getElem?_eq_some_iff.mp hs).1
      rw [show (st.push ridx r).slots.length = st.slots.length + 1 from List.length_append] at this
      exact Nat.le_antisymm (Nat.le_of_lt_succ this) (Nat.le_of_not_lt hlt)
    subst hie
    cases (List.getElem?_concat_length (l := st.slots)).symm.trans hs
    exact .inr ⟨hr, hrule, List.mem_singleton_self _⟩

theorem implLoop_inv (hm : MapsOk c R T) (hr : ridx < R) :
    ∀ (ts : List Str) (st st' : St), Inv R T st → implLoop c ridx ts st = some st' → Inv R T st' := by
  intro ts
  induction ts with
  | nil =>
    intro st st' hi h
    cases implLoop_nil_some h
    exact hi.push ⟨hr, nofun⟩ rfl
  | cons t ts ih =>
    intro st st' hi h
    obtain ⟨ti, ht, h⟩ := implLoop_cons_some h
    refine ih _ _ (hi.push ⟨hr, ?_⟩ rfl) h
    exact List.forall_mem_cons.mpr ⟨hm.t _ _ ht, List.forall_mem_singleton.mpr hr⟩

theorem userLoop_inv (hm : MapsOk c R T) (hr : ridx < R) {ps : List Nat} {st' : St} (hi : Inv R T st)
    (h : userLoop c ridx ps st = some st') : Inv R T st' := by
  obtain ⟨i1, i2, i3, i5, i4⟩ := userLoop_frame _ _ _ h
  refine hi.grow hr (Nat.le_of_eq i1.symm) i3 (congrArg _ i2) (fun p hp => i1 ▸ i5 p hp) fun i r hs => ?_
  rcases i4 i with h4 | ⟨p, r', hm', _, hu, h4⟩
  · exact .inl (h4.symm.trans hs)
  · cases Option.some.inj (Option.some.inj (h4.symm.trans hs))
    obtain ⟨h1, h2, _⟩ := userRec_rule hu
    exact .inr ⟨⟨h1 ▸ hr, resolveSyms_ok hm.r hm.t _ _ h2⟩, h1, hm'⟩

theorem stepRule_inv (hm : MapsOk c R T) (st : St) (n : Str) (st' : St)
    (hi : Inv R T st) (h : stepRule c st n = some st') : Inv R T st' := by
  cases hr : c.rmap n with
  | none => unfold stepRule at h; rw [hr] at h; cases h
  | some ridx =>
  have hlt : ridx < R := hm.r _ _ hr
  rw [stepRule_of_rmap hr] at h
  by_cases h1 : n = c.startName
  · obtain ⟨tgt, ht, rfl⟩ := stepStart_eq ((if_pos h1).symm.trans h)
    exact hi.push ⟨hlt, List.forall_mem_singleton.mpr (hm.r _ _ ht)⟩ rfl
  rw [if_neg h1] at h
  by_cases h2 : c.implStartName = some n
  · obtain ⟨ir, s, h3, h4, rfl⟩ := stepImplStart_eq ((if_pos h2).symm.trans h)
    obtain ⟨nm, _, h3⟩ := Option.bind_eq_some_iff.mp h3
    exact hi.push ⟨hlt, List.forall_mem_cons.mpr ⟨hm.r _ _ h3, List.forall_mem_singleton.mpr (hm.r _ _ h4)⟩⟩ rfl
  rw [if_neg h2] at h
  by_cases h3 : c.implName = some n
  · exact implLoop_inv hm hlt _ _ _ hi ((if_pos h3).symm.trans h)
  · obtain ⟨r, _, _, hu⟩ := stepUser_eq ((if_neg h3).symm.trans h)
    exact userLoop_inv hm hlt (show Inv R T { st with actiontypes := st.actiontypes.set ridx r.actiont } from
      ⟨hi.recs, hi.rp, hi.rpLen, (List.length_set ..).trans hi.atLen, hi.listed⟩) hu

end

theorem mkCtx_mapsOk (cfg : Cfg) (a : AST) (k : Kind) (us : Str) :
    MapsOk (mkCtx cfg a k us) (ruleNamesOf cfg a k).length (a.tokens.length + 1) := by
  constructor
  · intro n j h
    exact List.length_map (as := ruleNamesOf cfg a k) (·.1) ▸ (lastIdx_lt h).1
  · intro n j h
    exact Nat.lt_succ_of_lt (List.length_map (as := a.tokens) (·.1) ▸ (lastIdx_lt h).1)

theorem st0_inv (cfg : Cfg) (a : AST) (k : Kind) :
    Inv (ruleNamesOf cfg a k).length (a.tokens.length + 1) (st0 cfg a k) := by
  refine ⟨?_, ?_, List.length_replicate, List.length_replicate, ?_⟩
  · intro r hr
    cases (List.mem_replicate.mp hr).2
  · intro l hl p hp
    cases (List.mem_replicate.mp hl).2 ▸ hp
  · intro i r hs
    cases (List.mem_replicate.mp (List.mem_of_getElem? hs)).2

theorem Ran.inv {cfg : Cfg} {a : AST} {k : Kind} {g : IGrammar} {us : Str} (hr : Ran cfg a k g us) :
    Inv (ruleNamesOf cfg a k).length (a.tokens.length + 1) g.st :=
  mainLoop_inv _ _ (stepRule_inv (mkCtx_mapsOk cfg a k us)) _ _ _ (st0_inv cfg a k) hr.loop

theorem avoidBits_length (tmap : Str → Option Nat) : ∀ (l : List Str) (v v' : List Bool),
    avoidBits tmap l v = some v' → v'.length = v.length := by
  intro l
  induction l with
  | nil => intro v v' h; cases h; rfl
  | cons n ns ih =>
    intro v v' h
    rw [avoidBits] at h
    split at h
    · cases h
    split at h
    · next v1 hs => rw [ih _ _ h, (setAt_eq hs).2, List.length_set]
    · cases h

/-- **`prod_to_rule` and `rule_to_prods` agree** on every built grammar -/
theorem build_listed {cfg : Cfg} {a : AST} {k : Kind} {g : IGrammar} (h : buildGrammar cfg a k = some g) :
    ∀ (i : Nat) (r : PRec), g.recs[i]? = some r → ∃ l, g.rulesProds[r.rule]? = some l ∧ i ∈ l :=
  (build_ran h).elim fun _ hr i r hi => hr.inv.listed i r ((List.getElem?_map ..).trans (congrArg _ hi))

end GrmVerif.YaccBuild
