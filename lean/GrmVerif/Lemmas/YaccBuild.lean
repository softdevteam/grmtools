import GrmVerif.Model.YaccBuild
/-!
Specification definitions and helper lemmas for `Model/YaccBuild.lean` (C10, stage A): fresh names,
one production (`firstTokPrec`, `resolveSyms`), and what a successful `buildGrammar` returns.
-/
namespace GrmVerif.YaccBuild

theorem mem_le_maxLen {names : List Str} {n : Str} (h : n ∈ names) : n.length ≤ maxLen names := by
  induction names with
  | nil => cases h
  | cons x xs ih =>
    rcases List.mem_cons.mp h with rfl | h
    · exact Nat.le_max_left _ _
    · exact Nat.le_trans (ih h) (Nat.le_max_right _ _)

/-- each round lengthens the candidate, and a name of `names` is at most `maxLen names` long -/
theorem freshLoop_not_mem (names : List Str) (unit : Str) (hu : unit ≠ []) :
    ∀ (fuel : Nat) (cand : Str), maxLen names < fuel + cand.length → freshLoop names unit fuel cand ∉ names := by
  intro fuel
  induction fuel with
  | zero =>
    intro cand h hm
    rw [Nat.zero_add] at h
    exact Nat.not_lt.mpr (mem_le_maxLen hm) h
  | succ f ih =>
    intro cand h
    rw [freshLoop]
    split
    · apply ih
      have : 0 < unit.length := List.length_pos_iff.mpr hu
      rw [List.length_append]
      refine Nat.lt_of_lt_of_le h ?_
      rw [Nat.add_assoc, Nat.add_comm 1]
      exact Nat.add_le_add_left (Nat.add_le_add_left this _) _
    · rename_i hc
      exact fun hm => hc (List.contains_iff_mem.mpr hm)

/-- **the added rule's name is not the name of a user rule**, whatever the rules are called -/
theorem fresh_not_mem (names : List Str) (unit : Str) (hu : unit ≠ []) : fresh names unit ∉ names :=
  freshLoop_not_mem names unit hu _ _ (Nat.lt_add_right _ (Nat.lt_succ_self _))

theorem freshLoop_shape (names : List Str) (unit : Str) : ∀ (fuel : Nat) (cand : Str),
    ∃ t, freshLoop names unit fuel cand = cand ++ t ∧ ∀ c ∈ t, c ∈ unit := by
  intro fuel
  induction fuel with
  | zero => exact fun cand => ⟨[], (List.append_nil _).symm, nofun⟩
  | succ f ih =>
    intro cand
    rw [freshLoop]
    split
    · obtain ⟨t, ht, hu⟩ := ih (cand ++ unit)
      exact ⟨unit ++ t, by rw [ht, List.append_assoc], fun c hc => (List.mem_append.mp hc).elim id (hu c)⟩
    · exact ⟨[], (List.append_nil _).symm, nofun⟩

theorem fresh_shape (names : List Str) (unit : Str) : ∃ t, fresh names unit = unit ++ t ∧ ∀ c ∈ t, c ∈ unit :=
  freshLoop_shape names unit _ unit

theorem fresh_ne (names : List Str) {u v : Str} (h : u.any (fun ch => !v.contains ch) = true) :
    fresh names u ≠ fresh names v := by
  simp only [List.any_eq_true, Bool.not_eq_true', List.contains_eq_mem, decide_eq_false_iff_not] at h
  obtain ⟨ch, hu, hv⟩ := h
  obtain ⟨t, ht, _⟩ := fresh_shape names u
  obtain ⟨t', ht', hv'⟩ := fresh_shape names v
  intro he
  have h1 : ch ∈ fresh names u := ht ▸ List.mem_append_left t hu
  rw [he, ht'] at h1
  exact hv ((List.mem_append.mp h1).elim id (hv' ch))

def ASym.isTok : ASym → Bool
  | .tok _ _ => true
  | .rule _ _ => false

def ASym.name : ASym → Str
  | .tok n _ => n
  | .rule n _ => n

def lastTok : List ASym → Option Str
  | [] => none
  | s :: rest =>
    match lastTok rest with
    | some n => some n
    | none => if s.isTok then some s.name else none

theorem firstTokPrec_eq_find (precs : List (Str × Prec)) (l : List ASym) :
    firstTokPrec precs l = (l.find? ASym.isTok).bind fun s => assoc precs s.name := by
  induction l with
  | nil => rfl
  | cons x xs ih =>
    cases x with
    | rule => exact ih
    | tok => rfl

theorem lastTok_eq_findRev (l : List ASym) : lastTok l = (l.findRev? ASym.isTok).map ASym.name := by
  induction l with
  | nil => rfl
  | cons x xs ih =>
    rw [lastTok, ih, List.findRev?]
    cases xs.findRev? ASym.isTok <;> cases x <;> rfl

theorem firstTokPrec_append_rule (precs : List (Str × Prec)) (l : List ASym) (n : Str) (sp : Span) (rest : List ASym) :
    firstTokPrec precs (l ++ .rule n sp :: rest) =
      (match firstTokPrec precs l, l.any ASym.isTok with
       | _, true => firstTokPrec precs l
       | _, false => firstTokPrec precs rest) := by
  induction l with
  | nil => rfl
  | cons x xs ih =>
    cases x with
    | rule => exact ih
    | tok => rfl

/-- **`firstTokPrec` on the reversed symbols = the declared precedence of the last token symbol**
(`none` when there is no token or that token has no precedence — earlier tokens are NOT consulted) -/
theorem firstTokPrec_reverse (precs : List (Str × Prec)) (syms : List ASym) :
    firstTokPrec precs syms.reverse = (lastTok syms).bind (assoc precs) := by
  rw [firstTokPrec_eq_find, lastTok_eq_findRev, ← List.findRev?_eq_find?_reverse]
  cases syms.findRev? ASym.isTok <;> rfl

/-- the declarative per-production precedence: the `%prec` token's precedence (the outer `none` is the
panic on a `%prec` token without declared precedence), else the declared precedence of the LAST token
symbol — `none` if there is no token symbol or that token has no precedence -/
def prodPrecSpec (precs : List (Str × Prec)) (p : AProd) : Option (Option Prec) :=
  match p.prec with
  | some n => (assoc precs n).map some
  | none => some ((lastTok p.syms).bind (assoc precs))

theorem prodPrec_eq_spec (precs : List (Str × Prec)) (p : AProd) : prodPrec precs p = prodPrecSpec precs p := by
  unfold prodPrec prodPrecSpec
  cases p.prec with
  | some n => rfl
  | none => rw [firstTokPrec_reverse]

def symImage (rmap tmap : Str → Option Nat) (impl : Option Nat) : ASym → Option (List Sym)
  | ASym.rule n _ => (rmap n).map (fun r => [Sym.rule r])
  | ASym.tok n _ => (tmap n).map (fun t => match impl with
      | none => [Sym.tok t]
      | some r => [Sym.tok t, Sym.rule r])

/-- declarative reading of `resolveSyms`: the concatenation of the images of the symbols, in order -/
def resolveSpec (rmap tmap : Str → Option Nat) (impl : Option Nat) (syms : List ASym) : Option (List Sym) :=
  (syms.mapM (symImage rmap tmap impl)).map List.flatten

def SymOk (R T : Nat) : Sym → Prop
  | .tok t => t < T
  | .rule r => r < R

theorem resolveSyms_induction {rmap tmap : Str → Option Nat} {impl : Option Str} {P : List ASym → List Sym → Prop}
    (nil : P [] [])
    (rule : ∀ n sp rest r tl, rmap n = some r → P rest tl → P (.rule n sp :: rest) (.rule r :: tl))
    (tok : ∀ n sp rest t tl, tmap n = some t → impl = none → P rest tl → P (.tok n sp :: rest) (.tok t :: tl))
    (tokImpl : ∀ n sp rest t tl ir r, tmap n = some t → impl = some ir → rmap ir = some r → P rest tl →
      P (.tok n sp :: rest) (.tok t :: .rule r :: tl)) :
    ∀ (syms : List ASym) (out : List Sym), resolveSyms rmap tmap impl syms = some out → P syms out := by
  intro syms
  induction syms with
  | nil => intro out h; cases h; exact nil
  | cons x xs ih =>
    intro out h
    cases x with
    | rule n sp =>
      rw [resolveSyms] at h
      split at h
      · next r tl h1 h2 => cases h; exact rule n sp xs r tl h1 (ih tl h2)
      · cases h
    | tok n sp =>
      rw [resolveSyms] at h
      split at h
      · next t tl h1 h2 =>
        split at h
        · cases h; exact tok n sp xs t tl h1 rfl (ih tl h2)
        · next ir =>
          split at h
          · next r h3 => cases h; exact tokImpl n sp xs t tl ir r h1 rfl h3 (ih tl h2)
          · cases h
      · cases h

theorem resolveSyms_ok {rmap tmap : Str → Option Nat} {impl : Option Str} {R T : Nat}
    (hr : ∀ n j, rmap n = some j → j < R) (ht : ∀ n j, tmap n = some j → j < T) :
    ∀ (syms : List ASym) (out : List Sym), resolveSyms rmap tmap impl syms = some out → ∀ s ∈ out, SymOk R T s := by
  refine resolveSyms_induction nofun ?_ ?_ ?_
  · intro n _ _ r tl h1 ih
    exact List.forall_mem_cons.mpr ⟨hr n r h1, ih⟩
  · intro n _ _ t tl h1 _ ih
    exact List.forall_mem_cons.mpr ⟨ht n t h1, ih⟩
  · intro n _ _ t tl ir r h1 _ h3 ih
    exact List.forall_mem_cons.mpr ⟨ht n t h1, List.forall_mem_cons.mpr ⟨hr ir r h3, ih⟩⟩

theorem resolveSyms_rule_mem {rmap tmap : Str → Option Nat} {impl : Option Str} {j : Nat} :
    ∀ (syms : List ASym) (out : List Sym), resolveSyms rmap tmap impl syms = some out → Sym.rule j ∈ out →
      (∃ n sp, ASym.rule n sp ∈ syms ∧ rmap n = some j) ∨ (∃ ir, impl = some ir ∧ rmap ir = some j) := by
  have lift {x : ASym} {xs : List ASym} : (∃ n sp, ASym.rule n sp ∈ xs ∧ rmap n = some j) →
      ∃ n sp, ASym.rule n sp ∈ x :: xs ∧ rmap n = some j :=
    fun ⟨n, sp, h1, h2⟩ => ⟨n, sp, List.mem_cons_of_mem _ h1, h2⟩
  refine resolveSyms_induction nofun ?_ ?_ ?_
  · intro n sp rest r tl h1 ih hm
    rcases List.mem_cons.mp hm with he | hm
    · cases he; exact Or.inl ⟨n, sp, List.mem_cons_self, h1⟩
    · exact (ih hm).imp_left lift
  · intro n sp rest t tl _ _ ih hm
    rcases List.mem_cons.mp hm with he | hm
    · cases he
    · exact (ih hm).imp_left lift
  · intro n sp rest t tl ir r _ hi h3 ih hm
    rcases List.mem_cons.mp hm with he | hm
    · cases he
    · rcases List.mem_cons.mp hm with he | hm
      · cases he; exact Or.inr ⟨ir, hi, h3⟩
      · exact (ih hm).imp_left lift

theorem resolveSpec_cons {rmap tmap : Str → Option Nat} {impl : Option Nat} {x : ASym} {xs : List ASym}
    {im tl : List Sym} (hx : symImage rmap tmap impl x = some im) (hxs : resolveSpec rmap tmap impl xs = some tl) :
    resolveSpec rmap tmap impl (x :: xs) = some (im ++ tl) := by
  unfold resolveSpec at hxs ⊢
  obtain ⟨m, hm, rfl⟩ := Option.map_eq_some_iff.mp hxs
  rw [List.mapM_cons, hx, hm]
  rfl

theorem resolveSyms_spec {rmap tmap : Str → Option Nat} {impl : Option Str} :
    ∀ (syms : List ASym) (out : List Sym), resolveSyms rmap tmap impl syms = some out →
      resolveSpec rmap tmap (impl.bind rmap) syms = some out := by
  refine resolveSyms_induction rfl ?_ ?_ ?_
  · intro n sp rest r tl h1 ih
    exact resolveSpec_cons (im := [.rule r]) (by rw [symImage, h1]; rfl) ih
  · intro n sp rest t tl h1 hi ih
    subst hi
    exact resolveSpec_cons (im := [.tok t]) (by rw [symImage, h1]; rfl) ih
  · intro n sp rest t tl ir r h1 hi h3 ih
    subst hi
    exact resolveSpec_cons (im := [.tok t, .rule r]) (by rw [symImage, h1, Option.bind_some, h3]; rfl) ih

theorem mainLoop_cons_some {c : Ctx} {n : Str} {ns : List Str} {st st' : St}
    (h : mainLoop c (n :: ns) st = some st') : ∃ st1, stepRule c st n = some st1 ∧ mainLoop c ns st1 = some st' := by
  rw [mainLoop] at h
  split at h
  · next st1 hs => exact ⟨st1, hs, h⟩
  · cases h

theorem mainLoop_inv (c : Ctx) (P : St → Prop)
    (hstep : ∀ st n st', P st → stepRule c st n = some st' → P st') :
    ∀ (ns : List Str) (st st' : St), P st → mainLoop c ns st = some st' → P st' := by
  intro ns
  induction ns with
  | nil => intro st st' hp h; cases h; exact hp
  | cons n ns ih =>
    intro st st' hp h
    obtain ⟨st1, hs, h⟩ := mainLoop_cons_some h
    exact ih st1 st' (hstep st n st1 hp hs) h

theorem unwrapAll_spec {α : Type} : ∀ (l : List (Option α)) (r : List α), unwrapAll l = some r → l = r.map some := by
  intro l
  induction l with
  | nil => intro r h; cases h; rfl
  | cons x xs ih =>
    intro r h
    cases x with
    | none => cases h
    | some v =>
      obtain ⟨r', hr', rfl⟩ := Option.map_eq_some_iff.mp h
      rw [ih r' hr']; rfl

def st0 (cfg : Cfg) (a : AST) (k : Kind) : St :=
  { slots := List.replicate a.prods.length none,
    rulesProds := List.replicate (ruleNamesOf cfg a k).length [],
    actiontypes := List.replicate (ruleNamesOf cfg a k).length none }

/-- the three tables of `g` that the main loop computes, as the state the loop ends in -/
def IGrammar.st (g : IGrammar) : St :=
  { slots := g.recs.map some, rulesProds := g.rulesProds, actiontypes := g.actiontypes }

/-- `buildGrammar cfg a k = some g`, read once: `us` is the user's start rule, the main loop ends in the
tables of `g`, and every other field of `g` is a function of the AST -/
structure Ran (cfg : Cfg) (a : AST) (k : Kind) (g : IGrammar) (us : Str) : Prop where
  start : ∃ sp, a.start = some (us, sp)
  loop : mainLoop (mkCtx cfg a k us) ((ruleNamesOf cfg a k).map (·.1)) (st0 cfg a k) = some g.st
  startProd : ((mkCtx cfg a k us).rmap (mkCtx cfg a k us).startName).bind
    (fun r => g.rulesProds[r]?.bind (·[0]?)) = some g.startProd
  ruleNames : g.ruleNames = ruleNamesOf cfg a k
  tokenNames : g.tokenNames = a.tokens.map (fun t => some (t.2, t.1)) ++ [none]
  tokenPrecs : g.tokenPrecs = (a.tokens.map (·.1)).map (fun t => assoc a.precs t) ++ [none]
  tokenEpp : g.tokenEpp = (a.tokens.map (·.1)).map (fun t => some ((assoc a.epp t).getD t)) ++ [none]
  eof : g.eof = a.tokens.length
  implicitRule : g.implicitRule = (mkCtx cfg a k us).implName.bind (mkCtx cfg a k us).rmap
  expect : g.expect = a.expect
  expectrr : g.expectrr = a.expectrr
  avoid : match a.avoidInsert with
    | none => g.avoidInsert = none
    | some l => ∃ v, avoidBits (mkCtx cfg a k us).tmap l (List.replicate (a.tokens.length + 1) false) = some v ∧
        g.avoidInsert = some v

variable {cfg : Cfg} {a : AST} {k : Kind} {g : IGrammar} {us : Str}

theorem build_ran (h : buildGrammar cfg a k = some g) : ∃ us, Ran cfg a k g us := by
  unfold buildGrammar at h
  split at h
  · cases h
  next userStart sp hs =>
  -- with the `let`s gone `split` takes the matches from the outside in
  dsimp only at h
  split at h
  · cases h
  next st hm =>
  split at h
  next recs spi hu hsp =>
    split at h
    · cases h
    next avoid hav =>
    cases h
    refine ⟨userStart, ⟨sp, hs⟩, ?_, hsp, rfl, rfl, rfl, rfl, rfl, rfl, rfl, rfl, ?_⟩
    · exact hm.trans (congrArg some (by rw [IGrammar.st, ← unwrapAll_spec _ _ hu]))
    split at hav
    next hai => cases hav; rw [hai]
    next l hai =>
      rw [hai]
      simp only [List.length_append, List.length_map, List.length_cons, List.length_nil, Option.map_eq_some_iff] at hav
      obtain ⟨v, hv, hv'⟩ := hav
      cases hv'
      exact ⟨v, hv, rfl⟩
  · cases h

theorem Ran.rulesLen (hr : Ran cfg a k g us) : g.rulesLen = (ruleNamesOf cfg a k).length :=
  congrArg List.length hr.ruleNames

theorem Ran.tokensLen (hr : Ran cfg a k g us) : g.tokensLen = a.tokens.length + 1 := by
  rw [IGrammar.tokensLen, hr.tokenNames, List.length_append, List.length_map]; rfl

end GrmVerif.YaccBuild
