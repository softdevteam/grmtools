import GrmVerif.Model.Closure
import GrmVerif.Lemmas.Analyses
/-! The reference LR(1) closure is the least closed set containing the kernel; state reachability. -/
namespace GrmVerif.Closure
open GrmVerif Ref Fix Spec

/-- the LR(1) closure of a kernel, as the least set closed under the textbook rules -/
inductive ClosureP (G : Grammar) (core : List Item) : CFact → Prop
  | kitem (i : Item) : i ∈ core → ClosureP G core (.item i.p i.dot)
  | kla (i : Item) (t : Nat) : i ∈ core → t ∈ i.la → ClosureP G core (.la i.p i.dot t)
  | citem (p d q : Nat) : ClosureP G core (.item p d) → symAfter G p d = some (.rule (G.lhs q)) →
      q < G.nprods → ClosureP G core (.item q 0)
  | cfirst (p d q t : Nat) : ClosureP G core (.item p d) → symAfter G p d = some (.rule (G.lhs q)) →
      q < G.nprods → FirstSeqP G ((G.rhs p).drop (d + 1)) t → ClosureP G core (.la q 0 t)
  | cinherit (p d q t : Nat) : ClosureP G core (.item p d) → symAfter G p d = some (.rule (G.lhs q)) →
      q < G.nprods → NullableSeq G ((G.rhs p).drop (d + 1)) → ClosureP G core (.la p d t) →
      ClosureP G core (.la q 0 t)

theorem mem_itemUniverse {G : Grammar} {p d : Nat} :
    (p, d) ∈ itemUniverse G ↔ p < G.nprods ∧ d ≤ (G.rhs p).length := by
  simp only [itemUniverse, List.mem_flatMap, List.mem_range, List.mem_map, Prod.mk.injEq]
  constructor
  · rintro ⟨a, ha, b, hb, rfl, rfl⟩; exact ⟨ha, Nat.le_of_lt_succ hb⟩
  · rintro ⟨h1, h2⟩; exact ⟨p, h1, d, Nat.lt_succ_of_le h2, rfl, rfl⟩

theorem mem_universe_item {G : Grammar} {p d : Nat} :
    CFact.item p d ∈ factUniverse G ↔ p < G.nprods ∧ d ≤ (G.rhs p).length := by
  simp only [factUniverse, List.mem_append, List.mem_map, List.mem_flatMap, List.mem_range, Prod.exists]
  constructor
  · rintro (⟨a, b, hab, he⟩ | ⟨a, b, _, t, _, he⟩)
    · cases he; exact mem_itemUniverse.mp hab
    · cases he
  · intro h; exact Or.inl ⟨p, d, mem_itemUniverse.mpr h, rfl⟩

theorem mem_universe_la {G : Grammar} {p d t : Nat} :
    CFact.la p d t ∈ factUniverse G ↔ p < G.nprods ∧ d ≤ (G.rhs p).length ∧ t < G.ntoks := by
  simp only [factUniverse, List.mem_append, List.mem_map, List.mem_flatMap, List.mem_range, Prod.exists]
  constructor
  · rintro (⟨a, b, _, he⟩ | ⟨a, b, hab, t', ht', he⟩)
    · cases he
    · cases he; obtain ⟨h1, h2⟩ := mem_itemUniverse.mp hab; exact ⟨h1, h2, ht'⟩
  · rintro ⟨h1, h2, h3⟩; exact Or.inr ⟨p, d, mem_itemUniverse.mpr ⟨h1, h2⟩, t, h3, rfl⟩

/-- kernel well-formedness: items in the universe, lookaheads are tokens -/
def CoreOk (G : Grammar) (core : List Item) : Prop :=
  ∀ i ∈ core, i.p < G.nprods ∧ i.dot ≤ (G.rhs i.p).length ∧ ∀ t ∈ i.la, t < G.ntoks

/-- every fact of the closure lies in the universe the reference computation and the measure of the model range over -/
theorem _root_.GrmVerif.CloseImpl.closureP_univ {G : Grammar} (hwf : G.wf = true) {core : List Item} (hcore : CoreOk G core)
    {x : CFact} (h : ClosureP G core x) : x ∈ factUniverse G := by
  induction h with
  | kitem i hi => obtain ⟨h1, h2, _⟩ := hcore i hi; exact mem_universe_item.mpr ⟨h1, h2⟩
  | kla i t hi ht => obtain ⟨h1, h2, h3⟩ := hcore i hi; exact mem_universe_la.mpr ⟨h1, h2, h3 t ht⟩
  | citem p d q _ _ hq _ => exact mem_universe_item.mpr ⟨hq, Nat.zero_le _⟩
  | cfirst p d q t _ _ hq hfs ih =>
    exact mem_universe_la.mpr ⟨hq, Nat.zero_le _, firstSeqP_tok_lt hwf (mem_universe_item.mp ih).1 (List.take_append_drop ..).symm hfs⟩
  | cinherit p d q t _ _ hq _ _ _ ih2 =>
    exact mem_universe_la.mpr ⟨hq, Nat.zero_le _, (mem_universe_la.mp ih2).2.2⟩

theorem closeDerive_item {G : Grammar} {N : Nat → Bool} {F : Nat × Nat → Bool} {core : List Item} {S : CFact → Bool}
    {q d' : Nat} : closeDerive G N F core S (.item q d') = true ↔
      (∃ i ∈ core, i.p = q ∧ i.dot = d') ∨
      (d' = 0 ∧ ∃ x ∈ itemUniverse G, S (.item x.1 x.2) = true ∧ symAfter G x.1 x.2 = some (.rule (G.lhs q))) := by
  simp only [closeDerive, Bool.or_eq_true, List.any_eq_true, Bool.and_eq_true, beq_iff_eq]

theorem closeDerive_la {G : Grammar} {N : Nat → Bool} {F : Nat × Nat → Bool} {core : List Item} {S : CFact → Bool}
    {q d' t : Nat} : closeDerive G N F core S (.la q d' t) = true ↔
      (∃ i ∈ core, (i.p = q ∧ i.dot = d') ∧ t ∈ i.la) ∨
      (d' = 0 ∧ ∃ x ∈ itemUniverse G, (S (.item x.1 x.2) = true ∧ symAfter G x.1 x.2 = some (.rule (G.lhs q))) ∧
        (firstSeq N F ((G.rhs x.1).drop (x.2 + 1)) t = true ∨
          (seqNullable N ((G.rhs x.1).drop (x.2 + 1)) = true ∧ S (.la x.1 x.2 t) = true))) := by
  simp only [closeDerive, Bool.or_eq_true, List.any_eq_true, Bool.and_eq_true, beq_iff_eq,
    List.contains_eq_mem, decide_eq_true_eq]

theorem close1_exact (G : Grammar) (hwf : G.wf = true) (N : Nat → Bool) (F : Nat × Nat → Bool)
    (hN : ∀ r, N r = true ↔ NullableR G r) (hF : ∀ r t, F (r, t) = true ↔ FirstP G r t)
    (core : List Item) (hcore : CoreOk G core) (S : List CFact) (h : close1 G N F core = some S) :
    ∀ x, x ∈ S ↔ ClosureP G core x := by
  refine lfp_exact (factUniverse G) (closeDerive G N F core) (ClosureP G core) ?_ ?_ h
  · intro T hT y hyu hd
    have hmem : ∀ {f : CFact}, T.contains f = true → ClosureP G core f := fun hf => hT _ (by simpa using hf)
    cases y with
    | item q d' =>
      rcases closeDerive_item.mp hd with ⟨i, hi, h1, h2⟩ | ⟨hd0, x, hx, hS, hsym⟩
      · rw [← h1, ← h2]; exact .kitem i hi
      · subst hd0
        exact .citem x.1 x.2 q (hmem hS) hsym (mem_universe_item.mp hyu).1
    | la q d' t =>
      have hq : q < G.nprods := (mem_universe_la.mp hyu).1
      rcases closeDerive_la.mp hd with ⟨i, hi, ⟨h1, h2⟩, h3⟩ | ⟨hd0, x, hx, ⟨hS, hsym⟩, hla⟩
      · rw [← h1, ← h2]; exact .kla i t hi h3
      · subst hd0
        rcases hla with hf | ⟨hn, hl⟩
        · exact .cfirst x.1 x.2 q t (hmem hS) hsym hq ((firstSeq_iff hN hF _ t).mp hf)
        · exact .cinherit x.1 x.2 q t (hmem hS) hsym hq ((seqNullable_iff hN _).mp hn) (hmem hl)
  · intro S hsub hcl x hx
    have hin : ∀ {f : CFact}, f ∈ S → S.contains f = true := fun hf => by simpa using hf
    have hu : ∀ {f : CFact}, ClosureP G core f → f ∈ factUniverse G := CloseImpl.closureP_univ hwf hcore
    induction hx with
    | kitem i hi => exact hcl _ (hu (.kitem i hi)) (closeDerive_item.mpr (Or.inl ⟨i, hi, rfl, rfl⟩))
    | kla i t hi ht => exact hcl _ (hu (.kla i t hi ht)) (closeDerive_la.mpr (Or.inl ⟨i, hi, ⟨rfl, rfl⟩, ht⟩))
    | citem p d q hp hsym hq ih =>
      exact hcl _ (hu (.citem p d q hp hsym hq)) (closeDerive_item.mpr
        (Or.inr ⟨rfl, (p, d), mem_itemUniverse.mpr (mem_universe_item.mp (hu hp)), hin ih, hsym⟩))
    | cfirst p d q t hp hsym hq hfs ih =>
      exact hcl _ (hu (.cfirst p d q t hp hsym hq hfs)) (closeDerive_la.mpr
        (Or.inr ⟨rfl, (p, d), mem_itemUniverse.mpr (mem_universe_item.mp (hu hp)), ⟨hin ih, hsym⟩,
          Or.inl ((firstSeq_iff hN hF _ t).mpr hfs)⟩))
    | cinherit p d q t hp hsym hq hnull hl ih1 ih2 =>
      exact hcl _ (hu (.cinherit p d q t hp hsym hq hnull hl)) (closeDerive_la.mpr
        (Or.inr ⟨rfl, (p, d), mem_itemUniverse.mpr (mem_universe_item.mp (hu hp)), ⟨hin ih1, hsym⟩,
          Or.inr ⟨(seqNullable_iff hN _).mpr hnull, hin ih2⟩⟩))

/-- reachable from the start state along ANY edge listed in `A.edges` (`Cert.Path` of `Lemmas/LRPath.lean` follows
`A.edge`, the first edge on a symbol; the two agree when a state has one edge per symbol) -/
inductive ReachSt (A : Automaton) : Nat → Prop
  | start : ReachSt A A.start
  | step (s t : Nat) (X : Sym) : ReachSt A s → s < A.nstates → (X, t) ∈ A.edges s → ReachSt A t

theorem reachDeriveSt_iff {A : Automaton} {S : Nat → Bool} {x : Nat} : reachDeriveSt A S x = true ↔
    x = A.start ∨ ∃ y, y < A.nstates ∧ S y = true ∧ ∃ e ∈ A.edges y, e.2 = x := by
  simp only [reachDeriveSt, Bool.or_eq_true, beq_iff_eq, List.any_eq_true, List.mem_range, Bool.and_eq_true]

theorem reachableStates_exact (A : Automaton) (hstart : A.start < A.nstates)
    (hedges : ∀ s, s < A.nstates → ∀ e ∈ A.edges s, e.2 < A.nstates)
    (R : List Nat) (h : reachableStates A = some R) : ∀ s, s ∈ R ↔ ReachSt A s := by
  refine lfp_exact (List.range A.nstates) (reachDeriveSt A) (ReachSt A) ?_ ?_ h
  · intro T hT x _ hd
    rcases reachDeriveSt_iff.mp hd with rfl | ⟨y, hy, hTy, e, he, rfl⟩
    · exact .start
    · exact .step y e.2 e.1 (hT y (by simpa using hTy)) hy he
  · intro R _ hcl s hs
    induction hs with
    | start => exact hcl _ (List.mem_range.mpr hstart) (reachDeriveSt_iff.mpr (Or.inl rfl))
    | step s t X _ hslt he ih =>
      exact hcl _ (List.mem_range.mpr (hedges s hslt _ he))
        (reachDeriveSt_iff.mpr (Or.inr ⟨s, hslt, by simpa using ih, (X, t), he, rfl⟩))

end GrmVerif.Closure
