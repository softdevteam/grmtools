import GrmVerif.Model.RecActions
import GrmVerif.Lemmas.RecEdited
/-!
The recovering action driver `RecAct.recRunA` (C08, recovery on): erasing values, spans and log gives
`Rec.recRun` with the recoverer `recoverOf`; `feedA` is `Rec.feed` on its state stack with the four stacks folded
over the reductions made (`feedA_eq_stopA`).
-/
namespace GrmVerif.RecAct
open LR Rec Term

variable {G : Grammar} {A : Automaton}

def FedA.erase : FedA → Fed
  | .shifted s' v => .shifted (s' :: v.pstack)
  | .accept v => .accept v.pstack
  | .error v => .error v.pstack
  | .crash => .crash
  | .fuelOut => .fuelOut

theorem FedA.erase_shifted {r : FedA} {x : List Nat} (h : r.erase = .shifted x) :
    ∃ s' v, r = .shifted s' v ∧ x = s' :: v.pstack := by
  cases r <;> cases h
  exact ⟨_, _, rfl, rfl⟩

theorem FedA.erase_error {r : FedA} {x : List Nat} (h : r.erase = .error x) : ∃ v, r = .error v ∧ x = v.pstack := by
  cases r <;> cases h
  exact ⟨_, rfl, rfl⟩

theorem FedA.erase_accept {r : FedA} {x : List Nat} (h : r.erase = .accept x) : ∃ v, r = .accept v ∧ x = v.pstack := by
  cases r <;> cases h
  exact ⟨_, rfl, rfl⟩

/-- what `feedA` answers on a configuration from which no reduction can be made (`Term.stop` with
values) -/
def stopA (A : Automaton) (la : Nat) (v : VCfg) : FedA :=
  match v.pstack with
  | [] => .crash
  | st :: _ =>
    match A.action st la with
    | .shift s' => .shifted s' v
    | .accept => .accept v
    | .error => .error v
    | .reduce _ => .crash

theorem stopA_erase (A : Automaton) (la : Nat) (v : VCfg) : (stopA A la v).erase = stop A la v.pstack := by
  obtain ⟨ps, as, sp, lg⟩ := v
  cases ps with
  | nil => rfl
  | cons st tl => simp only [stopA, stop]; cases A.action st la <;> rfl

/-- the value configuration after the reductions `ps` -/
def redsV (G : Grammar) (ps : List (Nat × Nat)) (v : VCfg) : VCfg := ps.foldl (fun v q => reduceV G q.1 q.2 v) v

section
variable {la : Nat}

theorem redsV_pstack {a b : List Nat} {ps : List (Nat × Nat)} (h : Reds G A la a ps b) :
    ∀ {v : VCfg}, v.pstack = a → (redsV G ps v).pstack = b := by
  induction h with
  | nil _ => exact id
  | cons _ _ ih => intro v hv; exact ih (by rw [← hv]; rfl)

theorem feedA_red {v : VCfg} {p s' : Nat} (h : Red G A la v.pstack p s') (f : Nat) :
    feedA G A la (f + 1) v = feedA G A la f (reduceV G p s' v) := by
  obtain ⟨st, tl, prior, rest, hps, hact, hd, hg⟩ := h
  simp only [feedA, hps, hact, length_of_drop_cons (hps ▸ hd), ↓reduceIte, hps ▸ hd, hg]

theorem feedA_stuck {v : VCfg} (h : Stuck G A la v.pstack) (f : Nat) : feedA G A la (f + 1) v = stopA A la v := by
  obtain ⟨ps, as, sp, lg⟩ := v
  cases ps with
  | nil => rfl
  | cons st tl =>
    cases hact : A.action st la with
    | shift s' => simp only [feedA, stopA, hact]
    | accept => simp only [feedA, stopA, hact]
    | error => simp only [feedA, stopA, hact]
    | reduce p =>
      rcases h.of_reduce hact with hle | ⟨prior, rest, hd, hg⟩
      · simp only [feedA, stopA, hact, hle, ↓reduceIte]
      · simp only [feedA, stopA, hact, length_of_drop_cons hd, ↓reduceIte, hd, hg]

theorem feedA_reds {a b : List Nat} {ps : List (Nat × Nat)} (h : Reds G A la a ps b) :
    ∀ {v : VCfg}, v.pstack = a → ∀ f, feedA G A la (ps.length + f) v = feedA G A la f (redsV G ps v) := by
  induction h with
  | nil _ => intro v _ f; rw [List.length_nil, Nat.zero_add]; rfl
  | cons hr _ ih =>
    intro v hv f
    rw [List.length_cons, Nat.add_right_comm, feedA_red (hv ▸ hr), ih (by rw [← hv]; rfl)]
    rfl

/-- **closed form of `feedA`**: the control is `feed`'s — the reductions the table makes on the state stack,
then its answer there — and the four stacks are the fold of `reduceV` over those reductions -/
theorem feedA_eq_stopA {v : VCfg} {b : List Nat} {ps : List (Nat × Nat)} (h : Reds G A la v.pstack ps b)
    (hb : Stuck G A la b) {f : Nat} (hf : ps.length < f) : feedA G A la f v = stopA A la (redsV G ps v) := by
  obtain ⟨k, rfl⟩ := Nat.exists_eq_add_of_lt hf
  rw [Nat.add_assoc, feedA_reds h rfl, feedA_stuck (by rw [redsV_pstack h rfl]; exact hb)]

/-- … and with exactly as much fuel as there are reductions it runs out, as `feed` does -/
theorem feedA_eq_fuelOut {v : VCfg} {b : List Nat} {ps : List (Nat × Nat)} (h : Reds G A la v.pstack ps b) :
    feedA G A la ps.length v = .fuelOut :=
  feedA_reds h rfl 0

end

theorem feedA_erase (G : Grammar) (A : Automaton) (la : Nat) (fuel : Nat) (v : VCfg) :
    (feedA G A la fuel v).erase = feed G A la fuel v.pstack := by
  rcases reds_cases G A la fuel v.pstack with ⟨ps, b, hr, hb, hl⟩ | ⟨ps, b, hr, rfl⟩
  · rw [feedA_eq_stopA hr hb hl, feed_eq_stop hr hb hl, stopA_erase, redsV_pstack hr rfl]
  · rw [feedA_eq_fuelOut hr, feed_eq_fuelOut.mpr ⟨ps, b, hr, rfl⟩]; rfl

theorem feedA_feed {la fuel : Nat} {v : VCfg} {r : FedA}
    (h : feedA G A la fuel v = r) : feed G A la fuel v.pstack = r.erase := by
  rw [← feedA_erase, h]

theorem feedA_crash_feed {G : Grammar} {A : Automaton} {la fuel : Nat} {v : VCfg}
    (h : feedA G A la fuel v = .crash) : feed G A la fuel v.pstack = .crash :=
  feedA_feed h

theorem feedA_fuelOut_feed {G : Grammar} {A : Automaton} {la fuel : Nat} {v : VCfg}
    (h : feedA G A la fuel v = .fuelOut) : feed G A la fuel v.pstack = .fuelOut :=
  feedA_feed h

def RACfg.pos (c : RACfg) : Pos := ⟨c.v.pstack, c.laidx⟩

/-- `Rec.applySeq_induction` with values -/
theorem applySeqA_induction {w : List Nat} {lexSpan : Nat → Nat × Nat} {c' : RACfg}
    {motive : RACfg → List Repair → Prop} (nil : motive c' [])
    (insert : ∀ (c : RACfg) t s' v' rs, feedA G A t FUEL c.v = .shifted s' v' →
      motive ⟨pushLex s' t (lexId w.length (.ins t c.laidx)) (itemSpan lexSpan w.length (.ins t c.laidx)) v',
        c.laidx⟩ rs → motive c (.insert t :: rs))
    (delete : ∀ (c : RACfg) rs, c.laidx < w.length → motive ⟨c.v, c.laidx + 1⟩ rs → motive c (.delete :: rs))
    (shift : ∀ (c : RACfg) t s' v' rs, w[c.laidx]? = some t → feedA G A t FUEL c.v = .shifted s' v' →
      motive ⟨pushLex s' t c.laidx (lexSpan c.laidx) v', c.laidx + 1⟩ rs → motive c (.shift :: rs)) :
    ∀ (rs : List Repair) (c : RACfg), applySeqA G A w lexSpan c rs = some c' → motive c rs := by
  intro rs
  induction rs with
  | nil => intro c h; cases h; exact nil
  | cons r rs ih =>
    intro c h
    simp only [applySeqA] at h
    cases hr : applyRepairA G A w lexSpan c r with
    | none => rw [hr] at h; cases h
    | some c1 =>
      rw [hr] at h
      cases r with
      | insert t =>
        simp only [applyRepairA] at hr
        split at hr
        · rename_i s' v' hf; cases hr; exact insert c t s' v' rs hf (ih _ h)
        · cases hr
      | delete =>
        simp only [applyRepairA] at hr
        split at hr
        · rename_i hlt; cases hr; exact delete c rs hlt (ih _ h)
        · cases hr
      | shift =>
        simp only [applyRepairA] at hr
        split at hr
        · cases hr
        · rename_i t ht
          split at hr
          · rename_i s' v' hf; cases hr; exact shift c t s' v' rs ht hf (ih _ h)
          · cases hr

theorem applyRepairA_erase (G : Grammar) (A : Automaton) (w : List Nat) (lexSpan : Nat → Nat × Nat)
    (c : RACfg) (r : Repair) :
    (applyRepairA G A w lexSpan c r).map RACfg.pos = applyRepair G A w c.pos r := by
  cases r with
  | insert t =>
    simp only [applyRepairA, applyRepair, RACfg.pos]
    rw [← feedA_erase]
    cases feedA G A t FUEL c.v <;> rfl
  | delete =>
    simp only [applyRepairA, applyRepair, RACfg.pos]
    by_cases h : c.laidx < w.length <;> simp [h, RACfg.pos]
  | shift =>
    simp only [applyRepairA, applyRepair, RACfg.pos]
    cases w[c.laidx]? with
    | none => rfl
    | some t =>
      simp only
      rw [← feedA_erase]
      cases feedA G A t FUEL c.v <;> rfl

theorem applySeqA_erase (G : Grammar) (A : Automaton) (w : List Nat) (lexSpan : Nat → Nat × Nat) :
    ∀ (rs : List Repair) (c : RACfg),
      (applySeqA G A w lexSpan c rs).map RACfg.pos = applySeq G A w c.pos rs := by
  intro rs
  induction rs with
  | nil => intro c; rfl
  | cons r rs ih =>
    intro c
    simp only [applySeqA, applySeq]
    rw [← applyRepairA_erase G A w lexSpan c r]
    cases applyRepairA G A w lexSpan c r with
    | none => rfl
    | some c1 => exact ih c1

theorem recoverOf_firstApplies (G : Grammar) (A : Automaton) (w : List Nat) (recover : Pos → List (List Repair)) :
    C05.FirstApplies G A w (recoverOf G A w recover) := by
  intro c c' s0 rest h
  unfold recoverOf at h
  split at h
  · cases h
  · split at h
    · cases h
    · rename_i ha
      cases h
      exact ha

/-- the value flag of `recRun` is "a value was returned, or the Accept arm met a malformed value stack" -/
theorem recRunA_erase (G : Grammar) (A : Automaton) (w : List Nat) (lexSpan : Nat → Nat × Nat)
    (recover : Pos → List (List Repair)) :
    ∀ (fuel : Nat) (c : RACfg) (errs : List Err),
      recRun G A w (recoverOf G A w recover) fuel c.pos errs =
        (acceptish (recRunA G A w lexSpan recover fuel c errs).1, (recRunA G A w lexSpan recover fuel c errs).2.2) := by
  intro fuel
  induction fuel with
  | zero => intro c errs; rfl
  | succ n ih =>
    intro c errs
    simp only [recRun, recRunA, RACfg.pos]
    rw [← feedA_erase]
    cases feedA G A (nextTok G w c.laidx) FUEL c.v with
    | shifted s' v' =>
      exact ih ⟨pushLex s' (nextTok G w c.laidx) c.laidx (lexSpan c.laidx) v', c.laidx + 1⟩ errs
    | accept v' =>
      simp only [FedA.erase, acceptOut]
      cases v'.astack.getLast? with
      | none => rfl
      | some t => cases t <;> rfl
    | crash => rfl
    | fuelOut => rfl
    | error v' =>
      simp only [FedA.erase, recoverOf]
      cases recover ⟨v'.pstack, c.laidx⟩ with
      | nil => rfl
      | cons s0 rest =>
        simp only
        have hs := applySeqA_erase G A w lexSpan s0 ⟨v', c.laidx⟩
        simp only [RACfg.pos] at hs
        rw [← hs]
        cases applySeqA G A w lexSpan ⟨v', c.laidx⟩ s0 with
        | none => rfl
        | some c' =>
          simp only [Option.map_some, List.isEmpty_cons, Bool.false_eq_true, ↓reduceIte]
          exact ih c' _

end GrmVerif.RecAct
