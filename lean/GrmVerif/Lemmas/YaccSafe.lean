import GrmVerif.Lemmas.YaccScan
import GrmVerif.Lemmas.YaccLex
/-!
Helper lemmas for the yacc part of C12: the triple `M.Safe` of the parser over its state monad,
one continuation-passing lemma per primitive operation, and specifications of the `&mut self`
helpers that only touch `num_newlines` (`parse_ws`, `parse_to_single_colon`, `parse_action`) and of
`add_duplicate_occurrence`.
-/
namespace GrmVerif.YaccParse
open GrmVerif.Header (Res Span byteLen dropBytes Valid SpanOK MatchAt valid_advance slice_sat lookahead_eq
  fuel_ind valid_step valid_step1)

/-- the triple of the yacc parser: started in a well-formed state, `m` returns `ok a` in a well-formed
state with `P a st'`, or a located error in a well-formed state; never a panic, never out of fuel. (For every
input; the exact result on a rendered text is the other triple, `YaccRender.M.Ret` in Lemmas/YaccRoundtripScan.lean.) -/
def M.Safe {α : Type} (src : List Char) (m : M α) (st : St) (P : α → St → Prop) : Prop :=
  StOK src st → Res.Sat (m st) (fun r => StOK src r.2 ∧ P r.1 r.2) (fun r => ErrOK src r.1 ∧ StOK src r.2)

theorem M.bind_def {α β : Type} (m : M α) (f : α → M β) (st : St) :
    (m >>= f) st = match m st with
      | .ok (a, st') => f a st'
      | .err e => .err e
      | .panic => .panic
      | .fuelOut => .fuelOut := rfl

section Triple
variable {src : List Char} {α β : Type} {st : St} {P : α → St → Prop} {Q : β → St → Prop}

theorem M.Safe.bind {m : M α} {f : α → M β} (h : m.Safe src st P)
    (hf : ∀ a st', P a st' → (f a).Safe src st' Q) : (m >>= f).Safe src st Q := by
  intro hst
  rw [M.bind_def]
  rcases Header.Sat.cases (h hst) with ⟨r, e, hst', ha⟩ | ⟨r, e, he⟩ <;> rw [e]
  · exact hf r.1 r.2 ha hst'
  · exact he

theorem M.Safe.pure {a : α} (h : P a st) : (Pure.pure a : M α).Safe src st P := fun hst => ⟨hst, h⟩

theorem M.Safe.mono {m : M α} {P' : α → St → Prop} (h : m.Safe src st P)
    (hp : ∀ a st', P a st' → P' a st') : m.Safe src st P' :=
  fun hst => Header.Sat.mono (h hst) fun r h' => ⟨h'.1, hp r.1 r.2 h'.2⟩

theorem M.Safe.ite {c : Prop} [Decidable c] {a b : M α} (ha : c → a.Safe src st P)
    (hb : ¬c → b.Safe src st P) : (if c then a else b).Safe src st P := by
  by_cases h : c
  · rw [if_pos h]; exact ha h
  · rw [if_neg h]; exact hb h

/-- `bind` after an operation that only looks: the continuation runs in the same state -/
theorem M.Safe.bind_same {m : M α} {k : α → M β} (h : m.Safe src st (fun _ st' => st' = st))
    (hk : ∀ b, (k b).Safe src st Q) : (m >>= k).Safe src st Q :=
  h.bind fun b _ e => e ▸ hk b

/-- the invariant is a hypothesis of the triple: this hands it to a proof that reads the state -/
theorem M.Safe.of_stOK {m : M α} (h : StOK src st → m.Safe src st P) : m.Safe src st P :=
  fun hst => h hst hst

end Triple

/-- a sliceable position not before `lo`; `PosOK src (i + 1)` is strict progress from `i` -/
def PosOK (src : List Char) (lo : Nat) : Nat → St → Prop := fun j _ => lo ≤ j ∧ Valid src j

theorem M.Safe.from {src : List Char} {m : M Nat} {st : St} {a b : Nat} (h : m.Safe src st (PosOK src b))
    (hab : a ≤ b) : m.Safe src st (PosOK src a) :=
  h.mono fun _ _ h' => ⟨Nat.le_trans hab h'.1, h'.2⟩

/-- only `num_newlines` changed -/
def NlOnly (st st' : St) : Prop := ∃ n, st' = { st with nl := n }

theorem NlOnly.refl (st : St) : NlOnly st st := ⟨st.nl, rfl⟩

theorem NlOnly.trans {a b c : St} (h1 : NlOnly a b) (h2 : NlOnly b c) : NlOnly a c := by
  obtain ⟨n, rfl⟩ := h1
  obtain ⟨m, rfl⟩ := h2
  exact ⟨m, rfl⟩

theorem NlOnly.ast {st st' : St} (h : NlOnly st st') : st'.ast = st.ast := by
  obtain ⟨n, rfl⟩ := h
  rfl

theorem NlOnly.errs {st st' : St} (h : NlOnly st st') : st'.errs = st.errs := by
  obtain ⟨n, rfl⟩ := h
  rfl

section Prim
variable {src : List Char} {α β : Type} {st : St} {Q : β → St → Prop}

theorem liftR_bind {r : Res YErr α} {P : α → Prop} {f : α → M β} (h : r.Sat P (ErrOK src))
    (hf : ∀ a, P a → (f a).Safe src st Q) : (liftR r >>= f).Safe src st Q := by
  rcases Header.Sat.cases h with ⟨a, rfl, ha⟩ | ⟨e, rfl, he⟩
  · exact hf a ha
  · exact fun hst => ⟨he, hst⟩

theorem getSt_bind {f : St → M β} (h : (f st).Safe src st Q) : (getSt >>= f).Safe src st Q := h

theorem modifyAst_bind {g : Ast → Ast} {f : Unit → M β} (hg : AstOK src st.ast → AstOK src (g st.ast))
    (h : (f ()).Safe src { st with ast := g st.ast } Q) : (modifyAst g >>= f).Safe src st Q :=
  fun hst => h ⟨hg hst.1, hst.2.1, hst.2.2⟩

theorem addNl_bind {k : Nat} {f : Unit → M β} (h : ∀ st', NlOnly st st' → (f ()).Safe src st' Q) :
    (addNl k >>= f).Safe src st Q := h _ ⟨st.nl + k, rfl⟩

theorem throwAt_ok {k : EK} {i : Nat} {P : α → St → Prop} (h : Valid src i) :
    (throwAt k i : M α).Safe src st P :=
  fun hst => ⟨mkError_ok h, hst⟩

theorem la_eq {s : String} {i : Nat} {rest : List Char} (h : dropBytes src i = some rest) :
    la src s i = pure (if s.toList.isPrefixOf rest then some (i + byteLen s.toList) else none) := by
  rw [la, lookahead_eq h]; rfl

theorem MatchAt.la {s : String} {i j : Nat} (h : MatchAt src s.toList i j) : la src s i = pure (some j) := by
  obtain ⟨t, ht, rfl⟩ := h
  rw [la_eq ht, if_pos (List.isPrefixOf_iff_prefix.2 (List.prefix_append _ t))]

/-- a one-character keyword; `hs` is for `simp` (see `MatchAt.lt_str`) -/
theorem la_char {s : String} {c : Char} {t : List Char} {i : Nat} (hs : s.toList = [c])
    (h : dropBytes src i = some (c :: t)) : la src s i = pure (some (i + byteLen s.toList)) :=
  MatchAt.la ⟨t, hs ▸ h, rfl⟩

/-- for a keyword given as a literal, `simp` decides `s ≠ ""` on the literal itself, whereas
`s.toList ≠ []` makes every check decode the string -/
theorem _root_.GrmVerif.Header.MatchAt.lt_str {s : String} {i j : Nat} (h : MatchAt src s.toList i j)
    (hs : s ≠ "") : i < j :=
  h.lt fun e => hs (String.toList_eq_nil_iff.1 e)

theorem la_bind {s : String} {i : Nat} {k : Option Nat → M β} (h : Valid src i)
    (hsome : ∀ j, MatchAt src s.toList i j → (k (some j)).Safe src st Q) (hnone : (k none).Safe src st Q) :
    (la src s i >>= k).Safe src st Q := by
  obtain ⟨rest, hr⟩ := h
  rw [la_eq hr]
  exact Header.lookahead_cases (C := fun o => (k o).Safe src st Q) hr hsome hnone

theorem laWhen_bind {c : Bool} {s : String} {i : Nat} {k : Option Nat → M β} (h : Valid src i)
    (hsome : ∀ j, MatchAt src s.toList i j → (k (some j)).Safe src st Q) (hnone : (k none).Safe src st Q) :
    (laWhen c src s i >>= k).Safe src st Q := by
  unfold laWhen
  split
  · exact la_bind h hsome hnone
  · exact hnone

end Prim

section Helpers
variable {src : List Char} {fuel : Nat} {st : St}

theorem ws_ok {inc : Bool} {i : Nat} (h : Valid src i) :
    (ws src inc i).Safe src st (fun j st' => i ≤ j ∧ Valid src j ∧ NlOnly st st') := by
  unfold ws
  refine M.Safe.ite (fun _ => ?_) (fun _ => M.Safe.pure ⟨Nat.le_refl _, h, NlOnly.refl _⟩)
  refine liftR_bind (slice_sat h) fun rest hr => ?_
  cases heq : YaccLex.parseWs inc rest with
  | ok r =>
    obtain ⟨pre, e1, _, e3, _, _⟩ := YaccLex.ws_spec_ok_inc inc rest _ _ _ heq
    refine addNl_bind fun st' hnl => M.Safe.pure ⟨Nat.le_add_right _ _, ?_, hnl⟩
    rw [e3, byteLen_eq]
    exact valid_advance hr ⟨_, e1.symm⟩
  | error r =>
    obtain ⟨pre, tail, e1, _, e3, _⟩ := YaccLex.ws_spec_error_inc inc rest _ _ heq
    refine throwAt_ok ?_
    rw [e3, byteLen_eq]
    exact valid_advance hr ⟨tail, e1.symm⟩

theorem ws_pos {inc : Bool} {i : Nat} (h : Valid src i) : (ws src inc i).Safe src st (PosOK src i) :=
  (ws_ok h).mono fun _ _ h' => ⟨h'.1, h'.2.1⟩

theorem M.Safe.seq {m : M Nat} {f : Nat → M Nat} {a : Nat} (h : m.Safe src st (PosOK src a))
    (hf : ∀ i, Valid src i → ∀ st', (f i).Safe src st' (PosOK src i)) : (m >>= f).Safe src st (PosOK src a) :=
  h.bind fun i st' ⟨hai, hi⟩ => (hf i hi st').from hai

theorem stay {i : Nat} (hv : Valid src i) : (pure i : M Nat).Safe src st (PosOK src i) :=
  M.Safe.pure ⟨Nat.le_refl _, hv⟩

/-- the tail shared by the loops whose body ends with `parse_ws` and goes round -/
theorem ws_loop {loop : Nat → M Nat} {i j : Nat}
    (ih : ∀ k, i < k → Valid src k → ∀ st', (loop k).Safe src st' (PosOK src k))
    (hij : i < j) (hj : Valid src j) : (ws src true j >>= loop).Safe src st (PosOK src i) :=
  (ws_pos hj).bind fun k st' ⟨hjk, hk⟩ =>
    have hik := Nat.lt_of_lt_of_le hij hjk
    (ih k hik hk st').from (Nat.le_of_lt hik)

theorem colonLoop_ok : ∀ f j, Valid src j → byteLen src < j + f →
    ∀ st, (colonLoop src f j).Safe src st (PosOK src j) :=
  fuel_ind fun f j hv ih st => by
    have next : ∀ {k st'}, j < k → Valid src k → (colonLoop src f k).Safe src st' (PosOK src j) :=
      fun hjk hk => (ih _ hjk hk _).from (Nat.le_of_lt hjk)
    refine M.Safe.ite (fun hlt => ?_) (fun _ => throwAt_ok hv)
    refine liftR_bind (nextChar_sat hv hlt) fun c ⟨rest, hr⟩ => ?_
    refine M.Safe.ite (fun hc => ?_) (fun _ => M.Safe.ite (fun _ => ?_) (fun _ => ?_))
    · have hr1 : dropBytes src (j + 1) = some rest := valid_step1 hr (hc ▸ (by decide))
      refine M.Safe.ite (fun _ => stay hv) (fun _ => ?_)
      refine liftR_bind (slice_sat ⟨rest, hr1⟩) fun rest' hr' => ?_
      refine M.Safe.ite (fun hp => ?_) (fun _ => stay hv)
      obtain ⟨t, ht⟩ := List.isPrefixOf_iff_prefix.1 hp
      exact next (Nat.lt_add_of_pos_right (Nat.zero_lt_succ 1))
        ⟨t, valid_step1 (c := ':') (hr'.trans (congrArg some ht.symm)) (by decide)⟩
    · exact addNl_bind fun st1 _ => next (step_lt c) ⟨rest, valid_step hr⟩
    · exact next (step_lt c) ⟨rest, valid_step hr⟩

theorem parseToSingleColon_ok {i : Nat} (h : Valid src i) (hf : byteLen src < fuel) :
    (parseToSingleColon src fuel i).Safe src st (PosOK src i) :=
  (colonLoop_ok fuel i h (Nat.lt_add_left _ hf) st).bind fun _ _ ⟨hij, hj⟩ =>
    liftR_bind (sliceRange_valid_sat h hj hij) fun _ _ => M.Safe.pure ⟨hij, hj⟩

/-- the loop ends at the matching `}` with `c = 0`, or at the end of the text with `c ≥ 1`. It is
started with at least one brace open, or (as `parse_action` does) with none open on a `{`, which the
first iteration counts. -/
theorem actionLoop_ok : ∀ f j, Valid src j → byteLen src < j + f → ∀ (c : Int) st,
    (1 ≤ c ∨ c = 0 ∧ ∃ t, dropBytes src j = some ('{' :: t)) →
    (actionLoop src f j c).Safe src st
      (fun r st' => j ≤ r.1 ∧ NlOnly st st' ∧
        ((r.2 = 0 ∧ ∃ rest, dropBytes src r.1 = some ('}' :: rest)) ∨ 1 ≤ r.2)) :=
  fuel_ind fun f j hv ih c st hc => by
    refine M.Safe.ite (fun hlt => ?_) (fun hge => M.Safe.pure ⟨Nat.le_refl _, NlOnly.refl _, .inr ?_⟩)
    · refine liftR_bind (nextChar_sat hv hlt) fun ch ⟨rest, hr⟩ => ?_
      have next : ∀ (c' : Int) {st1 : St}, 1 ≤ c' → NlOnly st st1 →
          (actionLoop src f (j + ch.utf8Size) c').Safe src st1
            (fun r st' => j ≤ r.1 ∧ NlOnly st st' ∧
              ((r.2 = 0 ∧ ∃ rest, dropBytes src r.1 = some ('}' :: rest)) ∨ 1 ≤ r.2)) :=
        fun c' st1 hc' hnl =>
          (ih _ (step_lt ch) ⟨rest, valid_step hr⟩ c' st1 (.inl hc')).mono
            (fun _ _ h => ⟨Nat.le_trans (Nat.le_add_right _ _) h.1, hnl.trans h.2.1, h.2.2⟩)
      refine M.Safe.ite (fun _ => next _ (by omega) (NlOnly.refl _)) (fun hne => ?_)
      have hc1 : 1 ≤ c := hc.resolve_right fun ⟨_, t, ht⟩ =>
        hne (List.head_eq_of_cons_eq (Option.some.inj (hr.symm.trans ht)))
      refine M.Safe.ite (fun hb => M.Safe.ite (fun _ => ?_) (fun _ => next _ (by omega) (NlOnly.refl _)))
        (fun _ => M.Safe.ite (fun _ => addNl_bind fun st1 hnl => next c hc1 hnl)
          (fun _ => next c hc1 (NlOnly.refl _)))
      exact M.Safe.pure ⟨Nat.le_refl _, NlOnly.refl _, .inl ⟨rfl, rest, hb ▸ hr⟩⟩
    · exact hc.resolve_right fun ⟨_, t, ht⟩ =>
        hge (Nat.lt_of_lt_of_le (step_lt '{') (Valid.le ⟨t, valid_step ht⟩))

theorem parseAction_ok {i k : Nat} (hm : MatchAt src "{".toList i k) (hf : byteLen src < fuel) :
    (parseAction src fuel i).Safe src st (fun j st' => i < j ∧ Valid src j ∧ NlOnly st st') := by
  obtain ⟨t, hb, -⟩ := hm
  rw [show "{".toList = ['{'] by simp, List.singleton_append] at hb
  have h : Valid src i := ⟨_, hb⟩
  unfold parseAction
  rw [la_char (by simp) hb]
  refine (actionLoop_ok fuel i h (Nat.lt_add_left _ hf) 0 st (.inr ⟨rfl, t, hb⟩)).bind ?_
  rintro ⟨j, c⟩ st1 ⟨hij, hnl, hcase⟩
  refine M.Safe.ite (fun _ => throwAt_ok h) (fun hc => ?_)
  obtain ⟨rest, hr⟩ := (hcase.resolve_right hc).2
  -- `{` stands at `i` and `}` at `j`, so `i ≠ j`
  have hlt : i < j := Nat.lt_of_le_of_ne hij fun e => by
    subst e; exact absurd (List.head_eq_of_cons_eq (Option.some.inj (hb.symm.trans hr))) (by decide)
  rw [la_char (by simp) hr]
  refine liftR_bind (sliceRange_valid_sat ⟨t, valid_step1 hb (by decide)⟩ ⟨_, hr⟩ hlt) fun _ _ => ?_
  exact M.Safe.pure ⟨Nat.lt_succ_of_lt hlt, ⟨rest, valid_step1 hr (by decide)⟩, hnl⟩

theorem addDup_ok {kind : EK} {orig dup : Span} (ho : SpanOK src orig) (hd : SpanOK src dup) :
    ∀ errs : List YErr, (∀ e ∈ errs, ErrOK src e) →
    ∃ errs', addDup kind orig dup errs = some errs' ∧ ∀ e ∈ errs', ErrOK src e := by
  intro errs
  induction errs with
  | nil =>
    exact fun _ => ⟨_, rfl, List.forall_mem_singleton.2
      ⟨List.cons_ne_nil _ _, List.forall_mem_cons.2 ⟨ho, List.forall_mem_singleton.2 hd⟩⟩⟩
  | cons x xs ih =>
    intro hall
    obtain ⟨hx, hxs⟩ := List.forall_mem_cons.1 hall
    obtain ⟨errs', h1, h2⟩ := ih hxs
    have keep : ∃ errs'', (addDup kind orig dup xs).map (x :: ·) = some errs'' ∧
        ∀ e ∈ errs'', ErrOK src e := ⟨x :: errs', h1 ▸ rfl, List.forall_mem_cons.2 ⟨hx, h2⟩⟩
    rw [addDup]
    by_cases hk : x.kind = kind
    · rw [if_pos hk]
      have hx2 := hx.2
      cases hsp : x.spans with
      | nil => exact absurd hsp hx.1
      | cons s0 tl =>
        rw [hsp] at hx2
        by_cases hs : s0 = orig
        · exact ⟨_, if_pos hs, List.forall_mem_cons.2
            ⟨⟨List.concat_ne_nil _ _, Header.forall_mem_snoc hx2 hd⟩, hxs⟩⟩
        · obtain ⟨errs'', h3, h4⟩ := keep
          exact ⟨errs'', (if_neg hs).trans h3, h4⟩
    · rw [if_neg hk]
      exact keep

theorem addDupM_ok {kind : EK} {orig dup : Span} (ho : SpanOK src orig) (hd : SpanOK src dup) :
    (addDupM kind orig dup).Safe src st (fun _ _ => True) := by
  intro hst
  obtain ⟨errs', h1, h2⟩ := addDup_ok (kind := kind) ho hd st.errs hst.2.2
  unfold addDupM
  rw [h1]
  exact ⟨⟨hst.1, hst.2.1, h2⟩, trivial⟩

end Helpers

theorem hasRule_addRule (a : Ast) (n : Name) (sp : Span) : (a.addRule n sp).hasRule n = true := by
  unfold Ast.addRule
  split
  · assumption
  · simp [Ast.hasRule, List.any_append]

end GrmVerif.YaccParse
