import GrmVerif.Lemmas.LRPath
import GrmVerif.Lemmas.Tree
import GrmVerif.Lemmas.LRIter
/-! Soundness and crash-freedom of the LR driver on a certified automaton. -/
namespace GrmVerif.Cert
open GrmVerif Spec LR

variable {G : Grammar} {A : Automaton}

structure Inv (G : Grammar) (A : Automaton) (w : List Nat) (c : Cfg) : Prop where
  path : Path A c.pstack (c.astack.map (Tree.root G))
  trees : Tree.validList G c.astack = true
  yields : Tree.yieldList c.astack.reverse = w.take c.laidx
  inRange : c.laidx ≤ w.length

/-- the input consists of real tokens (the lexer never produces the end-of-input id) -/
def InputOk (G : Grammar) (w : List Nat) : Prop := ∀ t ∈ w, t < G.ntoks ∧ t ≠ G.eof

theorem drop_cons_getElem {α : Type} {l : List α} {n : Nat} {a : α} {t : List α} (h : l.drop n = a :: t) :
    l[n]? = some a ∧ l.drop (n + 1) = t :=
  ⟨by rw [← List.head?_drop, h]; rfl, by rw [← List.tail_drop, h]; rfl⟩

theorem nextTok_of_drop_cons {G : Grammar} {w : List Nat} {i a : Nat} {t : List Nat}
    (h : w.drop i = a :: t) : nextTok G w i = a := by
  simp [nextTok, (drop_cons_getElem h).1]

theorem nextTok_lt {G : Grammar} {w : List Nat} (hw : InputOk G w) (hwf : G.wf = true) (i : Nat) :
    nextTok G w i < G.ntoks := by
  rcases Nat.lt_or_ge i w.length with h | h
  · rw [Rec.nextTok_of_lt h]; exact (hw _ (List.getElem_mem h)).1
  · rw [Rec.nextTok_of_le h]; exact wf_eof hwf

theorem nextTok_eof {G : Grammar} {w : List Nat} (hw : InputOk G w) (i : Nat) :
    nextTok G w i = G.eof ↔ w.length ≤ i :=
  ⟨fun h => Nat.le_of_not_lt fun hlt => (hw _ (List.getElem_mem hlt)).2 (Rec.nextTok_of_lt hlt ▸ h), Rec.nextTok_of_le⟩

theorem inv_init (w : List Nat) : Inv G A w (init A) :=
  ⟨.base, rfl, by simp [init, Tree.yieldList], Nat.zero_le _⟩

theorem inv_shifted (P : Props G A) {w : List Nat} (hw : InputOk G w)
    {c : Cfg} (hinv : Inv G A w c) {st s' : Nat} {rest : List Nat} (hps : c.pstack = st :: rest)
    (hact : A.action st (nextTok G w c.laidx) = .shift s') : Inv G A w (shifted G w s' c) := by
  obtain ⟨hpath, htrees, hyield, hrange⟩ := hinv
  obtain ⟨hne, hpath'⟩ := (hps ▸ hpath).shift P (nextTok_lt hw P.wf c.laidx) hact
  -- what is shifted is a real lexeme
  have hlt : c.laidx < w.length := Nat.lt_of_not_le fun hle => hne ((nextTok_eof hw c.laidx).mpr hle)
  have hget : w[c.laidx]? = some (nextTok G w c.laidx) := by
    rw [Rec.nextTok_of_lt hlt]; exact List.getElem?_eq_getElem hlt
  refine ⟨by simpa [shifted, hps, Tree.root] using hpath', ?_, ?_, hlt⟩
  · simpa [shifted, Tree.validList, Tree.valid] using htrees
  · rw [yieldList_eq] at hyield ⊢
    simp only [shifted, List.reverse_cons, List.flatMap_append, hyield, List.flatMap_singleton, Tree.yield]
    rw [List.take_add_one, hget]; rfl

theorem inv_reduced (P : Props G A) {w : List Nat} (hw : InputOk G w)
    {c : Cfg} (hinv : Inv G A w c) {st p : Nat} {rest : List Nat} (hps : c.pstack = st :: rest)
    (hact : A.action st (nextTok G w c.laidx) = .reduce p) :
    ∃ g, Rec.Red G A (nextTok G w c.laidx) c.pstack p g ∧ Inv G A w (reduced G p (Rec.red G p g c.pstack) c) := by
  obtain ⟨hpath, htrees, hyield, hrange⟩ := hinv
  obtain ⟨hplt, hlab, g, hr, hpath'⟩ := (hps ▸ hpath).reduce P (nextTok_lt hw P.wf c.laidx) hact
  refine ⟨g, hps ▸ hr, ?_, ?_, ?_, hrange⟩
  · simpa [reduced, hps, Tree.root, List.map_drop] using hpath'
  · rw [← List.take_append_drop (G.rhs p).length c.astack, validList_eq, List.all_append, Bool.and_eq_true] at htrees
    simp only [reduced, validList_eq, List.all_cons, Bool.and_eq_true, valid_node, List.all_reverse]
    exact ⟨⟨hplt, by rw [List.map_reverse, List.map_take, hlab], htrees.1⟩, htrees.2⟩
  · rw [yieldList_eq] at hyield ⊢
    simp only [reduced, List.reverse_cons, List.flatMap_append, List.flatMap_singleton, Tree.yield, yieldList_eq]
    rw [← List.flatMap_append, ← List.reverse_append, List.take_append_drop]
    exact hyield

theorem inv_accept (P : Props G A) {w : List Nat} (hw : InputOk G w)
    {c : Cfg} (hinv : Inv G A w c) {st : Nat} {rest : List Nat} (hps : c.pstack = st :: rest)
    (hact : A.action st (nextTok G w c.laidx) = .accept) :
    ∃ p kids, c.astack = [.node p kids] ∧ Tree.valid G (.node p kids) = true ∧
      (∃ S, G.rhs G.startProd = [.rule S] ∧ Tree.root G (.node p kids) = .rule S) ∧
      Tree.yield (.node p kids) = w := by
  obtain ⟨hpath, htrees, hyield, hrange⟩ := hinv
  rw [hps] at hpath
  obtain ⟨heof, -, S, hS, hlab⟩ := accept_path P hpath (nextTok_lt hw P.wf c.laidx) hact
  obtain ⟨T, has, hroot⟩ := List.map_eq_singleton_iff.mp hlab
  cases T with
  | leaf t i => cases hroot
  | node p kids =>
    rw [has] at htrees hyield
    refine ⟨p, kids, has, by simpa [Tree.validList] using htrees, ⟨S, hS, hroot⟩, ?_⟩
    simp only [List.reverse_cons, List.reverse_nil, List.nil_append, Tree.yieldList,
      List.append_nil] at hyield
    rw [hyield, List.take_of_length_le ((nextTok_eof hw c.laidx).mp heof)]

theorem step_inv {G : Grammar} {A : Automaton} (P : Props G A) {w : List Nat} (hw : InputOk G w)
    {c : Cfg} (hinv : Inv G A w c) :
    (∀ c', step G A w c = .cont c' → Inv G A w c') ∧
    (∀ n, step G A w c ≠ .done (.crash n)) ∧
    (∀ t, step G A w c = .done (.accept t) →
      Tree.valid G t = true ∧ (∃ S, G.rhs G.startProd = [.rule S] ∧ Tree.root G t = .rule S) ∧
        Tree.yield t = w) := by
  cases hps : c.pstack with
  | nil => have := hinv.path; rw [hps] at this; cases this
  | cons st rest =>
    cases hact : A.action st (nextTok G w c.laidx) with
    | error =>
      have hs : step G A w c = .done (.error c.laidx st) := by simp only [step, hps, hact]
      rw [hs]
      exact ⟨nofun, nofun, nofun⟩
    | shift s' =>
      rw [step_shifted hps hact]
      exact ⟨fun c' h => by injection h with h; exact h ▸ inv_shifted P hw hinv hps hact, nofun, nofun⟩
    | reduce p =>
      obtain ⟨g, hr, hinv'⟩ := inv_reduced P hw hinv hps hact
      rw [step_red hr]
      exact ⟨fun c' h => by injection h with h; exact h ▸ hinv', nofun, nofun⟩
    | accept =>
      obtain ⟨p, kids, has, hv, hr, hy⟩ := inv_accept P hw hinv hps hact
      have hs : step G A w c = .done (.accept (.node p kids)) := by
        simp only [step, hps, hact, has, List.getLast?_singleton]
      rw [hs]
      exact ⟨nofun, nofun, fun t h => by injection h with h; injection h with h; exact h ▸ ⟨hv, hr, hy⟩⟩

theorem steps_inv (P : Props G A) {w : List Nat} (hw : InputOk G w)
    {a b : Cfg} (h : Steps G A w a b) (hinv : Inv G A w a) : Inv G A w b :=
  h.keeps (fun _ c' hc hs => (step_inv P hw hc).1 c' hs) hinv

theorem accept_stack (P : Props G A) {w : List Nat} (hw : InputOk G w)
    {c : Cfg} (hinv : Inv G A w c) (t : Tree) (h : step G A w c = .done (.accept t)) : c.astack = [t] := by
  obtain ⟨st, tl, _, _, hps, hact, hl, -⟩ := step_accept_inv h
  obtain ⟨p, kids, has, -⟩ := inv_accept P hw hinv hps hact
  rw [has, List.getLast?_singleton, Option.some.injEq] at hl
  rw [has, hl]

end GrmVerif.Cert
