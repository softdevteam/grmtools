import GrmVerif.Lemmas.LexSpecStep
/-!
The loops of the model (`declLoop`, `ruleLoop`, `parseWith`: byte offsets into the source, slices
that may panic, fuel) compute the specification over the lines (`declSpec`, `ruleSpec`, `specParse`).
-/
namespace GrmVerif.LexSpecParse
open GrmVerif.LexUnescape GrmVerif.LexParse

theorem takeWhile_append_stop (p : Char → Bool) (l r : List Char)
    (hr : ∀ c cs, r = c :: cs → p c = false) :
    (l ++ r).takeWhile p = l.takeWhile p ∧ (l ++ r).dropWhile p = l.dropWhile p ++ r := by
  induction l with
  | nil =>
    cases r with
    | nil => simp
    | cons c cs => simp [hr c cs rfl]
  | cons x xs ih =>
    by_cases hx : p x = true
    · simp [hx, ih]
    · simp [hx]

theorem dropWhile_nil_iff_all (p : Char → Bool) (l : List Char) :
    l.dropWhile p = [] ↔ l.all p = true := by
  constructor
  · intro h
    have := List.takeWhile_append_dropWhile (p := p) (l := l)
    rw [h, List.append_nil] at this
    exact this ▸ List.all_takeWhile
  · intro h
    simpa using List.dropWhile_append_of_pos (l₂ := []) (List.all_eq_true.mp h)

theorem declSpec_blank (env : Env) (len off : Nat) (l : List Char) (ls : List Line) (st : PState)
    (hl : ∀ c ∈ l, isPWS c = true) :
    declSpec env len ((off, l) :: ls) st = declSpec env len ls st := by
  rw [declSpec]
  have : l.dropWhile isPWS = [] := (dropWhile_nil_iff_all isPWS l).mpr (List.all_eq_true.mpr hl)
  simp [this]

theorem declSpec_cons_ws (env : Env) (len off : Nat) (c : Char) (l : List Char) (ls : List Line)
    (st : PState) (hc : isPWS c = true) :
    declSpec env len ((off, c :: l) :: ls) st = declSpec env len ((off + c.utf8Size, l) :: ls) st := by
  rw [declSpec, declSpec]
  simp only [List.dropWhile_cons, List.takeWhile_cons, hc, if_true, byteLen, Nat.add_assoc]

/-- the specification does not depend on how blank text in front of a line is cut into lines -/
theorem declSpec_skip (env : Env) (len : Nat) (st : PState) (rest : List Char) : ∀ off,
    declSpec env len (splitLinesAt rest off) st
      = declSpec env len (splitLinesAt (rest.dropWhile isPWS) (off + byteLen (rest.takeWhile isPWS))) st := by
  induction rest with
  | nil => intro off; rfl
  | cons c cs ih =>
    intro off
    by_cases hc : isPWS c = true
    · simp only [List.dropWhile_cons, List.takeWhile_cons, hc, if_true, byteLen]
      rw [← Nat.add_assoc, ← ih (off + c.utf8Size)]
      by_cases hs : isLineSep c = true
      · simp only [splitLinesAt, hs, if_true]
        rw [declSpec]
        simp
      · simp only [Bool.not_eq_true] at hs
        simp only [splitLinesAt, hs, Bool.false_eq_true, if_false]
        rw [splitLinesAt_eq cs]
        exact declSpec_cons_ws env len off c _ _ st hc
    · simp only [Bool.not_eq_true] at hc
      simp [hc, byteLen]

theorem ruleSpec_skip (env : Env) (st : PState) (rest : List Char) : ∀ off,
    ruleSpec env (splitLinesAt rest off) st
      = ruleSpec env (splitLinesAt (rest.dropWhile isLineSep) (off + byteLen (rest.takeWhile isLineSep))) st := by
  induction rest with
  | nil => intro off; rfl
  | cons c cs ih =>
    intro off
    by_cases hs : isLineSep c = true
    · simp only [List.dropWhile_cons, List.takeWhile_cons, hs, if_true, byteLen]
      rw [← Nat.add_assoc, ← ih (off + c.utf8Size)]
      simp only [splitLinesAt, hs, if_true]
      rw [ruleSpec]
    · simp only [Bool.not_eq_true] at hs
      simp [hs, byteLen]

theorem splitLinesAt_sepHead (r : List Char) (hr : SepHead r) (off : Nat) :
    splitLinesAt r off = (off, []) :: tailLines r off :=
  splitLinesAt_append [] r off (fun _ h => nomatch h) hr

theorem declSpec_tail (env : Env) (len : Nat) (st : PState) (r : List Char) (hr : SepHead r) (off : Nat) :
    declSpec env len (tailLines r off) st = declSpec env len (splitLinesAt r off) st := by
  rw [splitLinesAt_sepHead r hr, declSpec_blank env len off [] _ st (fun _ h => nomatch h)]

theorem ruleSpec_tail (env : Env) (st : PState) (r : List Char) (hr : SepHead r) (off : Nat) :
    ruleSpec env (tailLines r off) st = ruleSpec env (splitLinesAt r off) st := by
  rw [splitLinesAt_sepHead r hr, ruleSpec]

theorem percent_notPWS : isPWS '%' = false := by decide
theorem percent_size : ('%' : Char).utf8Size = 1 := by decide

theorem byteLen_dropWhile_le (p : Char → Bool) (l : List Char) : byteLen (l.dropWhile p) ≤ byteLen l := by
  have := congrArg byteLen (List.takeWhile_append_dropWhile (p := p) (l := l))
  rw [byteLen_append] at this; omega

theorem skip_to_end {src : List Char} {j : Nat} {r : List Char} (h : At src j r) :
    (j + byteLen (r.takeWhile isPWS) = byteLen src) ↔ r.all isPWS = true := by
  have hl := h.len
  have hs := congrArg byteLen (List.takeWhile_append_dropWhile (p := isPWS) (l := r))
  rw [byteLen_append] at hs
  rw [← dropWhile_nil_iff_all]
  constructor
  · intro e; apply byteLen_eq_zero; omega
  · intro e; rw [e] at hs; simp only [byteLen] at hs; omega

theorem parseEnd_nil {src : List Char} {i : Nat} (h : At src i []) (st : PState) :
    parseEnd src i st = some (finish st) := by
  have hl := h.len
  simp only [byteLen, Nat.add_zero] at hl
  simp [parseEnd, lookaheadIs_eq _ h, hl]

/-- at a line that starts with `%%` the parse ends well iff only white space follows -/
theorem parseEnd_pct {src : List Char} {i : Nat} {l : List Char} (h : At src i ('%' :: '%' :: l))
    (st : PState) :
    parseEnd src i st
      = some (if l.all isPWS then finish st else .error (st.errs ++ [mkErr .routinesNotSupported i])) := by
  have h3 : At src (i + byteLen ['%', '%']) l := At.adv (a := ['%', '%']) h
  simp only [parseEnd, lookaheadIs_eq _ h, List.isPrefixOf, beq_self_eq_true, Bool.and_self, if_true,
    Option.bind_some, parseWs, skipAt_eq isPWS h3, Option.map_some, skip_to_end h3]

/-- The rules loop, from any position: `rest` is the text from offset `i` on (`At src i rest`), and each
iteration of the loop is one line of `splitLinesAt rest i` (`At.line` says what every position
primitive returns there; `ruleSpec_skip`, `ruleSpec_tail` realign the lines after the separators the
loop skips). The loop is stated together with what `parse` does after it (`afterRules`): at a `%%`
line `ruleSpec` already looks at all the text that follows, which the code only does once the loop has
returned. One unit of fuel per line, so more fuel than bytes left is enough. -/
theorem ruleLoop_spec (env : Env) (hb : env.cfg.BOk) (src : List Char) :
    ∀ fuel i rest st, At src i rest → byteLen rest < fuel →
      (ruleLoop env src fuel i st).bind (afterRules src)
        = some (specEnd (ruleSpec env (splitLinesAt rest i) st)) := by
  intro fuel
  induction fuel with
  | zero => intro i rest st _ h; omega
  | succ fuel ih =>
    intro i rest st hat hf
    rw [ruleLoop]
    have h1 := hat.tw isLineSep
    have hle1 := byteLen_dropWhile_le isLineSep rest
    have hhead : ∀ c cs, rest.dropWhile isLineSep = c :: cs → isLineSep c = false :=
      fun c cs h => dropWhile_head isLineSep rest c cs h
    simp only [parseNl, skipAt_eq isLineSep hat, Option.bind_some]
    rw [ruleSpec_skip env st rest i]
    generalize i + byteLen (rest.takeWhile isLineSep) = i1 at *
    generalize rest.dropWhile isLineSep = rest1 at *
    cases rest1 with
    | nil =>
      have hl := h1.len
      simp only [byteLen, Nat.add_zero] at hl
      simp only [lineLenAt_eq h1, commentAt_eq env h1, Option.bind_some, List.takeWhile_nil, byteLen, parseWs,
        skipAt_eq isPWS h1]
      simp [hl, afterRules, parseEnd_nil h1, splitLinesAt, ruleSpec, specEnd]
    | cons c cs =>
      obtain ⟨l', rest2, rfl, _, hsep, h2, hsum, hpos, hll, hraw, hcom, hpct, hsplit⟩ :=
        h1.line env (hhead c cs rfl)
      have hlen2 : byteLen rest2 < fuel := by omega
      simp only [hll, hcom, Option.bind_some]
      rw [hsplit, ruleSpec]
      by_cases hcm : (env.comments && ['/', '/'].isPrefixOf (c :: l')) = true
      · simp only [hcm, if_true]
        rw [ih _ rest2 st h2 hlen2, ruleSpec_tail env st rest2 hsep]
      · simp only [hcm, Bool.false_eq_true, if_false]
        simp only [parseWs, skipAt_eq isPWS h1, Option.bind_some, List.takeWhile_cons]
        by_cases hw : isPWS c = true
        · have hne : i1 + byteLen (c :: (l' ++ rest2).takeWhile isPWS) ≠ i1 := by
            have := Char.utf8Size_pos c
            rw [byteLen_cons]; omega
          simp only [hw, if_true, hne, ne_eq, not_false_eq_true]
          rw [ih _ rest2 _ h2 hlen2, ruleSpec_tail env _ rest2 hsep]
        · simp only [Bool.not_eq_true] at hw
          have hne : ¬ (i1 = byteLen src) := by rw [h1.len, hsum]; omega
          simp only [hw, Bool.false_eq_true, if_false, byteLen, Nat.add_zero, ne_eq, not_true_eq_false,
            hne, hpct, Option.bind_some]
          by_cases hp : ['%', '%'].isPrefixOf (c :: l') = true
          · obtain ⟨l'', hshape⟩ := prefix_pct hp
            obtain ⟨rfl, rfl⟩ := List.cons.inj hshape
            simp only [hp, if_true, Option.isSome_some, Option.bind_some, afterRules,
              parseEnd_pct (l := l'' ++ rest2) h1, List.all_append, allBlank_tail rest2 hsep,
              List.drop_succ_cons, List.drop_zero]
            cases l''.all isPWS && rest2.all isPWS <;> rfl
          · simp only [hp, Bool.false_eq_true, if_false, Option.isSome_none]
            simp only [parseRule, hll, Option.bind_some, hraw, ruleLineStep_eq env hb, Option.map_some]
            cases hstep : ruleStepSpec env i1 (c :: l') st with
            | error es => simp only [Option.bind_some, afterRules, specEnd]
            | ok st' =>
              simp only
              rw [ih _ rest2 st' h2 hlen2, ruleSpec_tail env st' rest2 hsep]
              rfl

/-- the first line of the rules section: what follows `%%` and spaces or tabs on that line -/
theorem splitLinesAt_spaces (a r : List Char) (off : Nat) (ha : ∀ c ∈ a, isLineSep c = false)
    (hr : SepHead r) :
    splitLinesAt ((a ++ r).dropWhile isSpaceSep) (off + byteLen ((a ++ r).takeWhile isSpaceSep))
      = (off + byteLen (a.takeWhile isSpaceSep), a.dropWhile isSpaceSep) :: tailLines r (off + byteLen a) := by
  have hstop : ∀ c cs, r = c :: cs → isSpaceSep c = false := by
    intro c cs h
    cases hsc : isSpaceSep c with
    | false => rfl
    | true => exact nomatch (hr c cs h).symm.trans (spaceSep_not_lineSep c hsc)
  obtain ⟨ht, hd⟩ := takeWhile_append_stop isSpaceSep a r hstop
  have hb := congrArg byteLen (List.takeWhile_append_dropWhile (p := isSpaceSep) (l := a))
  rw [byteLen_append] at hb
  rw [hd, ht, splitLinesAt_append _ r _ (fun x hx => ha x ((List.dropWhile_sublist _).subset hx)) hr,
    Nat.add_assoc, hb]

/-- The declarations loop, in the same way, stated with what follows it (`afterDecls`: the rules loop and
the end of `parse`). Two amounts of fuel: `fuel` is what this loop still has, `F` what `parseWith`
handed to both loops; the rules loop starts afresh with `F` at the `%%` line. -/
theorem declLoop_spec (env : Env) (hb : env.cfg.BOk) (src : List Char) (F : Nat) (hF : byteLen src < F) :
    ∀ fuel i rest st, At src i rest → byteLen rest < fuel →
      (declLoop env src fuel i st).bind (afterDecls env F src)
        = some (specRules env (declSpec env (byteLen src) (splitLinesAt rest i) st)) := by
  intro fuel
  induction fuel with
  | zero => intro i rest st _ h; omega
  | succ fuel ih =>
    intro i rest st hat hf
    rw [declLoop]
    have h1 := hat.tw isPWS
    have hle1 := byteLen_dropWhile_le isPWS rest
    have hhead : ∀ c cs, rest.dropWhile isPWS = c :: cs → isPWS c = false :=
      fun c cs h => dropWhile_head isPWS rest c cs h
    simp only [parseWs, skipAt_eq isPWS hat, Option.bind_some]
    rw [declSpec_skip env _ st rest i]
    generalize i + byteLen (rest.takeWhile isPWS) = i1 at *
    generalize rest.dropWhile isPWS = rest1 at *
    cases rest1 with
    | nil =>
      have hl := h1.len
      simp only [byteLen, Nat.add_zero] at hl
      simp [commentAt_eq env h1, hl, afterDecls, splitLinesAt, declSpec, specRules, List.isPrefixOf]
    | cons c cs =>
      have hw : isPWS c = false := hhead c cs rfl
      obtain ⟨l', rest2, rfl, hnosep, hsep, h2, hsum, hpos, hll, hraw, hcom, hpct, hsplit⟩ :=
        h1.line env (not_pws_not_lineSep c hw)
      have hlen2 : byteLen rest2 < fuel := by omega
      have hne : ¬ (i1 = byteLen src) := by rw [h1.len, hsum]; omega
      rw [hsplit, declSpec]
      simp only [List.dropWhile_cons, List.takeWhile_cons, hw, Bool.false_eq_true, if_false, byteLen,
        Nat.add_zero, List.isEmpty_cons, hcom, Option.bind_some]
      by_cases hcm : (env.comments && ['/', '/'].isPrefixOf (c :: l')) = true
      · simp only [hcm, if_true, hll, Option.bind_some]
        rw [ih _ rest2 st h2 hlen2, declSpec_tail env _ st rest2 hsep]
        rfl
      · simp only [hcm, Bool.false_eq_true, if_false, hne, hpct, Option.bind_some]
        by_cases hp : ['%', '%'].isPrefixOf (c :: l') = true
        · obtain ⟨l'', hshape⟩ := prefix_pct hp
          obtain ⟨rfl, rfl⟩ := List.cons.inj hshape
          have h3 : At src (i1 + 2) (l'' ++ rest2) := At.adv (a := ['%', '%']) h1
          have h4 := h3.tw isSpaceSep
          have hF2 : byteLen ((l'' ++ rest2).dropWhile isSpaceSep) < F := by
            have := h4.len; omega
          have e : i1 + 2 + byteLen l'' = i1 + (('%' : Char).utf8Size + byteLen ('%' :: l'')) := by
            simp only [byteLen, percent_size]; omega
          simp only [hp, if_true, parseSpaces, skipAt_eq isSpaceSep h3, Option.map_some, Option.bind_some,
            afterDecls, List.drop_succ_cons, List.drop_zero]
          rw [ruleLoop_spec env hb src F _ _ st h4 hF2, specRules,
            splitLinesAt_spaces l'' rest2 _ (fun x hx => hnosep x (by simp [hx])) hsep, e]
        · simp only [hp, Bool.false_eq_true, if_false]
          simp only [parseDeclaration, hll, Option.bind_some, hraw]
          cases hstep : declLineStep i1 (c :: l') st with
          | error es => simp only [Option.bind_some, afterDecls, specRules]
          | ok v =>
            obtain ⟨e, st'⟩ := v
            obtain ⟨x, trail, htr, htrws, rfl, hxpos⟩ := declLineStep_end i1 (c :: l') st st' e hstep
            have h3 : At src (i1 + byteLen x) (trail ++ rest2) := by
              apply At.adv
              rw [← List.cons_append, htr] at h1; simpa using h1
            have h4 := h3.tw isPWS
            have hbx := congrArg byteLen htr
            have hle3 := byteLen_dropWhile_le isPWS (trail ++ rest2)
            rw [byteLen_append] at hbx hle3
            have hlen3 : byteLen ((trail ++ rest2).dropWhile isPWS) < fuel := by omega
            simp only [parseWs, skipAt_eq isPWS h3, Option.map_some, Option.bind_some]
            rw [ih _ _ st' h4 hlen3, ← declSpec_skip env _ st' (trail ++ rest2) (i1 + byteLen x),
              splitLinesAt_append trail rest2 _ (fun y hy => hnosep y (htr ▸ List.mem_append_right x hy)) hsep,
              declSpec_blank env _ _ trail _ st' htrws, Nat.add_assoc, ← hbx]
            rfl

/-- **the model computes the specification** for every text and every fuel above the length of the
text: no slice panics, the `assert_eq!` holds, the loops end -/
theorem parseWith_eq (env : Env) (hb : env.cfg.BOk) (pre body : List Char) (fuel : Nat)
    (hf : byteLen (pre ++ body) < fuel) :
    parseWith env fuel (pre ++ body) (byteLen pre) = some (specParse env pre body) := by
  have hat := At.start pre body
  have h1 := hat.tw isPWS
  have hle := byteLen_dropWhile_le isPWS body
  have hlen : byteLen (body.dropWhile isPWS) < fuel := by
    rw [byteLen_append] at hf; omega
  unfold parseWith specParse
  simp only [parseWs, skipAt_eq isPWS hat, Option.bind_some]
  rw [declLoop_spec env hb (pre ++ body) fuel hf fuel _ _ initState h1 hlen,
    ← declSpec_skip env _ initState body (byteLen pre), byteLen_append]

theorem parseSpec_eq (env : Env) (hb : env.cfg.BOk) (pre body : List Char) :
    parseSpec env (pre ++ body) (byteLen pre) = some (specParse env pre body) :=
  parseWith_eq env hb pre body _ (Nat.lt_succ_self _)

end GrmVerif.LexSpecParse
