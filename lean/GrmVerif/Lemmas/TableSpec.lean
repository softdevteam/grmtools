import GrmVerif.Model.Automaton
/-! Declarative specification of one action-table cell (Yacc's rules) and of the derived views. -/
namespace GrmVerif.Table
open GrmVerif

/-- least element of a non-empty list (0 for the empty list, never used there) -/
def minList : List Nat → Nat
  | [] => 0
  | [a] => a
  | a :: b :: rest => min a (minList (b :: rest))

/-- What the candidate reductions `R` (a set, given as a duplicate-free list in any order) leave in
the cell before shifts are considered: nothing, accept, the earliest production, or — `none` — the
hard accept/reduce conflict. -/
def specReduce (G : Grammar) (t : Nat) (R : List Nat) : Option Act :=
  if R = [] then some .error
  else if t = G.eof ∧ G.startProd ∈ R then (if R.length = 1 then some .accept else none)
  else some (.reduce (minList R))

/-- Yacc's shift/reduce rule for token precedence `tp`, production precedence `pp`:
the resulting action and whether the clash is one of the *reported* (default-resolved) conflicts. -/
def specSR (tp pp : Option Prec) (tgt r : Nat) : Act × Bool :=
  match tp, pp with
  | some a, some b =>
    if a.level > b.level then (.shift tgt, false)
    else if a.level < b.level then (.reduce r, false)
    else if a.kind = 0 then (.reduce r, false)       -- %left
    else if a.kind = 1 then (.shift tgt, false)      -- %right
    else (.error, false)                              -- %nonassoc
  | _, _ => (.shift tgt, true)

/-- the cell Yacc prescribes, with the number of reported reduce/reduce conflicts and the reported
shift/reduce conflict (production) if any; `none` = accept/reduce conflict (construction fails) -/
def specCell (G : Grammar) (R : List Nat) (tgt : Option Nat) (t : Nat) : Option (Act × Nat × Option Nat) :=
  match specReduce G t R with
  | none => none
  | some base =>
    match tgt, base with
    | none, _ => some (base, R.length - 1, none)
    | some tg, .reduce r =>
      let (a, rep) := specSR ((G.tokPrec[t]?).getD none) ((G.prodPrec[r]?).getD none) tg r
      some (a, R.length - 1, if rep then some r else none)
    | some tg, _ => some (.shift tg, R.length - 1, none)

/-- precedence declarations are consistent: equal levels have equal kinds, kinds are 0/1/2
(levels are declaration lines, so this is an invariant of the grammar parser) -/
def precConsistent (G : Grammar) : Bool :=
  let all := (G.tokPrec ++ G.prodPrec).filterMap id
  all.all (fun a => a.kind ≤ 2 && all.all (fun b => a.level != b.level || a.kind == b.kind))

/-- (rule, length) of a production -/
def rkey (G : Grammar) (p : Nat) : Nat × Nat := (G.lhs p, (G.rhs p).length)

end GrmVerif.Table
