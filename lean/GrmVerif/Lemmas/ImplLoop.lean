import GrmVerif.Model.CostsImpl
import GrmVerif.Model.Fix
/-! What the models of the loops share. Vectors and bit tables (`vget`/`vset`/`mget`/`mset`/`List.set`), `for`
loops, and the argument about the loops of `Model/FirstsFollowsImpl.lean`: every step of a round only sets bits, raises
`changed` only together with a new bit, and if it ends with `changed = false` has left the state alone and found its
condition already satisfied (`Step`; `Step.set` at the leaves, composed by `Step.trans`, `iterM_step`, `foldl_step`). So the
outer loop ends within (number of bits + 1) rounds, in a state where a whole round finds its conditions satisfied
(`runLoop_spec`, by the rule `Fix.loop_done`). -/
namespace GrmVerif.Impl

theorem getD_set {α : Type} (l : List α) (i : Nat) (v : α) (j : Nat) (d : α) (hi : i < l.length) :
    (l.set i v).getD j d = if j = i then v else l.getD j d := by
  rw [List.getD_eq_getElem?_getD, List.getD_eq_getElem?_getD, List.getElem?_set]
  by_cases h : i = j
  · subst h; simp [hi]
  · have : ¬ j = i := fun e => h e.symm
    simp [h, this]

theorem vset_length (v : List Bool) (i : Nat) : (vset v i).length = v.length := by simp [vset]
theorem vclear_length (v : List Bool) (i : Nat) : (vclear v i).length = v.length := by simp [vclear]

theorem vget_vset (v : List Bool) (i j : Nat) (hi : i < v.length) :
    vget (vset v i) j = (decide (j = i) || vget v j) := by
  unfold vget vset
  rw [getD_set _ _ _ _ _ hi]
  by_cases h : j = i <;> simp [h]

theorem vget_vset_mono {v : List Bool} {i j : Nat} (hi : i < v.length) (h : vget v j = true) :
    vget (vset v i) j = true := by
  rw [vget_vset _ _ _ hi, h, Bool.or_true]

theorem vget_ge {v : List Bool} {i : Nat} (h : v.length ≤ i) : vget v i = false := by
  unfold vget
  rw [List.getD_eq_getElem?_getD, List.getElem?_eq_none h]
  rfl

theorem vget_vclear (v : List Bool) (i j : Nat) : vget (vclear v i) j = (!decide (j = i) && vget v j) := by
  unfold vget vclear
  rw [List.getD_eq_getElem?_getD, List.getD_eq_getElem?_getD, List.getElem?_set]
  by_cases h : i = j
  · subst h
    by_cases hi : i < v.length
    · simp [hi]
    · simp [hi]
  · have : ¬ j = i := fun e => h e.symm
    simp [h, this]

theorem vget_replicate_false (n i : Nat) : vget (List.replicate n false) i = false := by
  unfold vget
  rw [List.getD_eq_getElem?_getD, List.getElem?_replicate]
  split <;> rfl

theorem all_id_iff (dn : List Bool) : dn.all id = true ↔ ∀ i, i < dn.length → vget dn i = true := by
  simp only [List.all_eq_true, id, List.mem_iff_getElem, vget, List.getD_eq_getElem?_getD]
  constructor
  · intro h i hi; simpa [hi] using h _ ⟨i, hi, rfl⟩
  · rintro h x ⟨i, hi, rfl⟩; simpa [hi] using h i hi

theorem iterM_eq_foldlM {σ α : Type} (f : σ → α → Option σ) : ∀ (l : List α) (s : σ), iterM f l s = l.foldlM f s
  | [], _ => rfl
  | a :: l, s => by
    rw [iterM, List.foldlM_cons]
    cases f s a with
    | none => rfl
    | some s' => exact iterM_eq_foldlM f l s'

theorem iterM_append {σ α : Type} (f : σ → α → Option σ) (l1 l2 : List α) (s : σ) :
    iterM f (l1 ++ l2) s = (iterM f l1 s).bind (iterM f l2) := by
  rw [iterM_eq_foldlM, List.foldlM_append, iterM_eq_foldlM]
  exact Option.bind_congr fun s' _ => (iterM_eq_foldlM f l2 s').symm

theorem iterM_map {σ α β : Type} (f : σ → β → Option σ) (g : α → β) : ∀ (l : List α) (s : σ),
    iterM f (l.map g) s = iterM (fun s a => f s (g a)) l s := by
  intro l s
  rw [iterM_eq_foldlM, List.foldlM_map, iterM_eq_foldlM]

theorem iterO_append {σ α : Type} (f : σ → α → Outcome σ) (l1 l2 : List α) (s : σ) :
    iterO f (l1 ++ l2) s =
      (match iterO f l1 s with
      | .done s' => iterO f l2 s'
      | .panic => .panic
      | .fuelOut => .fuelOut) := by
  induction l1 generalizing s with
  | nil => simp [iterO]
  | cons a l ih =>
    simp only [List.cons_append, iterO]
    cases f s a with
    | done s' => simp [ih]
    | panic => rfl
    | fuelOut => rfl

/-- the loop rule with an invariant `I` and a property `Q a` per element: pass `a` establishes `Q a`, and every pass keeps
what earlier passes have established (`∀ b, Q b s → Q b s'`); at the end `Q` holds of every element -/
theorem iterM_all {σ α : Type} (f : σ → α → Option σ) (Q : α → σ → Prop) :
    ∀ (l : List α) (I : σ → Prop) (s : σ), I s →
      (∀ s a, a ∈ l → I s → ∃ s', f s a = some s' ∧ I s' ∧ Q a s' ∧ ∀ b, Q b s → Q b s') →
      ∃ s', iterM f l s = some s' ∧ I s' ∧ ∀ a ∈ l, Q a s' := by
  intro l
  induction l with
  | nil => intro I s hI _; exact ⟨s, rfl, hI, by simp⟩
  | cons a l ih =>
    intro I s hI hf
    obtain ⟨s1, h1, hI1, hQ1, hst1⟩ := hf s a (by simp) hI
    obtain ⟨s2, h2, ⟨hI2, hQa⟩, hall⟩ := ih (fun s => I s ∧ Q a s) s1 ⟨hI1, hQ1⟩ (by
      intro s2 b hb hI2
      obtain ⟨s3, h3, hI3, hQ3, hst3⟩ := hf s2 b (by simp [hb]) hI2.1
      exact ⟨s3, h3, ⟨hI3, hst3 a hI2.2⟩, hQ3, hst3⟩)
    refine ⟨s2, by simp [iterM, h1, h2], hI2, ?_⟩
    intro b hb
    rcases List.mem_cons.mp hb with rfl | hb
    · exact hQa
    · exact hall b hb

theorem foldl_max_ge (f : Nat → Nat) (l : List Nat) (a : Nat) :
    ∀ p ∈ l, f p ≤ l.foldl (fun acc p => max acc (f p)) a := by
  rw [← List.foldl_map (g := max), List.foldl_max]
  exact fun p hp => Nat.le_trans (List.le_max?_getD_of_mem (List.mem_map_of_mem hp)) (Nat.le_max_right _ _)

theorem foldl_max_congr (f g : Nat → Nat) (l : List Nat) (a : Nat) (h : ∀ p ∈ l, f p = g p) :
    l.foldl (fun acc p => max acc (f p)) a = l.foldl (fun acc p => max acc (g p)) a := by
  rw [← List.foldl_map (f := f) (g := max), ← List.foldl_map (f := g) (g := max), List.map_congr_left h]

/-- a table of `n` rows of `m` bits -/
def MDims (n m : Nat) (M : List (List Bool)) : Prop := M.length = n ∧ ∀ row ∈ M, row.length = m

theorem mdims_mnew (n m : Nat) : MDims n m (mnew n m) := by
  constructor
  · simp [mnew]
  · intro row h
    simp only [mnew, List.mem_replicate] at h
    rw [h.2]; simp

theorem mget_mnew (n m r t : Nat) : mget (mnew n m) r t = false := by
  unfold mget vget mnew
  rw [List.getD_eq_getElem?_getD, List.getD_eq_getElem?_getD, List.getElem?_replicate]
  split
  · simp only [Option.getD_some, List.getElem?_replicate]; split <;> simp
  · simp

theorem mdims_row {n m : Nat} {M : List (List Bool)} (h : MDims n m M) {r : Nat} (hr : r < n) :
    (M.getD r []).length = m := by
  have hr' : r < M.length := by rw [h.1]; exact hr
  rw [List.getD_eq_getElem?_getD, List.getElem?_eq_getElem hr']
  exact h.2 _ (List.getElem_mem hr')

theorem mdims_mset {n m : Nat} {M : List (List Bool)} (h : MDims n m M) {r : Nat} (hr : r < n) (t : Nat) :
    MDims n m (mset M r t) := by
  refine ⟨by simp [mset, h.1], fun row hrow => ?_⟩
  unfold mset at hrow
  rcases List.mem_or_eq_of_mem_set hrow with h1 | h1
  · exact h.2 _ h1
  · subst h1
    rw [vset_length]
    exact mdims_row h hr

theorem mget_mset {n m : Nat} {M : List (List Bool)} (h : MDims n m M) {r t : Nat} (hr : r < n) (ht : t < m)
    (r' t' : Nat) : mget (mset M r t) r' t' = (decide (r' = r ∧ t' = t) || mget M r' t') := by
  unfold mget mset
  rw [getD_set _ _ _ _ _ (by rw [h.1]; exact hr)]
  by_cases e : r' = r
  · subst e
    rw [if_pos rfl, vget_vset _ _ _ (by rw [mdims_row h hr]; exact ht)]
    simp
  · rw [if_neg e]
    simp [e]

theorem mget_mset_mono {n m : Nat} {M : List (List Bool)} (h : MDims n m M) {r t : Nat} (hr : r < n) (ht : t < m)
    {r' t' : Nat} (hb : mget M r' t' = true) : mget (mset M r t) r' t' = true := by
  rw [mget_mset h hr ht, hb, Bool.or_true]

theorem mget_mset_elim {n m : Nat} {M : List (List Bool)} (h : MDims n m M) {r t : Nat} (hr : r < n) (ht : t < m)
    {P : Nat → Nat → Prop} (hnew : P r t) (hold : ∀ r' t', mget M r' t' = true → P r' t') :
    ∀ r' t', mget (mset M r t) r' t' = true → P r' t' := by
  intro r' t' hb
  rw [mget_mset h hr ht] at hb
  simp only [Bool.or_eq_true, decide_eq_true_eq] at hb
  rcases hb with ⟨rfl, rfl⟩ | hb
  · exact hnew
  · exact hold _ _ hb

section Generic
variable {σ ι : Type} (bit : σ → ι → Bool) (univ : List ι) (I : σ → Prop)

def Mono (s s' : σ) : Prop := ∀ i, bit s i = true → bit s' i = true
def Grew (s s' : σ) : Prop := ∃ i ∈ univ, bit s i = false ∧ bit s' i = true

/-- from `(state, changed)` to `(state, changed)`: the invariant is kept, bits are only set, `changed`
becomes true only together with a new bit, and a step that ends with `changed = false` started with
`changed = false`, did not modify the state and found its condition `C` satisfied -/
structure Step (C : σ → Prop) (a b : σ × Bool) : Prop where
  inv : I b.1
  mono : Mono bit a.1 b.1
  grew : b.2 = true → a.2 = true ∨ Grew bit univ a.1 b.1
  quiet : b.2 = false → a.2 = false ∧ b.1 = a.1 ∧ C a.1

variable {bit univ I}

theorem Grew.then {s t u : σ} (h : Grew bit univ s t) (hm : Mono bit t u) : Grew bit univ s u :=
  let ⟨i, hiu, h0, h1⟩ := h
  ⟨i, hiu, h0, hm i h1⟩

theorem Grew.after {s t u : σ} (hm : Mono bit s t) (h : Grew bit univ t u) : Grew bit univ s u := by
  obtain ⟨i, hiu, h0, h1⟩ := h
  refine ⟨i, hiu, ?_, h1⟩
  cases hs : bit s i with
  | false => rfl
  | true => rw [hm i hs] at h0; cases h0

theorem Step.refl {C : σ → Prop} {a : σ × Bool} (h : I a.1) (hC : C a.1) : Step bit univ I C a a :=
  ⟨h, fun _ h => h, fun h => Or.inl h, fun h => ⟨h, rfl, hC⟩⟩

theorem Step.imp {C C' : σ → Prop} {a b : σ × Bool} (h : Step bit univ I C a b)
    (hC : b.1 = a.1 → C a.1 → C' a.1) : Step bit univ I C' a b :=
  ⟨h.inv, h.mono, h.grew, fun hb => by
    obtain ⟨h1, h2, h3⟩ := h.quiet hb
    exact ⟨h1, h2, hC h2 h3⟩⟩

theorem Step.trans {C1 C2 : σ → Prop} {a b c : σ × Bool} (h1 : Step bit univ I C1 a b)
    (h2 : Step bit univ I C2 b c) : Step bit univ I (fun s => C1 s ∧ C2 s) a c := by
  refine ⟨h2.inv, fun i hi => h2.mono i (h1.mono i hi), ?_, ?_⟩
  · intro hc
    rcases h2.grew hc with hb | hg
    · exact (h1.grew hb).imp_right (·.then h2.mono)
    · exact Or.inr (hg.after h1.mono)
  · intro hc
    obtain ⟨hb, e2, c2⟩ := h2.quiet hc
    obtain ⟨ha, e1, c1⟩ := h1.quiet hb
    exact ⟨ha, e2.trans e1, c1, e1 ▸ c2⟩

/-- `if !bit[i] { bit[i] = true; changed = true; }`, where `upd` sets the bit -/
theorem Step.set {s : σ × Bool} (i : ι) (upd : σ → σ) (hi : i ∈ univ) (hI : I s.1) (hI' : I (upd s.1))
    (h1 : bit (upd s.1) i = true) (hm : Mono bit s.1 (upd s.1)) :
    Step bit univ I (fun st => bit st i = true) s (if bit s.1 i then s else (upd s.1, true)) := by
  cases h0 : bit s.1 i with
  | true => exact Step.refl hI h0
  | false => exact ⟨hI', hm, fun _ => Or.inr ⟨i, hi, h0, h1⟩, fun h => nomatch h⟩

/-- `if c { op }` -/
theorem Step.guard {C : σ → Prop} {a : σ × Bool} (c : σ → Bool) {op : σ × Bool → σ × Bool} (hI : I a.1)
    (h : c a.1 = true → Step bit univ I C a (op a)) :
    Step bit univ I (fun s => c s = true → C s) a (if c a.1 then op a else a) := by
  cases hc : c a.1 with
  | true => exact (h hc).imp fun _ hC _ => hC
  | false => exact Step.refl hI fun e => nomatch hc.symm.trans e

theorem iterM_step {α : Type} (f : σ × Bool → α → Option (σ × Bool)) (C : α → σ → Prop) :
    ∀ (l : List α) (s : σ × Bool),
      (∀ a ∈ l, ∀ s, I s.1 → ∃ s', f s a = some s' ∧ Step bit univ I (C a) s s') → I s.1 →
      ∃ s', iterM f l s = some s' ∧ Step bit univ I (fun st => ∀ a ∈ l, C a st) s s' := by
  intro l
  induction l with
  | nil => intro s _ hI; exact ⟨s, rfl, Step.refl hI (by simp)⟩
  | cons a l ih =>
    intro s hf hI
    obtain ⟨s1, h1, st1⟩ := hf a List.mem_cons_self s hI
    obtain ⟨s2, h2, st2⟩ := ih s1 (fun b hb => hf b (List.mem_cons_of_mem _ hb)) st1.inv
    refine ⟨s2, ?_, (st1.trans st2).imp fun _ hC => List.forall_mem_cons.mpr hC⟩
    simp only [iterM, h1]; exact h2

/-- `for t in 0..n { s = f(s, t) }` -/
theorem foldl_step (f : σ × Bool → Nat → σ × Bool) (C : Nat → σ → Prop) (s : σ × Bool) (hI : I s.1) :
    ∀ n, (∀ t, t < n → ∀ s, I s.1 → Step bit univ I (C t) s (f s t)) →
      Step bit univ I (fun st => ∀ t, t < n → C t st) s ((List.range n).foldl f s) := by
  intro n
  induction n with
  | zero => intro _; exact Step.refl hI fun _ h => absurd h (Nat.not_lt_zero _)
  | succ n ih =>
    intro hf
    have st1 := ih fun t ht => hf t (Nat.lt_succ_of_lt ht)
    rw [List.range_succ, List.foldl_append]
    exact (st1.trans (hf n (Nat.lt_succ_self n) _ st1.inv)).imp fun _ ⟨c1, c2⟩ t ht =>
      (Nat.lt_succ_iff_lt_or_eq.mp ht).elim (c1 t) fun e => e ▸ c2

variable (bit univ I)

/-- bits of the universe still clear -/
def mu (s : σ) : Nat := (univ.filter (fun i => !bit s i)).length

theorem mu_le_length (s : σ) : mu bit univ s ≤ univ.length := List.length_filter_le _ _

theorem mu_lt {s s' : σ} (hm : Mono bit s s') (hg : Grew bit univ s s') : mu bit univ s' < mu bit univ s := by
  obtain ⟨i, hiu, h0, h1⟩ := hg
  unfold mu
  apply Fix.filter_length_lt
  · intro y hy
    cases hb : bit s y with
    | false => rfl
    | true => rw [hm y hb] at hy; simp at hy
  · exact ⟨i, hiu, by simp [h0], by simp [h1]⟩

theorem runLoop_spec {C : σ → Prop} (round : σ → Option (σ × Bool))
    (hround : ∀ s, I s → ∃ r, round s = some r ∧ Step bit univ I C (s, false) r) (s : σ) (hI : I s) :
    ∃ s', (I s' ∧ Mono bit s s' ∧ C s') ∧
      ∀ fuel, univ.length < fuel → runLoop round fuel s = .done s' := by
  obtain ⟨v, ⟨s', rfl, hP⟩, hv⟩ := Fix.loop_done (runLoop round)
    (fun m t => I t ∧ Mono bit s t ∧ mu bit univ t ≤ m)
    (fun v => ∃ s', v = .done s' ∧ I s' ∧ Mono bit s s' ∧ C s')
    (by
      intro m t ⟨hIt, hmono, hmu⟩
      obtain ⟨⟨s1, ch⟩, hr, st⟩ := hround t hIt
      cases ch with
      | false =>
        obtain ⟨_, rfl, hC⟩ := st.quiet rfl
        exact Or.inl ⟨_, ⟨s1, rfl, hIt, hmono, hC⟩, fun n => by simp [runLoop, hr]⟩
      | true =>
        have hg : Grew bit univ t s1 := (st.grew rfl).resolve_left (fun h => nomatch h)
        have hlt : mu bit univ s1 < mu bit univ t := mu_lt bit univ st.mono hg
        exact Or.inr ⟨s1, mu bit univ s1, by omega, ⟨st.inv, fun i hi => st.mono i (hmono i hi), Nat.le_refl _⟩,
          fun n => by simp [runLoop, hr]⟩)
    (mu bit univ s) s ⟨hI, fun _ h => h, Nat.le_refl _⟩
  exact ⟨s', hP, fun fuel hf => hv fuel (Nat.lt_of_le_of_lt (mu_le_length bit univ s) hf)⟩

end Generic

end GrmVerif.Impl
