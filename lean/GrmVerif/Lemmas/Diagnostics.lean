import GrmVerif.Model.Diagnostics
import GrmVerif.Lemmas.NewlineQueries
/-!
Specification side of the pretty-printer part of C19: the shape of a text around a span (`Split`),
the rows the property prescribes (`specRows`, `renderRows`), what slicing and `str::lines()` do on such
a text, and the three ways of cutting a text at newlines from which every span on character
boundaries is seen to be a `Split`.

A text and a span on character boundaries inside it are given as a `Split`:
`text = a ++ pre ++ c0 ++ "\n" ++ c1 ++ "\n" ++ … ++ cm ++ suf ++ z`, where `a` is empty or ends in a
newline (the lines before the span's first line), `pre` is the part of that line before the span, the
span's content is `c0 "\n" c1 … "\n" cm` (the `ci` newline-free), `suf` is the rest of the line in which
the span ends and `z` (empty or starting with a newline) the lines after it.
-/
namespace GrmVerif.Diag
open GrmVerif.Newline

/-- drop one trailing `'\r'` (what `lines()` does to a line that is followed by `'\n'`) -/
def dropCR (l : List Char) : List Char := if l.getLast? = some '\r' then l.dropLast else l

/-- `c0 ++ "\n" ++ c1 ++ "\n" ++ … ++ cm` -/
def joinNl : List Char → List (List Char) → List Char
  | c0, [] => c0
  | c0, c1 :: cs => c0 ++ '\n' :: joinNl c1 cs

/-- a text cut around a span: `a ++ pre ++ (c0 \n c1 \n … cm) ++ suf ++ z`, the span being the part in parentheses (see the
head of the file; `Split.WF` says where the newlines are) -/
structure Split where
  a : List Char
  pre : List Char
  c0 : List Char
  cs : List (List Char)
  suf : List Char
  z : List Char

def Split.cov (d : Split) : List Char := joinNl d.c0 d.cs
/-- the lines the span touches (without the terminator of the last) -/
def Split.body (d : Split) : List Char := d.pre ++ (d.cov ++ d.suf)
def Split.text (d : Split) : List Char := d.a ++ (d.body ++ d.z)
def Split.start (d : Split) : Nat := byteLen d.a + byteLen d.pre
def Split.stop (d : Split) : Nat := d.start + byteLen d.cov
def Split.firstLine (d : Split) : Nat := 1 + d.a.count '\n'

/-- the side conditions that make the pieces what their names say (all decidable) -/
structure Split.WF (d : Split) : Prop where
  ha : d.a = [] ∨ d.a.getLast? = some '\n'
  hpre : '\n' ∉ d.pre
  hc0 : '\n' ∉ d.c0
  hcs : ∀ c ∈ d.cs, '\n' ∉ c
  hsuf : '\n' ∉ d.suf
  hz : d.z = [] ∨ d.z.head? = some '\n'

/-- one printed source line: its number, the text after `N| `, the source between the start of the
line and the first underlined byte, and the underlined part -/
structure Row where
  num : Nat
  text : List Char
  pre : List Char
  cov : List Char
deriving Repr, DecidableEq

/-- **The rows the property prescribes.** A line that is followed by another covered line loses its
terminator (`"\n"` or `"\r\n"`); the last covered line is printed up to its end, but is not printed
at all when it is empty and is not the only one (the span ends at the start of an empty line or at
the end of a text that ends in a newline). Row `k` has number `n + k`; only the first row has text
before the underline. `first` says that no row has been produced yet: an empty last line is dropped only if it is not
the first. -/
def specRows (first : Bool) (n : Nat) (pre c0 : List Char) : List (List Char) → List Char → List Row
  | [], suf => if !first && (pre ++ (c0 ++ suf)).isEmpty then [] else [⟨n, pre ++ (c0 ++ suf), pre, c0⟩]
  | c1 :: cs, suf => ⟨n, dropCR (pre ++ c0), pre, dropCR c0⟩ :: specRows false (n + 1) [] c1 cs suf

def Split.rows (d : Split) : List Row := specRows true d.firstLine d.pre d.c0 d.cs d.suf

def renderRows (sw : List Char → Nat) (pfx msg : List Char) (uc : Char) : List Row → List Char
  | [] => []
  | [r] => rowText sw pfx uc r.num r.text r.pre r.cov ++ ' ' :: msg
  | r :: r' :: rs => rowText sw pfx uc r.num r.text r.pre r.cov ++ '\n' :: renderRows sw pfx msg uc (r' :: rs)

theorem takeBytes_cons (n : Nat) (c : Char) (cs : List Char) (h : c.utf8Size ≤ n) :
    takeBytes n (c :: cs) = (takeBytes (n - c.utf8Size) cs).map (c :: ·) := by
  cases n with
  | zero => exact absurd h (Nat.not_le.mpr (Char.utf8Size_pos c))
  | succ n => rw [takeBytes, if_pos h]

theorem takeBytes_append (a b : List Char) : takeBytes (byteLen a) (a ++ b) = some a := by
  induction a with
  | nil => cases b <;> rfl
  | cons c cs ih =>
    rw [byteLen, List.cons_append, takeBytes_cons _ _ _ (Nat.le_add_right _ _),
      Nat.add_sub_cancel_left, ih]
    rfl

theorem sliceBytes_mid (x y w : List Char) :
    sliceBytes (x ++ (y ++ w)) (byteLen x) (byteLen x + byteLen y) = some y := by
  simp only [sliceBytes, if_neg (Nat.not_lt.mpr (Nat.le_add_right _ _)), dropBytes_append,
    Option.bind_some, Nat.add_sub_cancel_left, takeBytes_append]

theorem dropCR_nil : dropCR [] = [] := by simp [dropCR]

theorem dropCR_append_cr (l : List Char) : dropCR (l ++ ['\r']) = l := by
  simp [dropCR]

theorem dropCR_split (l : List Char) : ∃ cr, (cr = [] ∨ cr = ['\r']) ∧ l = dropCR l ++ cr := by
  by_cases h : l.getLast? = some '\r'
  · obtain ⟨l', rfl⟩ := List.getLast?_eq_some_iff.mp h
    exact ⟨['\r'], .inr rfl, by rw [dropCR_append_cr]⟩
  · exact ⟨[], .inl rfl, by rw [dropCR, if_neg h, List.append_nil]⟩

theorem byteLen_dropCR_le (l : List Char) : byteLen (dropCR l) ≤ byteLen l := by
  obtain ⟨cr, _, hl⟩ := dropCR_split l
  conv => rhs; rw [hl, byteLen_append]
  exact Nat.le_add_right _ _

theorem dropCR_append_ne_nil (pre c0 : List Char) (h : c0 ≠ []) :
    dropCR (pre ++ c0) = pre ++ dropCR c0 := by
  obtain ⟨l, x, rfl⟩ : ∃ l x, c0 = l ++ [x] :=
    ⟨c0.dropLast, c0.getLast h, (List.dropLast_concat_getLast h).symm⟩
  unfold dropCR
  rw [← List.append_assoc]
  simp only [List.getLast?_append, List.getLast?_singleton, Option.some_or, List.dropLast_concat]
  split <;> simp

theorem byteLen_dropCR_sub (pre c0 : List Char) :
    byteLen (dropCR (pre ++ c0)) - byteLen pre = byteLen (dropCR c0) := by
  by_cases h : c0 = []
  · subst h
    rw [List.append_nil, dropCR_nil]
    exact Nat.sub_eq_zero_of_le (byteLen_dropCR_le pre)
  · rw [dropCR_append_ne_nil pre c0 h, byteLen_append, Nat.add_sub_cancel_left]

theorem splitInclusive_no_nl (l : List Char) (h : '\n' ∉ l) :
    splitInclusive l = if l = [] then [] else [l] := by
  induction l with
  | nil => simp [splitInclusive]
  | cons c cs ih =>
    simp only [List.mem_cons, not_or] at h
    have hc : ¬ c = '\n' := fun e => h.1 e.symm
    simp only [splitInclusive, hc, ↓reduceIte, ih h.2]
    by_cases hcs : cs = [] <;> simp [hcs]

theorem splitInclusive_line (l rest : List Char) (h : '\n' ∉ l) :
    splitInclusive (l ++ '\n' :: rest) = (l ++ ['\n']) :: splitInclusive rest := by
  induction l with
  | nil => simp [splitInclusive]
  | cons c cs ih =>
    simp only [List.mem_cons, not_or] at h
    have hc : ¬ c = '\n' := fun e => h.1 e.symm
    simp only [List.cons_append, splitInclusive, hc, ↓reduceIte, ih h.2]

theorem stripLine_nl (l : List Char) : stripLine (l ++ ['\n']) = dropCR l := by
  simp only [stripLine, stripSuffixChar, List.getLast?_append, List.getLast?_singleton,
    Option.some_or, ↓reduceIte, List.dropLast_concat, dropCR]
  split <;> simp_all

theorem stripLine_no_nl (l : List Char) (h : '\n' ∉ l) : stripLine l = l := by
  have : l.getLast? ≠ some '\n' := fun e => h (List.mem_of_getLast? e)
  simp [stripLine, stripSuffixChar, this]

theorem rustLines_no_nl (l : List Char) (h : '\n' ∉ l) :
    rustLines l = if l = [] then [] else [l] := by
  unfold rustLines
  rw [splitInclusive_no_nl l h]
  split
  · rfl
  · simp [stripLine_no_nl l h]

theorem rustLines_line (l rest : List Char) (h : '\n' ∉ l) :
    rustLines (l ++ '\n' :: rest) = dropCR l :: rustLines rest := by
  unfold rustLines
  rw [splitInclusive_line l rest h, List.map_cons, stripLine_nl]

/-- `lines()` of the touched lines, plus the one empty line the loop adds for an empty slice on its
first iteration, are the texts of the prescribed rows -/
theorem rustLines_spec (first : Bool) (n : Nat) (pre c0 : List Char) (cs : List (List Char))
    (suf : List Char)
    (hpre : '\n' ∉ pre) (hc0 : '\n' ∉ c0) (hcs : ∀ c ∈ cs, '\n' ∉ c) (hsuf : '\n' ∉ suf) :
    rustLines (pre ++ (joinNl c0 cs ++ suf))
        ++ (if first && (pre ++ (joinNl c0 cs ++ suf)).isEmpty then [[]] else [])
      = (specRows first n pre c0 cs suf).map (·.text) := by
  induction cs generalizing first n pre c0 with
  | nil =>
    have h : '\n' ∉ pre ++ (c0 ++ suf) := by simp [hpre, hc0, hsuf]
    simp only [joinNl, specRows]
    rw [rustLines_no_nl _ h]
    by_cases he : pre ++ (c0 ++ suf) = []
    · cases first <;> simp [he]
    · have : (pre ++ (c0 ++ suf)).isEmpty = false := by simpa using he
      simp [he, this]
  | cons c1 cs ih =>
    have h : '\n' ∉ pre ++ c0 := by simp [hpre, hc0]
    have e : pre ++ (joinNl c0 (c1 :: cs) ++ suf) = (pre ++ c0) ++ '\n' :: ([] ++ (joinNl c1 cs ++ suf)) := by
      simp [joinNl]
    have ih := ih false (n + 1) [] c1 (by simp) (hcs c1 (by simp)) (fun c hc => hcs c (by simp [hc]))
    rw [Bool.false_and, if_neg Bool.false_ne_true, List.append_nil] at ih
    rw [e, rustLines_line _ _ h, ih]
    simp [specRows]

theorem linesOf_spec (d : Split) (hd : d.WF) : linesOf d.body = d.rows.map (·.text) := by
  rw [Split.rows, ← rustLines_spec true d.firstLine d.pre d.c0 d.cs d.suf hd.hpre hd.hc0 hd.hcs hd.hsuf, Bool.true_and]
  rfl

theorem linesOf_ne_nil (body : List Char) : linesOf body ≠ [] := by
  cases body with
  | nil => simp [linesOf]
  | cons c cs =>
    simp only [linesOf, rustLines, splitInclusive]
    split <;> (try split) <;> simp

/-- piece `k` of the span: `c0`, `c1`, … -/
def piece (c0 : List Char) (cs : List (List Char)) (k : Nat) : List Char := (c0 :: cs)[k]?.getD []

theorem specRows_length_ge (first : Bool) (n : Nat) (pre c0 : List Char) (cs : List (List Char))
    (suf : List Char) : cs.length ≤ (specRows first n pre c0 cs suf).length := by
  induction cs generalizing first n pre c0 with
  | nil => simp
  | cons c1 cs ih => exact Nat.succ_le_succ (ih false (n + 1) [] c1)

theorem specRows_first_ne_nil (n : Nat) (pre c0 : List Char) (cs : List (List Char))
    (suf : List Char) : specRows true n pre c0 cs suf ≠ [] := by
  cases cs <;> simp [specRows]

theorem specRows_get (first : Bool) (n : Nat) (pre c0 : List Char) (cs : List (List Char))
    (suf : List Char) (k : Nat) (hk : k < (specRows first n pre c0 cs suf).length) :
    ((specRows first n pre c0 cs suf)[k]).num = n + k
    ∧ ((specRows first n pre c0 cs suf)[k]).pre = (if k = 0 then pre else [])
    ∧ ((specRows first n pre c0 cs suf)[k]).cov
        = (if k < cs.length then dropCR (piece c0 cs k) else piece c0 cs k) := by
  induction cs generalizing first n pre c0 k with
  | nil =>
    have hne : specRows first n pre c0 [] suf = [⟨n, pre ++ (c0 ++ suf), pre, c0⟩] := by
      simp only [specRows] at hk ⊢
      split
      · next h => simp [h] at hk
      · rfl
    cases k with
    | zero => simp [hne, piece]
    | succ k => simp [hne] at hk
  | cons c1 cs ih =>
    cases k with
    | zero => simp [specRows, piece]
    | succ k =>
      simp only [specRows, List.length_cons, Nat.add_lt_add_iff_right] at hk
      have := ih false (n + 1) [] c1 k hk
      simp only [specRows, List.getElem_cons_succ, List.length_cons, Nat.add_lt_add_iff_right]
      refine ⟨by rw [this.1, Nat.add_assoc, Nat.add_comm 1], ?_, ?_⟩
      · rw [this.2.1]; simp
      · rw [this.2.2]; simp [piece]

/-- the text one row contributes to the output -/
def rowStr (sw : List Char → Nat) (pfx : List Char) (uc : Char) (r : Row) : List Char :=
  rowText sw pfx uc r.num r.text r.pre r.cov

theorem renderRows_layout (sw : List Char → Nat) (pfx msg : List Char) (uc : Char)
    (rows : List Row) (h : rows ≠ []) :
    renderRows sw pfx msg uc rows
      = ['\n'].intercalate (rows.map (rowStr sw pfx uc)) ++ ' ' :: msg := by
  induction rows with
  | nil => exact absurd rfl h
  | cons r rs ih =>
    cases rs with
    | nil => simp [renderRows, rowStr, List.intercalate]
    | cons r' rs =>
      have := ih (by simp)
      simp only [renderRows, this]
      simp [List.intercalate, rowStr]

theorem byteLen_natStr (n : Nat) : byteLen (natStr n) = (natStr n).length ∧ 0 < (natStr n).length := by
  have hd : natStr n = Nat.toDigits 10 n := Nat.toList_repr
  constructor
  · have : ∀ l : List Char, (∀ c ∈ l, c.isDigit = true) → byteLen l = l.length := by
      intro l
      induction l with
      | nil => intro _; rfl
      | cons c cs ih =>
        intro h
        have hc := h c (by simp)
        have h1 : c.utf8Size = 1 := by
          simp only [Char.isDigit, Bool.and_eq_true, decide_eq_true_eq] at hc
          have : c.val ≤ 127 := Nat.le_trans (UInt32.le_iff_toNat_le.mp hc.2) (by decide)
          simp [Char.utf8Size, this]
        simp only [byteLen, h1, List.length_cons, ih (fun c hc => h c (by simp [hc]))]; omega
    rw [hd]
    exact this _ (fun c hc => Nat.isDigit_of_mem_toDigits (by decide) (by decide) hc)
  · rw [hd]; exact Nat.length_toDigits_pos

/-- `b` is a character boundary of `s` (`0`, `byteLen s` and the offset of every character) -/
def isBoundary (s : List Char) (b : Nat) : Bool := (dropBytes b s).isSome

theorem split_first_nl (w : List Char) :
    ∃ suf z, w = suf ++ z ∧ '\n' ∉ suf ∧ (z = [] ∨ z.head? = some '\n') := by
  refine ⟨w.takeWhile (· ≠ '\n'), w.dropWhile (· ≠ '\n'), List.takeWhile_append_dropWhile.symm,
    fun h => by simpa using List.all_eq_true.mp List.all_takeWhile _ h, ?_⟩
  have := List.head?_dropWhile_not (· ≠ '\n') w
  cases h : (w.dropWhile (· ≠ '\n')).head? with
  | none => exact .inl (List.head?_eq_none_iff.mp h)
  | some c => rw [h] at this; exact .inr (by simpa using this)

/-- the mirror image: cut the reversed text at its first newline -/
theorem split_last_nl (x : List Char) :
    ∃ a pre, x = a ++ pre ∧ (a = [] ∨ a.getLast? = some '\n') ∧ '\n' ∉ pre := by
  obtain ⟨suf, z, hx, hs, hz⟩ := split_first_nl x.reverse
  refine ⟨z.reverse, suf.reverse, by rw [← List.reverse_append, ← hx, List.reverse_reverse], ?_,
    by simpa using hs⟩
  rcases hz with rfl | hz
  · exact .inl rfl
  · exact .inr (by rw [List.getLast?_reverse, hz])

theorem split_pieces (y : List Char) :
    ∃ c0 cs, y = joinNl c0 cs ∧ '\n' ∉ c0 ∧ ∀ c ∈ cs, '\n' ∉ c := by
  induction y with
  | nil => exact ⟨[], [], rfl, by simp, by simp⟩
  | cons c ys ih =>
    obtain ⟨c0, cs, hy, h0, hcs⟩ := ih
    by_cases hc : c = '\n'
    · exact ⟨[], c0 :: cs, by simp [joinNl, hy, hc], by simp, List.forall_mem_cons.mpr ⟨h0, hcs⟩⟩
    · refine ⟨c :: c0, cs, ?_, ?_, hcs⟩
      · cases cs <;> simp [joinNl, hy]
      · simp only [List.mem_cons, not_or]; exact ⟨fun e => hc e.symm, h0⟩

theorem spanLineBytes_split (d : Split) (hd : d.WF) :
    spanLineBytes (ofText d.text) d.start d.stop
      = some (byteLen d.a, byteLen d.a + byteLen d.body) := by
  have hend : d.a ++ (d.pre ++ d.cov) ++ (d.suf ++ d.z) = d.text := by
    simp only [Split.text, Split.body, List.append_assoc]
  have hstop : byteLen (d.a ++ (d.pre ++ d.cov)) = d.stop := by
    simp only [Split.stop, Split.start, byteLen_append, Nat.add_assoc]
  have h2 := lineEndOf_decomp (d.a ++ (d.pre ++ d.cov)) d.suf d.z hd.hsuf hd.hz
  rw [hend, hstop] at h2
  rw [spanLineBytes_spec _ d.start d.stop (ofText_sorted _) (.head _) (Nat.le_add_right _ _),
    feedLen_ofText, h2, ← hend, List.append_assoc, List.append_assoc,
    show d.start = byteLen d.a + byteLen d.pre from rfl, lineStartOf_decomp d.a d.pre _ hd.ha hd.hpre]
  simp only [Split.stop, Split.start, Split.body, byteLen_append, Nat.add_assoc]

end GrmVerif.Diag
