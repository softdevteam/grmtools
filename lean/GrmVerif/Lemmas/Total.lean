import GrmVerif.Model.AnalysesRef
import GrmVerif.Model.Closure
import GrmVerif.Model.CertVP
/-! The reference fixed-point computations never run out of fuel: every one of them is called with
`|universe| + 1` units, which `Fix.lfp_total_empty` shows to be enough. So a `none` ("fuel exhausted")
answer of the reference analyses, closures, reachability and productivity is impossible. -/
namespace GrmVerif.Total
open GrmVerif Fix Ref

theorem pairs_length (n m : Nat) : (pairs n m).length = n * m := by
  simp [pairs, List.length_flatMap, List.map_const', List.sum_replicate_nat]

theorem lfp_total_range (n : Nat) (derive : (Nat → Bool) → Nat → Bool) :
    ∃ R, lfp (List.range n) derive (n + 1) [] = some R := by
  have := lfp_total_empty (List.range n) derive
  rwa [List.length_range] at this

theorem nullables_total (G : Grammar) : ∃ N, nullables G = some N :=
  lfp_total_range _ _

theorem firsts_total (G : Grammar) (N : Nat → Bool) : ∃ F, firsts G N = some F := by
  have := lfp_total_empty (pairs G.nrules G.ntoks) (firstDerive G N)
  rwa [pairs_length] at this

theorem follows_total (G : Grammar) (N : Nat → Bool) (F : Nat × Nat → Bool) : ∃ W, follows G N F = some W := by
  have := lfp_total_empty (pairs G.nrules G.ntoks) (followDerive G N F)
  rwa [pairs_length] at this

theorem reach_total (G : Grammar) (A : Nat) : ∃ R, reach G A = some R :=
  lfp_total_range _ _

theorem analyses_total (G : Grammar) : ∃ An, analyses G = some An := by
  obtain ⟨N, hN⟩ := nullables_total G
  obtain ⟨F, hF⟩ := firsts_total G (N.contains ·)
  obtain ⟨W, hW⟩ := follows_total G (N.contains ·) (F.contains ·)
  refine ⟨⟨N, F, W⟩, ?_⟩
  unfold analyses
  rw [hN]; simp only []
  rw [hF]; simp only []
  rw [hW]

theorem close1_total (G : Grammar) (N : Nat → Bool) (F : Nat × Nat → Bool) (core : List Item) :
    ∃ S, Closure.close1 G N F core = some S :=
  lfp_total_empty (Closure.factUniverse G) (Closure.closeDerive G N F core)

theorem reachableStates_total (A : Automaton) : ∃ R, Closure.reachableStates A = some R :=
  lfp_total_range _ _

theorem close0_total (G : Grammar) (core : List Item) : ∃ S, Cert.close0 G core = some S :=
  lfp_total_empty (Closure.itemUniverse G) (Cert.derive0 G core)

theorem productive_total (G : Grammar) : ∃ S, Cert.productive G = some S :=
  lfp_total_range _ _

end GrmVerif.Total
