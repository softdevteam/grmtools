import GrmVerif.Lemmas.LexSpecProps
import GrmVerif.Lemmas.LexSpecErrs
/-!
The declarations section of the line specification: it is `declOne` folded over the occurrences of
state names on its declaration lines, to the `%%` line or to a line that stops the parse
(`declSpec_cases`); what holds of the section is proved of the fold. (A plain fold serves here, where
the rules section needs the relation `Reads`: declaring a valid name cannot fail, so a line that stops
the parse does so before or between names; a rule line can fail after its name has been looked up,
and lines that only leave an error behind come in between.)
-/
namespace GrmVerif.LexSpecParse
open GrmVerif.LexUnescape GrmVerif.LexParse

/-- an occurrence of a start-state name: name, span, exclusive? -/
abbrev Occ := List Char × (Nat × Nat) × Bool

/-- `validate_start_state` + push for one valid name -/
def declOne (st : PState) (oc : Occ) : PState :=
  match findState st.states oc.1 with
  | some s => { st with errs := addDup st.errs .duplicateStartState s.span oc.2.1 }
  | none => { st with states := st.states ++ [⟨st.states.length, oc.1, oc.2.1, oc.2.2⟩] }

theorem declOne_cases (st : PState) (oc : Occ) :
    (∃ s, findState st.states oc.1 = some s ∧
      declOne st oc = { st with errs := addDup st.errs .duplicateStartState s.span oc.2.1 }) ∨
    (findState st.states oc.1 = none ∧
      declOne st oc = { st with states := st.states ++ [⟨st.states.length, oc.1, oc.2.1, oc.2.2⟩] }) := by
  unfold declOne
  cases hf : findState st.states oc.1 with
  | some s => exact Or.inl ⟨s, rfl, rfl⟩
  | none => exact Or.inr ⟨rfl, rfl⟩

/-- the state name `n` is taken, and the occurrence at `s1` is the state that took it or is booked as
a duplicate of it -/
def StateSeen (n : List Char) (s1 : Nat × Nat) (st : PState) : Prop :=
  ∃ s, findState st.states n = some s ∧ Listed .duplicateStartState s.span s1 st.errs

theorem StateSeen.step {n : List Char} {s1 : Nat × Nat} {st : PState} (h : StateSeen n s1 st) (oc : Occ) :
    StateSeen n s1 (declOne st oc) := by
  obtain ⟨s, hs, h⟩ := h
  rcases declOne_cases st oc with ⟨s', _, heq⟩ | ⟨_, heq⟩ <;> rw [heq]
  · exact ⟨s, hs, h.addDup _ _ _⟩
  · refine ⟨s, ?_, h⟩
    simp only [findState] at hs ⊢
    rw [List.find?_append, hs]; rfl

theorem stateSeen_after (st : PState) (oc : Occ) :
    StateSeen oc.1 oc.2.1 (declOne st oc) ∧
    ∀ s1, StateSeen oc.1 s1 st → Rec .duplicateStartState [s1, oc.2.1] (declOne st oc).errs := by
  rcases declOne_cases st oc with ⟨s, hs, heq⟩ | ⟨hnone, heq⟩ <;> rw [heq]
  · refine ⟨⟨s, hs, listed_addDup _ _ _ _⟩, ?_⟩
    rintro s1 ⟨s', hs', h⟩
    obtain rfl := Option.some.inj (hs.symm.trans hs')
    exact h.record _
  · refine ⟨⟨⟨st.states.length, oc.1, oc.2.1, oc.2.2⟩, ?_, Or.inl rfl⟩, ?_⟩
    · simp only [findState] at hnone ⊢
      rw [List.find?_append, hnone]
      simp
    · rintro s1 ⟨s', hs', _⟩
      rw [hnone] at hs'; cases hs'

theorem Rec.step {k : EKind} {S : List (Nat × Nat)} {st : PState} (h : Rec k S st.errs) (oc : Occ) :
    Rec k S (declOne st oc).errs := by
  rcases declOne_cases st oc with ⟨s', _, heq⟩ | ⟨_, heq⟩ <;> rw [heq]
  · exact h.addDup _ _ _
  · exact h

theorem fold_keeps_rec {k : EKind} {S : List (Nat × Nat)} (l : List Occ) (st : PState)
    (h : Rec k S st.errs) : Rec k S (l.foldl declOne st).errs :=
  l.foldlRecOn (motive := fun s => Rec k S s.errs) declOne h fun _ h oc _ => h.step oc

theorem fold_second (oc2 : Occ) (s1 : Nat × Nat) : ∀ (l : List Occ) (st : PState), oc2 ∈ l →
    StateSeen oc2.1 s1 st → Rec .duplicateStartState [s1, oc2.2.1] (l.foldl declOne st).errs := by
  intro l
  induction l with
  | nil => intro st hm; simp at hm
  | cons oc l ih =>
    intro st hm hseen
    rcases List.mem_cons.mp hm with rfl | hm'
    · exact fold_keeps_rec l _ ((stateSeen_after st oc2).2 s1 hseen)
    · exact ih _ hm' (hseen.step oc)

theorem fold_pair (oc1 oc2 : Occ) (hn : oc1.1 = oc2.1) : ∀ (l : List Occ) (st : PState),
    [oc1, oc2].Sublist l → Rec .duplicateStartState [oc1.2.1, oc2.2.1] (l.foldl declOne st).errs := by
  intro l
  induction l with
  | nil => intro st h; cases h
  | cons oc l ih =>
    intro st h
    cases h with
    | cons _ h => exact ih _ h
    | cons_cons _ h =>
      exact fold_second oc2 oc1.2.1 l _ (List.singleton_sublist.mp h) (hn ▸ (stateSeen_after st oc1).1)

/-- **two declarations of the same start state**: declaring the occurrences in order leaves one
`DuplicateStartState` record that lists the spans of both -/
theorem fold_dup (oc1 oc2 : Occ) (hn : oc1.1 = oc2.1) : ∀ (l A B : List Occ) (st : PState),
    l = A ++ oc1 :: B → oc2 ∈ B →
    Rec .duplicateStartState [oc1.2.1, oc2.2.1] (l.foldl declOne st).errs :=
  fun l _ _ st hl hB => fold_pair oc1 oc2 hn l st (pair_sublist hl hB)

theorem fold_rules (l : List Occ) (st : PState) : (l.foldl declOne st).rules = st.rules :=
  l.foldlRecOn (motive := fun s => s.rules = st.rules) declOne rfl fun s hs oc _ => by
    rcases declOne_cases s oc with ⟨_, _, heq⟩ | ⟨_, heq⟩ <;> rw [heq] <;> exact hs

theorem fold_clean : ∀ (l : List Occ) (st : PState), (l.foldl declOne st).errs = [] →
    st.errs = [] ∧ (l.foldl declOne st).states = st.states ++ numberFrom st.states.length l := by
  intro l
  induction l with
  | nil => intro st h; exact ⟨h, by simp [numberFrom]⟩
  | cons oc l ih =>
    intro st h
    rw [List.foldl_cons] at h ⊢
    obtain ⟨h1, h2⟩ := ih _ h
    rcases declOne_cases st oc with ⟨_, _, heq⟩ | ⟨_, heq⟩ <;> rw [heq] at h1 h2 ⊢
    · exact absurd h1 (addDup_ne_nil _ _ _ _)
    · refine ⟨h1, ?_⟩
      rw [h2]
      simp [numberFrom, List.zipIdx_cons]

theorem declareStates_cons (excl : Bool) (base : Nat) (n : List Char) (a b : Nat)
    (rest : List (List Char × Nat × Nat)) (st : PState) :
    declareStates excl base ((n, a, b) :: rest) st =
      if validStateName n then declareStates excl base rest (declOne st (n, (base + a, base + b), excl))
      else .error (st.errs ++ [mkErr .invalidStartStateName (base + a)]) := by
  rw [declareStates]
  unfold declOne
  by_cases hv : validStateName n = true
  · simp only [hv, Bool.not_true, Bool.false_eq_true, if_false, if_true]
    cases findState st.states n <;> rfl
  · simp only [hv, Bool.not_false, if_true, Bool.false_eq_true, if_false]

theorem declareStates_cases (excl : Bool) (base : Nat) : ∀ (names : List (List Char × Nat × Nat))
    (st : PState),
    (firstInvalid names = none ∧ declareStates excl base names st
      = .ok ((names.map fun t => ((t.1, (base + t.2.1, base + t.2.2), excl) : Occ)).foldl declOne st)) ∨
    (∃ (pre : List Occ) (t : List Char × Nat × Nat), t ∈ names ∧ firstInvalid names = some t.2.1 ∧
      declareStates excl base names st
        = .error ((pre.foldl declOne st).errs ++ [mkErr .invalidStartStateName (base + t.2.1)])) := by
  intro names
  induction names with
  | nil => intro st; exact Or.inl ⟨rfl, rfl⟩
  | cons nm rest ih =>
    intro st
    obtain ⟨n, a, b⟩ := nm
    rw [declareStates_cons, firstInvalid]
    by_cases hv : validStateName n = true
    · rw [if_pos hv, if_pos hv]
      rcases ih (declOne st (n, (base + a, base + b), excl)) with ⟨h1, h2⟩ | ⟨pre, t, ht, h1, h2⟩
      · exact Or.inl ⟨h1, h2⟩
      · exact Or.inr ⟨(n, (base + a, base + b), excl) :: pre, t, List.mem_cons_of_mem _ ht, h1, h2⟩
    · rw [if_neg hv, if_neg hv]
      exact Or.inr ⟨[], (n, a, b), List.mem_cons_self, rfl, rfl⟩

/-- **one declaration line**: the line-level model accepts it and its names are declared in order;
or it declares nothing and stops the parse with an error that lies within the line (names in front
of an invalid one have been looked at by then) -/
theorem declLineStep_cases (o : Nat) (t : List Char) (st : PState) :
    (∃ e, (∃ d, parseDeclLine isPWS t = .ok d) ∧
      declLineStep o t st = .ok (e, (declaredOn (o, t)).foldl declOne st)) ∨
    (declaredOn (o, t) = [] ∧ ∃ (pre : List Occ) (es : List Err), declLineStep o t st = .error es ∧
      StoppedAt (fun p => o ≤ p ∧ p ≤ o + byteLen t) (pre.foldl declOne st).errs es) := by
  unfold declLineStep declaredOn
  rw [parseDeclLine_parts]
  cases hparts : declLineParts isPWS t with
  | none => exact Or.inr ⟨rfl, [], _, rfl, _, o, rfl, rfl, Nat.le_refl _, Nat.le_add_right _ _⟩
  | some pn =>
    obtain ⟨excl, names⟩ := pn
    dsimp only
    rcases declareStates_cases excl o names st with ⟨hfi, heq⟩ | ⟨pre, nm, hnm, hfi, heq⟩ <;> rw [hfi, heq]
    · exact Or.inl ⟨_, ⟨_, rfl⟩, rfl⟩
    · have := declLineParts_bound isPWS t excl names hparts nm hnm
      exact Or.inr ⟨rfl, pre, _, rfl, _, _, rfl, rfl, by omega, by omega⟩

/-- the occurrences of state names on the declaration lines of a text -/
def occsOf (comments : Bool) (ls : List Line) : List Occ := (declLinesOf comments ls).flatMap declaredOn

/-- **the declarations section** is `declOne` folded over the occurrences on its declaration lines: up
to the `%%` line, every declaration line being accepted by the line-level model; or to the end of a
text without `%%` line; or up to a declaration line that stops the parse, with an error that lies
within it -/
theorem declSpec_cases (env : Env) (len : Nat) : ∀ (ls : List Line) (st : PState),
    (∃ sec, rulesSectionOf env.comments ls = some sec ∧
      (∀ ln ∈ declLinesOf env.comments ls, ∃ d, parseDeclLine isPWS ln.2 = .ok d) ∧
      declSpec env len ls st = .ok (sec, (occsOf env.comments ls).foldl declOne st)) ∨
    (rulesSectionOf env.comments ls = none ∧ declSpec env len ls st
      = .error (((occsOf env.comments ls).foldl declOne st).errs ++ [mkErr .prematureEnd len])) ∨
    (∃ (A : List Line) (y : Line) (B : List Line) (extra : List Occ) (es : List Err),
      declLinesOf env.comments ls = A ++ y :: B ∧ declaredOn y = [] ∧ declSpec env len ls st = .error es ∧
      StoppedAt (fun p => y.1 ≤ p ∧ p ≤ y.1 + byteLen y.2)
        ((A.flatMap declaredOn ++ extra).foldl declOne st).errs es) := by
  intro ls
  induction ls with
  | nil => intro st; exact Or.inr (Or.inl ⟨rfl, rfl⟩)
  | cons l0 ls ih =>
    intro st
    obtain ⟨off, l⟩ := l0
    unfold occsOf at ih ⊢
    rcases decl_cons env.comments off l ls with ⟨hd, hr, hs⟩ | ⟨r, sec0, _, _, hd, hr, hs⟩ | ⟨hd, hr, hs⟩ <;>
      rw [hd, hr]
    · rw [hs env len st rfl]; exact ih st
    · exact Or.inl ⟨_, rfl, fun ln hln => (by cases hln), hs env len st rfl⟩
    · obtain ⟨herr, hok⟩ := hs env len st rfl
      rcases declLineStep_cases (off + byteLen (l.takeWhile isPWS)) (l.dropWhile isPWS) st with
        ⟨e, hpd, heq⟩ | ⟨hnil, pre, es, he, hst⟩
      · rw [hok _ _ heq, List.flatMap_cons, List.foldl_append]
        rcases ih ((declaredOn (off + byteLen (l.takeWhile isPWS), l.dropWhile isPWS)).foldl declOne st)
          with ⟨sec, hsec, hall, hdecl⟩ | h | ⟨A, y, B, extra, es, hA, hy, he, hst⟩
        · exact Or.inl ⟨sec, hsec, List.forall_mem_cons.mpr ⟨hpd, hall⟩, hdecl⟩
        · exact Or.inr (Or.inl h)
        · refine Or.inr (Or.inr ⟨_ :: A, y, B, extra, es, by rw [hA]; rfl, hy, he, ?_⟩)
          rwa [List.flatMap_cons, List.append_assoc, List.foldl_append]
      · exact Or.inr (Or.inr ⟨[], _, _, pre, es, rfl, hnil, herr _ he, hst⟩)

theorem declSpec_err (env : Env) (len : Nat) : ∀ (ls : List Line) (st : PState) (es : List Err),
    declSpec env len ls st = .error es → Aborted es := by
  intro ls st es h
  rcases declSpec_cases env len ls st with ⟨_, _, _, he⟩ | ⟨_, he⟩ | ⟨_, _, _, _, _, _, _, he, hst⟩ <;>
    rw [h] at he <;> cases he
  · exact aborted_snoc _ _ _ rfl
  · exact hst.aborted

end GrmVerif.LexSpecParse
