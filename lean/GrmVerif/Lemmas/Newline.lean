import GrmVerif.Model.Newline
/-! The cache a text denotes (`ofText`) and what feeding does to it (C19): the recorded line starts of
a text are `0` and the offset after every `'\n'`, strictly increasing and bounded by the text's
length. -/
namespace GrmVerif.Newline

/-- Offsets just after every `'\n'` of `s`, where `s` starts at absolute byte offset `P`. -/
def nlsFrom (P : Nat) : List Char → List Nat
  | [] => []
  | ch :: rest => if ch = '\n' then (P + 1) :: nlsFrom (P + 1) rest else nlsFrom (P + ch.utf8Size) rest

/-- Bytes after the last newline, starting with `tr` bytes already pending. -/
def trailingFrom (tr : Nat) : List Char → Nat
  | [] => tr
  | ch :: rest => if ch = '\n' then trailingFrom 0 rest else trailingFrom (tr + ch.utf8Size) rest

/-- The cache a whole text denotes. -/
def ofText (s : List Char) : Cache := ⟨0 :: nlsFrom 0 s, trailingFrom 0 s⟩

/-- number of `'\n'` characters at an absolute byte position `< b` (text starts at `P`). -/
def nlBefore (P : Nat) : List Char → Nat → Nat
  | [], _ => 0
  | c :: cs, b => (if c = '\n' ∧ P < b then 1 else 0) + nlBefore (P + c.utf8Size) cs b

theorem utf8Size_nl : ('\n' : Char).utf8Size = 1 := by decide

@[simp] theorem nlsFrom_nl (P : Nat) (s : List Char) :
    nlsFrom P ('\n' :: s) = (P + 1) :: nlsFrom (P + 1) s := by
  simp [nlsFrom]

@[simp] theorem byteLen_nl (s : List Char) : byteLen ('\n' :: s) = 1 + byteLen s := by
  simp [byteLen, utf8Size_nl]

theorem feedGo_spec (sp : Nat) (s : List Char) (off : Nat) (nls : List Nat) (tr : Nat) :
    feedGo sp s off nls tr = ⟨nls ++ nlsFrom (sp + off) s, trailingFrom tr s⟩ := by
  induction s generalizing off nls tr with
  | nil => simp [feedGo, nlsFrom, trailingFrom]
  | cons ch rest ih =>
    unfold feedGo nlsFrom trailingFrom
    split <;> rw [ih] <;> simp [Nat.add_assoc]

theorem byteLen_append (a b : List Char) : byteLen (a ++ b) = byteLen a + byteLen b := by
  induction a with
  | nil => simp [byteLen]
  | cons c cs ih => simp [byteLen, ih, Nat.add_assoc]

theorem nlsFrom_append (P : Nat) (a b : List Char) :
    nlsFrom P (a ++ b) = nlsFrom P a ++ nlsFrom (P + byteLen a) b := by
  induction a generalizing P with
  | nil => simp [nlsFrom, byteLen]
  | cons c cs ih =>
    simp only [List.cons_append, nlsFrom, byteLen]
    split
    · next h => subst h; rw [ih]; simp [utf8Size_nl, Nat.add_assoc]
    · rw [ih]; simp [Nat.add_assoc]

theorem trailingFrom_append (tr : Nat) (a b : List Char) :
    trailingFrom tr (a ++ b) = trailingFrom (trailingFrom tr a) b := by
  induction a generalizing tr with
  | nil => simp [trailingFrom]
  | cons c cs ih => simp only [List.cons_append, trailingFrom]; split <;> rw [ih]

theorem nlsFrom_length (P : Nat) (l : List Char) : (nlsFrom P l).length = l.count '\n' := by
  induction l generalizing P with
  | nil => rfl
  | cons c cs ih =>
    simp only [nlsFrom, List.count_cons, beq_iff_eq]
    split <;> simp [ih]

theorem nlsFrom_no_nl (P : Nat) (s : List Char) (h : '\n' ∉ s) : nlsFrom P s = [] :=
  List.eq_nil_of_length_eq_zero ((nlsFrom_length P s).trans (List.count_eq_zero.mpr h))

theorem mem_nlsFrom (P : Nat) (s : List Char) (x : Nat) :
    x ∈ nlsFrom P s ↔ ∃ pre post, s = pre ++ '\n' :: post ∧ x = P + byteLen pre + 1 := by
  constructor
  · induction s generalizing P with
    | nil => intro h; cases h
    | cons c cs ih =>
      intro hx
      simp only [nlsFrom] at hx
      split at hx
      · next hc =>
        subst hc
        rcases List.mem_cons.mp hx with rfl | h
        · exact ⟨[], cs, rfl, rfl⟩
        · obtain ⟨pre, post, rfl, rfl⟩ := ih _ h
          exact ⟨'\n' :: pre, post, rfl, by rw [byteLen_nl, Nat.add_assoc P]⟩
      · obtain ⟨pre, post, rfl, rfl⟩ := ih _ hx
        exact ⟨c :: pre, post, rfl, by rw [byteLen, Nat.add_assoc P]⟩
  · rintro ⟨pre, post, rfl, rfl⟩
    simp [nlsFrom_append]

theorem nlsFrom_gt (P : Nat) (s : List Char) : ∀ x ∈ nlsFrom P s, P < x := by
  intro x hx
  obtain ⟨pre, post, _, rfl⟩ := (mem_nlsFrom P s x).mp hx
  omega

theorem nlsFrom_le (P : Nat) (s : List Char) : ∀ x ∈ nlsFrom P s, x ≤ P + byteLen s := by
  intro x hx
  obtain ⟨pre, post, rfl, rfl⟩ := (mem_nlsFrom P s x).mp hx
  rw [byteLen_append, byteLen_nl]; omega

theorem ofText_le (a : List Char) : ∀ y ∈ (ofText a).newlines, y ≤ byteLen a := by
  intro y hy
  rcases List.mem_cons.mp hy with rfl | hy
  · exact Nat.zero_le _
  · simpa using nlsFrom_le 0 a y hy

theorem nlsFrom_sorted (P : Nat) (s : List Char) : (nlsFrom P s).Pairwise (· < ·) := by
  induction s generalizing P with
  | nil => simp [nlsFrom]
  | cons c cs ih =>
    simp only [nlsFrom]
    split
    · exact List.pairwise_cons.mpr ⟨nlsFrom_gt _ _, ih _⟩
    · exact ih _

theorem ofText_sorted (s : List Char) : (ofText s).newlines.Pairwise (· < ·) :=
  List.pairwise_cons.mpr ⟨nlsFrom_gt _ _, nlsFrom_sorted _ _⟩

theorem ofText_append (a b : List Char) :
    (ofText (a ++ b)).newlines = (ofText a).newlines ++ nlsFrom (byteLen a) b := by
  simp [ofText, nlsFrom_append]

theorem ofText_length (s : List Char) : (ofText s).newlines.length = 1 + s.count '\n' := by
  rw [ofText, List.length_cons, nlsFrom_length, Nat.add_comm]

theorem countP_nlsFrom (P : Nat) (s : List Char) (b : Nat) :
    (nlsFrom P s).countP (· ≤ b) = nlBefore P s b := by
  induction s generalizing P with
  | nil => rfl
  | cons c cs ih =>
    simp only [nlsFrom, nlBefore]
    split
    · next hc =>
      subst hc
      rw [List.countP_cons, ih, utf8Size_nl, Nat.add_comm]
      simp [Nat.succ_le_iff]
    · next hc => rw [ih]; simp [hc]

theorem countP_ofText (s : List Char) (b : Nat) :
    (ofText s).newlines.countP (· ≤ b) = 1 + nlBefore 0 s b := by
  simp [ofText, countP_nlsFrom, Nat.add_comm]

theorem last_add_trailing (P tr : Nat) (s : List Char) (pre : List Nat) (h : (pre.getLast?.getD 0) + tr = P) :
    ((pre ++ nlsFrom P s).getLast?.getD 0) + trailingFrom tr s = P + byteLen s := by
  induction s generalizing P tr pre with
  | nil => simp [nlsFrom, trailingFrom, byteLen, h]
  | cons c cs ih =>
    simp only [nlsFrom, trailingFrom, byteLen]
    split
    · next hc =>
      subst hc
      have := ih (P + 1) 0 (pre ++ [P + 1]) (by simp)
      simp only [List.append_assoc, List.singleton_append] at this
      rw [this, utf8Size_nl, Nat.add_assoc]
    · rw [ih (P + c.utf8Size) (tr + c.utf8Size) pre (by rw [← Nat.add_assoc, h]), Nat.add_assoc]

theorem feedLen_ofText (s : List Char) : feedLen (ofText s) = byteLen s := by
  simpa [feedLen, lastNl, ofText] using last_add_trailing 0 0 s [0] rfl

theorem feed_ofText (a b : List Char) : feed (ofText a) b = ofText (a ++ b) := by
  have h : lastNl (ofText a) + (ofText a).trailing = byteLen a := feedLen_ofText a
  unfold feed
  rw [h, feedGo_spec]
  simp [ofText, nlsFrom_append, trailingFrom_append]

theorem last_nls_of_ends_nl (a : List Char) (ha : a = [] ∨ a.getLast? = some '\n') :
    (ofText a).newlines.getLast? = some (byteLen a) := by
  rcases ha with rfl | ha
  · rfl
  · obtain ⟨a', rfl⟩ := List.getLast?_eq_some_iff.mp ha
    simp [ofText_append, nlsFrom, byteLen_append, byteLen, utf8Size_nl, Nat.add_comm]

end GrmVerif.Newline
