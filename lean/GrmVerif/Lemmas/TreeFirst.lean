import GrmVerif.Lemmas.Tree
import GrmVerif.Lemmas.Analyses
/-! What a valid parse tree says about FIRST and nullable. -/
namespace GrmVerif.Cert
open GrmVerif Spec

/-- `a` can begin what symbol `X` derives -/
def SymFirst (G : Grammar) (X : Sym) (a : Nat) : Prop :=
  match X with
  | .tok t => t = a
  | .rule r => FirstP G r a

theorem firstSeqP_cons_first {G : Grammar} {X : Sym} {rest : List Sym} {a : Nat} (h : SymFirst G X a) :
    FirstSeqP G (X :: rest) a := by
  cases X with
  | tok t => simp only [SymFirst] at h; subst h; exact ⟨[], .tok t, rest, rfl, .nil, Or.inl rfl⟩
  | rule r => exact ⟨[], .rule r, rest, rfl, .nil, Or.inr ⟨r, rfl, h⟩⟩

theorem firstSeqP_cons_null {G : Grammar} {r : Nat} {rest : List Sym} {a : Nat} (hn : NullableR G r)
    (h : FirstSeqP G rest a) : FirstSeqP G (.rule r :: rest) a := by
  obtain ⟨α, X, β, h1, h2, h3⟩ := h
  exact ⟨.rule r :: α, X, β, by simp [h1], .cons r α hn h2, h3⟩

theorem firstP_of_rhs {G : Grammar} {p a : Nat} (hp : p < G.nprods) (h : FirstSeqP G (G.rhs p) a) :
    FirstP G (G.lhs p) a := by
  obtain ⟨α, X, β, e1, e2, e3⟩ := h
  rcases e3 with rfl | ⟨q, rfl, hq⟩
  · exact .tok p α a β hp e1 e2
  · exact .rule p α q β a hp e1 e2 hq

theorem first_null (G : Grammar) :
    (∀ (T : Tree), Tree.valid G T = true →
      (Tree.yield T = [] → ∃ r, Tree.root G T = .rule r ∧ NullableR G r) ∧
      (∀ a rest, Tree.yield T = a :: rest → SymFirst G (Tree.root G T) a)) ∧
    (∀ (kids : List Tree), Tree.validList G kids = true →
      (Tree.yieldList kids = [] → NullableSeq G (kids.map (Tree.root G))) ∧
      (∀ a rest, Tree.yieldList kids = a :: rest → FirstSeqP G (kids.map (Tree.root G)) a)) := by
  refine Tree.induction ?_ ?_ ?_ ?_
  · intro t i _
    constructor
    · intro h; simp [Tree.yield] at h
    · intro a rest h; simp only [Tree.yield, List.cons.injEq] at h; simp [Tree.root, SymFirst, h.1]
  · intro p kids ih hv
    obtain ⟨hp, hkids, hvl⟩ := valid_node.mp hv
    obtain ⟨h1, h2⟩ := ih hvl
    constructor
    · intro hy
      simp only [Tree.yield] at hy
      refine ⟨G.lhs p, rfl, .mk p hp ?_⟩
      rw [← hkids]; exact h1 hy
    · intro a rest hy
      simp only [Tree.yield] at hy
      simp only [Tree.root, SymFirst]
      exact firstP_of_rhs hp (hkids ▸ h2 a rest hy)
  · intro _
    constructor
    · intro _; exact .nil
    · intro a rest h; simp [Tree.yieldList] at h
  · intro k ks ihk ihks hv
    simp only [Tree.validList, Bool.and_eq_true] at hv
    obtain ⟨k1, k2⟩ := ihk hv.1
    obtain ⟨l1, l2⟩ := ihks hv.2
    constructor
    · intro hy
      simp only [Tree.yieldList, List.append_eq_nil_iff] at hy
      obtain ⟨r, hr, hn⟩ := k1 hy.1
      simp only [List.map_cons, hr]
      exact .cons r _ hn (l1 hy.2)
    · intro a rest hy
      simp only [Tree.yieldList] at hy
      simp only [List.map_cons]
      cases hyk : Tree.yield k with
      | nil =>
        rw [hyk, List.nil_append] at hy
        obtain ⟨r, hr, hn⟩ := k1 hyk
        rw [hr]
        exact firstSeqP_cons_null hn (l2 a rest hy)
      | cons b bs =>
        rw [hyk, List.cons_append, List.cons.injEq] at hy
        have := k2 b bs hyk
        rw [hy.1] at this
        exact firstSeqP_cons_first this

theorem tree_first_null (G : Grammar) : ∀ (T : Tree), Tree.valid G T = true →
    (Tree.yield T = [] → ∃ r, Tree.root G T = .rule r ∧ NullableR G r) ∧
    (∀ a rest, Tree.yield T = a :: rest → SymFirst G (Tree.root G T) a) :=
  (first_null G).1

end GrmVerif.Cert
