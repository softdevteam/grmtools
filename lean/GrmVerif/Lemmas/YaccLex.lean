import GrmVerif.Model.YaccLex
/-!
Specification of what `parse_ws` skips ("layout"), written as a grammar of layout items — blanks,
line terminators, `//` comments, `/* */` comments whose body is ANY text without `*/` — and not as a
scanning loop, and the theorems relating `parseWs` to it: `parseWs_spec` (what each outcome says about
the text, with its readings `ws_spec_ok_inc`, `ws_spec_error_inc`) and `ws_spec_complete_inc` (every sequence of
layout items is skipped entirely: the direction that fails for the unrepaired loop, on a block comment
whose body contains `"\n/"`).
-/
namespace GrmVerif.YaccLex

def NoEol (s : List Char) : Prop := ∀ c ∈ s, isEol c = false

def NoClose (s : List Char) : Prop := ∀ a b, s ≠ a ++ '*' :: '/' :: b

def countEol : List Char → Nat
  | [] => 0
  | c :: cs => (if isEol c then 1 else 0) + countEol cs

/-- one layout item. With `inc = false` there is no line terminator except the one ending a `//`
comment. -/
inductive Item (inc : Bool) : List Char → Prop
  | blank {c : Char} : isBlank c = true → Item inc [c]
  | eol {c : Char} : isEol c = true → inc = true → Item inc [c]
  | line {body : List Char} {e : Char} : NoEol body → isEol e = true → Item inc ('/' :: '/' :: (body ++ [e]))
  | block {body : List Char} : NoClose body → (inc = false → NoEol body) →
      Item inc ('/' :: '*' :: (body ++ ['*', '/']))

/-- `Layout inc rest pre`: `pre` is a concatenation of layout items, in a text in which `rest` follows
it. The last item may be a `//` comment without line terminator only if nothing follows. -/
inductive Layout (inc : Bool) (rest : List Char) : List Char → Prop
  | nil : Layout inc rest []
  | cons {it p : List Char} : Item inc it → Layout inc rest p → Layout inc rest (it ++ p)
  | openLine {body : List Char} : rest = [] → NoEol body → Layout inc rest ('/' :: '/' :: body)

/-- `rest` does not begin with a layout item (nor with the beginning `/*` of one) -/
inductive StopsLayout : List Char → Prop
  | nil : StopsLayout []
  | other {c : Char} {cs : List Char} : isBlank c = false → isEol c = false → c ≠ '/' → StopsLayout (c :: cs)
  | slashEnd : StopsLayout ['/']
  | slashOther {d : Char} {ds : List Char} : d ≠ '/' → d ≠ '*' → StopsLayout ('/' :: d :: ds)

theorem byteLen_append (a b : List Char) : byteLen (a ++ b) = byteLen a + byteLen b := by
  induction a with
  | nil => exact (Nat.zero_add _).symm
  | cons c cs ih => rw [List.cons_append, byteLen, byteLen, ih, Nat.add_assoc]

theorem countEol_append (a b : List Char) : countEol (a ++ b) = countEol a + countEol b := by
  induction a with
  | nil => exact (Nat.zero_add _).symm
  | cons c cs ih => rw [List.cons_append, countEol, countEol, ih, Nat.add_assoc]

theorem NoEol.nil : NoEol [] := fun _ h => nomatch h

theorem NoEol.tail {c : Char} {cs : List Char} (h : NoEol (c :: cs)) : NoEol cs :=
  (List.forall_mem_cons.1 h).2

theorem NoEol.cons {c : Char} {cs : List Char} (hc : isEol c = false) (h : NoEol cs) : NoEol (c :: cs) :=
  List.forall_mem_cons.2 ⟨hc, h⟩

theorem countEol_noEol {s : List Char} (h : NoEol s) : countEol s = 0 := by
  induction s with
  | nil => rfl
  | cons c cs ih => rw [countEol, h c List.mem_cons_self, ih h.tail]; rfl

theorem NoClose.nil : NoClose [] := fun a b e => by simp at e

theorem NoClose.tail {c : Char} {cs : List Char} (h : NoClose (c :: cs)) : NoClose cs :=
  fun a b e => h (c :: a) b (congrArg (c :: ·) e)

theorem NoClose.cons {c : Char} {cs : List Char} (hc : c = '*' → afterSlash cs = none)
    (h : NoClose cs) : NoClose (c :: cs) := by
  intro a b e
  cases a with
  | nil =>
    obtain ⟨rfl, rfl⟩ := List.cons.inj e
    have : some b = none := hc rfl
    exact nomatch this
  | cons x a => exact h a b (List.cons.inj e).2

theorem NoClose.afterSlash {cs : List Char} (h : NoClose ('*' :: cs)) : afterSlash cs = none := by
  cases hh : YaccLex.afterSlash cs with
  | none => rfl
  | some r => exact absurd (congrArg ('*' :: ·) (afterSlash_some hh)) (h [] r)

theorem afterSlash_append_none {a b : List Char} (h : afterSlash (a ++ b) = none) :
    afterSlash a = none := by
  cases a with
  | nil => rfl
  | cons d ds => simpa [afterSlash] using h

theorem afterSlash_none_append {a : List Char} (h : afterSlash a = none) (t : List Char) :
    afterSlash (a ++ '*' :: t) = none := by
  cases a with
  | nil => rfl
  | cons d ds => simpa [afterSlash] using h

theorem isEol_of_isBlank {c : Char} (h : isBlank c = true) : isEol c = false := by
  simp only [isBlank, Bool.or_eq_true, beq_iff_eq] at h
  rcases h with rfl | rfl <;> decide

theorem utf8_slash : Char.utf8Size '/' = 1 := by decide

theorem shiftRes_shiftRes (k m k' m' : Nat) (r : WsRes) :
    shiftRes k m (shiftRes k' m' r) = shiftRes (k + k') (m + m') r := by
  match r with
  | .ok (a, b, r') => simp [shiftRes, Nat.add_assoc]
  | .error (e, p) => simp [shiftRes, Nat.add_assoc]

theorem shiftRes_zero (r : WsRes) : shiftRes 0 0 r = r := by
  match r with
  | .ok (a, b, r') => simp [shiftRes]
  | .error (e, p) => simp [shiftRes]

theorem line_append (body : List Char) (e : Char) (t : List Char) :
    ('/' :: '/' :: (body ++ [e])) ++ t = '/' :: '/' :: (body ++ e :: t) :=
  congrArg (fun l => '/' :: '/' :: l) (List.append_assoc body [e] t)

theorem block_append (body t : List Char) :
    ('/' :: '*' :: (body ++ ['*', '/'])) ++ t = '/' :: '*' :: (body ++ '*' :: '/' :: t) :=
  congrArg (fun l => '/' :: '*' :: l) (List.append_assoc body ['*', '/'] t)

theorem byteLen_openLine (body : List Char) : byteLen ('/' :: '/' :: body) = 2 + byteLen body := by
  rw [byteLen, byteLen, utf8_slash, ← Nat.add_assoc]

theorem byteLen_line (body : List Char) (e : Char) :
    byteLen ('/' :: '/' :: (body ++ [e])) = 2 + (byteLen body + e.utf8Size) := by
  rw [byteLen_openLine, byteLen_append, byteLen, byteLen, Nat.add_zero]

theorem byteLen_block (body : List Char) :
    byteLen ('/' :: '*' :: (body ++ ['*', '/'])) = 2 + (byteLen body + 2) := by
  rw [byteLen, byteLen, utf8_slash, ← Nat.add_assoc, byteLen_append]; rfl

theorem countEol_openLine {body : List Char} (h : NoEol body) : countEol ('/' :: '/' :: body) = 0 := by
  rw [countEol, countEol, countEol_noEol h]; rfl

theorem countEol_line {body : List Char} (h : NoEol body) {e : Char} (he : isEol e = true) :
    countEol ('/' :: '/' :: (body ++ [e])) = 1 := by
  rw [countEol, countEol, countEol_append, countEol_noEol h, countEol, he]; rfl

theorem countEol_block (body : List Char) :
    countEol ('/' :: '*' :: (body ++ ['*', '/'])) = countEol body := by
  rw [countEol, countEol, countEol_append]
  show 0 + (0 + (countEol body + 0)) = countEol body
  rw [Nat.zero_add, Nat.zero_add, Nat.add_zero]

theorem parseWs_nil (inc : Bool) : parseWs inc [] = .ok (0, 0, []) := by
  rw [parseWs.eq_def]

theorem parseWs_blank (inc : Bool) {c : Char} (cs : List Char) (h : isBlank c = true) :
    parseWs inc (c :: cs) = shiftRes c.utf8Size 0 (parseWs inc cs) := by
  rw [parseWs.eq_def]; simp [h]

theorem parseWs_eol (inc : Bool) {c : Char} (cs : List Char) (h : isEol c = true) :
    parseWs inc (c :: cs)
      = if inc then shiftRes c.utf8Size 1 (parseWs inc cs) else .error (.reachedEOL, 0) := by
  have hb : isBlank c = false := Bool.eq_false_iff.2 fun hb => by
    rw [isEol_of_isBlank hb] at h; exact nomatch h
  rw [parseWs.eq_def]; simp [h, hb]

theorem parseWs_line (inc : Bool) (ds : List Char) :
    parseWs inc ('/' :: '/' :: ds)
      = shiftRes (2 + (lineScan ds).1) (lineScan ds).2.1 (parseWs inc (lineScan ds).2.2) := by
  rw [parseWs.eq_def]; simp [isBlank, isEol]

theorem parseWs_block (inc : Bool) (ds : List Char) :
    parseWs inc ('/' :: '*' :: ds) = match blockScan inc ds with
      | .unterminated => .error (.incompleteComment, 0)
      | .eol => .error (.reachedEOL, 0)
      | .closed n nl rest => shiftRes (2 + n) nl (parseWs inc rest) := by
  rw [parseWs.eq_def]; simp [isBlank, isEol]
  split <;> simp_all

theorem parseWs_stop (inc : Bool) {s : List Char} (h : StopsLayout s) : parseWs inc s = .ok (0, 0, s) := by
  cases h with
  | nil => exact parseWs_nil inc
  | other hb he hs => rw [parseWs.eq_def]; simp [hb, he, hs]
  | slashEnd => rw [parseWs.eq_def]; simp [isBlank, isEol]
  | slashOther h1 h2 => rw [parseWs.eq_def]; simp [isBlank, isEol, h1, h2]

theorem lineScan_closed {body : List Char} (h : NoEol body) {e : Char} (he : isEol e = true)
    (q : List Char) : lineScan (body ++ e :: q) = (byteLen body + e.utf8Size, 1, q) := by
  induction body with
  | nil => rw [List.nil_append, lineScan, if_pos he, byteLen, Nat.zero_add]
  | cons c cs ih =>
    rw [List.cons_append, lineScan, if_neg (by rw [h c List.mem_cons_self]; decide), ih h.tail, byteLen,
      Nat.add_assoc]

theorem lineScan_open {body : List Char} (h : NoEol body) : lineScan body = (byteLen body, 0, []) := by
  induction body with
  | nil => rfl
  | cons c cs ih =>
    rw [lineScan, if_neg (by rw [h c List.mem_cons_self]; decide), ih h.tail, byteLen]

theorem lineScan_cases (ds : List Char) :
    (∃ body e q, ds = body ++ e :: q ∧ NoEol body ∧ isEol e = true) ∨ NoEol ds := by
  induction ds with
  | nil => exact .inr NoEol.nil
  | cons c cs ih =>
    cases hc : isEol c with
    | true => exact .inl ⟨[], c, cs, rfl, NoEol.nil, hc⟩
    | false =>
      rcases ih with ⟨body, e, q, h1, h2, h3⟩ | h
      · exact .inl ⟨c :: body, e, q, congrArg (c :: ·) h1, NoEol.cons hc h2, h3⟩
      · exact .inr (NoEol.cons hc h)

/-- `blockScan` on a character that neither closes the comment nor ends the scan -/
theorem blockScan_cons {inc : Bool} {c : Char} {cs : List Char} (hstar : c = '*' → afterSlash cs = none)
    (heol : inc = false → isEol c = false) :
    blockScan inc (c :: cs) = (blockScan inc cs).shift c.utf8Size (if isEol c then 1 else 0) := by
  rw [blockScan]
  cases hc : isEol c with
  | true =>
    cases inc with
    | false => exact absurd (heol rfl) (by rw [hc]; decide)
    | true => rfl
  | false =>
    by_cases hs : c = '*'
    · rw [if_neg (by decide), if_pos hs, hstar hs]; rfl
    · rw [if_neg (by decide), if_neg hs]; rfl

/-- what each outcome of `blockScan inc ds` says about `ds` -/
def BlockSpec (inc : Bool) (ds : List Char) : BlockRes → Prop
  | .closed n nl rest => ∃ body, ds = body ++ '*' :: '/' :: rest ∧ NoClose body ∧ (inc = false → NoEol body)
      ∧ n = byteLen body + 2 ∧ nl = countEol body
  | .unterminated => NoClose ds ∧ (inc = false → NoEol ds)
  | .eol => inc = false ∧ ∃ a c b, ds = a ++ c :: b ∧ NoClose a ∧ NoEol a ∧ isEol c = true

theorem BlockSpec.shift {inc : Bool} {c : Char} {cs : List Char} {r : BlockRes} {m : Nat}
    (hstar : c = '*' → afterSlash cs = none) (heol : inc = false → isEol c = false)
    (hm : (if isEol c then 1 else 0) = m) (h : BlockSpec inc cs r) :
    BlockSpec inc (c :: cs) (r.shift c.utf8Size m) := by
  cases r with
  | closed n nl rest =>
    obtain ⟨body, e1, e2, e3, e4, e5⟩ := h
    refine ⟨c :: body, congrArg (c :: ·) e1, NoClose.cons (fun e => afterSlash_append_none (e1 ▸ hstar e)) e2,
      fun hi => NoEol.cons (heol hi) (e3 hi), ?_, ?_⟩
    · rw [e4, byteLen, Nat.add_assoc]
    · rw [e5, countEol, hm]
  | unterminated => exact ⟨NoClose.cons hstar h.1, fun hi => NoEol.cons (heol hi) (h.2 hi)⟩
  | eol =>
    obtain ⟨hi, a, e, b, e1, e2, e3, e4⟩ := h
    exact ⟨hi, c :: a, e, b, congrArg (c :: ·) e1,
      NoClose.cons (fun e => afterSlash_append_none (e1 ▸ hstar e)) e2, NoEol.cons (heol hi) e3, e4⟩

theorem blockScan_spec (inc : Bool) (ds : List Char) : BlockSpec inc ds (blockScan inc ds) := by
  induction ds with
  | nil => exact ⟨NoClose.nil, fun _ => NoEol.nil⟩
  | cons c cs ih =>
    by_cases h1 : inc = false ∧ isEol c = true
    · rw [blockScan, if_pos h1.2, h1.1]
      exact ⟨rfl, [], c, cs, rfl, NoClose.nil, NoEol.nil, h1.2⟩
    by_cases h2 : c = '*' ∧ ∃ rest, afterSlash cs = some rest
    · obtain ⟨rfl, rest, hr⟩ := h2
      rw [blockScan, if_neg (by decide), if_pos rfl, hr]
      exact ⟨[], by rw [afterSlash_some hr]; rfl, NoClose.nil, fun _ => NoEol.nil, rfl, rfl⟩
    · have hstar : c = '*' → afterSlash cs = none := fun hs =>
        Option.eq_none_iff_forall_ne_some.2 fun r hr => h2 ⟨hs, r, hr⟩
      have heol : inc = false → isEol c = false := fun hi => Bool.eq_false_iff.2 fun he => h1 ⟨hi, he⟩
      rw [blockScan_cons hstar heol]
      exact ih.shift hstar heol rfl

theorem blockScan_complete (inc : Bool) {body : List Char} (h : NoClose body)
    (he : inc = false → NoEol body) (rest : List Char) :
    blockScan inc (body ++ '*' :: '/' :: rest) = .closed (byteLen body + 2) (countEol body) rest := by
  induction body with
  | nil => rfl
  | cons c cs ih =>
    rw [List.cons_append, blockScan_cons (fun hs => afterSlash_none_append (hs ▸ h : NoClose ('*' :: cs)).afterSlash _)
      (fun hi => he hi c List.mem_cons_self), ih h.tail (fun hi => (he hi).tail), BlockRes.shift, byteLen,
      countEol, Nat.add_assoc]

theorem blockScan_unterminated_complete (inc : Bool) {t : List Char} (h : NoClose t)
    (he : inc = false → NoEol t) : blockScan inc t = .unterminated := by
  induction t with
  | nil => rfl
  | cons c cs ih =>
    rw [blockScan_cons (fun hs => (hs ▸ h : NoClose ('*' :: cs)).afterSlash)
      (fun hi => he hi c List.mem_cons_self), ih h.tail (fun hi => (he hi).tail)]
    rfl

/-- where and why `parseWs inc` fails: `ErrAt inc e tail` — `tail` is the text at the error offset -/
inductive ErrAt (inc : Bool) : Err → List Char → Prop
  | unterminated {t : List Char} : NoClose t → (inc = false → NoEol t) →
      ErrAt inc .incompleteComment ('/' :: '*' :: t)
  | eol {c : Char} {cs : List Char} : inc = false → isEol c = true → ErrAt inc .reachedEOL (c :: cs)
  /-- a line terminator inside a block comment is reported at the comment's `/` -/
  | eolInBlock {a : List Char} {c : Char} {b : List Char} : inc = false → NoClose a → NoEol a →
      isEol c = true → ErrAt inc .reachedEOL ('/' :: '*' :: (a ++ c :: b))

/-- what each outcome of `parseWs inc s` says about `s`: a maximal sequence of layout items was
skipped, or an error stands behind a sequence of layout items -/
def WsSpec (inc : Bool) (s : List Char) : WsRes → Prop
  | .ok (n, nl, rest) => ∃ pre, s = pre ++ rest ∧ Layout inc rest pre ∧ n = byteLen pre ∧ nl = countEol pre
      ∧ StopsLayout rest
  | .error (e, p) => ∃ pre tail, s = pre ++ tail ∧ Layout inc tail pre ∧ p = byteLen pre ∧ ErrAt inc e tail

theorem WsSpec.stop {inc : Bool} {s : List Char} (hs : StopsLayout s) : WsSpec inc s (.ok (0, 0, s)) :=
  ⟨[], rfl, .nil, rfl, rfl, hs⟩

theorem WsSpec.cons {inc : Bool} {it s : List Char} {k m : Nat} {r : WsRes} (hit : Item inc it)
    (hk : byteLen it = k) (hm : countEol it = m) (h : WsSpec inc s r) :
    WsSpec inc (it ++ s) (shiftRes k m r) := by
  cases r with
  | ok v =>
    obtain ⟨pre, e1, e2, e3, e4, e5⟩ := h
    refine ⟨it ++ pre, by rw [e1, List.append_assoc], .cons hit e2, ?_, ?_, e5⟩
    · rw [byteLen_append, hk, e3]
    · rw [countEol_append, hm, e4]
  | error v =>
    obtain ⟨pre, tail, e1, e2, e3, e4⟩ := h
    refine ⟨it ++ pre, tail, by rw [e1, List.append_assoc], .cons hit e2, ?_, e4⟩
    rw [byteLen_append, hk, e3]

theorem parseWs_spec (inc : Bool) (s : List Char) : WsSpec inc s (parseWs inc s) := by
  fun_induction parseWs inc s
  case case1 => exact .stop .nil
  case case2 c cs hb ih =>
    exact ih.cons (it := [c]) (.blank hb) (Nat.add_zero _) (by rw [countEol, isEol_of_isBlank hb]; rfl)
  case case3 c cs _ he hi ih =>
    exact ih.cons (it := [c]) (.eol he hi) (Nat.add_zero _) (by rw [countEol, he]; rfl)
  case case4 c cs _ he hi => exact ⟨[], c :: cs, rfl, .nil, rfl, .eol (by simpa using hi) he⟩
  case case5 => exact .stop .slashEnd
  case case6 cs _ _ ih =>
    rcases lineScan_cases cs with ⟨body, e, q, rfl, h2, h3⟩ | hno
    · rw [lineScan_closed h2 h3 q] at ih ⊢
      exact line_append body e q ▸ ih.cons (.line h2 h3) (byteLen_line body e) (countEol_line h2 h3)
    · rw [lineScan_open hno, parseWs_nil]
      exact ⟨'/' :: '/' :: cs, (List.append_nil _).symm, .openLine rfl hno, (byteLen_openLine cs).symm,
        (countEol_openLine hno).symm, .nil⟩
  case case7 cs hb _ _ _ =>
    have := blockScan_spec inc cs
    rw [hb] at this
    exact ⟨[], _, rfl, .nil, rfl, .unterminated this.1 this.2⟩
  case case8 cs hb _ _ _ =>
    have := blockScan_spec inc cs
    rw [hb] at this
    obtain ⟨hi, a, c, b, rfl, e2, e3, e4⟩ := this
    exact ⟨[], _, rfl, .nil, rfl, .eolInBlock hi e2 e3 e4⟩
  case case9 cs n0 nl0 rest0 hb _ _ _ ih =>
    have := blockScan_spec inc cs
    rw [hb] at this
    obtain ⟨body, rfl, e2, e3, e4, e5⟩ := this
    exact block_append body rest0 ▸ ih.cons (k := 2 + n0) (m := nl0) (.block e2 e3)
      (by rw [byteLen_block, e4]) (by rw [countEol_block, e5])
  case case10 c cs h1 h2 _ _ => exact .stop (.slashOther h1 h2)
  case case11 c cs h1 h2 h3 => exact .stop (.other (by simpa using h1) (by simpa using h2) h3)

/-- `_inc` (here and in `ws_spec_error_inc`, `ws_spec_complete_inc`): for either value of `inc_newlines` -/
theorem ws_spec_ok_inc (inc : Bool) (s : List Char) : ∀ n nl rest, parseWs inc s = .ok (n, nl, rest) →
    ∃ pre, s = pre ++ rest ∧ Layout inc rest pre ∧ n = byteLen pre ∧ nl = countEol pre
      ∧ StopsLayout rest := by
  intro n nl rest h
  have := parseWs_spec inc s
  rwa [h] at this

/-- every error of `parse_ws`: it is reported at the offset that follows a sequence of layout items,
and what stands there is an unterminated `/*` comment, or (only with `inc_newlines == false`) a line
terminator or a `/*` comment with a line terminator in it. -/
theorem ws_spec_error_inc (inc : Bool) (s : List Char) : ∀ e p, parseWs inc s = .error (e, p) →
    ∃ pre tail, s = pre ++ tail ∧ Layout inc tail pre ∧ p = byteLen pre ∧ ErrAt inc e tail := by
  intro e p h
  have := parseWs_spec inc s
  rwa [h] at this

/-- with `inc_newlines == true` there is no other error -/
theorem ws_spec_no_eol_error {s : List Char} {p : Nat} : parseWs true s ≠ .error (Err.reachedEOL, p) := by
  intro h
  obtain ⟨pre, tail, e1, e2, e3, e4⟩ := ws_spec_error_inc true s _ _ h
  cases e4 with
  | eol hi _ => exact nomatch hi
  | eolInBlock hi _ _ _ => exact nomatch hi

/-- skipping composes -/
theorem parseWs_layout (inc : Bool) {pre rest : List Char} (hl : Layout inc rest pre) :
    parseWs inc (pre ++ rest) = shiftRes (byteLen pre) (countEol pre) (parseWs inc rest) := by
  induction hl with
  | nil => exact (shiftRes_zero _).symm
  | @cons it p hit hp ih =>
    rw [List.append_assoc, byteLen_append, countEol_append, ← shiftRes_shiftRes, ← ih]
    cases hit with
    | @blank c hb =>
      rw [List.singleton_append, parseWs_blank inc _ hb, byteLen, countEol, isEol_of_isBlank hb]; rfl
    | @eol c he hi =>
      subst hi
      rw [List.singleton_append, parseWs_eol true _ he, byteLen, countEol, he]; rfl
    | @line body e h1 h2 =>
      rw [line_append, parseWs_line, lineScan_closed h1 h2, byteLen_line, countEol_line h1 h2]
    | @block body h1 h2 =>
      rw [block_append, parseWs_block, blockScan_complete inc h1 h2 (p ++ rest), byteLen_block, countEol_block]
  | @openLine body hr hno =>
    subst hr
    rw [List.append_nil, parseWs_line, lineScan_open hno, parseWs_nil, byteLen_openLine, countEol_openLine hno]

theorem ws_spec_complete_inc (inc : Bool) {pre rest : List Char} (hl : Layout inc rest pre)
    (hs : StopsLayout rest) : parseWs inc (pre ++ rest) = .ok (byteLen pre, countEol pre, rest) := by
  rw [parseWs_layout inc hl, parseWs_stop inc hs]; rfl

/-- one block comment is skipped whatever its body contains (e.g. `"\n/"`), and scanning goes on
behind it -/
theorem ws_block_comment {body : List Char} (h : NoClose body) (rest : List Char) :
    parseWs true ('/' :: '*' :: (body ++ '*' :: '/' :: rest))
      = shiftRes (byteLen body + 4) (countEol body) (parseWs true rest) := by
  rw [parseWs_block, blockScan_complete true h (fun hi => nomatch hi) rest]
  exact congrArg (shiftRes · _ _) (Nat.add_comm 2 _)

/-- conversely an unterminated comment behind layout is reported, at its start -/
theorem ws_unterminated_complete {pre tail : List Char} (hl : Layout true ('/' :: '*' :: tail) pre)
    (h : NoClose tail) :
    parseWs true (pre ++ '/' :: '*' :: tail) = .error (Err.incompleteComment, byteLen pre) := by
  rw [parseWs_layout true hl, parseWs_block,
    blockScan_unterminated_complete true h (fun hi => nomatch hi)]
  rfl

/-- `parse_to_eol` splits the text in front of the first line terminator (or at the end) -/
theorem parseToEol_spec (s : List Char) :
    s = (parseToEol s).2.1 ++ (parseToEol s).2.2 ∧ NoEol (parseToEol s).2.1
      ∧ (parseToEol s).1 = byteLen (parseToEol s).2.1
      ∧ ((parseToEol s).2.2 = [] ∨ ∃ c cs, (parseToEol s).2.2 = c :: cs ∧ isEol c = true) := by
  induction s with
  | nil => exact ⟨rfl, NoEol.nil, rfl, .inl rfl⟩
  | cons c cs ih =>
    cases hc : isEol c with
    | true =>
      have e : parseToEol (c :: cs) = (0, [], c :: cs) := by rw [parseToEol, if_pos hc]
      rw [e]
      exact ⟨rfl, NoEol.nil, rfl, .inr ⟨c, cs, rfl, hc⟩⟩
    | false =>
      have e : parseToEol (c :: cs)
          = (c.utf8Size + (parseToEol cs).1, c :: (parseToEol cs).2.1, (parseToEol cs).2.2) := by
        rw [parseToEol, if_neg (by rw [hc]; decide)]
      rw [e]
      exact ⟨congrArg (c :: ·) ih.1, NoEol.cons hc ih.2.1, congrArg (c.utf8Size + ·) ih.2.2.1, ih.2.2.2⟩

section Tests
/-- the results of `parseWs` can be compared, so that the kernel evaluates the tests below (it can
unfold the well-founded recursion of `parseWs`, which `rfl` and `decide` cannot) -/
local instance : DecidableEq WsRes
  | .ok a, .ok b => if h : a = b then isTrue (h ▸ rfl) else isFalse fun e => h (Except.ok.inj e)
  | .error a, .error b => if h : a = b then isTrue (h ▸ rfl) else isFalse fun e => h (Except.error.inj e)
  | .ok _, .error _ => isFalse nofun
  | .error _, .ok _ => isFalse nofun

/-- test: `"/*\n/b*/a"` — the comment is skipped entirely although its body contains `"\n/"`
(the unrepaired loop stopped after `"\n/"` and returned `b*/a` as the rest) -/
example : parseWs true ['/', '*', '\n', '/', 'b', '*', '/', 'a'] = .ok (7, 1, ['a']) := by decide +kernel
/-- test: `"/"` — a lone slash is not layout -/
example : parseWs true ['/'] = .ok (0, 0, ['/']) := by decide +kernel
example : parseWs true ['/', 'x'] = .ok (0, 0, ['/', 'x']) := by decide +kernel
/-- test: `"//a"` — a line comment may end with the text -/
example : parseWs true ['/', '/', 'a'] = .ok (3, 0, []) := by decide +kernel
example : parseWs true ['/', '*'] = .error (.incompleteComment, 0) := by decide +kernel
example : parseWs true ['/', '*', '*', '/'] = .ok (4, 0, []) := by decide +kernel
example : parseWs true ['/', '*', '*', '*', '/'] = .ok (5, 0, []) := by decide +kernel
/-- test: `"/*/"` — the `*` cannot serve as both the opening and the closing star -/
example : parseWs true ['/', '*', '/'] = .error (.incompleteComment, 0) := by decide +kernel
example : parseWs true [' ', '\n', '/', '/', 'a', '\r', 'b'] = .ok (6, 2, ['b']) := by decide +kernel
/-- test: `" \n"` with `inc_newlines == false` -/
example : parseWs false [' ', '\n'] = .error (.reachedEOL, 1) := by decide +kernel
/-- test: `"//a\n x"` with `inc_newlines == false`: the line terminator of a `//` comment is consumed
and counted all the same, and skipping goes on in the next line -/
example : parseWs false ['/', '/', 'a', '\n', ' ', 'x'] = .ok (5, 1, ['x']) := by decide +kernel
/-- test: `"\r\n"` — a CRLF line end is counted as two lines -/
example : parseWs true ['\r', '\n'] = .ok (2, 2, []) := by decide +kernel
/-- test: `"//a\r\n"` with `inc_newlines == false`: the comment takes the `\r` only, the `\n` is an error
(with a bare `\n` line end the same text is accepted, see above) -/
example : parseWs false ['/', '/', 'a', '\r', '\n'] = .error (.reachedEOL, 4) := by decide +kernel
/-- test: `" /*\n*/"` with `inc_newlines == false`: reported at the `/`, not at the `\n` -/
example : parseWs false [' ', '/', '*', '\n', '*', '/'] = .error (.reachedEOL, 1) := by decide +kernel
/-- test: `" /*é*/é"` — offsets are in bytes -/
example : parseWs true [' ', '/', '*', 'é', '*', '/', 'é'] = .ok (7, 0, ['é']) := by
  decide +kernel

/-- test: `'a\"b'` — an escaped quote of the other kind loses its backslash too -/
example : parseString ['\'', 'a', '\\', '"', 'b', '\'', 'x'] = .ok (6, ['a', '"', 'b'], ['x']) := by rfl
/-- test: `"\\"` — a backslash cannot be escaped -/
example : parseString ['"', '\\', '\\', '"'] = .error (.invalidString, 1) := by rfl
example : parseString ['"', 'a'] = .error (.invalidString, 2) := by rfl
example : parseInt ['1', '2', 'a'] = .ok (2, 12, ['a']) := by decide +kernel
example : parseInt ['a'] = .error (.illegalInteger, 0) := by decide +kernel
example : parseAction ['{', 'a', '{', '}', '}', 'b'] = .ok (5, 0, ['a', '{', '}'], ['b']) := by rfl
/-- test: `{'}'}` — a brace in a character literal of the action code is counted -/
example : parseAction ['{', '\'', '}', '\'', '}'] = .ok (3, 0, ['\''], ['\'', '}']) := by rfl
example : parseAction ['{', '{', '}'] = .error (.incompleteAction, 0) := by rfl
example : parseToEol ['a', 'b', '\n', 'c'] = (2, ['a', 'b'], ['\n', 'c']) := by decide +kernel
example : parseToSingleColon ['a', ':', ':', 'b', ':', 'c'] = .ok (4, 0, ['a', ':', ':', 'b'], [':', 'c']) := by
  rfl
/-- test: `a\nb` — the line terminator is skipped; the error is at the end of the text -/
example : parseToSingleColon ['a', '\n', 'b'] = .error (.reachedEOL, 3) := by rfl
example : lookaheadIs ['%', '%'] ['%', '%', 'x'] = some (2, ['x']) := by decide +kernel
end Tests

end GrmVerif.YaccLex
