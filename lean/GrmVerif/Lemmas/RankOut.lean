import GrmVerif.Model.RankImpl
/-!
The refinements `applyRepairsO`/`lrUptoO`/`rankCndsO` of `Model/RankImpl.lean` (a PANIC of the real code
kept apart from the model's fuel) are the functions `applyRepairs`/`lrUpto`/`rankCnds` once the
difference is forgotten: every theorem about the latter's `some` answers is a theorem about the
former's `.ok` answers.
-/
namespace GrmVerif.RankImpl
open LR Rec SearchImpl

theorem Out.toOption_eq_some {α : Type} {x : Out α} {a : α} : x.toOption = some a ↔ x = .ok a := by
  cases x <;> simp [Out.toOption]

theorem Out.toOption_ok {α : Type} (a : α) : (Out.ok a).toOption = some a := rfl

theorem applyOneO_toOption (G : Grammar) (A : Automaton) (w : List Nat) (c : Pos) (r : PRepair) :
    (applyOneO G A w c r).toOption = applyOne G A w c r := by
  cases r with
  | insert t =>
    simp only [applyOneO, applyOne]
    split
    · rfl
    · cases feed G A t FUEL c.stack <;> rfl
  | delete l => rfl
  | shift l =>
    simp only [applyOneO, applyOne]
    split
    · rfl
    · cases feed G A (nextTok G w c.pos) FUEL c.stack <;> rfl

theorem applyRepairsO_toOption (G : Grammar) (A : Automaton) (w : List Nat) :
    ∀ (seq : Seq) (c : Pos), (applyRepairsO G A w c seq).toOption = applyRepairs G A w c seq := by
  intro seq
  induction seq with
  | nil => intro c; rfl
  | cons r rs ih =>
    intro c
    simp only [applyRepairsO, applyRepairs]
    rw [← applyOneO_toOption]
    cases applyOneO G A w c r with
    | ok c' => simp only [Out.toOption]; exact ih c'
    | _ => rfl

theorem lrUptoO_toOption (G : Grammar) (A : Automaton) (w : List Nat) (endIdx : Nat) :
    ∀ (fuel : Nat) (c : Pos), (lrUptoO G A w endIdx fuel c).toOption = lrUpto G A w endIdx fuel c := by
  intro fuel
  induction fuel with
  | zero => intro c; rfl
  | succ f ih =>
    intro c
    simp only [lrUptoO, lrUpto]
    split
    · rfl
    · cases feed G A (nextTok G w c.pos) FUEL c.stack with
      | shifted s => exact ih _
      | _ => rfl

theorem reachO_toOption (G : Grammar) (A : Automaton) (w : List Nat) (win : Nat) (start : Pos) (seq : Seq) :
    (reachO G A w win start seq).toOption = reach G A w win start seq := by
  simp only [reachO, reach]
  rw [← applyRepairsO_toOption]
  cases applyRepairsO G A w start seq with
  | ok c =>
    simp only [Out.toOption]
    rw [← lrUptoO_toOption]
    cases lrUptoO G A w (start.pos + win) (w.length + 2) c <;> rfl
  | _ => rfl

theorem groupReachO_toOption (G : Grammar) (A : Automaton) (w : List Nat) (win : Nat) (start : Pos)
    (g : List Seq) : (groupReachO G A w win start g).toOption = groupReach G A w win start g := by
  cases g with
  | nil => rfl
  | cons s rest => exact reachO_toOption G A w win start s

theorem scoreCndsO_toOption (G : Grammar) (A : Automaton) (w : List Nat) (win : Nat) (start : Pos) :
    ∀ cnds : List (List Seq),
      (scoreCndsO G A w win start cnds).toOption = scoreCnds G A w win start cnds := by
  intro cnds
  induction cnds with
  | nil => rfl
  | cons g gs ih =>
    simp only [scoreCndsO, scoreCnds]
    rw [← groupReachO_toOption, ← ih]
    cases groupReachO G A w win start g with
    | ok d =>
      simp only [Out.toOption]
      cases scoreCndsO G A w win start gs <;> rfl
    | _ => rfl

theorem rankCndsO_toOption (G : Grammar) (A : Automaton) (w : List Nat) (win : Nat) (start : Pos)
    (cnds : List (List Seq)) :
    (rankCndsO G A w win start cnds).toOption = rankCnds G A w win start cnds := by
  simp only [rankCndsO, rankCnds]
  rw [← scoreCndsO_toOption]
  cases scoreCndsO G A w win start cnds <;> rfl

theorem rankCnds_of_O {G : Grammar} {A : Automaton} {w : List Nat} {win : Nat} {start : Pos}
    {cnds : List (List Seq)} {kept : List Seq} (h : rankCndsO G A w win start cnds = .ok kept) :
    rankCnds G A w win start cnds = some kept := by
  rw [← rankCndsO_toOption, h]; rfl

theorem applyRepairsO_of_some {G : Grammar} {A : Automaton} {w : List Nat} {c c' : Pos} {seq : Seq}
    (h : applyRepairs G A w c seq = some c') : applyRepairsO G A w c seq = .ok c' := by
  rw [← applyRepairsO_toOption] at h
  exact Out.toOption_eq_some.mp h

end GrmVerif.RankImpl
