import GrmVerif.Lemmas.LexSpecLines
/-!
One line of a specification: the model's step on a rule line (`ruleLineStep`) is the specification's
(`ruleStepSpec`), which continues the name side of the line (`ruleStepSpec_eq`); and where an accepted
declaration line ends (`declLineStep_end`).
-/
namespace GrmVerif.LexSpecParse
open GrmVerif.LexUnescape GrmVerif.LexParse

theorem pushRule_eq (env : Env) (hb : env.cfg.BOk) (i : Nat) (before : List Char)
    (name : Option (List Char)) (span : Nat × Nat) (tgt : Option (Nat × Nat)) (st : PState) :
    pushRule env i before name span tgt st = some (pushRuleSpec env i before name span tgt st) := by
  unfold pushRule pushRuleSpec
  rw [parseStartStates_eq env.cfg hb, Option.map_some]

/-- the model of `parse_rule` on one line (reverse scans, offsets by subtraction, a byte slice)
does not panic and is the specification's step -/
theorem ruleLineStep_eq (env : Env) (hb : env.cfg.BOk) (i : Nat) (raw : List Char) (st : PState) :
    ruleLineStep env i raw st = some (ruleStepSpec env i raw st) := by
  unfold ruleLineStep ruleStepSpec
  simp only [trimEnd_eq_dropTrailing, splitLast_eq_lastSplit]
  cases hl : lastSplit isSpaceSep (dropTrailing isPWS raw) with
  | none => rfl
  | some t =>
    obtain ⟨pre, s, post⟩ := t
    have hs1 : s.utf8Size = 1 := spaceSep_size s (lastSplit_some isSpaceSep _ pre post s hl).2
    simp only [dropB_after_split isSpaceSep _ pre post s hl hs1, Option.bind_some, hs1]
    have htgt := targetOf_eq post
    cases hts : targetSpec post with
    | none => simp [htgt, hts, Nat.add_comm]
    | some t2 =>
      obtain ⟨target, tlen, orig⟩ := t2
      simp only [htgt, hts, Option.map_some]
      cases hrt : resolveTarget st.states target with
      | none => rfl
      | some tgt =>
        simp only
        by_cases hskip : isSkipName orig = true
        · simp only [hskip, if_true]
          exact pushRule_eq env hb _ _ _ _ _ _
        · simp only [hskip, Bool.false_eq_true, if_false]
          by_cases hq : quotedOk orig = true
          · simp only [hq, Bool.not_true, Bool.false_eq_true, if_false]
            obtain ⟨e1, e2⟩ := name_span isSpaceSep _ pre post orig s target tlen hl hs1 hts hq i
            rw [e1, e2]
            cases findRule st.rules ((orig.drop 1).dropLast) with
            | some r => rfl
            | none => exact pushRule_eq env hb _ _ _ _ _ _
          · simp [hq]

/-- the specification's step, read off the name side of the line: an error of the name side; then, in
this order, unknown target state, invalid name, a name that is taken, the `if !dupe { … }` part -/
theorem ruleStepSpec_eq (env : Env) (off : Nat) (raw : List Char) (st : PState) :
    ruleStepSpec env off raw st =
      match nameSide isPWS isSpaceSep raw with
      | .error (k, p) => .error (st.errs ++ [mkErr (ofLineKind k) (off + p)])
      | .ok ns =>
        match resolveTarget st.states ns.target with
        | none => .error (st.errs ++ [mkErr .unknownStartState (off + ns.nameOff)])
        | some tgt =>
          match ns.name with
          | none => .error (st.errs ++ [mkErr .invalidName (off + ns.nameOff)])
          | some (none, a, b) => pushRuleSpec env off ns.pre none (off + a, off + b) tgt st
          | some (some n, a, b) =>
            match findRule st.rules n with
            | some r => .ok { st with errs := addDup st.errs .duplicateName r.span (off + a, off + b) }
            | none => pushRuleSpec env off ns.pre (some n) (off + a, off + b) tgt st := by
  unfold ruleStepSpec nameSide
  cases lastSplit isSpaceSep (dropTrailing isPWS raw) with
  | none => rfl
  | some t =>
    obtain ⟨pre, s, post⟩ := t
    dsimp only
    cases targetSpec post with
    | none => rfl
    | some t2 =>
      obtain ⟨target, tlen, orig⟩ := t2
      dsimp only
      cases resolveTarget st.states target with
      | none => simp only [Nat.add_assoc]
      | some tgt =>
        dsimp only
        by_cases hskip : isSkipName orig = true
        · simp only [hskip, if_true, Nat.add_assoc]
        · by_cases hq : quotedOk orig = true
          · simp only [hskip, hq, Bool.false_eq_true, if_false, Bool.not_true, Nat.add_assoc]
            rfl
          · simp only [hskip, hq, Bool.false_eq_true, if_false, Bool.not_false, if_true, Nat.add_assoc]

/-- where `declare_start_states` leaves `i`, the end of the last name: only blanks follow -/
theorem lastEnd_tiles {p : Char → Bool} {words : List (List Char × Nat × Nat)} : ∀ {off : Nat} {s : List Char},
    Tiles p off s words → words ≠ [] →
      ∃ x trail, s = x ++ trail ∧ (∀ c ∈ trail, p c = true) ∧ x ≠ [] ∧ lastEnd words = off + byteLen x := by
  induction words with
  | nil => intro _ _ _ h; exact absurd rfl h
  | cons w0 words ih =>
    obtain ⟨w, a, b⟩ := w0
    rintro off s ⟨gap, rest, hs, _, hw, ha, hb, ht⟩ _
    cases words with
    | nil =>
      exact ⟨gap ++ w, rest, hs, ht, by simp [hw], by
        rw [show lastEnd [(w, a, b)] = b from rfl, hb, ha, byteLen_append, Nat.add_assoc]⟩
    | cons w2 words =>
      obtain ⟨x, trail, hr, htr, _, he⟩ := ih ht (List.cons_ne_nil _ _)
      refine ⟨gap ++ w ++ x, trail, by rw [hs, hr]; simp only [List.append_assoc], htr, by simp [hw], ?_⟩
      rw [show lastEnd ((w, a, b) :: w2 :: words) = lastEnd (w2 :: words) by
        simp only [lastEnd, List.getLast?_cons_cons], he, hb, ha]
      simp only [byteLen_append, Nat.add_assoc]

/-- an accepted declaration line: `declare_start_states` leaves `i` before the trailing blanks -/
theorem declLineStep_end (o : Nat) (t : List Char) (st st' : PState) (e : Nat)
    (h : declLineStep o t st = .ok (e, st')) :
    ∃ x trail, t = x ++ trail ∧ (∀ c ∈ trail, isPWS c = true) ∧ e = byteLen x ∧ 0 < e := by
  unfold declLineStep at h
  split at h
  · cases h
  · next excl names hparts =>
    split at h
    · cases h
    · obtain ⟨rfl, _⟩ := Prod.mk.inj (Except.ok.inj h)
      obtain ⟨front, params, trail, ht, htrail, hne, htiles⟩ := declLineParts_some isPWS t excl names hparts
      obtain ⟨x, tr, hp, htr, hx, he⟩ := lastEnd_tiles htiles hne
      refine ⟨front ++ x, tr ++ trail, by rw [ht, hp]; simp only [List.append_assoc],
        fun c hc => (List.mem_append.mp hc).elim (htr c) (htrail c), by rw [he, byteLen_append], ?_⟩
      cases x with
      | nil => exact absurd rfl hx
      | cons c cs => have := Char.utf8Size_pos c; rw [he, byteLen_cons]; omega

end GrmVerif.LexSpecParse
