import GrmVerif.Lemmas.MinCostsImpl
/-! The model of `rule_max_costs` (`Impl.ruleMaxCosts`), part 1: what the scan of one production
(`mxSyms`) and of the productions of one rule (`mxProds`) return. -/
namespace GrmVerif.Impl
open GrmVerif Spec

/-- `costs[q] == u16::MAX` -/
def isMaxB (costs : List Nat) : Nat → Bool := fun q => cget costs q == U16MAX

theorem isMaxB_iff {costs : List Nat} {q : Nat} : isMaxB costs q = true ↔ cget costs q = U16MAX := beq_iff_eq

theorem isMaxB_eq_false {costs : List Nat} {q : Nat} : isMaxB costs q = false ↔ cget costs q ≠ U16MAX :=
  beq_eq_false_iff_ne

/-- the sum of the costs of the symbols before the first rule at which the scan stops -/
def prefSum (tc : Nat → Nat) (c : Nat → Nat) (stop : Nat → Bool) : List Sym → Nat
  | [] => 0
  | .tok t :: rest => tc t + prefSum tc c stop rest
  | .rule q :: rest => if stop q then 0 else c q + prefSum tc c stop rest

/-- the scan of the production is left at a rule (`break 'a` at a rule of cost `u16::MAX`) -/
def hasStop (stop : Nat → Bool) : List Sym → Bool
  | [] => false
  | .tok _ :: rest => hasStop stop rest
  | .rule q :: rest => stop q || hasStop stop rest

/-- `cmplt` at the end of the scan: every rule of the production is done -/
def allDoneSyms (done : List Bool) : List Sym → Bool
  | [] => true
  | .tok _ :: rest => allDoneSyms done rest
  | .rule q :: rest => vget done q && allDoneSyms done rest

theorem hasStop_iff (stop : Nat → Bool) (l : List Sym) :
    hasStop stop l = true ↔ ∃ q, Sym.rule q ∈ l ∧ stop q = true := by
  induction l with
  | nil => simp [hasStop]
  | cons s rest ih => cases s <;> simp [hasStop, ih, or_and_right, exists_or]

theorem hasStop_eq_false (stop : Nat → Bool) (l : List Sym) :
    hasStop stop l = false ↔ ∀ q, Sym.rule q ∈ l → stop q = false := by
  rw [Bool.eq_false_iff, Ne, hasStop_iff, not_exists]
  exact forall_congr' fun q => by rw [not_and, Bool.not_eq_true]

theorem allDoneSyms_iff (done : List Bool) (l : List Sym) :
    allDoneSyms done l = true ↔ ∀ q, Sym.rule q ∈ l → vget done q = true := by
  induction l with
  | nil => simp [allDoneSyms]
  | cons s rest ih => cases s <;> simp [allDoneSyms, ih, or_imp, forall_and]

theorem prefSum_eq_curSum {tc c : Nat → Nat} {stop : Nat → Bool} :
    ∀ l : List Sym, hasStop stop l = false → prefSum tc c stop l = curSum tc c l := by
  intro l
  induction l with
  | nil => intro _; rfl
  | cons s rest ih =>
    intro h
    cases s with
    | tok t => simp only [hasStop] at h; simp [prefSum, curSum, ih h]
    | rule q =>
      simp only [hasStop, Bool.or_eq_false_iff] at h
      simp [prefSum, curSum, h.1, ih h.2]

theorem prefSum_mono {tc c c' : Nat → Nat} {stop stop' : Nat → Bool}
    (hs : ∀ q, stop' q = true → stop q = true) (hc : ∀ q, stop q = false → c q ≤ c' q) :
    ∀ l : List Sym, prefSum tc c stop l ≤ prefSum tc c' stop' l := by
  intro l
  induction l with
  | nil => exact Nat.le_refl _
  | cons s rest ih =>
    cases s with
    | tok t => exact Nat.add_le_add_left ih _
    | rule q =>
      simp only [prefSum]
      cases h : stop q with
      | true => simp
      | false =>
        have : stop' q = false := Bool.eq_false_iff.mpr fun h' => by simp [hs q h'] at h
        simp only [this, Bool.false_eq_true, if_false]
        exact Nat.add_le_add (hc q h) ih

theorem curSum_mono_mem {tc c c' : Nat → Nat} :
    ∀ l : List Sym, (∀ q, Sym.rule q ∈ l → c q ≤ c' q) → curSum tc c l ≤ curSum tc c' l := by
  intro l
  induction l with
  | nil => intro _; exact Nat.le_refl _
  | cons s rest ih =>
    intro h
    have ih' := ih (fun q hq => h q (List.mem_cons_of_mem _ hq))
    cases s with
    | tok t => exact Nat.add_le_add_left ih' _
    | rule q => exact Nat.add_le_add (h q (by simp)) ih'

theorem curSum_congr {tc c c' : Nat → Nat} (l : List Sym) (h : ∀ q, Sym.rule q ∈ l → c q = c' q) :
    curSum tc c l = curSum tc c' l :=
  Nat.le_antisymm (curSum_mono_mem l fun q hq => Nat.le_of_eq (h q hq))
    (curSum_mono_mem l fun q hq => Nat.le_of_eq (h q hq).symm)

theorem mxSyms_spec (G : Grammar) (tc costs : List Nat) (done : List Bool) (htc : tc.length = G.ntoks) :
    ∀ (l : List Sym) (c : Nat) (cm : Bool), (∀ s ∈ l, G.symOk s = true) →
      c + prefSum (tcF tc) (cget costs) (isMaxB costs) l < U16MAX →
      mxSyms G tc costs done l c cm =
        some (bif hasStop (isMaxB costs) l then .hitMax
              else .ok (c + curSum (tcF tc) (cget costs) l) (cm && allDoneSyms done l)) := by
  intro l
  induction l with
  | nil => intro c cm _ _; simp [mxSyms, hasStop, curSum, allDoneSyms]
  | cons s rest ih =>
    intro c cm hok hfit
    have hok' : ∀ s ∈ rest, G.symOk s = true := fun x hx => hok x (List.mem_cons_of_mem _ hx)
    cases s with
    | tok t =>
      have ht : t < tc.length := htc ▸ symOk_tok.mp (hok (.tok t) (by simp))
      rw [prefSum, ← Nat.add_assoc] at hfit
      have hlt := Nat.lt_of_le_of_lt (Nat.le_add_right _ _) hfit
      simp only [mxSyms, tc_get ht]
      rw [checkedAdd_some (Nat.le_of_lt hlt)]
      simp only [Nat.ne_of_lt hlt, if_false]
      rw [ih (c + tcF tc t) cm hok' hfit]
      simp only [hasStop, curSum, allDoneSyms, Nat.add_assoc]
    | rule q =>
      have hq : q < G.nrules := symOk_rule.mp (hok (.rule q) (by simp))
      simp only [mxSyms, hq, if_true]
      by_cases hm : cget costs q = U16MAX
      · simp [hm, hasStop, isMaxB_iff.mpr hm]
      · have hmb : isMaxB costs q = false := isMaxB_eq_false.mpr hm
        rw [prefSum, hmb, if_neg Bool.false_ne_true, ← Nat.add_assoc] at hfit
        have hlt : c + cget costs q < U16MAX := Nat.lt_of_le_of_lt (Nat.le_add_right _ _) hfit
        simp only [hm, if_false]
        rw [checkedAdd_some (Nat.le_of_lt hlt)]
        simp only [Nat.ne_of_lt hlt, if_false]
        rw [ih (c + cget costs q) _ hok' hfit]
        simp only [hasStop, hmb, Bool.false_or, curSum, allDoneSyms, Nat.add_assoc]
        cases vget done q <;> cases cm <;> simp

/-- the scan of production `p` can be carried out without overflow -/
def ProdFits (G : Grammar) (tc costs : List Nat) (p : Nat) : Prop :=
  p < G.nprods ∧ prefSum (tcF tc) (cget costs) (isMaxB costs) (G.rhs p) < U16MAX

/-- `o` is the largest of the values that satisfy `S` (`none`: there is none) -/
structure IsMaxOf (S : Nat → Prop) (o : Option Nat) : Prop where
  cover : ∀ v, S v → ∃ m, o = some m ∧ v ≤ m
  mem : ∀ m, o = some m → S m

/-- one of the two running maxima of `mxProds`: `c` replaces `h` if the production counts for this maximum
(`b`) and `c` is larger -/
def updMax (b : Bool) (c : Nat) (h : Option Nat) : Option Nat := if b && gtO c h then some c else h

def runMax (flag : Nat → Bool) (val : Nat → Nat) : List Nat → Option Nat → Option Nat
  | [], h => h
  | p :: ps, h => runMax flag val ps (updMax (flag p) (val p) h)

theorem isMaxOf_max? (l : List Nat) : IsMaxOf (· ∈ l) l.max? := by
  refine ⟨fun v hv => ?_, fun m hm => (List.max?_eq_some_iff.mp hm).1⟩
  cases hm : l.max? with
  | none => rw [List.max?_eq_none_iff.mp hm] at hv; cases hv
  | some m => exact ⟨m, rfl, (List.max?_eq_some_iff.mp hm).2 v hv⟩

/-- the running maximum is the maximum of the start value and the values that count -/
theorem runMax_eq (flag : Nat → Bool) (val : Nat → Nat) : ∀ (ps : List Nat) (h : Option Nat),
    runMax flag val ps h = (h.toList ++ (ps.filter flag).map val).max? := by
  intro ps
  induction ps with
  | nil => intro h; cases h <;> rfl
  | cons p ps ih =>
    intro h
    rw [runMax, ih, updMax, List.filter_cons]
    cases flag p with
    | false => rfl
    | true =>
      cases h with
      | none => rfl
      | some a =>
        simp only [Bool.true_and, gtO, decide_eq_true_eq, if_true, Option.toList_some, List.singleton_append, List.map_cons]
        rw [List.max?_cons' (x := a), List.foldl_cons]
        by_cases hgt : val p > a
        · rw [if_pos hgt, Nat.max_eq_right (Nat.le_of_lt hgt)]; rfl
        · rw [if_neg hgt, Nat.max_eq_left (Nat.le_of_not_lt hgt)]; rfl

theorem runMax_isMaxOf (flag : Nat → Bool) (val : Nat → Nat) (ps : List Nat) :
    IsMaxOf (fun v => ∃ p ∈ ps, flag p = true ∧ val p = v) (runMax flag val ps none) := by
  have := isMaxOf_max? ((ps.filter flag).map val)
  rw [runMax_eq]
  simp only [List.mem_map, List.mem_filter, and_assoc] at this
  exact this

/-- what `mxProds` returns, started from `(None, None)`, when no production contains a rule of cost `u16::MAX`:
the largest sum of a complete production and the largest sum of an incomplete one -/
structure ProdsRes (G : Grammar) (tc costs : List Nat) (done : List Bool) (ps : List Nat)
    (hc hn : Option Nat) : Prop where
  cmplt : IsMaxOf (fun v => ∃ p ∈ ps, allDoneSyms done (G.rhs p) = true ∧
    curSum (tcF tc) (cget costs) (G.rhs p) = v) hc
  ncmplt : IsMaxOf (fun v => ∃ p ∈ ps, allDoneSyms done (G.rhs p) = false ∧
    curSum (tcF tc) (cget costs) (G.rhs p) = v) hn

/-- a value that is one of the two maxima and at least both is the largest of the sums, and the sum of some
production -/
theorem ProdsRes.top {G : Grammar} {tc costs : List Nat} {done : List Bool} {ps : List Nat} {hc hn : Option Nat}
    (res : ProdsRes G tc costs done ps hc hn) {v : Nat} (hv : hc = some v ∨ hn = some v)
    (hcv : ∀ h, hc = some h → h ≤ v) (hnv : ∀ x, hn = some x → x ≤ v) :
    (∃ p ∈ ps, curSum (tcF tc) (cget costs) (G.rhs p) = v) ∧
    ∀ p ∈ ps, curSum (tcF tc) (cget costs) (G.rhs p) ≤ v := by
  constructor
  · rcases hv with e | e
    · obtain ⟨p, hp, _, he⟩ := res.cmplt.mem v e
      exact ⟨p, hp, he⟩
    · obtain ⟨p, hp, _, he⟩ := res.ncmplt.mem v e
      exact ⟨p, hp, he⟩
  · intro p hp
    cases hdp : allDoneSyms done (G.rhs p) with
    | true =>
      obtain ⟨h, hh, hle⟩ := res.cmplt.cover _ ⟨p, hp, hdp, rfl⟩
      exact Nat.le_trans hle (hcv h hh)
    | false =>
      obtain ⟨x, hx, hle⟩ := res.ncmplt.cover _ ⟨p, hp, hdp, rfl⟩
      exact Nat.le_trans hle (hnv x hx)

/-- `mxProds` leaves at the first production that contains a rule of cost `u16::MAX`; otherwise it keeps two running
maxima: of the complete productions and of the others -/
theorem mxProds_eq (G : Grammar) (hwf : G.wf = true) (tc costs : List Nat) (done : List Bool)
    (htc : tc.length = G.ntoks) :
    ∀ (ps : List Nat) (hc0 hn0 : Option Nat), (∀ p ∈ ps, ProdFits G tc costs p) →
      ∃ hn, mxProds G tc costs done ps hc0 hn0 =
        some (bif ps.any (fun p => hasStop (isMaxB costs) (G.rhs p)) then (some U16MAX, hn) else
          (runMax (fun p => allDoneSyms done (G.rhs p)) (fun p => curSum (tcF tc) (cget costs) (G.rhs p)) ps hc0,
            runMax (fun p => !allDoneSyms done (G.rhs p)) (fun p => curSum (tcF tc) (cget costs) (G.rhs p)) ps hn0)) := by
  intro ps
  induction ps with
  | nil => intro _ hn0 _; exact ⟨hn0, rfl⟩
  | cons p ps ih =>
    intro hc0 hn0 hall
    obtain ⟨hp, hfit⟩ := hall p (by simp)
    have hscan := mxSyms_spec G tc costs done htc (G.rhs p) 0 true (fun s hs => wf_sym hwf hp hs)
      (by rw [Nat.zero_add]; exact hfit)
    have ih' := fun a b => ih a b (fun q hq => hall q (List.mem_cons_of_mem _ hq))
    simp only [mxProds, hscan, List.any_cons, runMax, updMax]
    cases hasStop (isMaxB costs) (G.rhs p) with
    | true => exact ⟨hn0, rfl⟩
    | false =>
      simp only [cond_false, Bool.false_or, Nat.zero_add, Bool.true_and]
      cases allDoneSyms done (G.rhs p) <;> cases gtO (curSum (tcF tc) (cget costs) (G.rhs p)) hc0 <;>
        cases gtO (curSum (tcF tc) (cget costs) (G.rhs p)) hn0 <;> exact ih' _ _

theorem mxProds_spec (G : Grammar) (hwf : G.wf = true) (tc costs : List Nat) (done : List Bool)
    (htc : tc.length = G.ntoks) (ps : List Nat) (hall : ∀ p ∈ ps, ProdFits G tc costs p)
    (hns : ps.any (fun p => hasStop (isMaxB costs) (G.rhs p)) = false) :
    ∃ hc hn, mxProds G tc costs done ps none none = some (hc, hn) ∧ ProdsRes G tc costs done ps hc hn := by
  obtain ⟨_, hr⟩ := mxProds_eq G hwf tc costs done htc ps none none hall
  rw [hns] at hr
  have n := runMax_isMaxOf (fun p => !allDoneSyms done (G.rhs p))
    (fun p => curSum (tcF tc) (cget costs) (G.rhs p)) ps
  simp only [Bool.not_eq_true'] at n
  exact ⟨_, _, hr, runMax_isMaxOf _ _ ps, n⟩

end GrmVerif.Impl
