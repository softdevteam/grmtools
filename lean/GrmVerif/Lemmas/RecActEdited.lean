import GrmVerif.Lemmas.RecActInv
import GrmVerif.Lemmas.RunSpec
/-!
The unconditional half of C08 with recovery on: the recovering run IS the run over the edited input with
each refused lexeme offered first, on value configurations (`recRunA_own`, no hypothesis about the table
beyond the end-of-input discipline); on a table that passes `Cert.check` and `colsOk` the log of a run that
returns a value is the specification's call list of that value (`recRunA_logOk`).
-/
namespace GrmVerif.RecAct
open LR Act Rec Cert C05 Term RankImpl

variable {G : Grammar} {A : Automaton} {w : List Nat}

/-- a lexeme as it is pushed on the stacks: token, identity, span -/
structure Lx where
  tok : Nat
  id : Nat
  span : Nat × Nat
deriving Repr, DecidableEq, Inhabited

/-- the lexeme an item of the edited input stands for -/
def itemLx (w : List Nat) (lexSpan : Nat → Nat × Nat) (it : EItem) : Lx :=
  ⟨itemTok w it, lexId w.length it, itemSpan lexSpan w.length it⟩

theorem editedLex_toks (w : List Nat) (lexSpan : Nat → Nat × Nat) (errs : List Err) :
    (editedLex w lexSpan errs).map (·.1) = editedToks w w.length 0 errs := by
  simp [editedLex, editedToks, List.map_map, Function.comp_def]

inductive AStepL where
  | tok (l : Lx)
  | offer (la : Nat)
deriving Repr, DecidableEq

def AStepL.erase : AStepL → EStep
  | .tok l => .tok l.tok
  | .offer la => .offer la

/-- `C05.runSteps` with values: a token is shifted after the reductions the table prescribes under it
(its lexeme pushed); an offered lexeme is refused after them — and they are KEPT -/
def runStepsA (G : Grammar) (A : Automaton) : VCfg → List AStepL → Option VCfg
  | v, [] => some v
  | v, .tok l :: r =>
    match feedA G A l.tok FUEL v with
    | .shifted s' v' => runStepsA G A (pushLex s' l.tok l.id l.span v') r
    | _ => none
  | v, .offer la :: r =>
    match feedA G A la FUEL v with
    | .error v' => runStepsA G A v' r
    | _ => none

def lxSteps (w : List Nat) (lexSpan : Nat → Nat × Nat) (items : List EItem) : List AStepL :=
  items.map (fun it => .tok (itemLx w lexSpan it))

/-- `C05.editedSteps` with lexemes: the items of the edited input and, at each error, the refused
lexeme offered first -/
def editedStepsA (G : Grammar) (w : List Nat) (lexSpan : Nat → Nat × Nat) (stop : Nat) : Nat → List Err → List AStepL
  | pos, [] => lxSteps w lexSpan (reals pos stop)
  | pos, e :: es =>
    lxSteps w lexSpan (reals pos e.pos) ++
      (.offer (nextTok G w e.pos) ::
        (lxSteps w lexSpan (editSeq e.pos (firstSeq e)).1 ++
          editedStepsA G w lexSpan stop (editSeq e.pos (firstSeq e)).2 es))

theorem lxSteps_erase (w : List Nat) (lexSpan : Nat → Nat × Nat) (items : List EItem) :
    (lxSteps w lexSpan items).map AStepL.erase = tokSteps (items.map (itemTok w)) := by
  simp [lxSteps, tokSteps, List.map_map, Function.comp_def, AStepL.erase, itemLx]

theorem editedStepsA_erase (G : Grammar) (w : List Nat) (lexSpan : Nat → Nat × Nat) (stop : Nat) :
    ∀ (errs : List Err) (pos : Nat),
      (editedStepsA G w lexSpan stop pos errs).map AStepL.erase = editedSteps G w stop pos errs
  | [], pos => by simp only [editedStepsA, editedSteps, lxSteps_erase]
  | e :: es, pos => by
    simp only [editedStepsA, editedSteps, List.map_append, List.map_cons, lxSteps_erase, AStepL.erase]
    rw [editedStepsA_erase G w lexSpan stop es]

theorem runStepsA_append (G : Grammar) (A : Automaton) :
    ∀ (a b : List AStepL) (v : VCfg),
      runStepsA G A v (a ++ b) = (runStepsA G A v a).bind (fun s => runStepsA G A s b) := by
  intro a
  induction a with
  | nil => intro b v; simp [runStepsA]
  | cons x xs ih =>
    intro b v
    cases x with
    | tok l =>
      simp only [List.cons_append, runStepsA]
      cases feedA G A l.tok FUEL v <;> simp [ih]
    | offer la =>
      simp only [List.cons_append, runStepsA]
      cases feedA G A la FUEL v <;> simp [ih]

theorem runStepsA_erase (G : Grammar) (A : Automaton) :
    ∀ (steps : List AStepL) (v : VCfg),
      (runStepsA G A v steps).map (·.pstack) = runSteps G A v.pstack (steps.map AStepL.erase) := by
  intro steps
  induction steps with
  | nil => intro v; rfl
  | cons x xs ih =>
    intro v
    cases x with
    | tok l =>
      simp only [runStepsA, List.map_cons, AStepL.erase, runSteps]
      rw [← feedA_erase]
      cases feedA G A l.tok FUEL v with
      | shifted s' v' => exact ih _
      | _ => rfl
    | offer la =>
      simp only [runStepsA, List.map_cons, AStepL.erase, runSteps]
      rw [← feedA_erase]
      cases feedA G A la FUEL v with
      | error v' => exact ih _
      | _ => rfl

theorem editedStepsA_shift (G : Grammar) (w : List Nat) (lexSpan : Nat → Nat × Nat) (stop : Nat) :
    ∀ (errs : List Err) (pos : Nat), Ordered stop (pos + 1) errs →
      editedStepsA G w lexSpan stop pos errs =
        .tok (itemLx w lexSpan (.real pos)) :: editedStepsA G w lexSpan stop (pos + 1) errs
  | [], pos, h => by rw [editedStepsA, reals_cons h]; rfl
  | e :: es, pos, h => by rw [editedStepsA, reals_cons h.1]; rfl

theorem editedItems_shift (stop : Nat) :
    ∀ (errs : List Err) (pos : Nat), Ordered stop (pos + 1) errs →
      editedItems stop pos errs = .real pos :: editedItems stop (pos + 1) errs
  | [], pos, h => by rw [editedItems, reals_cons h]; rfl
  | e :: es, pos, h => by rw [editedItems, reals_cons h.1]; rfl

theorem applySeqA_runStepsA (G : Grammar) (A : Automaton) (w : List Nat) (lexSpan : Nat → Nat × Nat) :
    ∀ (rs : List Repair) (c c' : RACfg), applySeqA G A w lexSpan c rs = some c' →
      runStepsA G A c.v (lxSteps w lexSpan (editSeq c.laidx rs).1) = some c'.v ∧
      c'.laidx = (editSeq c.laidx rs).2 := by
  intro rs c c'
  refine applySeqA_induction (motive := fun c rs =>
      runStepsA G A c.v (lxSteps w lexSpan (editSeq c.laidx rs).1) = some c'.v ∧ c'.laidx = (editSeq c.laidx rs).2)
    ⟨rfl, rfl⟩ (fun c t s' v' rs hf ih => ?_) (fun _ _ _ ih => ih) (fun c t s' v' rs ht hf ih => ?_) rs c
  · simp only [editSeq, lxSteps, List.map_cons, runStepsA, itemLx, itemTok, hf]
    exact ih
  · have ht' : w.getD c.laidx 0 = t := by simp [List.getD, ht]
    simp only [editSeq, lxSteps, List.map_cons, runStepsA, itemLx, itemTok, ht', hf, lexId, itemSpan]
    exact ih

theorem applySeqA_le {lexSpan : Nat → Nat × Nat} {c c' : RACfg} {rs : List Repair}
    (h : applySeqA G A w lexSpan c rs = some c') (hc : c.laidx ≤ w.length) : c'.laidx ≤ w.length := by
  have := applySeqA_erase G A w lexSpan rs c
  rw [h] at this
  exact (applySeq_pos G A w rs _ _ this.symm).2 hc

/-- induction along a run of the recovering loop that returns `(o, log, errs')`, one case per kind of iteration -/
@[elab_as_elim]
theorem recRunA_induction {lexSpan : Nat → Nat × Nat} {recover : Pos → List (List Repair)} {o : Outcome}
    {log : List Call} {errs' : List Err} {motive : RACfg → List Err → Prop}
    (shift : ∀ (c : RACfg) errs s' v', feedA G A (nextTok G w c.laidx) FUEL c.v = .shifted s' v' →
      motive ⟨pushLex s' (nextTok G w c.laidx) c.laidx (lexSpan c.laidx) v', c.laidx + 1⟩ errs → motive c errs)
    (accept : ∀ (c : RACfg) v', feedA G A (nextTok G w c.laidx) FUEL c.v = .accept v' → o = acceptOut v' →
      log = v'.log → motive c errs')
    (repair : ∀ (c : RACfg) errs v' s0 rest c', feedA G A (nextTok G w c.laidx) FUEL c.v = .error v' →
      recover ⟨v'.pstack, c.laidx⟩ = s0 :: rest → applySeqA G A w lexSpan ⟨v', c.laidx⟩ s0 = some c' →
      motive c' (errs ++ [⟨c.laidx, s0 :: rest⟩]) → motive c errs)
    (giveUp : ∀ (c : RACfg) errs v', feedA G A (nextTok G w c.laidx) FUEL c.v = .error v' →
      recover ⟨v'.pstack, c.laidx⟩ = [] → o = .error c.laidx (v'.pstack.headD 0) → log = v'.log →
      errs' = errs ++ [⟨c.laidx, []⟩] → motive c errs)
    (cutOff : ∀ (c : RACfg) errs, (o = .crash 5 ∨ o = .crash 1 ∨ o = .fuelOut) →
      (errs' = errs ∨ errs' = errs ++ [⟨c.laidx, []⟩]) → motive c errs) :
    ∀ (fuel : Nat) (c : RACfg) (errs : List Err), recRunA G A w lexSpan recover fuel c errs = (o, log, errs') →
      motive c errs := by
  intro fuel
  induction fuel with
  | zero =>
    intro c errs h
    simp only [recRunA, Prod.mk.injEq] at h
    exact cutOff c errs (Or.inr (Or.inr h.1.symm)) (Or.inl h.2.2.symm)
  | succ f ih =>
    intro c errs h
    simp only [recRunA] at h
    split at h
    · rename_i s' v' hf
      exact shift c errs s' v' hf (ih _ _ h)
    · rename_i v' hf
      simp only [Prod.mk.injEq] at h
      obtain ⟨h1, h2, rfl⟩ := h
      exact accept c v' hf h1.symm h2.symm
    · rename_i v' hf
      split at h
      · rename_i hrec
        simp only [Prod.mk.injEq] at h
        exact giveUp c errs v' hf hrec h.1.symm h.2.1.symm h.2.2.symm
      · rename_i s0 rest hrec
        split at h
        · simp only [Prod.mk.injEq] at h
          exact cutOff c errs (Or.inl h.1.symm) (Or.inr h.2.2.symm)
        · rename_i c' happ
          exact repair c errs v' s0 rest c' hf hrec happ (ih _ _ h)
    · simp only [Prod.mk.injEq] at h
      exact cutOff c errs (Or.inr (Or.inl h.1.symm)) (Or.inl h.2.2.symm)
    · simp only [Prod.mk.injEq] at h
      exact cutOff c errs (Or.inr (Or.inr h.1.symm)) (Or.inl h.2.2.symm)

/-- a run that ends without a value has appended at most the error it gave up on -/
theorem noValue {n pos : Nat} {errs errs' : List Err} {o : Outcome} {R : List Err → Tree → Prop}
    (hpos : pos ≤ n) (ho : ∀ t, o ≠ .accept t) (he : errs' = errs ∨ errs' = errs ++ [⟨pos, []⟩]) :
    ∃ new, errs' = errs ++ new ∧ Ordered n pos new ∧ ∀ t, o = .accept t → R new t := by
  rcases he with rfl | rfl
  · exact ⟨[], by simp, hpos, fun t ht => absurd ht (ho t)⟩
  · exact ⟨[⟨pos, []⟩], rfl, ⟨Nat.le_refl _, by simpa [firstSeq, editSeq, Ordered] using hpos⟩,
      fun t ht => absurd ht (ho t)⟩

/-- `C05.recRun_own` with values -/
theorem recRunA_own (G : Grammar) (A : Automaton) (w : List Nat) (lexSpan : Nat → Nat × Nat)
    (recover : Pos → List (List Repair))
    (hsh : EofNeverShifted G A) (hacc : AcceptOnlyAtEof G A) (hw : G.eof ∉ w) :
    ∀ (fuel : Nat) (c : RACfg) (errs : List Err) (o : Outcome) (log : List Call) (errs' : List Err),
      c.laidx ≤ w.length → recRunA G A w lexSpan recover fuel c errs = (o, log, errs') →
      ∃ new, errs' = errs ++ new ∧ Ordered w.length c.laidx new ∧
        (∀ t, o = .accept t → ∃ st y,
          runStepsA G A c.v (editedStepsA G w lexSpan w.length c.laidx new) = some st ∧
          feedA G A G.eof FUEL st = .accept y ∧ acceptOut y = .accept t ∧ y.log = log) := by
  intro fuel c errs o log errs' hc h
  revert hc
  refine recRunA_induction ?_ ?_ ?_ ?_ ?_ fuel c errs h
  · intro c errs s' v' hf ih hc
    obtain ⟨hlt, htok⟩ := shifted_in_range hsh (feedA_feed hf)
    obtain ⟨new, h1, h2, h3⟩ := ih hlt
    refine ⟨new, h1, ordered_anti (Nat.le_succ _) h2, fun t ht => ?_⟩
    obtain ⟨st, y, hr, hx⟩ := h3 t ht
    refine ⟨st, y, ?_, hx⟩
    rw [editedStepsA_shift G w lexSpan w.length new c.laidx h2]
    rw [htok] at hf hr
    simp only [runStepsA, itemLx, itemTok, lexId, itemSpan, hf]
    exact hr
  · intro c v' hf ho hlog hc
    obtain ⟨hge, heof⟩ := accept_at_end hacc hw (feedA_feed hf)
    refine ⟨[], by simp, hc, fun t ht => ⟨c.v, v', ?_, heof ▸ hf, ho ▸ ht, hlog.symm⟩⟩
    rw [editedStepsA, reals_of_le hge]
    rfl
  · intro c errs v' s0 rest c' hf _ happ ih hc
    obtain ⟨hft, hpos⟩ := applySeqA_runStepsA G A w lexSpan s0 _ _ happ
    obtain ⟨new, h1, h2, h3⟩ := ih (applySeqA_le happ hc)
    have hfs : firstSeq ⟨c.laidx, s0 :: rest⟩ = s0 := rfl
    refine ⟨⟨c.laidx, s0 :: rest⟩ :: new, by rw [h1]; simp, ⟨Nat.le_refl _, by rw [hfs, ← hpos]; exact h2⟩,
      fun t ht => ?_⟩
    obtain ⟨st, y, hr, hx⟩ := h3 t ht
    refine ⟨st, y, ?_, hx⟩
    simp only [editedStepsA, hfs, reals_self, lxSteps, List.map_nil, List.nil_append, runStepsA, hf]
    rw [← lxSteps, runStepsA_append, hft, ← hpos]
    exact hr
  · intro c errs v' _ _ ho _ he hc
    exact noValue hc (ho ▸ nofun) (Or.inr he)
  · intro c errs ho he hc
    exact noValue hc (by rcases ho with rfl | rfl | rfl <;> nofun) he

theorem accept_bottom {G : Grammar} {A : Automaton} (P : Props G A) {st t : Nat} {tl : List Nat}
    (hp : IsPath A (st :: tl)) (ht : t < G.ntoks) (hact : A.action st t = .accept) : tl = [A.start] := by
  obtain ⟨labels, hpath⟩ := hp
  exact (accept_path P hpath ht hact).2.1

theorem accept_astack {G : Grammar} {A : Automaton} (P : Props G A) (hcols : colsOk G A = true) {la fuel : Nat}
    {v y : VCfg} (hg : Good A v) (hf : feedA G A la fuel v = .accept y) {t : Tree}
    (ht : acceptOut y = .accept t) : y.astack = [t] := by
  have hgy := (good_driverClosed P hcols [] (fun _ => (0, 0))).fed hg hf rfl
  obtain ⟨st, tl, hps, hact⟩ := feedA_stopsAt hf
  have hp := hgy.path
  rw [hps] at hp
  -- the state stack is `[st, start]`, so the value stack has one entry
  have hlen := hgy.len
  rw [hps, accept_bottom P hp (colsOk_action hcols (by rw [hact]; simp)) hact] at hlen
  obtain ⟨x, hy⟩ := List.length_eq_one_iff.mp (Nat.succ.inj hlen)
  simp only [acceptOut, hy, List.getLast?_singleton] at ht
  cases x with
  | leaf a b => cases ht
  | node p kids => injection ht with ht; rw [hy, ht]

/-- what the driver keeps holds of the configuration a returned value was accepted from -/
theorem DriverClosed.accepted {lexSpan : Nat → Nat × Nat}
    {recover : Pos → List (List Repair)} {Q : VCfg → Prop} (hQ : DriverClosed G A w lexSpan Q)
    (hsh : EofNeverShifted G A) :
    ∀ (fuel : Nat) (c : RACfg) (errs : List Err) (t : Tree) (log : List Call) (errs' : List Err),
      c.laidx ≤ w.length → Q c.v → recRunA G A w lexSpan recover fuel c errs = (.accept t, log, errs') →
      ∃ v la y, Q v ∧ feedA G A la FUEL v = .accept y ∧ acceptOut y = .accept t ∧ y.log = log := by
  intro fuel c errs t log errs' hc hq h
  revert hc hq
  refine recRunA_induction ?_ ?_ ?_ ?_ ?_ fuel c errs h
  · intro c errs s' v' hf ih hc hq
    exact ih (shifted_in_range hsh (feedA_feed hf)).1 (hQ.pushed (.real c.laidx) hq hf (fun i hi => by cases hi; exact hc))
  · intro c v' hf ho hlog _ hq
    exact ⟨c.v, _, v', hq, hf, ho.symm, hlog.symm⟩
  · intro c errs v' s0 rest c' hf _ happ ih hc hq
    exact ih (applySeqA_le happ hc) (hQ.replay s0 (c := ⟨v', c.laidx⟩) (hQ.fed hq hf rfl) happ)
  · intro _ _ _ _ _ ho; cases ho
  · intro _ _ ho; rcases ho with ho | ho | ho <;> cases ho

theorem recRunA_logOk (G : Grammar) (A : Automaton) (w : List Nat) (lexSpan : Nat → Nat × Nat)
    (recover : Pos → List (List Repair)) (P : Props G A) (hcols : colsOk G A = true) :
    ∀ (fuel : Nat) (c : RACfg) (errs : List Err) (t : Tree) (log : List Call) (errs' : List Err),
      c.laidx ≤ w.length → InvA G (idSpan lexSpan w.length) (c.v.toA 0) → Good A c.v →
      recRunA G A w lexSpan recover fuel c errs = (.accept t, log, errs') →
      logOk log (specCalls G (idSpan lexSpan w.length) t) = true := by
  intro fuel c errs t log errs' hc hinv hg h
  have hQ := (invA_driverClosed G A w lexSpan).and (good_driverClosed P hcols w lexSpan)
  obtain ⟨v, la, y, ⟨hv, hgv⟩, hf, ht, rfl⟩ :=
    hQ.accepted (eof_discipline_of_cert P hcols).1 fuel c errs t log errs' hc ⟨hinv, hg⟩ h
  -- the value stack at Accept is `[t]`, and the log is the call list of the value stack
  have hi := ((invA_driverClosed G A w lexSpan).fed hv hf rfl).log
  simp only [VCfg.toA, accept_astack P hcols hgv hf ht] at hi
  simpa [specCallsList] using hi

end GrmVerif.RecAct
