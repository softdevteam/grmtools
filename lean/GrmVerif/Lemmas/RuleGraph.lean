import GrmVerif.Lemmas.Total
import GrmVerif.Lemmas.Analyses
import GrmVerif.Lemmas.MinSentenceSpec
/-! The rule graph (an edge from a rule to every rule of each of its productions): recursive rules and the rules
that reach one (`Cyc`, `Inf`, decided through the verified reference reachability), the rank `rho` that orders the
others — it bounds the sweeps of `rule_max_costs` —, the depth of the unfolding from a rule (`Depth`: what the recursion
of `min_sentences` and the stack of `min_sentence` follow), and the graph that keeps only some productions (`keepG`). -/
namespace GrmVerif.Impl
open GrmVerif Spec

/-- rule `q` occurs in a production of rule `r` -/
def Succ (G : Grammar) (r q : Nat) : Prop := ∃ p, p < G.nprods ∧ G.lhs p = r ∧ Sym.rule q ∈ G.rhs p

theorem succ_iff {G : Grammar} {r q : Nat} : Succ G r q ↔ ∃ p ∈ G.prodsOf r, Sym.rule q ∈ G.rhs p :=
  exists_congr fun _ => by rw [mem_prodsOf, and_assoc]

theorem reach_succ {G : Grammar} {A r q : Nat} (hr : r = A ∨ Reach G A r) (hs : Succ G r q) : Reach G A q := by
  obtain ⟨p, hp, hl, hm⟩ := hs
  rcases hr with rfl | hr
  · rw [← hl]; exact .edge p q hp hm
  · rw [← hl] at hr; exact .step A p q hr hp hm

/-- rule `r` is recursive: it reaches itself through one or more productions -/
def Cyc (G : Grammar) (r : Nat) : Prop := Reach G r r

/-- rule `r` is, or reaches, a recursive rule -/
def Inf (G : Grammar) (r : Nat) : Prop := Cyc G r ∨ ∃ q, Reach G r q ∧ Cyc G q

theorem reachB_iff (G : Grammar) (hwf : G.wf = true) (r q : Nat) : reachB G r q = true ↔ Reach G r q := by
  obtain ⟨R, hR⟩ := Total.reach_total G r
  have := reach_exact G hwf r R hR q
  simp only [reachB, hR, List.contains_eq_mem, decide_eq_true_eq]
  exact this

theorem isCyc_iff (G : Grammar) (hwf : G.wf = true) (r : Nat) : isCyc G r = true ↔ Cyc G r :=
  reachB_iff G hwf r r

theorem reach_trans {G : Grammar} {a b c : Nat} (h1 : Reach G a b) (h2 : Reach G b c) : Reach G a c := by
  induction h2 with
  | edge p B hp hm => exact .step a p B h1 hp hm
  | step A' p B _ hp hm ih => exact .step a p B (ih h1) hp hm

theorem reach_lt {G : Grammar} (hwf : G.wf = true) {a b : Nat} (h : Reach G a b) : b < G.nrules := by
  cases h with
  | edge p B hp hm => exact wf_rule hwf hp hm
  | step A' p B _ hp hm => exact wf_rule hwf hp hm

theorem reach_of_succ {G : Grammar} {i q : Nat} (h : Succ G i q) : Reach G i q := reach_succ (.inl rfl) h

theorem inf_of_succ {G : Grammar} {i q : Nat} (h : Succ G i q) (hq : Inf G q) : Inf G i := by
  have hr := reach_of_succ h
  rcases hq with hq | ⟨q', hq', hc⟩
  · exact Or.inr ⟨q, hr, hq⟩
  · exact Or.inr ⟨q', reach_trans hr hq', hc⟩

theorem infB_iff (G : Grammar) (hwf : G.wf = true) (r : Nat) :
    (isCyc G r || (List.range G.nrules).any (fun q => reachB G r q && isCyc G q)) = true ↔ Inf G r := by
  simp only [Bool.or_eq_true, List.any_eq_true, List.mem_range, Bool.and_eq_true, Inf, isCyc_iff G hwf,
    reachB_iff G hwf]
  constructor
  · rintro (h | ⟨q, _, h⟩)
    · exact Or.inl h
    · exact Or.inr ⟨q, h⟩
  · rintro (h | ⟨q, h⟩)
    · exact Or.inl h
    · exact Or.inr ⟨q, reach_lt hwf h.1, h⟩

/-- the number of rules a rule reaches: it bounds the sweep in which the rule is completed -/
def rho (G : Grammar) (r : Nat) : Nat := ((List.range G.nrules).filter (reachB G r)).length

theorem rho_le (G : Grammar) (r : Nat) : rho G r ≤ G.nrules := by
  simpa [rho] using List.length_filter_le (reachB G r) (List.range G.nrules)

theorem rho_lt (G : Grammar) (hwf : G.wf = true) {i q : Nat} (hs : Succ G i q) (hq : ¬ Cyc G q) :
    rho G q < rho G i := by
  have hr := reach_of_succ hs
  unfold rho
  apply Fix.filter_length_lt
  · intro y hy
    exact (reachB_iff G hwf i y).mpr (reach_trans hr ((reachB_iff G hwf q y).mp hy))
  · refine ⟨q, by simpa using reach_lt hwf hr, (reachB_iff G hwf i q).mpr hr, ?_⟩
    exact Bool.eq_false_iff.mpr fun h => hq ((reachB_iff G hwf q q).mp h)

theorem rho_lt_n (G : Grammar) (hwf : G.wf = true) {r : Nat} (hr : r < G.nrules) (hc : ¬ Cyc G r) :
    rho G r < G.nrules := by
  have := (List.length_filter_lt_length_iff_exists (p := reachB G r) (l := List.range G.nrules)).mpr
    ⟨r, by simpa using hr, fun h => hc ((reachB_iff G hwf r r).mp h)⟩
  rwa [List.length_range] at this

/-- every path from `r` has fewer than `n` edges: a recursion that follows the edges from `r` is at most `n` deep -/
def Depth (G : Grammar) : Nat → Nat → Prop
  | 0, _ => False
  | n + 1, r => ∀ q, Succ G r q → Depth G n q

theorem Depth.mono {G : Grammar} : ∀ {n n' r : Nat}, Depth G n r → n ≤ n' → Depth G n' r := by
  intro n
  induction n with
  | zero => intro _ _ h; exact h.elim
  | succ n ih =>
    intro n' r h hle
    cases n' with
    | zero => exact absurd hle (Nat.not_succ_le_zero _)
    | succ n' => exact fun q hq => ih (h q hq) (Nat.le_of_succ_le_succ hle)

/-- a rule that is, or reaches, a recursive rule has no finite depth: along a path the depth left decreases -/
theorem Inf.not_depth {G : Grammar} {r : Nat} (h : Inf G r) (n : Nat) : ¬ Depth G n r := by
  have along : ∀ {a b}, Reach G a b → ∀ k, Depth G (k + 1) a → Depth G k b := by
    intro a b hab
    induction hab with
    | edge p B hp hm => exact fun k hk => hk B ⟨p, hp, rfl, hm⟩
    | step A' p B _ hp hm ih =>
      intro k hk
      cases k with
      | zero => exact ih 0 hk
      | succ k => exact (ih (k + 1) hk B ⟨p, hp, rfl, hm⟩).mono (Nat.le_succ k)
  have cyc : ∀ {x}, Cyc G x → ∀ k, ¬ Depth G k x := by
    intro x hc k
    induction k with
    | zero => exact id
    | succ k ih => exact fun hk => ih (along hc k hk)
  cases n with
  | zero => exact id
  | succ n =>
    rcases h with hc | ⟨q, hq, hc⟩
    · exact cyc hc (n + 1)
    · exact fun hk => cyc hc n (along hq n hk)

theorem depth_of_not_inf {G : Grammar} (hwf : G.wf = true) :
    ∀ {n r : Nat}, ¬ Inf G r → rho G r < n → Depth G n r := by
  intro n
  induction n with
  | zero => intro r _ h; exact absurd h (Nat.not_lt_zero _)
  | succ n ih =>
    intro r hni hrho q hq
    have hni' : ¬ Inf G q := fun h => hni (inf_of_succ hq h)
    exact ih hni' (Nat.lt_of_lt_of_le (rho_lt G hwf hq fun hc => hni' (Or.inl hc)) (Nat.le_of_lt_succ hrho))

/-- the grammar in which the productions that do not satisfy `keep` become empty: its rule graph joins a
rule to the rules of those of its productions that are kept. `tightG` and `allTightG` (`MinSentenceSpec.lean`, written out there
because the driver evaluates them) are `keepG` at their `keep`, by `rfl`: their lemmas are the `keepG_*` ones -/
def keepG (G : Grammar) (keep : Nat → Prop) [DecidablePred keep] : Grammar :=
  { G with prods := (List.range G.nprods).map (fun p => (G.lhs p, if keep p then G.rhs p else [])) }

section
variable (G : Grammar) (keep : Nat → Prop) [DecidablePred keep]

theorem keepG_nprods : (keepG G keep).nprods = G.nprods := by
  simp [keepG, Grammar.nprods]

theorem keepG_get (p : Nat) :
    (keepG G keep).prods[p]? =
      if p < G.nprods then some (G.lhs p, if keep p then G.rhs p else []) else none := by
  by_cases hp : p < G.nprods <;> simp [keepG, hp]

theorem keepG_lhs (p : Nat) : (keepG G keep).lhs p = G.lhs p := by
  unfold Grammar.lhs
  rw [keepG_get]
  split
  · rfl
  · next hp => rw [List.getElem?_eq_none (Nat.le_of_not_lt hp)]

theorem keepG_rhs (p : Nat) : (keepG G keep).rhs p = if p < G.nprods ∧ keep p then G.rhs p else [] := by
  have : (keepG G keep).rhs p = ((keepG G keep).prods[p]?.map (·.2)).getD [] := rfl
  rw [this, keepG_get]
  by_cases hp : p < G.nprods <;> by_cases hk : keep p <;> simp [hp, hk]

theorem keepG_prodsOf (r : Nat) : (keepG G keep).prodsOf r = G.prodsOf r := by
  simp only [Grammar.prodsOf, keepG_nprods, keepG_lhs]

theorem keepG_wf (hwf : G.wf = true) : (keepG G keep).wf = true := by
  refine wf_iff.mpr ⟨fun p hp => ?_, by rw [keepG_nprods]; exact (wf_iff.mp hwf).2⟩
  rw [keepG_nprods] at hp
  rw [keepG_lhs, keepG_rhs]
  refine ⟨wf_lhs hwf hp, fun s hs => ?_⟩
  split at hs
  · exact wf_sym hwf hp hs
  · cases hs

theorem succ_keepG (q q' : Nat) :
    Succ (keepG G keep) q q' ↔ ∃ p, p < G.nprods ∧ G.lhs p = q ∧ keep p ∧ Sym.rule q' ∈ G.rhs p := by
  unfold Succ
  simp only [keepG_nprods, keepG_lhs, keepG_rhs]
  constructor
  · rintro ⟨p, hp, hl, hm⟩
    split at hm
    · next h => exact ⟨p, hp, hl, h.2, hm⟩
    · cases hm
  · rintro ⟨p, hp, hl, hk, hm⟩
    exact ⟨p, hp, hl, by rw [if_pos ⟨hp, hk⟩]; exact hm⟩

end

end GrmVerif.Impl
