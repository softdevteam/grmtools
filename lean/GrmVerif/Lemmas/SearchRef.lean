import GrmVerif.Lemmas.RecBasics
import GrmVerif.Lemmas.RankImpl
/-! The reference enumeration of repairs is exactly the declarative search relation, and `minCostFrom`
finds its least cost. -/
namespace GrmVerif.Rec

section
variable {G : Grammar} {A : Automaton} {w : List Nat} {cost : Nat → Nat} {N : Nat}

theorem enumerate_of_success {f k : Nat} {n : Node} (h : isSuccess G A w N n = true) :
    enumerate G A w cost N (f + 1) k n = if k = 0 then [n.rev.reverse] else [] := by
  rw [enumerate, if_pos h]

theorem enumerate_of_not_success {f k : Nat} {n : Node} (h : isSuccess G A w N n = false) :
    enumerate G A w cost N (f + 1) k n =
      (match applyRepair G A w n.c .shift with
        | some c' => enumerate G A w cost N f k ⟨c', .shift :: n.rev, n.trail + 1⟩
        | none => []) ++
      (if n.rev.head? == some .delete then []
        else (List.range G.ntoks).flatMap (fun t =>
          if t == G.eof || cost t == 0 || cost t > k then []
          else
            match applyRepair G A w n.c (.insert t) with
            | some c' => enumerate G A w cost N f (k - cost t) ⟨c', .insert t :: n.rev, 0⟩
            | none => [])) ++
      (match w[n.c.pos]? with
        | none => []
        | some t =>
          if cost t == 0 || cost t > k then []
          else enumerate G A w cost N f (k - cost t) ⟨⟨n.c.stack, n.c.pos + 1⟩, .delete :: n.rev, 0⟩) := by
  rw [enumerate, if_neg (by rw [h]; exact Bool.false_ne_true)]
  rfl

end

theorem enumerate_sound (G : Grammar) (A : Automaton) (w : List Nat) (cost : Nat → Nat) (N : Nat) :
    ∀ (fuel c : Nat) (n : Node) (seq : List Repair), seq ∈ enumerate G A w cost N fuel c n →
      Search G A w cost N n c seq := by
  intro fuel
  induction fuel with
  | zero => intro c n seq h; cases h
  | succ f ih =>
    intro c n seq h
    cases hs : isSuccess G A w N n with
    | true =>
      rw [enumerate_of_success hs] at h
      split at h
      · subst c; rw [List.mem_singleton.mp h]; exact .done n hs
      · cases h
    | false =>
      rw [enumerate_of_not_success hs, List.mem_append, List.mem_append] at h
      rcases h with (h | h) | h
      · split at h
        · exact .shift n _ c seq hs (by assumption) (ih _ _ _ h)
        · cases h
      · split at h
        · cases h
        · next hd =>
          obtain ⟨t, ht, h⟩ := List.mem_flatMap.mp h
          split at h
          · cases h
          · next hx =>
            simp only [Bool.or_eq_true, beq_iff_eq, decide_eq_true_eq, not_or, Nat.not_lt] at hx
            split at h
            · rw [← Nat.sub_add_cancel hx.2]
              exact .insert n t _ _ seq hs (by simpa using hd) (List.mem_range.mp ht) hx.1.1 hx.1.2
                (by assumption) (ih _ _ _ h)
            · cases h
      · split at h
        · cases h
        · next t hw =>
          split at h
          · cases h
          · next hx =>
            simp only [Bool.or_eq_true, beq_iff_eq, decide_eq_true_eq, not_or, Nat.not_lt] at hx
            rw [← Nat.sub_add_cancel hx.2]
            exact .delete n t _ seq hs hw hx.1 (ih _ _ _ h)

/-- the measure `cost left + lexemes left` goes down with every edge (a Shift consumes a lexeme, an Insert
or a Delete a positive cost), and the fuel with it -/
theorem fuel_step {m m' f : Nat} (h : m + 1 ≤ f + 1) (hlt : m' < m) : m' + 1 ≤ f :=
  Nat.le_of_lt_succ (Nat.lt_of_lt_of_le (Nat.succ_lt_succ hlt) h)

theorem enumerate_complete (G : Grammar) (A : Automaton) (w : List Nat) (cost : Nat → Nat) (N : Nat) :
    ∀ (n : Node) (c : Nat) (seq : List Repair), Search G A w cost N n c seq →
      ∀ fuel, c + (w.length - n.c.pos) + 1 ≤ fuel → seq ∈ enumerate G A w cost N fuel c n := by
  intro n c seq hs
  induction hs with
  | done n hsucc =>
    intro fuel hf
    obtain ⟨f, rfl⟩ := Nat.exists_eq_add_one.mpr (Nat.lt_of_lt_of_le (Nat.succ_pos _) hf)
    rw [enumerate_of_success hsucc, if_pos rfl]
    exact List.mem_singleton.mpr rfl
  | shift n c' k seq hns ha _ ih =>
    intro fuel hf
    obtain ⟨f, rfl⟩ := Nat.exists_eq_add_one.mpr (Nat.lt_of_lt_of_le (Nat.succ_pos _) hf)
    obtain ⟨hlt, s, _, rfl⟩ := applyRepair_shift.mp ha
    have := ih f (fuel_step hf (Nat.add_lt_add_left (Nat.sub_lt_sub_left hlt (Nat.lt_succ_self _)) k))
    rw [enumerate_of_not_success hns, List.mem_append, List.mem_append, ha]
    exact Or.inl (Or.inl this)
  | insert n t c' k seq hns hnd ht hne hc0 ha _ ih =>
    intro fuel hf
    obtain ⟨f, rfl⟩ := Nat.exists_eq_add_one.mpr (Nat.lt_of_lt_of_le (Nat.succ_pos _) hf)
    obtain ⟨s, _, rfl⟩ := applyRepair_insert.mp ha
    have := ih f (fuel_step hf (Nat.add_lt_add_right (Nat.lt_add_of_pos_right (Nat.pos_of_ne_zero hc0)) _))
    rw [enumerate_of_not_success hns, List.mem_append, List.mem_append, if_neg (by simpa using hnd)]
    refine Or.inl (Or.inr (List.mem_flatMap.mpr ⟨t, List.mem_range.mpr ht, ?_⟩))
    rw [if_neg (by simp [hne, hc0]), ha, Nat.add_sub_cancel]
    exact this
  | delete n t k seq hns hw hc0 _ ih =>
    intro fuel hf
    obtain ⟨f, rfl⟩ := Nat.exists_eq_add_one.mpr (Nat.lt_of_lt_of_le (Nat.succ_pos _) hf)
    have hlt : n.c.pos < w.length := (List.getElem?_eq_some_iff.mp hw).1
    have := ih f (by simp only; omega)
    rw [enumerate_of_not_success hns, List.mem_append, hw]
    refine Or.inr ?_
    show seq ∈ if _ then _ else _
    rw [if_neg (by simp [hc0]), Nat.add_sub_cancel]
    exact this

/-- the reference's fuel `2 * (c + |w|) + 6` is more than the `c + (|w| - pos) + 1` `enumerate_complete` asks for -/
theorem mem_enumerate_iff (G : Grammar) (A : Automaton) (w : List Nat) (cost : Nat → Nat) (N : Nat)
    (start : Pos) (c : Nat) (seq : List Repair) :
    seq ∈ enumerate G A w cost N (2 * (c + w.length) + 6) c ⟨start, [], 0⟩ ↔
      Search G A w cost N ⟨start, [], 0⟩ c seq :=
  ⟨enumerate_sound G A w cost N _ c _ seq,
    fun h => enumerate_complete G A w cost N _ c seq h _ (by simp only; omega)⟩

theorem minCostFrom_some (G : Grammar) (A : Automaton) (w : List Nat) (cost : Nat → Nat) (N : Nat)
    (start : Pos) :
    ∀ (remaining c0 c : Nat) (rs : List (List Repair)),
      minCostFrom G A w cost N start remaining c0 = some (c, rs) →
      c0 ≤ c ∧ rs ≠ [] ∧ (∀ seq, seq ∈ rs ↔ Search G A w cost N ⟨start, [], 0⟩ c seq) ∧
      ∀ c', c0 ≤ c' → c' < c → ∀ seq, ¬ Search G A w cost N ⟨start, [], 0⟩ c' seq := by
  intro remaining
  induction remaining with
  | zero => intro c0 c rs h; cases h
  | succ r ih =>
    intro c0 c rs h
    rw [minCostFrom] at h
    by_cases he : (enumerate G A w cost N (2 * (c0 + w.length) + 6) c0 ⟨start, [], 0⟩).isEmpty = true
    · rw [if_pos he] at h
      obtain ⟨h1, h2, h3, h4⟩ := ih (c0 + 1) c rs h
      refine ⟨Nat.le_of_succ_le h1, h2, h3, fun c' hc0 hc seq hs => ?_⟩
      rcases Nat.eq_or_lt_of_le hc0 with rfl | hlt
      · have := (mem_enumerate_iff G A w cost N start c0 seq).mpr hs
        rw [List.isEmpty_iff.mp he] at this
        cases this
      · exact h4 c' hlt hc seq hs
    · rw [if_neg he] at h
      cases h
      exact ⟨Nat.le_refl _, fun hnil => he (by rw [hnil]; rfl), mem_enumerate_iff G A w cost N start c0,
        fun c' h1 h2 => absurd h1 (Nat.not_le_of_lt h2)⟩

theorem minCostFrom_none {G : Grammar} {A : Automaton} {w : List Nat} {cost : Nat → Nat} {N : Nat}
    {start : Pos} : ∀ (remaining c0 : Nat), minCostFrom G A w cost N start remaining c0 = none →
      ∀ c, c0 ≤ c → c < c0 + remaining → ∀ seq, ¬ Search G A w cost N ⟨start, [], 0⟩ c seq := by
  intro remaining
  induction remaining with
  | zero => intro c0 _ c h1 h2; exact absurd h2 (Nat.not_lt_of_le h1)
  | succ r ih =>
    intro c0 h c h1 h2 seq hs
    rw [minCostFrom] at h
    by_cases he : (enumerate G A w cost N (2 * (c0 + w.length) + 6) c0 ⟨start, [], 0⟩).isEmpty = true
    · rw [if_pos he] at h
      rcases Nat.eq_or_lt_of_le h1 with rfl | hlt
      · have := (mem_enumerate_iff G A w cost N start c0 seq).mpr hs
        rw [List.isEmpty_iff.mp he] at this
        cases this
      · exact ih (c0 + 1) h c hlt (by rw [Nat.add_assoc, Nat.add_comm 1 r]; exact h2) seq hs
    · rw [if_neg he] at h; cases h

theorem dedup_eq (l : List (List Repair)) : dedup l = RankImpl.dedup l := by
  induction l with
  | nil => rfl
  | cons a as ih =>
    simp only [dedup, RankImpl.dedup, ih]
    by_cases h : a ∈ RankImpl.dedup as <;> simp only [h, if_true, if_false]

theorem mem_dedup (l : List (List Repair)) (x : List Repair) : x ∈ dedup l ↔ x ∈ l := by
  rw [dedup_eq]; exact RankImpl.mem_dedup l x

theorem nodup_dedup (l : List (List Repair)) : (dedup l).Nodup := by
  rw [dedup_eq]; exact RankImpl.nodup_dedup l

end GrmVerif.Rec
