import GrmVerif.Lemmas.KeptShift
/-!
A concrete automaton for the non-vacuity examples of C05 (`Props/C05.lean`): a table on which a
refused lexeme leaves a reduction behind, a recoverer for the input `a a` (two sequences at its first error, one
at its second), and the
proof that this table satisfies `KeptInvisible` (for ALL stacks, not only the reachable ones).
-/
namespace GrmVerif.C05
open Rec

/-- `S: A 'b'; A: 'a'` (tokens a = 0, b = 1, end-of-input = 2; rules ^ = 0, S = 1, A = 2;
productions 0 = S → A b, 1 = A → a, 2 = ^ → S) -/
def exG : Grammar := ⟨3, 3, 2, 2, [(1, [.rule 2, .tok 1]), (2, [.tok 0]), (0, [.rule 1])], [], []⟩
def exSt (actions : List Act) (gotos : List (Option Nat)) : StateD := ⟨[], [], [], actions, gotos, [], [], [], false⟩
/-- states 0 start, 1 `A → a .`, 2 `S → A . b`, 3 `S → A b .`, 4 `^ → S .`; state 1 reduces under `b`
AND under end-of-input (as a state merged from several contexts would), so end-of-input after `a` is
refused only after `A → a` has been reduced: the stack `[1, 0]` is left as `[2, 0]` -/
def exA : Automaton :=
  ⟨0, [exSt [.shift 1, .error, .error] [none, some 4, some 2],
       exSt [.error, .reduce 1, .reduce 1] [none, none, none],
       exSt [.error, .shift 3, .error] [none, none, none],
       exSt [.error, .error, .reduce 0] [none, none, none],
       exSt [.error, .error, .accept] [none, none, none]], [], []⟩
/-- on the input `a a`: the second `a` is refused in state 1 → delete it; then end-of-input is refused
(after the reduction to `[2, 0]`) → insert `b` -/
def exRecover : Pos → Option (Pos × List (List Repair)) := fun c =>
  if c.stack = [1, 0] ∧ c.pos = 1 then some (⟨[1, 0], 2⟩, [[.delete], [.insert 1, .delete]])
  else if c.stack = [2, 0] ∧ c.pos = 2 then some (⟨[3, 2, 0], 2⟩, [[.insert 1]])
  else none

theorem ex_feed_reduced (t n : Nat) (r : List Nat) : feed exG exA t (n + 1) (2 :: 0 :: r) =
    if t = 1 then .shifted (3 :: 2 :: 0 :: r) else .error (2 :: 0 :: r) := by
  rcases t with _|_|_|m <;> rfl

theorem ex_feed_unreduced (t n : Nat) (r : List Nat) : feed exG exA t (n + 2) (1 :: 0 :: r) =
    if t = 1 then .shifted (3 :: 2 :: 0 :: r) else if t = 2 then .error (2 :: 0 :: r) else .error (1 :: 0 :: r) := by
  rcases t with _|_|_|m <;> rfl

theorem exA_reduce {st la p : Nat} (h : exA.action st la = .reduce p) :
    st = 1 ∧ p = 1 ∧ (la = 1 ∨ la = 2) ∨ st = 3 ∧ p = 0 ∧ la = 2 := by
  have hst : st < 5 := action_state_lt (by rw [h]; simp)
  have hla : la < 3 := colsOk_action (G := exG) (A := exA) (by decide) (by rw [h]; simp)
  have cells : ∀ st < 5, ∀ la < 3, (match exA.action st la with
      | .reduce p => decide (st = 1 ∧ p = 1 ∧ (la = 1 ∨ la = 2) ∨ st = 3 ∧ p = 0 ∧ la = 2)
      | _ => true) = true := by decide
  have := cells st hst la hla
  rw [h] at this
  exact of_decide_eq_true this

theorem exA_goto {q r g : Nat} (hr : r < 3) (h : exA.goto q r = some g) :
    q = 0 ∧ (r = 1 ∧ g = 4 ∨ r = 2 ∧ g = 2) := by
  have hq : q < 5 := Nat.lt_of_not_le fun hle => by
    rw [Automaton.goto, List.getElem?_eq_none hle] at h
    cases h
  have cells : ∀ q < 5, ∀ r < 3, (match exA.goto q r with
      | some g => decide (q = 0 ∧ (r = 1 ∧ g = 4 ∨ r = 2 ∧ g = 2))
      | none => true) = true := by decide
  have := cells q hq r hr
  rw [h] at this
  exact of_decide_eq_true this

/-- Two steps of `feed` settle it: a reduction needs state 0 below what it pops (`exA_goto`), and the
reduct's top state (2 or 4) does not reduce. -/
theorem ex_error_stack : ∀ (la : Nat) (a s : List Nat), feed exG exA la FUEL a = .error s →
    s = a ∨ ∃ r, a = 1 :: 0 :: r ∧ s = 2 :: 0 :: r := by
  intro la a s h
  obtain ⟨n, hn⟩ : ∃ n, FUEL = n + 2 := ⟨1998, rfl⟩
  rw [hn] at h
  cases a with
  | nil => simp [feed] at h
  | cons st tl =>
    cases hact : exA.action st la with
    | error => simp only [feed, hact, Fed.error.injEq] at h; exact Or.inl h.symm
    | reduce p =>
      -- the reduction is made (a stack stuck at a Reduce cell crashes)
      obtain ⟨q, g, hr⟩ := (red_or_stuck exG exA la (st :: tl)).resolve_right fun hs => by
        rw [feed_stuck hs] at h; simp [Term.stop, hact] at h
      have h' := h
      rw [feed_red hr] at h'
      obtain ⟨_, _, prior, rest, he, hact', hd, hg⟩ := hr
      cases he
      cases hact.symm.trans hact'
      rw [red, hd] at h'
      clear h
      rcases exA_reduce hact with ⟨rfl, rfl, hla⟩ | ⟨rfl, rfl, rfl⟩
      · obtain ⟨rfl, hg2⟩ := exA_goto (by decide) hg
        have hg2 : g = 2 := by simpa [Grammar.lhs, exG] using hg2
        have htl : tl = 0 :: rest := hd
        subst hg2 htl
        rw [ex_feed_reduced] at h'
        rcases hla with rfl | rfl
        · simp at h'
        · exact Or.inr ⟨rest, rfl, by simpa using h'.symm⟩
      · obtain ⟨rfl, hg4⟩ := exA_goto (by decide) hg
        have hg4 : g = 4 := by simpa [Grammar.lhs, exG] using hg4
        subst hg4
        simp [feed, Automaton.action, exA, exSt] at h'
    | _ => simp [feed, hact] at h

theorem ex_kept : ∀ a b, Kept exG exA a b → a = b ∨ ∃ r, b = 1 :: 0 :: r ∧ a = 2 :: 0 :: r := by
  intro a b h
  induction h with
  | refl s => exact Or.inl rfl
  | offer a b la s _ hf ih =>
    rcases ex_error_stack la a s hf with h1 | ⟨r', h1, h2⟩
    · subst h1; exact ih
    · rcases ih with ih | ⟨r, _, ih2⟩
      · subst ih; exact Or.inr ⟨r', h1, h2⟩
      · rw [ih2] at h1; simp at h1

theorem ex_keptInvisible : KeptInvisible exG exA := by
  intro a b hab t
  rcases ex_kept a b hab with h | ⟨r, hb, ha⟩
  · subst h; exact ⟨fun _ h => h, fun x h => ⟨x, h⟩, fun x h => ⟨x, h⟩⟩
  · subst hb ha
    obtain ⟨n, hn⟩ : ∃ n, FUEL = n + 2 := ⟨1998, rfl⟩
    rw [hn]
    by_cases h1 : t = 1
    · simp [ex_feed_reduced, ex_feed_unreduced, h1]
    · by_cases h2 : t = 2 <;> simp [ex_feed_reduced, ex_feed_unreduced, h1, h2]

theorem exFirst_holds : FirstApplies exG exA [0, 0] exRecover := by
  intro c c' s0 rest h
  simp only [exRecover] at h
  split at h
  next hc => cases h; obtain ⟨st, p⟩ := c; obtain ⟨rfl, rfl⟩ := hc; rfl
  next =>
    split at h
    next hc => cases h; obtain ⟨st, p⟩ := c; obtain ⟨rfl, rfl⟩ := hc; rfl
    next => cases h

end GrmVerif.C05
