import GrmVerif.Lemmas.YaccDecls
/-!
Helper lemmas for the yacc part of C12: `parse_rule` (the production loop with its local
variables, `add_prod`'s index into `rules`, the span of a production), `parse_rules` (the `unwrap`
of the `%%` lookahead), `parse_programs` and the top-level `parse`.
-/
namespace GrmVerif.YaccParse
open GrmVerif.Header (Span byteLen Valid SpanOK MatchAt valid_advance slice_sat forall_mem_snoc
  fuel_ind)

section Rule
variable {src : List Char} {fuel : Nat} {st : St}

/-- invariant of the local variables of the production loop at cursor `i` -/
structure PInv (src : List Char) (i : Nat) (p : PState) : Prop where
  start : Valid src p.prodStart
  le : p.prodStart ≤ i
  stop : ∀ e, p.prodEnd = some e → p.prodStart ≤ e ∧ Valid src e
  syms : ∀ s ∈ p.syms, SpanOK src s.span

theorem PInv.init {i : Nat} (h : Valid src i) : PInv src i { prodStart := i } :=
  ⟨h, Nat.le_refl _, fun _ he => (nomatch he), fun _ hs => (nomatch hs)⟩

/-- every symbol branch moves the cursor to `k ≥ i`, sets `pos_prod_end` to some `e ≥ i` and may add a
symbol -/
theorem PInv.next {p p' : PState} {i k e : Nat} (hp : PInv src i p) (hs : p'.prodStart = p.prodStart)
    (he : p'.prodEnd = some e) (hik : i ≤ k) (hie : i ≤ e) (hve : Valid src e)
    (hsy : ∀ s ∈ p'.syms, SpanOK src s.span) : PInv src k p' :=
  ⟨hs ▸ hp.start, hs ▸ Nat.le_trans hp.le hik,
    fun _ h => Option.some.inj (he.symm.trans h) ▸ ⟨hs ▸ Nat.le_trans hp.le hie, hve⟩, hsy⟩

theorem hasRule_congr {a b : Ast} {n : Name} (h : b.rules = a.rules) : b.hasRule n = a.hasRule n := by
  unfold Ast.hasRule; rw [h]

theorem insertToken_rules (a : Ast) (n : Name) (sp : Span) : (a.insertToken n sp).rules = a.rules := by
  unfold Ast.insertToken
  split <;> rfl

section LookAhead
variable {i : Nat}

theorem atBarOrSemi_ok (h : Valid src i) : (atBarOrSemi src i).Safe src st (fun _ st' => st' = st) := by
  unfold atBarOrSemi
  exact la_bind h (fun _ _ => M.Safe.pure rfl) (la_bind h (fun _ _ => M.Safe.pure rfl) (M.Safe.pure rfl))

theorem atQuote_ok (h : Valid src i) : (atQuote src i).Safe src st (fun _ st' => st' = st) := by
  unfold atQuote
  exact la_bind h (fun _ _ => M.Safe.pure rfl) (la_bind h (fun _ _ => M.Safe.pure rfl) (M.Safe.pure rfl))

theorem emptyFollow_ok (h : Valid src i) : (emptyFollow src i).Safe src st (fun _ st' => st' = st) := by
  unfold emptyFollow
  refine (atBarOrSemi_ok h).bind_same fun b => M.Safe.ite (fun _ => M.Safe.pure rfl) fun _ => ?_
  exact la_bind h (fun _ _ => M.Safe.pure rfl) (la_bind h (fun _ _ => M.Safe.pure rfl) (M.Safe.pure rfl))

end LookAhead

theorem finishProd_ok {rn : Name} {p : PState} {i : Nat} (h : Valid src i)
    (hp : PInv src i p) (hr : st.ast.hasRule rn = true) :
    (finishProd rn p i).Safe src st (fun _ st' => st'.ast.rules = st.ast.rules) := by
  unfold finishProd
  have hend : p.prodStart ≤ p.prodEnd.getD i ∧ Valid src (p.prodEnd.getD i) := by
    cases he : p.prodEnd with
    | none => exact ⟨hp.le, h⟩
    | some e => exact hp.stop e he
  refine liftR_bind (mkSpan_sat hp.start hend.2 hend.1) fun span hspan => ?_
  intro hst
  unfold addProd
  rw [if_pos hr]
  exact ⟨⟨{ hst.1 with prods := forall_mem_snoc hst.1.prods ⟨hspan, hp.syms⟩ }, hst.2.1, hst.2.2⟩, rfl⟩

theorem ruleSym_ok {i : Nat} {p : PState} (h : Valid src i) (hp : PInv src i p) (hf : byteLen src < fuel) :
    (ruleSym src fuel i p).Safe src st
      (fun r st' => i < r.1 ∧ Valid src r.1 ∧ PInv src r.1 r.2 ∧ st'.ast.rules = st.ast.rules) := by
  unfold ruleSym
  refine (atQuote_ok h).bind_same fun q => M.Safe.ite (fun _ => ?_) fun _ => ?_
  · refine liftR_bind (parseToken_sat h) ?_
    rintro ⟨j, sym, span, qd⟩ ⟨hij, hj, hspan⟩
    refine (ws_ok hj).bind fun i2 st2 ⟨hji2, hi2, hnl⟩ =>
      modifyAst_bind (fun h => h.insertToken sym hspan) (M.Safe.pure ?_)
    have hii2 := Nat.lt_of_lt_of_le hij hji2
    exact ⟨hii2, hi2,
      hp.next rfl rfl (Nat.le_of_lt hii2) (Nat.le_of_lt hij) hj (forall_mem_snoc hp.syms hspan),
      (insertToken_rules ..).trans (congrArg Ast.rules hnl.ast)⟩
  refine la_bind h (fun j hm => ?_) ?_
  · refine (ws_ok hm.valid).bind fun i2 st2 ⟨hji2, hi2, hnl⟩ => ?_
    refine liftR_bind (parseToken_sat hi2) ?_
    rintro ⟨k, sym, span, qd⟩ ⟨hik, hk, hspan⟩
    refine modifyAst_bind (fun h => h.insertToken sym hspan) (M.Safe.pure ?_)
    have hlt : i < k := Nat.lt_of_le_of_lt (Nat.le_trans hm.le hji2) hik
    exact ⟨hlt, hk, hp.next rfl rfl (Nat.le_of_lt hlt) (Nat.le_of_lt hlt) hk hp.syms,
      (insertToken_rules ..).trans (congrArg Ast.rules hnl.ast)⟩
  refine la_bind h (fun j hm => ?_) ?_
  · refine (parseAction_ok hm hf).bind fun j2 st2 ⟨hij2, hj2, hnl⟩ => ?_
    refine (ws_ok hj2).bind fun i3 st3 ⟨hj2i3, hi3, hnl3⟩ => ?_
    have hlt := Nat.lt_of_lt_of_le hij2 hj2i3
    refine (atBarOrSemi_ok hi3).bind_same fun b => M.Safe.ite (fun _ => M.Safe.pure ?_) fun _ => throwAt_ok hi3
    exact ⟨hlt, hi3, hp.next rfl rfl (Nat.le_of_lt hlt) (Nat.le_refl _) h hp.syms,
      (congrArg Ast.rules hnl3.ast).trans (congrArg Ast.rules hnl.ast)⟩
  refine la_bind h (fun j hm => ?_) ?_
  · refine (ws_ok hm.valid).bind fun k st2 ⟨hjk, hk, hnl⟩ => ?_
    have hlt := Nat.lt_of_lt_of_le (hm.lt_str (by simp)) hjk
    refine (emptyFollow_ok hk).bind_same fun b => M.Safe.ite (fun _ => throwAt_ok h) fun _ => M.Safe.pure ?_
    exact ⟨hlt, hk, hp.next rfl rfl (Nat.le_of_lt hlt) hm.le hm.valid hp.syms, congrArg Ast.rules hnl.ast⟩
  · refine liftR_bind (parseToken_sat h) ?_
    rintro ⟨j, sym, span, qd⟩ ⟨hij, hj, hspan⟩
    refine getSt_bind (M.Safe.pure ?_)
    exact ⟨hij, hj,
      hp.next rfl rfl (Nat.le_of_lt hij) (Nat.le_of_lt hij) hj (forall_mem_snoc hp.syms hspan), rfl⟩

/-- what one iteration of the production loop guarantees: either way the cursor is strictly further on; `cont`
keeps the invariant of the locals and has not touched `rules` (so `add_prod` still finds the rule) -/
def RStepOK (src : List Char) (i : Nat) (st : St) : RStep → St → Prop
  | .done j, st' => PosOK src (i + 1) j st'
  | .cont i' p', st' => PosOK src (i + 1) i' st' ∧ PInv src i' p' ∧ st'.ast.rules = st.ast.rules

theorem ruleStep_ok {rn : Name} {i : Nat} {p : PState} (h : Valid src i)
    (hp : PInv src i p) (hr : st.ast.hasRule rn = true) (hf : byteLen src < fuel) :
    (ruleStep src fuel rn i p).Safe src st (RStepOK src i st) := by
  unfold ruleStep
  refine la_bind h (fun j hm => ?_) ?_
  · refine (finishProd_ok h hp hr).bind fun _ st1 hr1 => ?_
    refine (ws_ok hm.valid).bind fun i2 st2 ⟨hji2, hi2, hnl⟩ => M.Safe.pure ?_
    exact ⟨⟨Nat.lt_of_lt_of_le (hm.lt_str (by simp)) hji2, hi2⟩, PInv.init hi2,
      (congrArg Ast.rules hnl.ast).trans hr1⟩
  refine la_bind h (fun j hm => ?_) ?_
  · exact (finishProd_ok h hp hr).bind fun _ st1 _ => M.Safe.pure ⟨hm.lt_str (by simp), hm.valid⟩
  · refine (ruleSym_ok h hp hf).bind ?_
    rintro ⟨i1, p1⟩ st1 ⟨hii1, hi1, hp1, hr1⟩
    refine (ws_ok hi1).bind fun i2 st2 ⟨h12, hi2, hnl⟩ => M.Safe.pure ?_
    exact ⟨⟨Nat.lt_of_lt_of_le hii1 h12, hi2⟩,
      ⟨hp1.start, Nat.le_trans hp1.le h12, hp1.stop, hp1.syms⟩, (congrArg Ast.rules hnl.ast).trans hr1⟩

theorem ruleLoop_ok {rn : Name} (hf : byteLen src < fuel) : ∀ f i, Valid src i → byteLen src < i + f →
    ∀ p st, PInv src i p → st.ast.hasRule rn = true →
    (ruleLoop src fuel rn f i p).Safe src st (PosOK src (i + 1)) :=
  fuel_ind fun f i hv ih p st hp hr => by
    refine M.Safe.ite (fun _ => ?_) (fun _ => throwAt_ok hv)
    refine (ruleStep_ok hv hp hr hf).bind fun s st1 hs => ?_
    cases s with
    | done j => exact M.Safe.pure hs
    | cont i' p' =>
      obtain ⟨⟨h1, h2⟩, h4, h5⟩ := hs
      exact (ih i' h1 h2 p' st1 h4 ((hasRule_congr h5).trans hr)).from (Nat.le_succ_of_le h1)

theorem ruleHead_ok {kind : Kind} {rn : Name} {span : Span} {j : Nat} (h : Valid src j)
    (hspan : SpanOK src span) (hf : byteLen src < fuel) :
    (ruleHead src kind fuel rn span j).Safe src st
      (fun i st' => PosOK src j i st' ∧ st'.ast.hasRule rn = true) := by
  unfold ruleHead
  refine M.Safe.ite (fun _ => ?_) (fun _ => modifyAst_bind (fun h => h.addRule rn hspan) (M.Safe.pure
    ⟨⟨Nat.le_refl _, h⟩, hasRule_addRule ..⟩))
  refine (ws_pos h).bind fun i st1 ⟨hji, hi⟩ => ?_
  refine la_bind hi (fun j2 hm => ?_) (throwAt_ok hi)
  refine (ws_pos hm.valid).bind fun i3 st3 ⟨h23, hi3⟩ => ?_
  refine (parseToSingleColon_ok hi3 hf).bind fun j4 st4 ⟨h34, hj4⟩ => ?_
  exact modifyAst_bind (fun h => h.addRule rn hspan) (M.Safe.pure
    ⟨⟨Nat.le_trans hji (Nat.le_trans hm.le (Nat.le_trans h23 h34)), hj4⟩, hasRule_addRule ..⟩)

theorem parseRule_ok {kind : Kind} {i : Nat} (h : Valid src i) (hf : byteLen src < fuel) :
    (parseRule src kind fuel i).Safe src st (PosOK src (i + 1)) := by
  unfold parseRule
  refine liftR_bind (parseName_sat h) ?_
  rintro ⟨j, rn⟩ ⟨hij, hj⟩
  refine liftR_bind (mkSpan_sat h hj (Nat.le_of_lt hij)) fun span hspan => ?_
  refine modifyAst_bind (fun ha => ?_) ?_
  · split
    · exact { ha with start := fun _ hx => Option.some.inj hx ▸ hspan }
    · exact ha
  refine (ruleHead_ok hj hspan hf).bind fun i2 st2 ⟨⟨hji2, hi2⟩, hr2⟩ => ?_
  refine (ws_ok hi2).bind fun i3 st3 ⟨h23, hi3, hnl3⟩ => ?_
  refine la_bind hi3 (fun j4 hm => ?_) (throwAt_ok hi3)
  refine (ws_ok hm.valid).bind fun i5 st5 ⟨h45, hi5, hnl5⟩ => ?_
  have hr5 : st5.ast.hasRule rn = true :=
    (hasRule_congr ((congrArg Ast.rules hnl5.ast).trans (congrArg Ast.rules hnl3.ast))).trans hr2
  exact (ruleLoop_ok hf fuel i5 hi5 (Nat.lt_add_left _ hf) _ st5 (PInv.init hi5) hr5).from
    (Nat.succ_le_succ (Nat.le_trans (Nat.le_of_lt hij)
      (Nat.le_trans hji2 (Nat.le_trans h23 (Nat.le_trans hm.le h45)))))

theorem rulesLoop_ok {kind : Kind} (hf : byteLen src < fuel) : ∀ f i, Valid src i →
    byteLen src < i + f → ∀ st, (rulesLoop src kind fuel f i).Safe src st (PosOK src i) :=
  fuel_ind fun f i hv ih st => by
    refine M.Safe.ite (fun _ => ?_) (fun _ => stay hv)
    refine la_bind hv (fun _ _ => stay hv) ?_
    exact (parseRule_ok hv hf).bind fun j st1 ⟨hij, hj⟩ => ws_loop ih hij hj

/-- `parse_rules` after `parse_declarations`: the `unwrap` of the `%%` lookahead cannot fail -/
theorem parseRules_ok {kind : Kind} {i : Nat} (hd : DeclOK src i st) (hf : byteLen src < fuel) :
    (parseRules src kind fuel i).Safe src st (PosOK src 0) := by
  obtain ⟨hv, j0, hm⟩ := hd
  unfold parseRules
  rw [MatchAt.la hm]
  refine (ws_pos hm.valid).bind fun i2 st2 ⟨_, hi2⟩ => ?_
  exact (rulesLoop_ok hf fuel i2 hi2 (Nat.lt_add_left _ hf) st2).from (Nat.zero_le _)

theorem parsePrograms_ok {i : Nat} (h : Valid src i) : (parsePrograms src i).Safe src st (PosOK src 0) := by
  unfold parsePrograms
  refine la_bind h (fun j hm => ?_) (M.Safe.pure ⟨Nat.zero_le _, h⟩)
  refine (ws_pos hm.valid).bind fun i2 st2 ⟨_, hi2⟩ => ?_
  refine liftR_bind (slice_sat hi2) fun prog hr => modifyAst_bind (fun h => { h with }) (M.Safe.pure ?_)
  exact ⟨Nat.zero_le _, valid_advance hr (List.prefix_refl _)⟩

theorem sections_ok {kind : Kind} {pos : Nat} (h : Valid src pos) (hf : byteLen src < fuel) :
    (sections src kind fuel pos).Safe src st (PosOK src 0) :=
  (parseDeclarations_ok h hf).bind fun _ _ hd =>
    (parseRules_ok hd hf).bind fun _ _ h2 => parsePrograms_ok h2.2

end Rule

/-- what `parse` may return: `Ok` at a sliceable position with a well-formed AST, or a non-empty
list of located, well-formed errors with a well-formed AST; never a panic, never out of fuel -/
theorem parseWith_sat {src : List Char} {kind : Kind} {fuel : Nat} (hf : byteLen src < fuel) :
    (parseWith src kind fuel).Sat (fun r => Valid src r.1 ∧ AstOK src r.2)
      (fun r => r.1 ≠ [] ∧ (∀ e ∈ r.1, ErrOK src e) ∧ AstOK src r.2) := by
  unfold parseWith
  rcases Header.Sat.cases (Header.parseWith_sat (required := false) hf) with ⟨⟨hdr, pos⟩, e, hpos, _⟩ | ⟨herrs, e, hne, hall⟩
  · rw [e]
    dsimp only
    rcases Header.Sat.cases (sections_ok (kind := kind) hpos hf (stOK_init src)) with
      ⟨⟨i, st⟩, e2, hst, _, hi⟩ | ⟨⟨er, st⟩, e2, he, hst⟩
    · rw [e2]
      exact Header.Sat.ite (fun _ => ⟨hi, hst.1⟩)
        (fun hne => ⟨fun (h : st.errs = []) => hne (h ▸ rfl), hst.2.2, hst.1⟩)
    · rw [e2]
      exact ⟨List.concat_ne_nil _ _, Header.forall_mem_snoc hst.2.2 he, hst.1⟩
  · rw [e]
    exact ⟨fun h => hne (List.map_eq_nil_iff.1 h), List.forall_mem_map.2 hall, (stOK_init src).1⟩

theorem parse_sat (src : List Char) (kind : Kind) :
    (parse src kind).Sat (fun r => Valid src r.1 ∧ AstOK src r.2)
      (fun r => r.1 ≠ [] ∧ (∀ e ∈ r.1, ErrOK src e) ∧ AstOK src r.2) :=
  parseWith_sat (Nat.lt_succ_self _)

end GrmVerif.YaccParse
