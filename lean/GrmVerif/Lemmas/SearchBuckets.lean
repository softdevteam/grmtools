import GrmVerif.Lemmas.SearchNodes
/-!
Buckets (`IndexMap`) and the `todo` vector of the modelled search: inserting a neighbour — into an
empty slot or merged into a compatible entry — keeps the node invariant of every entry and loses no
sequence: every plain sequence represented before is represented afterwards, and so is every sequence
of the new node (`merge_total` for two nodes; `upsert_total`, `pushAll_total`, `upsertAll_total` for a bucket,
the vector, a bucket and the neighbours of its cost).

At the end, for its own sake (no loop lemma uses it): two nodes that `PathFNode::eq` identifies answer
`success` alike and have the same neighbours up to their chains (`compat_same_continuations`).
-/
namespace GrmVerif.SearchImpl
open LR Rec

variable {E : Env} {start : Pos}

/-- an entry of bucket `k`: the value costs `k`, the key is compatible with the value (the merge
closure changes neither the last repair nor the number of trailing shifts), the value satisfies the
node invariant -/
def EntryOK (E : Env) (start : Pos) (k : Nat) (e : PNode × PNode) : Prop :=
  e.2.cf = k ∧ keyOf e.1 = keyOf e.2 ∧ NodeInv E start e.2

def BucketOK (E : Env) (start : Pos) (k : Nat) (b : Bucket) : Prop := ∀ e ∈ b, EntryOK E start k e

def InBucket (b : Bucket) (p : List Repair) : Prop := ∃ e ∈ b, p ∈ seqs e.2.repairs

theorem reach_congr {m m' : PNode} {s : List Repair} (hcf : m.cf = m'.cf) (hk : keyOf m = keyOf m')
    (h : Reach E start s m) : Reach E start s m' := by
  obtain ⟨k1, k2, k3, k4⟩ := keyOf_eq hk
  obtain ⟨n, h1, h2, h3, h4, h5, h6⟩ := h
  refine ⟨n, by rw [← hcf]; exact h1, by rw [← k1]; exact h2, by rw [← k4]; exact h3,
    by rw [← k3]; exact h4, ?_, h6⟩
  unfold StackRel at h5 ⊢
  rw [← k2]; exact h5

theorem cf_of_term {m : PNode} (hm : NodeInv E start m) (ht : isTerm m.repairs = true) : m.cf = 0 := by
  obtain ⟨n, h1, _⟩ := hm.1 [] (by rw [eq_term_of_isTerm ht]; exact List.mem_singleton.mpr rfl)
  exact (IPath.det h1 (IPath.nil _)).2

theorem ipath_snoc_insert_cost (hcost : ∀ t, 1 ≤ E.cost t) {a n : Node} {s : List Repair} {t k : Nat}
    (h : IPath E.G E.A E.w E.cost E.N a (s ++ [.insert t]) n k) : 1 ≤ k := by
  obtain ⟨m, k₁, k₂, _, h2, e⟩ := h.split
  obtain ⟨_, _, _, hst, _, rfl⟩ := h2.cons_inv
  rw [e]
  exact Nat.le_trans ((hst.shift_or_cost_pos hcost).resolve_left Repair.noConfusion)
    (Nat.le_trans (Nat.le_add_right _ _) (Nat.le_add_left _ _))

/-- a bare `Terminator` costs 0 and its key says "no trailing Shift, last repair not a Delete"; a chain with
that key ends in an Insert or is the `Terminator`, and one ending in an Insert costs at least 1 -/
theorem term_of_compat (H : Hyps E start) {v nbr : PNode} (hv : NodeInv E start v)
    (hn : NodeInv E start nbr) (hcf : v.cf = nbr.cf) (hk : keyOf v = keyOf nbr)
    (ht : isTerm nbr.repairs = true) : isTerm v.repairs = true := by
  have h0 := cf_of_term hn ht
  obtain ⟨_, _, k3, k4⟩ := keyOf_eq hk
  rw [eq_term_of_isTerm ht] at k3 k4
  simp only [lastRepair, isDelete, numShifts] at k3 k4
  have key : ∀ (p : RTree) (r : Repair), (∀ s ∈ seqs p, Reach E start (s ++ [r]) v) →
      numShifts (.rep p r) = 0 → isDelete (some r) = false → False := by
    intro p r hreach hsh hdel
    cases r with
    | shift => simp [numShifts] at hsh
    | delete => simp [isDelete] at hdel
    | insert t =>
      obtain ⟨s, hs⟩ := List.exists_mem_of_ne_nil _ (seqs_ne_nil p)
      obtain ⟨n, h1, _⟩ := hreach s hs
      have := ipath_snoc_insert_cost H.cost_pos h1
      rw [hcf, h0] at this
      exact absurd this (Nat.not_succ_le_zero 0)
  cases hvr : v.repairs with
  | term => rfl
  | rep p r =>
    exfalso
    rw [hvr] at k3 k4
    refine key p r ?_ k4 k3
    intro s hs
    exact hv.1 _ (by rw [hvr]; exact mem_seqs_rep.mpr ⟨s, hs, rfl⟩)
  | merge p r alts =>
    exfalso
    rw [hvr] at k3 k4
    refine key p r ?_ (by cases r <;> simp [numShifts] at k4 ⊢) k3
    intro s hs
    exact hv.1 _ (by rw [hvr]; exact mem_seqs_merge.mpr (Or.inl ⟨s, hs, rfl⟩))

theorem bucketOK_cons {k : Nat} {e : PNode × PNode} {b : Bucket} :
    BucketOK E start k (e :: b) ↔ EntryOK E start k e ∧ BucketOK E start k b :=
  List.forall_mem_cons

theorem inBucket_cons {e : PNode × PNode} {b : Bucket} {p : List Repair} :
    InBucket (e :: b) p ↔ p ∈ seqs e.2.repairs ∨ InBucket b p := by
  simp only [InBucket, List.mem_cons, exists_eq_or_imp]

/-- **Two nodes of one cost and one key merge** — the merge closure's `unreachable!()` is not reached: a kept
chain that is the bare `Terminator` is only ever met by a node whose chain is the bare `Terminator` too
(`term_of_compat`), and then the closure returns early — into a node with the kept node's key that stands
for the sequences of both -/
theorem merge_total (H : Hyps E start) {v nbr : PNode} (hv : NodeInv E start v) (hn : NodeInv E start nbr)
    (hcf : v.cf = nbr.cf) (hk : keyOf v = keyOf nbr) :
    ∃ r, mergeRepairs v.repairs nbr.repairs = some r ∧ keyOf ({ v with repairs := r } : PNode) = keyOf v ∧
      NodeInv E start { v with repairs := r } ∧
      ∀ p, p ∈ seqs r ↔ p ∈ seqs v.repairs ∨ p ∈ seqs nbr.repairs := by
  cases hm : mergeRepairs v.repairs nbr.repairs with
  | none =>
    exfalso
    obtain ⟨ht, hbeq⟩ := mergeRepairs_eq_none hm
    rw [eq_term_of_isTerm (term_of_compat H hn hv hcf.symm hk.symm (by rw [ht]; rfl))] at hbeq
    exact hbeq rfl
  | some r =>
    obtain ⟨m1, m2, m3, m4, _⟩ := mergeRepairs_spec hm
    have hkey : keyOf ({ v with repairs := r } : PNode) = keyOf v := by simp only [keyOf, m1, m2]
    refine ⟨r, rfl, hkey, ⟨fun s hs => ?_, m4 hv.2 hn.2 (term_of_compat H hv hn hcf hk)⟩, m3⟩
    rcases (m3 s).mp hs with hs | hs
    · exact reach_congr (m := v) rfl hkey.symm (hv.1 s hs)
    · exact reach_congr (m := nbr) hcf.symm (hk.symm.trans hkey.symm) (hn.1 s hs)

/-- **Inserting a node into a bucket of its own cost** (`entry` + insert or merge) succeeds, all entries
stay well-formed, nothing that was represented is lost, and everything the new node stands for is
represented -/
theorem upsert_total (H : Hyps E start) {k : Nat} {nbr : PNode} (hn : NodeInv E start nbr)
    (hcf : nbr.cf = k) : ∀ {b : Bucket}, BucketOK E start k b →
    ∃ b', upsert nbr b = some b' ∧ BucketOK E start k b' ∧ (∀ p, InBucket b p → InBucket b' p) ∧
      (∀ p ∈ seqs nbr.repairs, InBucket b' p) := by
  intro b
  induction b with
  | nil =>
    intro _
    exact ⟨[(nbr, nbr)], rfl, bucketOK_cons.mpr ⟨⟨hcf, rfl, hn⟩, fun _ h => nomatch h⟩,
      fun p ⟨_, he, _⟩ => (nomatch he), fun p hp => inBucket_cons.mpr (Or.inl hp)⟩
  | cons e rest ih =>
    intro hb
    obtain ⟨k0, v⟩ := e
    obtain ⟨⟨e1, e2, e3⟩, hrest⟩ := bucketOK_cons.mp hb
    simp only at e1 e2 e3
    rw [upsert]
    by_cases hc : compat k0 nbr = true
    · rw [if_pos hc]
      obtain ⟨r, hm, hkey, hinv, hseq⟩ :=
        merge_total H e3 hn (by rw [e1, hcf]) (by rw [← e2]; exact (compat_iff _ _).mp hc)
      rw [hm]
      exact ⟨_, rfl, bucketOK_cons.mpr ⟨⟨e1, by rw [hkey]; exact e2, hinv⟩, hrest⟩,
        fun p hp => inBucket_cons.mpr ((inBucket_cons.mp hp).imp (fun h => (hseq p).mpr (Or.inl h)) id),
        fun p hp => inBucket_cons.mpr (Or.inl ((hseq p).mpr (Or.inr hp)))⟩
    · rw [if_neg hc]
      obtain ⟨rest', hu, i1, i2, i3⟩ := ih hrest
      rw [hu]
      exact ⟨_, rfl, bucketOK_cons.mpr ⟨⟨e1, e2, e3⟩, i1⟩,
        fun p hp => inBucket_cons.mpr ((inBucket_cons.mp hp).imp id (i2 p)),
        fun p hp => inBucket_cons.mpr (Or.inr (i3 p hp))⟩

/-- bucket `k` of the vector (empty beyond its end) -/
def bk (todo : Array Bucket) (k : Nat) : Bucket := (todo[k]?).getD []

def TodoOK (E : Env) (start : Pos) (todo : Array Bucket) : Prop := ∀ k, BucketOK E start k (bk todo k)

def InTodo (todo : Array Bucket) (p : List Repair) : Prop := ∃ k, InBucket (bk todo k) p

theorem bk_of_get {todo : Array Bucket} {c : Nat} {b : Bucket} (h : todo[c]? = some b) :
    bk todo c = b ∧ c < todo.size := by
  refine ⟨by simp [bk, h], ?_⟩
  by_cases hlt : c < todo.size
  · exact hlt
  · rw [Array.getElem?_eq_none (Nat.le_of_not_lt hlt)] at h; cases h

theorem bk_set {todo : Array Bucket} {c : Nat} (b' : Bucket) (hc : c < todo.size) :
    bk (todo.setIfInBounds c b') c = b' ∧ ∀ k, k ≠ c → bk (todo.setIfInBounds c b') k = bk todo k := by
  simp only [bk, Array.getElem?_setIfInBounds]
  exact ⟨by simp [hc], fun k hk => by rw [if_neg (fun e => hk e.symm)]⟩

theorem bk_beyond {todo : Array Bucket} {k : Nat} (h : todo.size ≤ k) : bk todo k = [] := by
  simp only [bk]
  rw [Array.getElem?_eq_none h]
  rfl

/-- the `resize` before `todo[off]` adds empty buckets only -/
theorem bk_resize (todo : Array Bucket) (n k : Nat) :
    bk (todo ++ Array.replicate n ([] : Bucket)) k = bk todo k := by
  rw [bk, bk, Array.getElem?_append]
  by_cases hlt : k < todo.size
  · rw [if_pos hlt]
  · rw [if_neg hlt, Array.getElem?_replicate, Array.getElem?_eq_none (Nat.le_of_not_lt hlt)]
    split <;> rfl

theorem pushNbr_spec {todo : Array Bucket} {off : Nat} {nbr : PNode} {b' : Bucket}
    (hu : upsert nbr (bk todo off) = some b') :
    ∃ todo', pushNbr todo off nbr = some todo' ∧ bk todo' off = b' ∧
      (∀ k, k ≠ off → bk todo' k = bk todo k) ∧ todo.size ≤ todo'.size := by
  have hsz : off < (todo ++ Array.replicate (off + 1) ([] : Bucket)).size := by
    rw [Array.size_append, Array.size_replicate]
    exact Nat.lt_of_lt_of_le (Nat.lt_succ_self off) (Nat.le_add_left _ _)
  have hget : (todo ++ Array.replicate (off + 1) ([] : Bucket))[off]? = some (bk todo off) := by
    rw [← bk_resize todo (off + 1) off, bk, Array.getElem?_eq_getElem hsz]; rfl
  refine ⟨_, by rw [pushNbr]; simp only [hget, hu]; rfl, (bk_set _ hsz).1,
    fun k hk => by rw [(bk_set _ hsz).2 k hk, bk_resize], ?_⟩
  rw [Array.size_setIfInBounds, Array.size_append]
  exact Nat.le_add_right _ _

theorem todoOK_replace {todo todo' : Array Bucket} {c : Nat} {b' : Bucket} (hok : TodoOK E start todo)
    (hc : bk todo' c = b') (ho : ∀ k, k ≠ c → bk todo' k = bk todo k) (hb' : BucketOK E start c b') :
    TodoOK E start todo' := by
  intro k
  by_cases hk : k = c
  · rw [hk, hc]; exact hb'
  · rw [ho k hk]; exact hok k

theorem inTodo_replace {todo todo' : Array Bucket} {c : Nat} {b' : Bucket} {Q : List Repair → Prop}
    (hc : bk todo' c = b') (ho : ∀ k, k ≠ c → bk todo' k = bk todo k)
    (hb' : ∀ p, InBucket (bk todo c) p → InBucket b' p ∨ Q p) {p : List Repair} (h : InTodo todo p) :
    InTodo todo' p ∨ Q p := by
  obtain ⟨k, hk⟩ := h
  by_cases hkc : k = c
  · exact (hb' p (hkc ▸ hk)).imp_left fun h => ⟨c, by rw [hc]; exact h⟩
  · exact Or.inl ⟨k, by rw [ho k hkc]; exact hk⟩

theorem pushAll_total (H : Hyps E start) : ∀ {nbrs : List (Nat × PNode)} {todo : Array Bucket},
    (∀ x ∈ nbrs, x.1 = x.2.cf ∧ NodeInv E start x.2) → TodoOK E start todo →
    ∃ todo', pushAll todo nbrs = some todo' ∧
      TodoOK E start todo' ∧ (∀ p, InTodo todo p → InTodo todo' p) ∧
      (∀ x ∈ nbrs, ∀ p ∈ seqs x.2.repairs, InTodo todo' p) ∧
      (∀ k, (∀ x ∈ nbrs, x.1 ≠ k) → bk todo' k = bk todo k) ∧ todo.size ≤ todo'.size := by
  intro nbrs
  induction nbrs with
  | nil =>
    intro todo _ hok
    exact ⟨todo, rfl, hok, fun p hp => hp, fun x hx => (nomatch hx), fun k _ => rfl, Nat.le_refl _⟩
  | cons x rest ih =>
    intro todo hx hok
    obtain ⟨off, nbr⟩ := x
    obtain ⟨hx1, hx2⟩ := hx (off, nbr) List.mem_cons_self
    obtain ⟨b', hu, u1, u2, u3⟩ := upsert_total H hx2 hx1.symm (hok off)
    obtain ⟨todo1, hp, hb', hother, hsz⟩ := pushNbr_spec hu
    have hok1 : TodoOK E start todo1 := todoOK_replace hok hb' hother u1
    have hin1 : ∀ p, InTodo todo p → InTodo todo1 p := fun p hp =>
      (inTodo_replace (Q := fun _ => False) hb' hother (fun p h => Or.inl (u2 p h)) hp).resolve_right id
    obtain ⟨todo', h, i1, i2, i3, i4, i5⟩ := ih (fun y hy => hx y (List.mem_cons_of_mem _ hy)) hok1
    refine ⟨todo', by rw [pushAll, hp]; exact h, i1, fun p hp => i2 p (hin1 p hp), ?_, ?_, Nat.le_trans hsz i5⟩
    · intro y hy p hp
      rcases List.mem_cons.mp hy with rfl | hy
      · exact i2 p ⟨off, by rw [hb']; exact u3 p hp⟩
      · exact i3 y hy p hp
    · intro k hk
      rw [i4 k (fun y hy => hk y (List.mem_cons_of_mem _ hy))]
      exact hother k (fun e => hk (off, nbr) List.mem_cons_self e.symm)

theorem upsertAll_total (H : Hyps E start) {c : Nat} : ∀ {nbrs : List (Nat × PNode)} {b : Bucket},
    (∀ x ∈ nbrs, x.1 = x.2.cf ∧ NodeInv E start x.2) → BucketOK E start c b →
    ∃ b', upsertAll c b nbrs = some b' ∧
      BucketOK E start c b' ∧ (∀ p, InBucket b p → InBucket b' p) ∧
      (∀ x ∈ nbrs, x.1 = c → ∀ p ∈ seqs x.2.repairs, InBucket b' p) := by
  intro nbrs
  induction nbrs with
  | nil =>
    intro b _ hok
    exact ⟨b, rfl, hok, fun p hp => hp, fun x hx => nomatch hx⟩
  | cons x rest ih =>
    intro b hx hok
    obtain ⟨off, nbr⟩ := x
    obtain ⟨hx1, hx2⟩ := hx (off, nbr) List.mem_cons_self
    rw [upsertAll]
    by_cases hc : (off == c) = true
    · rw [if_pos hc]
      obtain ⟨b1, hu, u1, u2, u3⟩ := upsert_total H hx2 (by rw [← hx1]; exact beq_iff_eq.mp hc) hok
      obtain ⟨b', h, i1, i2, i3⟩ := ih (fun y hy => hx y (List.mem_cons_of_mem _ hy)) u1
      rw [hu]
      refine ⟨b', h, i1, fun p hp => i2 p (u2 p hp), ?_⟩
      intro y hy hyc p hp
      rcases List.mem_cons.mp hy with rfl | hy
      · exact i2 p (u3 p hp)
      · exact i3 y hy hyc p hp
    · rw [if_neg hc]
      obtain ⟨b', h, i1, i2, i3⟩ := ih (fun y hy => hx y (List.mem_cons_of_mem _ hy)) hok
      refine ⟨b', h, i1, i2, ?_⟩
      intro y hy hyc p hp
      rcases List.mem_cons.mp hy with rfl | hy
      · exact absurd (beq_iff_eq.mpr hyc) hc
      · exact i3 y hy hyc p hp

theorem popLast_none {b : Bucket} (h : popLast b = none) : b = [] := by
  unfold popLast at h
  cases hl : b.getLast? with
  | none => exact List.getLast?_eq_none_iff.mp hl
  | some e => rw [hl] at h; cases h

theorem popLast_some {b b' : Bucket} {n : PNode} (h : popLast b = some (b', n)) :
    ∃ k, b = b' ++ [(k, n)] := by
  unfold popLast at h
  cases hl : b.getLast? with
  | none => rw [hl] at h; cases h
  | some e =>
    rw [hl, Option.some.injEq, Prod.mk.injEq] at h
    obtain ⟨rfl, rfl⟩ := h
    obtain ⟨ys, rfl⟩ := List.getLast?_eq_some_iff.mp hl
    exact ⟨e.1, by rw [List.dropLast_concat]⟩

theorem inBucket_concat {b : Bucket} {k n : PNode} {p : List Repair} :
    InBucket (b ++ [(k, n)]) p ↔ InBucket b p ∨ p ∈ seqs n.repairs := by
  simp only [InBucket, List.mem_append, List.mem_singleton, or_and_right, exists_or, exists_eq_left]

theorem pop_ok {c : Nat} {b b' : Bucket} {n : PNode} (hb : BucketOK E start c b)
    (hpop : popLast b = some (b', n)) :
    (∀ p, InBucket b p → InBucket b' p ∨ p ∈ seqs n.repairs) ∧ BucketOK E start c b' ∧ n.cf = c ∧
      NodeInv E start n := by
  obtain ⟨k0, rfl⟩ := popLast_some hpop
  obtain ⟨n1, _, n3⟩ := hb (k0, n) (by simp)
  exact ⟨fun p => inBucket_concat.mp, fun e he => hb e (List.mem_append_left _ he), n1, n3⟩

theorem todoOK_start (hpos : start.pos ≤ E.w.length) :
    TodoOK E start #[[(startNode start, startNode start)]] := by
  intro k e he
  cases k with
  | zero =>
    rw [show e = (startNode start, startNode start) from List.mem_singleton.mp he]
    exact ⟨rfl, rfl, nodeInv_start hpos⟩
  | succ k => cases he

def chainLen : RTree → Nat
  | .term => 0
  | .rep p _ => chainLen p + 1
  | .merge p _ _ => chainLen p + 1

/-- a neighbour of a node with chain `parent` without its chain: bucket offset, stack, position, cost,
and the step made — `some r` for a child `parent.child(Repair(r))`, `none` for the node that keeps the
parent's chain (accept after reductions). The chain is one link longer exactly in the first case, which is
how the two are told apart without comparing chains of different parents. -/
def nbrShape (parent : RTree) (y : Nat × PNode) : Nat × List Nat × Nat × Nat × Option Repair :=
  (y.1, y.2.pstack, y.2.laidx, y.2.cf,
    if chainLen y.2.repairs > chainLen parent then lastRepair y.2.repairs else none)

def outShape (parent : RTree) : Out (List (Nat × PNode)) → Out (List (Nat × List Nat × Nat × Nat × Option Repair))
  | .ok l => .ok (l.map (nbrShape parent))
  | .panic => .panic
  | .fuelOut => .fuelOut

theorem outShape_map_cons (p : RTree) (y : Nat × PNode) (o : Out (List (Nat × PNode))) :
    outShape p (o.map (fun l => y :: l)) = (outShape p o).map (fun l => nbrShape p y :: l) := by
  cases o <;> rfl

theorem insertNbrs_shape {a b : PNode} (h1 : a.laidx = b.laidx) (h2 : a.pstack = b.pstack)
    (h3 : a.cf = b.cf) : ∀ ts : List Nat,
    outShape a.repairs (insertNbrs E a ts) = outShape b.repairs (insertNbrs E b ts) := by
  intro ts
  induction ts with
  | nil => rfl
  | cons t ts ih =>
    simp only [insertNbrs, h1, h2, h3]
    by_cases he : (t == E.G.eof) = true
    · simp only [he, ↓reduceIte]; exact ih
    · by_cases hp : (decide (b.laidx > E.w.length) && E.w.length != 0) = true
      · simp only [he, hp, Bool.false_eq_true, ↓reduceIte]; rfl
      · simp only [he, hp, Bool.false_eq_true, ↓reduceIte]
        cases feed E.G E.A t FUEL b.pstack with
        | shifted s =>
          simp only
          by_cases hc : b.cf + E.cost t ≤ U16MAX
          · simp only [hc, ↓reduceIte]
            rw [outShape_map_cons, outShape_map_cons, ih]
            simp [nbrShape, chainLen, lastRepair]
          · simp only [hc, ↓reduceIte]; exact ih
        | crash => rfl
        | fuelOut => rfl
        | _ => exact ih

theorem outShape_neighbours (p : RTree) (x : Bool) (n : PNode) :
    outShape p (neighbours E x n) =
      (match outShape p (insPart E x n) with
       | .panic => .panic
       | .fuelOut => .fuelOut
       | .ok i =>
         match outShape p (shiftNbrs E n) with
         | .panic => .panic
         | .fuelOut => .fuelOut
         | .ok s => .ok (i ++ (if x then deleteNbrs E n else []).map (nbrShape p) ++ s)) := by
  rw [neighbours_eq]
  cases insPart E x n with
  | ok i => cases shiftNbrs E n <;> simp [outShape]
  | _ => rfl

theorem compat_same_continuations {a b : PNode} (hc : compat a b = true) (hcf : a.cf = b.cf) (x : Bool) :
    success E a = success E b ∧
      outShape a.repairs (neighbours E x a) = outShape b.repairs (neighbours E x b) := by
  obtain ⟨h1, h2, h3, h4⟩ := keyOf_eq ((compat_iff a b).mp hc)
  refine ⟨by simp only [success, endsWithShifts_iff, h1, h2, h4], ?_⟩
  have hins : outShape a.repairs (insPart E x a) = outShape b.repairs (insPart E x b) := by
    simp only [insPart, h3]
    cases isDelete (lastRepair b.repairs) with
    | true => rfl
    | false =>
      cases x with
      | false => rfl
      | true =>
        simp only [Bool.false_eq_true, ↓reduceIte, insertAll, h2]
        cases b.pstack with
        | nil => rfl
        | cons st rest =>
          simp only
          cases stateActionsOf E.A st with
          | none => rfl
          | some sa => exact insertNbrs_shape h1 h2 hcf sa
  have hdel : (if x then deleteNbrs E a else []).map (nbrShape a.repairs) =
      (if x then deleteNbrs E b else []).map (nbrShape b.repairs) := by
    cases x with
    | false => rfl
    | true =>
      simp only [deleteNbrs, h1, h2, hcf, ↓reduceIte]
      by_cases hl : (b.laidx == E.w.length) = true
      · simp only [hl, ↓reduceIte]; rfl
      · by_cases hc : b.cf + E.cost (nextTok E.G E.w b.laidx) ≤ U16MAX
        · simp [hl, hc, nbrShape, chainLen, lastRepair]
        · simp only [hl, hc, Bool.false_eq_true, ↓reduceIte]; rfl
  have hsh : outShape a.repairs (shiftNbrs E a) = outShape b.repairs (shiftNbrs E b) := by
    simp only [shiftNbrs, h1, h2, hcf]
    cases feed E.G E.A (nextTok E.G E.w b.laidx) FUEL b.pstack with
    | shifted s => simp [outShape, nbrShape, chainLen, lastRepair]
    | accept s =>
      simp only
      by_cases hne : (b.pstack != s) = true
      · simp [hne, outShape, nbrShape]
      · simp only [hne, Bool.false_eq_true, ↓reduceIte]; rfl
    | _ => rfl
  rw [outShape_neighbours, outShape_neighbours, hins, hsh, hdel]

end GrmVerif.SearchImpl
