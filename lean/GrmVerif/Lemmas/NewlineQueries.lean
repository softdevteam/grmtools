import GrmVerif.Lemmas.Newline
/-! The queries of the newline cache (C19), first on any strictly increasing list of line starts that
begins with `0`, then on `ofText` of a text written `a ++ cur ++ post` around a boundary.

In a strictly increasing list `l` the entries `≤ b` are the first `l.countP (· ≤ b)` ones; every
query is a function of that number: it is the line number of `b`, the entry just before it the start
of `b`'s line, the entry at it one past the end of `b`'s line. -/
namespace GrmVerif.Newline

/-- the column the property prescribes for the boundary between `cur` (the part of the current
line before the offset) and `post`: one plus the characters since the line began, a `"\r\n"` pair
counting once (the `'\n'` gets the column of its `'\r'`). -/
def colOf (cur post : List Char) : Nat :=
  if post.head? = some '\n' ∧ cur.getLast? = some '\r' then cur.length else cur.length + 1

/-- start of the line containing offset `b`: the greatest recorded line start `≤ b`. -/
def lineStartOf (L : List Nat) (b : Nat) : Nat := (L.filter (· ≤ b)).getLast?.getD 0

/-- end of the line containing offset `e`: one before the least line start `> e`, or the text
length when there is none. -/
def lineEndOf (L : List Nat) (len e : Nat) : Nat :=
  match (L.filter (fun y => e < y)).head? with
  | some x => x - 1
  | none => len

theorem countP_le_eq_zero {l : List Nat} {b : Nat} (h : ∀ y ∈ l, ¬ y ≤ b) :
    l.countP (· ≤ b) = 0 :=
  List.countP_eq_zero.mpr fun y hy => by simpa using h y hy

/-- every offset lies on some line: `0` is a line start -/
theorem countP_le_pos {l : List Nat} (h0 : 0 ∈ l) (b : Nat) : 0 < l.countP (· ≤ b) :=
  List.countP_pos_iff.mpr ⟨0, h0, by simp⟩

theorem sorted_head_gt {x b : Nat} {xs : List Nat} (hs : (x :: xs).Pairwise (· < ·)) (h : ¬ x ≤ b) :
    ∀ y ∈ x :: xs, ¬ y ≤ b := by
  intro y hy
  rcases List.mem_cons.mp hy with rfl | hy
  · exact h
  · have := (List.pairwise_cons.mp hs).1 y hy; omega

theorem sorted_split_countP (l : List Nat) (b : Nat) (hs : l.Pairwise (· < ·)) :
    l.take (l.countP (· ≤ b)) = l.filter (· ≤ b) ∧
      l.drop (l.countP (· ≤ b)) = l.filter (fun y => b < y) := by
  induction l with
  | nil => exact ⟨rfl, rfl⟩
  | cons x xs ih =>
    by_cases h : x ≤ b
    · have := ih (List.pairwise_cons.mp hs).2
      simp [h, Nat.not_lt.mpr h, this.1, this.2]
    · have h0 := sorted_head_gt hs h
      rw [countP_le_eq_zero h0, List.filter_eq_nil_iff.mpr fun y hy => by simpa using h0 y hy,
        List.filter_eq_self.mpr fun y hy => by simpa [Nat.not_le] using h0 y hy]
      exact ⟨rfl, rfl⟩

theorem lineStart_getElem (L : List Nat) (b : Nat) (hs : L.Pairwise (· < ·))
    (hk : 0 < L.countP (· ≤ b)) :
    L[L.countP (· ≤ b) - 1]? = some (lineStartOf L b) := by
  have hlt : L.countP (· ≤ b) - 1 < L.length :=
    Nat.lt_of_lt_of_le (Nat.sub_lt hk Nat.one_pos) List.countP_le_length
  rw [lineStartOf, ← (sorted_split_countP L b hs).1, List.getLast?_take, if_neg (Nat.ne_of_gt hk),
    List.getElem?_eq_getElem hlt]
  rfl

theorem lineEnd_getElem (L : List Nat) (len e : Nat) (hs : L.Pairwise (· < ·)) :
    (if L.countP (· ≤ e) = L.length then some len else L[L.countP (· ≤ e)]?.map (· - 1))
      = some (lineEndOf L len e) := by
  have hle : L.countP (· ≤ e) ≤ L.length := List.countP_le_length
  rw [lineEndOf, ← (sorted_split_countP L e hs).2, List.head?_drop]
  split
  · next h => simp [h]
  · next h => simp [List.getElem?_eq_getElem (show L.countP (· ≤ e) < L.length by omega)]

theorem sorted_mem_countP (l : List Nat) (x : Nat) (hs : l.Pairwise (· < ·)) (hx : x ∈ l) :
    l[l.countP (· < x)]? = some x ∧ l.countP (· ≤ x) = l.countP (· < x) + 1 := by
  induction l with
  | nil => cases hx
  | cons a l ih =>
    have hgt := (List.pairwise_cons.mp hs).1
    by_cases h : a < x
    · have := ih (List.pairwise_cons.mp hs).2 ((List.mem_cons.mp hx).resolve_left (Nat.ne_of_gt h))
      simp [h, this.1, this.2, Nat.le_of_lt h]
    · cases (List.mem_cons.mp hx).resolve_right fun hx => h (hgt x hx)
      have h1 : l.countP (· < x) = 0 :=
        List.countP_eq_zero.mpr fun y hy => by
          simp only [decide_eq_true_eq]; exact Nat.lt_asymm (hgt y hy)
      have h2 : l.countP (· ≤ x) = 0 := countP_le_eq_zero fun y hy => Nat.not_le.mpr (hgt y hy)
      simp [h1, h2]

theorem sorted_getElem_countP (l : List Nat) (x : Nat) (hs : l.Pairwise (· < ·)) (hx : x ∈ l) :
    l[l.countP (· < x)]? = some x :=
  (sorted_mem_countP l x hs hx).1

theorem countP_drop_countP (l : List Nat) (a b : Nat) (hs : l.Pairwise (· < ·)) (h : a ≤ b) :
    l.countP (· ≤ a) + (l.drop (l.countP (· ≤ a))).countP (· ≤ b) = l.countP (· ≤ b) := by
  have hall : (l.filter (· ≤ a)).countP (· ≤ b) = (l.filter (· ≤ a)).length :=
    List.countP_eq_length.mpr fun y hy => by
      have := (List.mem_filter.mp hy).2; simp only [decide_eq_true_eq] at this ⊢; omega
  conv => rhs; rw [← List.take_append_drop (l.countP (· ≤ a)) l]
  rw [List.countP_append, (sorted_split_countP l a hs).1, hall, List.countP_eq_length_filter]

theorem rfindLe_sorted (byte : Nat) (l : List Nat) (i : Nat) (acc : Option Nat)
    (hs : l.Pairwise (· < ·)) :
    rfindLe byte l i acc =
      if l.countP (· ≤ byte) = 0 then acc else some (i + l.countP (· ≤ byte) - 1) := by
  induction l generalizing i acc with
  | nil => rfl
  | cons x xs ih =>
    rw [rfindLe, ih _ _ (List.pairwise_cons.mp hs).2]
    by_cases hx : x ≤ byte
    · simp only [hx, if_true, List.countP_cons, decide_true]
      split
      · next h0 => simp [h0]
      · simp
    · rw [countP_le_eq_zero (sorted_head_gt hs hx),
        countP_le_eq_zero fun y hy => sorted_head_gt hs hx y (.tail _ hy)]
      simp [hx]

theorem sorted_le_last (l : List Nat) (hs : l.Pairwise (· < ·)) :
    ∀ y ∈ l, y ≤ l.getLast?.getD 0 := by
  intro y hy
  cases hl : l.getLast? with
  | none => rw [List.getLast?_eq_none_iff.mp hl] at hy; cases hy
  | some x =>
    obtain ⟨pre, rfl⟩ := List.getLast?_eq_some_iff.mp hl
    rcases List.mem_append.mp hy with h | h
    · exact Nat.le_of_lt ((List.pairwise_append.mp hs).2.2 y h x (.head _))
    · exact Nat.le_of_eq (List.mem_singleton.mp h)

theorem bsearch_sorted (l : List Nat) (x : Nat) (hs : l.Pairwise (· < ·)) :
    bsearch l x = if x ∈ l then .inl (l.countP (· ≤ x) - 1) else .inr (l.countP (· ≤ x)) := by
  by_cases h : x ∈ l
  · simp [bsearch, h, (sorted_mem_countP l x hs h).2]
  · have : l.countP (· < x) = l.countP (· ≤ x) :=
      List.countP_congr fun y hy => by
        have : y ≠ x := fun e => h (e ▸ hy)
        simp only [decide_eq_true_eq]; omega
    simp [bsearch, h, this]

theorem byteToLineNum_sorted (c : Cache) (byte : Nat) (hs : c.newlines.Pairwise (· < ·))
    (h0 : 0 ∈ c.newlines) (hb : byte ≤ feedLen c) :
    byteToLineNum c byte = some (c.newlines.countP (· ≤ byte)) := by
  have hk := countP_le_pos h0 byte
  simp only [byteToLineNum, if_neg (Nat.not_lt.mpr hb)]
  split
  · next h =>
    -- the shortcut for offsets on the last line: every entry is `≤ byte`
    simp only [Bool.and_eq_true, decide_eq_true_eq] at h
    rw [List.countP_eq_length.mpr fun y hy => by
      have := sorted_le_last _ hs y hy; simp only [lastNl] at h; simp only [decide_eq_true_eq]; omega]
  · rw [rfindLe_sorted _ _ _ _ hs, if_neg (Nat.ne_of_gt hk), Option.map_some, Nat.zero_add,
      Nat.sub_add_cancel hk]

theorem lineNumToByte_countP (c : Cache) (b : Nat) (hs : c.newlines.Pairwise (· < ·))
    (hk : 0 < c.newlines.countP (· ≤ b)) :
    lineNumToByte c (c.newlines.countP (· ≤ b)) = some (lineStartOf c.newlines b) := by
  have : c.newlines.countP (· ≤ b) ≤ c.newlines.length := List.countP_le_length
  rw [lineNumToByte, if_neg (by simp only [Bool.or_eq_true, decide_eq_true_eq, beq_iff_eq]; omega),
    lineStart_getElem _ _ hs hk]

theorem spanStart_sorted (L : List Nat) (x : Nat) (hs : L.Pairwise (· < ·))
    (hk : 0 < L.countP (· ≤ x)) :
    spanStart L x = some (lineStartOf L x, L.countP (· ≤ x)) := by
  have hg := lineStart_getElem L x hs hk
  rw [spanStart, bsearch_sorted L x hs]
  by_cases hm : x ∈ L
  · simp only [if_pos hm, hg, Option.map_some, Nat.sub_add_cancel hk]
  · simp only [if_neg hm, hg, Option.map_some, if_neg (Nat.ne_of_gt hk)]

/-- the second search runs on the entries after `start`'s line; the indices add up -/
theorem spanEnd_sorted (L : List Nat) (fl start stop : Nat) (hs : L.Pairwise (· < ·))
    (hne : L ≠ []) (hle : start ≤ stop) :
    spanEnd L fl (L.countP (· ≤ start)) stop = some (lineEndOf L fl stop) := by
  have hpos : 0 < L.length := List.length_pos_iff.mpr hne
  have hD : (L.drop (L.countP (· ≤ start))).Pairwise (· < ·) := hs.sublist (List.drop_sublist _ _)
  have hD0 : stop ∈ L.drop (L.countP (· ≤ start)) →
      0 < (L.drop (L.countP (· ≤ start))).countP (· ≤ stop) :=
    fun hm => List.countP_pos_iff.mpr ⟨stop, hm, by simp⟩
  rw [← lineEnd_getElem L fl stop hs, spanEnd, bsearch_sorted _ stop hD,
    ← countP_drop_countP L start stop hs hle]
  generalize (L.drop (L.countP (· ≤ start))).countP (· ≤ stop) = kD at hD0 ⊢
  generalize L.countP (· ≤ start) = k at hD0 ⊢
  by_cases hm : stop ∈ L.drop k
  · -- write `kD = j + 1` and `L.length = n + 1`: both sides test `k + j = n` and read `L[k + j + 1]`
    obtain ⟨j, rfl⟩ := Nat.exists_eq_succ_of_ne_zero (Nat.ne_of_gt (hD0 hm))
    obtain ⟨n, hn⟩ := Nat.exists_eq_succ_of_ne_zero (Nat.ne_of_gt hpos)
    simp only [if_pos hm, hn, Nat.succ_eq_add_one, Nat.add_sub_cancel, ← Nat.add_assoc,
      Nat.add_right_cancel_iff]
  · simp only [if_neg hm]

theorem spanLineBytes_spec (c : Cache) (start stop : Nat)
    (hs : c.newlines.Pairwise (· < ·)) (h0 : 0 ∈ c.newlines) (hle : start ≤ stop) :
    spanLineBytes c start stop =
      some (lineStartOf c.newlines start, lineEndOf c.newlines (feedLen c) stop) := by
  simp only [spanLineBytes, spanStart_sorted _ _ hs (countP_le_pos h0 start),
    spanEnd_sorted _ _ _ _ hs (List.ne_nil_of_mem h0) hle, Option.map_some, feedLen]

theorem dropBytes_cons (n : Nat) (c : Char) (cs : List Char) (h : c.utf8Size ≤ n) :
    dropBytes n (c :: cs) = dropBytes (n - c.utf8Size) cs := by
  cases n with
  | zero => exact absurd h (Nat.not_le.mpr (Char.utf8Size_pos c))
  | succ n => rw [dropBytes, if_pos h]

theorem dropBytes_append_add (x t : List Char) (k : Nat) :
    dropBytes (byteLen x + k) (x ++ t) = dropBytes k t := by
  induction x with
  | nil => simp [byteLen]
  | cons c cs ih =>
    rw [byteLen, List.cons_append, Nat.add_assoc, dropBytes_cons _ _ _ (Nat.le_add_right _ _),
      Nat.add_sub_cancel_left, ih]

theorem dropBytes_append (a b : List Char) : dropBytes (byteLen a) (a ++ b) = some b := by
  have := dropBytes_append_add a b 0
  rwa [Nat.add_zero, dropBytes] at this

theorem dropBytes_split (b : Nat) (s t : List Char) (h : dropBytes b s = some t) :
    ∃ x, s = x ++ t ∧ byteLen x = b := by
  induction b, s using dropBytes.induct with
  | case1 s => exact ⟨[], by simpa [dropBytes] using h, rfl⟩
  | case2 n => cases h
  | case3 n c cs hc ih =>
    rw [dropBytes, if_pos hc] at h
    obtain ⟨x, rfl, hb⟩ := ih h
    exact ⟨c :: x, rfl, by rw [byteLen, hb]; exact Nat.add_sub_of_le hc⟩
  | case4 n c cs hc => rw [dropBytes, if_neg hc] at h; cases h

theorem dropBytes_add (a k : Nat) (s t : List Char) (h : dropBytes a s = some t) :
    dropBytes (a + k) s = dropBytes k t := by
  obtain ⟨x, rfl, rfl⟩ := dropBytes_split _ _ _ h
  exact dropBytes_append_add x t k

/-! ### a text around a boundary: `a ++ cur | post`

`a` is empty or ends in a newline and `cur` is newline-free, so the line starts of the text are those
of `a`, the last of which is `|a|`, followed by entries beyond `|a| + |cur|`. -/

theorem newlines_decomp (a cur post : List Char) (hcur : '\n' ∉ cur) :
    (ofText (a ++ (cur ++ post))).newlines
      = (ofText a).newlines ++ nlsFrom (byteLen a + byteLen cur) post := by
  rw [ofText_append, nlsFrom_append, nlsFrom_no_nl _ cur hcur, List.nil_append]

/-- In `x ++ suf ++ z` with `suf` newline-free, every offset `b` within `suf` (its two ends included) sees the same
line starts: those of `x` up to it, those of `z` beyond it. -/
theorem newlines_cut (x suf z : List Char) (hsuf : '\n' ∉ suf) (b : Nat) (h1 : byteLen x ≤ b)
    (h2 : b ≤ byteLen x + byteLen suf) :
    (ofText (x ++ (suf ++ z))).newlines.filter (· ≤ b) = (ofText x).newlines ∧
      (ofText (x ++ (suf ++ z))).newlines.filter (fun y => b < y) = nlsFrom (byteLen x + byteLen suf) z := by
  have hlo : ∀ y ∈ (ofText x).newlines, y ≤ b := fun y hy => Nat.le_trans (ofText_le x y hy) h1
  have hhi : ∀ y ∈ nlsFrom (byteLen x + byteLen suf) z, b < y := fun y hy =>
    Nat.lt_of_le_of_lt h2 (nlsFrom_gt _ z y hy)
  rw [newlines_decomp x suf z hsuf, List.filter_append, List.filter_append,
    List.filter_eq_self.mpr fun y hy => decide_eq_true (hlo y hy),
    List.filter_eq_nil_iff.mpr fun y hy => by simpa using hhi y hy,
    List.filter_eq_nil_iff.mpr fun y hy => by simpa using hlo y hy,
    List.filter_eq_self.mpr fun y hy => decide_eq_true (hhi y hy)]
  exact ⟨List.append_nil _, rfl⟩

theorem lineStartOf_decomp (a cur post : List Char)
    (ha : a = [] ∨ a.getLast? = some '\n') (hcur : '\n' ∉ cur) :
    lineStartOf (ofText (a ++ (cur ++ post))).newlines (byteLen a + byteLen cur) = byteLen a := by
  rw [lineStartOf, (newlines_cut a cur post hcur _ (Nat.le_add_right _ _) (Nat.le_refl _)).1,
    last_nls_of_ends_nl a ha]; rfl

theorem lineEndOf_decomp (x suf z : List Char) (hsuf : '\n' ∉ suf)
    (hz : z = [] ∨ z.head? = some '\n') :
    lineEndOf (ofText (x ++ (suf ++ z))).newlines (byteLen (x ++ (suf ++ z))) (byteLen x)
      = byteLen x + byteLen suf := by
  rw [lineEndOf, (newlines_cut x suf z hsuf _ (Nat.le_refl _) (Nat.le_add_right _ _)).2]
  rcases hz with rfl | hz
  · simp [nlsFrom, byteLen_append]
  · cases z with
    | nil => cases hz
    | cons c z' => cases Option.some.inj hz; simp

theorem getLast?_cons_map_getD {α β : Type} (g : α → β) (c : α) (cs : List α) (d : β) :
    ((c :: cs).getLast?.map g).getD d = (cs.getLast?.map g).getD (g c) := by
  rw [List.getLast?_cons]
  cases cs.getLast? <;> rfl

/-- the column loop over a newline-free line prefix `cur`, stopping at the character `p` after it:
every character of `cur` counts, and the pending skip is decided by the last of them alone -/
theorem colLoop_prefix (cur : List Char) (p : Char) (ps : List Char) (off col : Nat) (skip : Option Char)
    (hcur : '\n' ∉ cur) (hskip : skip = none ∨ skip = some '\n') :
    colLoop (off + byteLen cur) (cur ++ p :: ps) off col skip =
      col + cur.length +
        if some p != (cur.getLast?.map fun c => if c = '\r' then some '\n' else none).getD skip
        then 1 else 0 := by
  induction cur generalizing off col skip with
  | nil =>
    simp only [byteLen, Nat.add_zero, List.nil_append, colLoop, if_true, List.length_nil,
      List.getLast?_nil, Option.map_none, Option.getD_none]
    split <;> simp_all
  | cons c cs ih =>
    simp only [List.mem_cons, not_or] at hcur
    have hp := Char.utf8Size_pos c
    have hne : (some c != skip) = true := by
      rcases hskip with rfl | rfl
      · rfl
      · simpa using Ne.symm hcur.1
    rw [getLast?_cons_map_getD, List.cons_append, colLoop]
    simp only [hne, if_true, byteLen]
    rw [if_neg (Nat.ne_of_lt (Nat.lt_add_of_pos_right (Nat.add_pos_left hp _))), ← Nat.add_assoc,
      ih _ _ _ hcur.2 (by split <;> simp), List.length_cons, Nat.add_assoc col, Nat.add_comm 1]

theorem byteToLineCol_decomp (a cur post : List Char)
    (ha : a = [] ∨ a.getLast? = some '\n') (hcur : '\n' ∉ cur) :
    byteToLineCol (ofText (a ++ (cur ++ post))) (a ++ (cur ++ post)) (byteLen a + byteLen cur)
      = some (some (1 + a.count '\n', colOf cur post)) := by
  have hsorted := ofText_sorted (a ++ (cur ++ post))
  have hlen := feedLen_ofText (a ++ (cur ++ post))
  have hb : byteLen a + byteLen cur ≤ byteLen (a ++ (cur ++ post)) := by
    rw [byteLen_append, byteLen_append, ← Nat.add_assoc]; exact Nat.le_add_right _ _
  have hcnt : (ofText (a ++ (cur ++ post))).newlines.countP (· ≤ byteLen a + byteLen cur)
      = 1 + a.count '\n' := by
    rw [List.countP_eq_length_filter,
      (newlines_cut a cur post hcur _ (Nat.le_add_right _ _) (Nat.le_refl _)).1, ofText_length]
  have hline := byteToLineNum_sorted _ _ hsorted (.head _) (hlen ▸ hb)
  rw [hcnt] at hline
  have hstart := lineNumToByte_countP _ (byteLen a + byteLen cur) hsorted (countP_le_pos (.head _) _)
  rw [hcnt, lineStartOf_decomp a cur post ha hcur] at hstart
  rw [byteToLineCol, hlen, hline]
  simp only [show ¬ byteLen a + byteLen cur > byteLen (a ++ (cur ++ post)) from Nat.not_lt.mpr hb,
    decide_false,
    bne_self_eq_false, Bool.or_self, Bool.false_eq_true, if_false, hstart]
  cases post with
  | nil =>
    have hL : (ofText (a ++ (cur ++ []))).newlines = (ofText a).newlines := by
      rw [newlines_decomp a cur [] hcur, nlsFrom, List.append_nil]
    simp only [byteLen_append, byteLen, Nat.add_zero, if_true, lastNl, hL, last_nls_of_ends_nl a ha,
      Option.getD_some, dropBytes_append, ofText_length]
    simp [colOf]
  | cons p ps =>
    have hp := Char.utf8Size_pos p
    rw [if_neg (by
      rw [byteLen_append, byteLen_append, byteLen, ← Nat.add_assoc]
      exact Nat.ne_of_lt (Nat.lt_add_of_pos_right (Nat.add_pos_left hp _)))]
    simp only [dropBytes_append, Nat.add_sub_cancel_left]
    have := colLoop_prefix cur p ps 0 0 none hcur (.inl rfl)
    simp only [Nat.zero_add] at this
    rw [this, colOf]
    cases hl : cur.getLast? with
    | none => simp
    | some c => by_cases h1 : c = '\r' <;> by_cases h2 : p = '\n' <;> simp [h1, h2]

end GrmVerif.Newline
