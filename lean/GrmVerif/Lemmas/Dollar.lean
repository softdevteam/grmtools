import GrmVerif.Model.Dollar
/-!
Specification of the `$`-substitution (`dollarSpec`) and the lemmas that equate the byte-offset loop
of `Model/Dollar.lean` with it. Core Lean only (the driver evaluates `dollarSpec` for the `S` line).
-/
namespace GrmVerif.Dollar

/-- put `p` in front of a successful output; errors are unchanged -/
def Res.prepend (p : List Char) : Res → Res
  | .ok o => .ok (p ++ o)
  | r => r

/-- **Specification**: one left-to-right pass over the characters. `pos` is the byte offset of the
current character in the action text.
* a character other than `$` is copied;
* `$$` becomes one `$`; `$lexer` / `$span` become `<pfx>lexer` / `<pfx>span`;
* `$` followed by a numeric character becomes `<pfx>arg_` and the pass continues AT that character
  (so the digits follow the prefix verbatim: `$12` is `<pfx>arg_12`);
* any other `$` (also one that ends the text) is an error whose position is the offset just after
  that `$`; nothing is produced. -/
def specGo (num : Char → Bool) (pfx : List Char) : List Char → Nat → Res
  | [], _ => .ok []
  | c :: r, pos =>
    if c ≠ '$' then (specGo num pfx r (pos + c.utf8Size)).prepend [c]
    else if startsWith (c :: r) kwDollar then (specGo num pfx (r.drop 1) (pos + 2)).prepend ['$']
    else if startsWith (c :: r) kwLexer then (specGo num pfx (r.drop 5) (pos + 6)).prepend (pfx ++ idLexer)
    else if startsWith (c :: r) kwSpan then (specGo num pfx (r.drop 4) (pos + 5)).prepend (pfx ++ idSpan)
    else if firstIs num r then (specGo num pfx r (pos + 1)).prepend (pfx ++ idArg)
    else .err (pos + 1)
termination_by s => s.length
decreasing_by all_goals (simp only [List.length_cons, List.length_drop]; omega)

def dollarSpec (num : Char → Bool) (pfx s : List Char) : Res := specGo num pfx s 0

theorem byteLen_append (a b : List Char) : byteLen (a ++ b) = byteLen a + byteLen b := by
  induction a with
  | nil => exact (Nat.zero_add _).symm
  | cons c a ih => rw [List.cons_append, byteLen, byteLen, ih, Nat.add_assoc]

theorem length_le_byteLen (a : List Char) : a.length ≤ byteLen a := by
  induction a with
  | nil => exact Nat.le_refl 0
  | cons c a ih =>
    rw [List.length_cons, byteLen, Nat.add_comm]
    exact Nat.add_le_add (Char.utf8Size_pos c) ih

theorem sliceFrom_zero (s : List Char) : sliceFrom s 0 = some s := by
  cases s <;> rfl

theorem sliceFrom_append_add (a b : List Char) (k : Nat) : sliceFrom (a ++ b) (byteLen a + k) = sliceFrom b k := by
  induction a with
  | nil => rw [List.nil_append, byteLen, Nat.zero_add]
  | cons c a ih =>
    have := Char.utf8Size_pos c
    rw [List.cons_append, byteLen, Nat.add_assoc, sliceFrom,
      if_neg (Nat.ne_of_gt (Nat.lt_of_lt_of_le this (Nat.le_add_right ..))), if_pos (Nat.le_add_right ..),
      Nat.add_sub_cancel_left]
    exact ih

theorem sliceFrom_append (a b : List Char) : sliceFrom (a ++ b) (byteLen a) = some b :=
  (sliceFrom_append_add a b 0).trans (sliceFrom_zero b)

theorem takeBytes_zero (s : List Char) : takeBytes s 0 = some [] := by
  cases s <;> rfl

theorem takeBytes_append (a b : List Char) : takeBytes (a ++ b) (byteLen a) = some a := by
  induction a with
  | nil => exact takeBytes_zero b
  | cons c a ih =>
    have := Char.utf8Size_pos c
    rw [List.cons_append, byteLen, takeBytes, if_neg (Nat.ne_of_gt (Nat.lt_of_lt_of_le this (Nat.le_add_right ..))), if_pos (Nat.le_add_right ..),
      Nat.add_sub_cancel_left, ih]
    rfl

theorem slice_append (a b : List Char) (k : Nat) : slice (a ++ b) (byteLen a) (byteLen a + k) = takeBytes b k := by
  rw [slice, if_neg (Nat.not_lt.mpr (Nat.le_add_right ..)), sliceFrom_append, Nat.add_sub_cancel_left, Option.bind_some]

theorem findDollar_plain (p : List Char) (hp : '$' ∉ p) : findDollar p = none := by
  induction p with
  | nil => rfl
  | cons c p ih =>
    rw [findDollar, if_neg (List.ne_of_not_mem_cons hp).symm, ih (List.not_mem_of_not_mem_cons hp)]; rfl

theorem findDollar_at (p r : List Char) (hp : '$' ∉ p) :
    findDollar (p ++ '$' :: r) = some (byteLen p) := by
  induction p with
  | nil => rfl
  | cons c p ih =>
    rw [List.cons_append, findDollar, if_neg (List.ne_of_not_mem_cons hp).symm,
      ih (List.not_mem_of_not_mem_cons hp), Option.map_some, byteLen, Nat.add_comm]

theorem prepend_prepend (a b : List Char) (r : Res) : (r.prepend b).prepend a = r.prepend (a ++ b) := by
  cases r <;> simp [Res.prepend]

theorem prepend_nil (r : Res) : r.prepend [] = r := by
  cases r <;> rfl

theorem specGo_plain (num : Char → Bool) (pfx p t : List Char) (pos : Nat) (hp : '$' ∉ p) :
    specGo num pfx (p ++ t) pos = (specGo num pfx t (pos + byteLen p)).prepend p := by
  induction p generalizing pos with
  | nil => exact (prepend_nil _).symm
  | cons c p ih =>
    rw [List.cons_append, specGo, if_pos (List.ne_of_not_mem_cons hp).symm,
      ih _ (List.not_mem_of_not_mem_cons hp), prepend_prepend, byteLen, Nat.add_assoc]
    rfl

theorem split_at_dollar (s : List Char) :
    ∃ p t, s = p ++ t ∧ '$' ∉ p ∧ (t = [] ∨ ∃ r, t = '$' :: r) := by
  by_cases h : '$' ∈ s
  · obtain ⟨p, r, hs, hp⟩ := List.eq_append_cons_of_mem h
    exact ⟨p, _, hs, hp, Or.inr ⟨r, rfl⟩⟩
  · exact ⟨s, [], (List.append_nil s).symm, h, Or.inl rfl⟩

/-- what the `$` in front of `r` stands for: the reference it begins (`$$`, `$lexer`, `$span`, or the `$` alone
before a numeric character, which is then copied like any other) and its replacement. The tests are those of `step`
and `specGo`, in their order. -/
def expand (num : Char → Bool) (pfx r : List Char) : Option (List Char × List Char) :=
  if startsWith ('$' :: r) kwDollar then some (kwDollar, ['$'])
  else if startsWith ('$' :: r) kwLexer then some (kwLexer, pfx ++ idLexer)
  else if startsWith ('$' :: r) kwSpan then some (kwSpan, pfx ++ idSpan)
  else if firstIs num r then some (['$'], pfx ++ idArg)
  else none

section Step
variable (num : Char → Bool) (pfx : List Char)

theorem expand_spec (r : List Char) :
    match expand num pfx r with
    | some (kw, _) => ∃ r', '$' :: r = kw ++ r' ∧ r'.length ≤ r.length
    | none => startsWith ('$' :: r) kwDollar = false ∧ startsWith ('$' :: r) kwLexer = false ∧
        startsWith ('$' :: r) kwSpan = false ∧ firstIs num r = false := by
  have pre : ∀ {k}, startsWith ('$' :: r) k = true → 0 < k.length →
      ∃ r', '$' :: r = k ++ r' ∧ r'.length ≤ r.length := fun hk hl => by
    obtain ⟨r', ht⟩ := List.isPrefixOf_iff_prefix.mp hk
    have := congrArg List.length ht
    rw [List.length_append, List.length_cons] at this
    exact ⟨r', ht.symm, by omega⟩
  unfold expand
  cases h0 : startsWith ('$' :: r) kwDollar with
  | true => exact pre h0 (by decide)
  | false =>
    cases h1 : startsWith ('$' :: r) kwLexer with
    | true => exact pre h1 (by decide)
    | false =>
      cases h2 : startsWith ('$' :: r) kwSpan with
      | true => exact pre h2 (by decide)
      | false =>
        cases h3 : firstIs num r with
        | true => exact ⟨r, rfl, Nat.le_refl _⟩
        | false => exact ⟨rfl, rfl, rfl, rfl⟩

theorem elim_ite {α β} (c : Prop) [Decidable c] (a b : Option α) (E : β) (K : α → β) :
    (if c then a else b).elim E K = if c then a.elim E K else b.elim E K :=
  apply_ite (fun x => Option.elim x E K) c a b

theorem specGo_dollar (r : List Char) (pos : Nat) :
    specGo num pfx ('$' :: r) pos =
      (expand num pfx r).elim (.err (pos + 1))
        (fun ko => (specGo num pfx (('$' :: r).drop ko.1.length) (pos + byteLen ko.1)).prepend ko.2) := by
  rw [specGo, if_neg (fun h => h rfl)]
  -- both sides become the same chain of tests once `elim` is pushed into the branches of `expand`
  simp only [expand, elim_ite, Option.elim_some, Option.elim_none]
  rfl

theorem step_done (dn p outs : List Char) (hp : '$' ∉ p) :
    step num pfx (dn ++ p) (byteLen dn) outs = .done (outs ++ p) := by
  simp [step, sliceFrom_append, findDollar_plain p hp]

theorem step_dollar (dn p r outs : List Char) (hp : '$' ∉ p) :
    step num pfx (dn ++ (p ++ '$' :: r)) (byteLen dn) outs =
      (expand num pfx r).elim (.err (byteLen dn + byteLen p + 1))
        (fun ko => .next (byteLen dn + byteLen p + byteLen ko.1) (outs ++ (p ++ ko.2))) := by
  have t : p ++ '$' :: r = (p ++ ['$']) ++ r := by rw [List.append_assoc]; rfl
  have e : byteLen (p ++ ['$']) = byteLen p + 1 := byteLen_append ..
  have s1 : sliceFrom (dn ++ (p ++ '$' :: r)) (byteLen dn + byteLen p) = some ('$' :: r) := by
    rw [sliceFrom_append_add, sliceFrom_append]
  have s2 : slice (dn ++ (p ++ '$' :: r)) (byteLen dn) (byteLen dn + byteLen p) = some p := by
    rw [slice_append, takeBytes_append]
  have s3 : slice (dn ++ (p ++ '$' :: r)) (byteLen dn) (byteLen dn + byteLen p + 1) = some (p ++ ['$']) := by
    rw [Nat.add_assoc, slice_append, t, ← e, takeBytes_append]
  have s4 : sliceFrom (dn ++ (p ++ '$' :: r)) (byteLen dn + byteLen p + 1) = some r := by
    rw [Nat.add_assoc, sliceFrom_append_add, t, ← e, sliceFrom_append]
  have len : byteLen (dn ++ (p ++ '$' :: r)) = byteLen dn + byteLen p + 1 + byteLen r := by
    rw [t, byteLen_append, byteLen_append, e, ← Nat.add_assoc, ← Nat.add_assoc]
  -- the bound `last + off + 1 < s.len()` of the last branch says that `r` is not empty
  cases r with
  | nil =>
    simp only [step, sliceFrom_append, findDollar_at p [] hp, s1, s2, s3, s4, len, byteLen, Nat.add_zero,
      Nat.lt_irrefl, if_false, expand, elim_ite, Option.elim_some, Option.elim_none, firstIs, Bool.false_eq_true,
      List.append_assoc]
    rfl
  | cons c r =>
    have hlt : byteLen dn + byteLen p + 1 < byteLen dn + byteLen p + 1 + byteLen (c :: r) :=
      Nat.lt_add_of_pos_right (Nat.lt_of_lt_of_le (Char.utf8Size_pos c) (Nat.le_add_right _ (byteLen r)))
    simp only [step, sliceFrom_append, findDollar_at p (c :: r) hp, s1, s2, s3, s4, len, hlt, if_true, expand,
      elim_ite, Option.elim_some, Option.elim_none, List.append_assoc]
    rfl

end Step

theorem loop_eq_spec (num : Char → Bool) (pfx : List Char) (fuel : Nat) :
    ∀ (dn rest outs : List Char), rest.length < fuel →
      loop num pfx (dn ++ rest) fuel (byteLen dn) outs
        = (specGo num pfx rest (byteLen dn)).prepend outs := by
  induction fuel with
  | zero => intro dn rest outs h; exact absurd h (Nat.not_lt_zero _)
  | succ f ih =>
    intro dn rest outs hlen
    obtain ⟨p, t, rfl, hp, rfl | ⟨r, rfl⟩⟩ := split_at_dollar rest
    · rw [specGo_plain num pfx p [] _ hp, specGo, List.append_nil, loop, step_done num pfx dn p outs hp]
      simp only [Res.prepend, List.append_nil]
    · rw [specGo_plain num pfx p _ _ hp, prepend_prepend, loop, step_dollar num pfx dn p r outs hp,
        specGo_dollar]
      cases he : expand num pfx r with
      | none => rfl
      | some ko =>
        obtain ⟨kw, o⟩ := ko
        have hs := expand_spec num pfx r
        rw [he] at hs
        obtain ⟨r', hr, hk⟩ := hs
        rw [List.length_append, List.length_cons] at hlen
        have e : byteLen dn + byteLen p + byteLen kw = byteLen (dn ++ (p ++ kw)) := by
          simp only [byteLen_append, Nat.add_assoc]
        simp only [Option.elim_some]
        rw [hr, List.drop_left, ← List.append_assoc p, ← List.append_assoc dn, e, ih _ r' _ (by omega),
          prepend_prepend, List.append_assoc]

end GrmVerif.Dollar
