import GrmVerif.Lemmas.SearchLoops
import GrmVerif.Lemmas.RankDistance
/-!
What the ranking step of the modelled `CPCTPlus::recover` needs of the search (the whole of `recoverImpl` against the
reference answer is `C06.recover_eq_reference`): all sequences of one returned node let parsing continue
equally far (they end in the same stack and position — or in a stack that reduces, under the next
token, to the node's accepting stack), so `rank_cnds`, which replays only the FIRST sequence of every
group, ranks every sequence of the group correctly (`distance_of_resOK`, `distance_eq_reachD_group`) —
provided the candidates end inside the window `rank_cnds` parses on in (`WithinWindow`).
-/
namespace GrmVerif.SearchImpl
open LR Rec RankImpl

variable {E : Env} {start : Pos}

/-- the position a plain parse reaches from a configuration -/
def contPos (E : Env) (c : Pos) : Nat := (continueFrom E.G E.A E.w (E.w.length + 2) c 0).2.2

theorem contPos_of_accept {c : Pos} {s : List Nat}
    (h : feed E.G E.A (nextTok E.G E.w c.pos) FUEL c.stack = .accept s) : contPos E c = c.pos := by
  simp only [contPos, continueFrom, h]

/-- how far parsing continues after any sequence of a returned node: a function of the node alone -/
def nodeDist (E : Env) (start : Pos) (win : Nat) (m : PNode) : Nat :=
  min (contPos E ⟨m.pstack, m.laidx⟩) (start.pos + win)

theorem distance_of_resOK {c win : Nat} {m : PNode} (hm : ResOK E start c m) {s : List Repair}
    (hs : s ∈ seqs m.repairs) :
    distance E.G E.A E.w win start s = nodeDist E start win m ∧
      ∃ c', applySeq E.G E.A E.w start s = some c' := by
  obtain ⟨n, h1, _, h3, h4⟩ := resOK_isSuccess hm hs
  have happ := ipath_applySeq h1
  simp only [root] at happ
  refine ⟨?_, n.c, happ⟩
  simp only [distance, happ, nodeDist]
  show min (contPos E n.c) _ = _
  rcases h4 with h4 | ⟨h4, _⟩
  · rw [← h4, ← h3]
  · rw [contPos_of_accept h4]
    obtain ⟨st, rest, e, ha⟩ := feed_accept_top h4
    have h2 : feed E.G E.A (nextTok E.G E.w (⟨m.pstack, m.laidx⟩ : Pos).pos) FUEL (⟨m.pstack, m.laidx⟩ : Pos).stack =
        .accept m.pstack := by
      simp only
      rw [e]
      rw [feed_of_top_accept (by rw [← h3]; exact ha)]
    rw [contPos_of_accept h2, h3]

theorem map_erase_stripTrailing (s : Seq) :
    (stripTrailing s).map PRepair.erase = stripShifts (s.map PRepair.erase) := by
  have : isShift = (· == Repair.shift) ∘ PRepair.erase := funext fun r => by cases r <;> rfl
  rw [stripTrailing, stripShifts, List.map_reverse, this, ← List.dropWhile_map, List.map_reverse]

/-- every candidate sequence ends inside the window `rank_cnds` parses on in
(`in_laidx + TRY_PARSE_AT_MOST`); true, for instance, whenever the input ends inside that window -/
def WithinWindow (E : Env) (start : Pos) (win : Nat) : Prop :=
  ∀ k seq c', Search E.G E.A E.w E.cost E.N ⟨start, [], 0⟩ k seq →
    applySeq E.G E.A E.w start seq = some c' → c'.pos ≤ start.pos + win

theorem withinWindow_of_short {win : Nat} (hpos : start.pos ≤ E.w.length)
    (h : E.w.length ≤ start.pos + win) : WithinWindow E start win := by
  intro k seq c' _ happ
  exact Nat.le_trans ((applySeq_pos E.G E.A E.w seq start c' happ).2 hpos) h

/-- the group of sequences `collect_repairs` makes of a returned node -/
def groupOf (start : Pos) (m : PNode) : List Seq := (traverse m.repairs).map (attach start.pos)

theorem collectRepairs_eq (start : Pos) (res : List PNode) :
    collectRepairs start.pos res = res.map (groupOf start) := rfl

/-- the group of a returned node is not empty (`rpr_seqs[0]` exists) and starts with one of the node's
sequences -/
theorem groupOf_found (H : Hyps E start) {res : List PNode} {c : Nat} (hf : Found E start res c)
    {m : PNode} (hm : m ∈ res) :
    ∃ q rest, q ∈ traverse m.repairs ∧ q ∈ seqs m.repairs ∧
      groupOf start m = attach start.pos q :: rest := by
  have htr := traverse_of_resOK H (hf.resOK m hm)
  cases hts : traverse m.repairs with
  | nil => exact absurd hts (hf.nonempty m hm)
  | cons q rest =>
    exact ⟨q, rest.map (attach start.pos), List.mem_cons_self, by rw [← htr, hts]; exact List.mem_cons_self,
      by rw [groupOf, hts]; rfl⟩

/-- **`rank_cnds` measures, for the group of a returned node, the distance of every sequence of the
node** -/
theorem distance_eq_reachD_group (H : Hyps E start) {win : Nat} (hwin : WithinWindow E start win)
    {res : List PNode} {c : Nat} (hf : Found E start res c) {m : PNode} (hm : m ∈ res) {d : Nat}
    (hr : groupReach E.G E.A E.w win start (groupOf start m) = some d) {s : List Repair}
    (hs : s ∈ traverse m.repairs) :
    distance E.G E.A E.w win start s = reachD E.G E.A E.w win start (groupOf start m) := by
  obtain ⟨s0, rest, hs0t, hs0, hg⟩ := groupOf_found H hf hm
  obtain ⟨hd, c', happ⟩ := distance_of_resOK (win := win) (hf.resOK m hm) hs0
  rw [hg] at hr ⊢
  have := reach_eq_distance (G := E.G) (A := E.A) (w := E.w) H.eof (win := win) (start := start)
    (c' := c') (seq := attach start.pos s0) (d := d) H.pos (by rw [erase_map_attach]; exact happ)
    (hwin c s0 c' (hf.sound m hm s0 hs0t) happ) hr
  simp only [reachD, hr, Option.getD_some, this, erase_map_attach, hd]
  rw [traverse_of_resOK H (hf.resOK m hm)] at hs
  exact (distance_of_resOK (hf.resOK m hm) hs).1

end GrmVerif.SearchImpl
