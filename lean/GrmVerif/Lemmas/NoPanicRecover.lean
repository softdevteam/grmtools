import GrmVerif.Lemmas.NoPanicSearch
import GrmVerif.Lemmas.CpctRun
/-!
Panic-freedom of the POST-PROCESSING of the modelled `CPCTPlus::recover` (`recoverTail`: `collect_repairs`,
`rank_cnds`, `simplify_repairs`, `apply_repairs` of the first reported sequence), hence of the whole
`recoverImpl` / `cpctOutcome`, and of every call of the recoverer in a run of the recovering driver.

* `rpr_seqs[0]` exists: the group of a returned node is non-empty (`Found.nonempty`);
* `apply_repairs` of `rpr_seqs[0]` replays a sequence that applies with plain LR semantics
  (`Found.resOK`, `ipath_applySeq`), where it agrees with `applySeq` (`applyRepairs_of_applySeq`) and
  leaves a path stack inside the input (`C07.applySeq_isPath`);
* `lr_upto` from there feeds real lexemes to a path stack: no crash (`C07.feed_ne_crash`), and the
  `|w| + 2` iterations the model gives its loop are enough (`lrUptoO_cases`);
* `rnk_rprs[0]` exists: `rank_cnds` keeps a group, `simplify_repairs` of a non-empty list is non-empty
  (`HashSetLike`); the final `apply_repairs` replays a stripped minimum-cost sequence, which applies
  (`search_stripped_valid`).

What is left besides a proper answer is `.fuelOut`, and for the post-processing it is characterised
exactly: some run of reductions under one lookahead, on a stack that is a path of the automaton, needs
more than the model's constant `FUEL` steps (`FeedStuck`).

At the end: the Boolean forms of the hypotheses (`isPathB_iff`, `inputOk_of_B`, `noPanicTableB_of`), and the
one panic of `collect_repairs` the model cannot show because its `attach` is total — `next_lexeme` past
the end in `repair_to_parse_repair`: every lexeme index a collected sequence names is inside the input
(`LexemesIn`, `collectRepairs_lexemesIn`).
-/
namespace GrmVerif.Cpct
open LR Rec RankImpl SearchImpl Cert Term

/-- some run of reductions under one lookahead (a token of the grammar), started on a stack that is a
path of the automaton, is not over after the model's `FUEL` (= 2000) steps -/
def FeedStuck (G : Grammar) (A : Automaton) : Prop :=
  ∃ la stack, la < G.ntoks ∧ IsPath A stack ∧ feed G A la FUEL stack = .fuelOut

section
variable {G : Grammar} {A : Automaton} {w : List Nat}

/-- **`lr_upto` on a path stack**: with more iterations than lexemes left it answers, unless a `feed`
runs out of the model's `FUEL`; it never panics -/
theorem lrUptoO_cases (P : Props G A) (hw : InputOk G w) (endIdx : Nat) :
    ∀ (fuel : Nat) (c : Pos), IsPath A c.stack → w.length - c.pos < fuel →
      (∃ c', lrUptoO G A w endIdx fuel c = .ok c') ∨
      (lrUptoO G A w endIdx fuel c = .fuelOut ∧ FeedStuck G A) := by
  intro fuel
  induction fuel with
  | zero => intro c _ h; exact absurd h (Nat.not_lt_zero _)
  | succ f ih =>
    intro c hp hf
    simp only [lrUptoO]
    split
    · exact Or.inl ⟨c, rfl⟩
    · have hla : nextTok G w c.pos < G.ntoks := nextTok_lt hw P.wf c.pos
      cases hfd : feed G A (nextTok G w c.pos) FUEL c.stack with
      | shifted s =>
        have hlt : c.pos < w.length := pos_lt_of_shifted (eofNeverShifted_of_props P) hfd
        exact ih ⟨s, c.pos + 1⟩ (C07.feed_shifted_isPath P hla hp hfd).1
          (Nat.lt_of_lt_of_le (Nat.sub_lt_sub_left hlt (Nat.lt_succ_self _)) (Nat.le_of_lt_succ hf))
      | crash => exact absurd hfd (C07.feed_ne_crash P hla hp)
      | fuelOut => exact Or.inr ⟨rfl, _, _, hla, hp, hfd⟩
      | _ => exact Or.inl ⟨_, rfl⟩

theorem reachO_cases (P : Props G A) (hw : InputOk G w) {start c' : Pos} {q : List Repair}
    (hpos : start.pos ≤ w.length) (hp : IsPath A start.stack) (hins : C07.InsertsOk G q)
    (happ : applySeq G A w start q = some c') (win la : Nat) :
    (∃ d, reachO G A w win start (attach la q) = .ok d) ∨
    (reachO G A w win start (attach la q) = .fuelOut ∧ FeedStuck G A) := by
  have h1 := (applyRepairs_of_applySeq (G := G) (A := A) (w := w) (attach la q) start c' hpos
    (by rw [erase_map_attach]; exact happ)).1
  have h2 := applyRepairsO_of_some h1
  have hp' : IsPath A c'.stack := C07.applySeq_isPath P hw q start c' hins hp happ
  simp only [reachO, h2]
  rcases lrUptoO_cases P hw (start.pos + win) (w.length + 2) c' hp'
      (Nat.lt_of_le_of_lt (Nat.sub_le _ _) (Nat.lt_add_of_pos_right (Nat.succ_pos 1))) with ⟨c'', h⟩ | ⟨h, hst⟩
  · rw [h]; exact Or.inl ⟨_, rfl⟩
  · rw [h]; exact Or.inr ⟨rfl, hst⟩

/-- a group `rank_cnds` can handle: it is non-empty and its first sequence applies -/
def GroupOk (G : Grammar) (A : Automaton) (w : List Nat) (start : Pos) (g : List Seq) : Prop :=
  ∃ q rest la c', g = attach la q :: rest ∧ C07.InsertsOk G q ∧ applySeq G A w start q = some c'

theorem scoreCndsO_cases (P : Props G A) (hw : InputOk G w) {start : Pos} (hpos : start.pos ≤ w.length)
    (hp : IsPath A start.stack) (win : Nat) : ∀ gs : List (List Seq), (∀ g ∈ gs, GroupOk G A w start g) →
    (∃ sc, scoreCndsO G A w win start gs = .ok sc) ∨
    (scoreCndsO G A w win start gs = .fuelOut ∧ FeedStuck G A) := by
  intro gs
  induction gs with
  | nil => intro _; exact Or.inl ⟨[], rfl⟩
  | cons g gs ih =>
    intro hall
    obtain ⟨q, rest, la, c', rfl, hins, happ⟩ := hall g List.mem_cons_self
    simp only [scoreCndsO, groupReachO]
    rcases reachO_cases P hw hpos hp hins happ win la with ⟨d, h⟩ | ⟨h, hst⟩
    · rw [h]
      simp only
      rcases ih (fun g hg => hall g (List.mem_cons_of_mem _ hg)) with ⟨sc, h'⟩ | ⟨h', hst⟩
      · rw [h']; exact Or.inl ⟨_, rfl⟩
      · rw [h']; exact Or.inr ⟨rfl, hst⟩
    · rw [h]; exact Or.inr ⟨rfl, hst⟩

theorem rankCndsO_cases (P : Props G A) (hw : InputOk G w) {start : Pos} (hpos : start.pos ≤ w.length)
    (hp : IsPath A start.stack) (win : Nat) (gs : List (List Seq)) (hall : ∀ g ∈ gs, GroupOk G A w start g) :
    (∃ kept, rankCndsO G A w win start gs = .ok kept) ∨
    (rankCndsO G A w win start gs = .fuelOut ∧ FeedStuck G A) := by
  unfold rankCndsO
  rcases scoreCndsO_cases P hw hpos hp win gs hall with ⟨sc, h⟩ | ⟨h, hst⟩
  · rw [h]; exact Or.inl ⟨_, rfl⟩
  · rw [h]; exact Or.inr ⟨rfl, hst⟩

end

section
variable {E : Env} {hs : List Seq → List Seq} {avoid : Nat → Bool} {lexStart : Nat → Nat} {win fuel : Nat}

/-- **The post-processing of `recover` never panics** on the nodes a properly ended search returned:
it answers, or the model's constant `FUEL` of `feed` is exhausted by some run of reductions on a path
stack (`FeedStuck`) — which the model reports as `.fuelOut`, not as a panic. -/
theorem recoverTail_cases {start : Pos} (H : Hyps E start) (P : Props E.G E.A) (hw : InputOk E.G E.w)
    (hp : IsPath E.A start.stack) (hhs : HashSetLike hs) {res : List PNode}
    (hd : dijkstra E fuel start = .ok res) :
    (∃ r, recoverTail E hs avoid lexStart win start res = .ok r) ∨
    (recoverTail E hs avoid lexStart win start res = .fuelOut ∧ FeedStuck E.G E.A) := by
  by_cases hne : res = []
  · subst hne; exact Or.inl ⟨_, rfl⟩
  obtain ⟨k, hf⟩ := found_of_dijkstra H hd hne
  have hgroups : ∀ g ∈ collectRepairs start.pos res, GroupOk E.G E.A E.w start g := by
    intro g hg
    rw [collectRepairs_eq] at hg
    obtain ⟨m, hm, rfl⟩ := List.mem_map.mp hg
    obtain ⟨q, rest, _, hq, hgq⟩ := groupOf_found H hf hm
    obtain ⟨n, h1, _⟩ := resOK_isSuccess (hf.resOK m hm) hq
    exact ⟨q, rest, start.pos, n.c, hgq, ipath_insertsOk h1, ipath_applySeq h1⟩
  have := recoverTail_found (avoid := avoid) (lexStart := lexStart) (win := win) H hhs hf hne
  rcases rankCndsO_cases P hw H.pos hp win _ hgroups with ⟨kept, hrk⟩ | ⟨hrk, hst⟩
  · rw [hrk] at this
    obtain ⟨_, _, _, _, _, h⟩ := this
    exact Or.inl ⟨_, h⟩
  · rw [hrk] at this
    exact Or.inr ⟨this, hst⟩

/-- **The model of `CPCTPlus::recover` never panics** at a configuration that satisfies the hypotheses of
the search theorems and whose stack is a path of a certified automaton: it answers, or it runs out of
model fuel — the search's loop fuel / a `feed`'s `FUEL` inside the search (`dijkstra … = .fuelOut`), or a
`feed`'s `FUEL` in the post-processing (`FeedStuck`). -/
theorem recoverImpl_cases {start : Pos} (H : Hyps E start) (P : Props E.G E.A) (hw : InputOk E.G E.w)
    (hp : IsPath E.A start.stack) (hhs : HashSetLike hs) :
    (∃ r, recoverImpl E hs avoid lexStart win fuel start = .ok r) ∨
    (recoverImpl E hs avoid lexStart win fuel start = .fuelOut ∧
      (dijkstra E fuel start = .fuelOut ∨ FeedStuck E.G E.A)) := by
  unfold recoverImpl
  cases hd : dijkstra E fuel start with
  | panic => exact absurd hd (dijkstra_ne_panic H P hw hp fuel)
  | fuelOut => exact Or.inr ⟨rfl, Or.inl rfl⟩
  | ok res =>
    simp only
    rcases recoverTail_cases (avoid := avoid) (lexStart := lexStart) (win := win) H P hw hp hhs hd with
      ⟨r, h⟩ | ⟨h, hst⟩
    · exact Or.inl ⟨r, h⟩
    · exact Or.inr ⟨h, Or.inr hst⟩

theorem recoverImpl_ne_panic {start : Pos} (H : Hyps E start) (P : Props E.G E.A) (hw : InputOk E.G E.w)
    (hp : IsPath E.A start.stack) (hhs : HashSetLike hs) :
    recoverImpl E hs avoid lexStart win fuel start ≠ .panic := by
  rcases recoverImpl_cases (avoid := avoid) (lexStart := lexStart) (win := win) (fuel := fuel) H P hw hp hhs
    with ⟨r, h⟩ | ⟨h, _⟩ <;> (rw [h]; intro e; cases e)

theorem cpctOutcome_ne_panicked {start : Pos} (H : Hyps E start) (P : Props E.G E.A) (hw : InputOk E.G E.w)
    (hp : IsPath E.A start.stack) (hhs : HashSetLike hs) :
    cpctOutcome E hs avoid lexStart win fuel start ≠ .panicked := by
  have := recoverImpl_ne_panic (avoid := avoid) (lexStart := lexStart) (win := win) (fuel := fuel) H P hw hp hhs
  unfold cpctOutcome
  cases hr : recoverImpl E hs avoid lexStart win fuel start with
  | panic => exact absurd hr this
  | fuelOut => intro e; cases e
  | ok x => obtain ⟨c', out⟩ := x; simp only; split <;> (intro e; cases e)

theorem cpctOutcome_outOfBudget {start : Pos} (H : Hyps E start) (P : Props E.G E.A) (hw : InputOk E.G E.w)
    (hp : IsPath E.A start.stack) (hhs : HashSetLike hs)
    (h : cpctOutcome E hs avoid lexStart win fuel start = .outOfBudget) :
    cpctRecover E hs avoid lexStart win fuel start = none ∧
    (dijkstra E fuel start = .fuelOut ∨ FeedStuck E.G E.A) := by
  unfold cpctOutcome at h
  unfold cpctRecover
  rcases recoverImpl_cases (avoid := avoid) (lexStart := lexStart) (win := win) (fuel := fuel) H P hw hp hhs
    with ⟨r, hr⟩ | ⟨hr, hwhy⟩
  · obtain ⟨c', out⟩ := r
    rw [hr] at h
    simp only at h
    split at h <;> cases h
  · rw [hr]; exact ⟨rfl, hwhy⟩

theorem recCalls_isPath {G : Grammar} {A : Automaton} {w : List Nat} (P : Props G A) (hw : InputOk G w)
    {recover : Recoverer}
    (hback : ∀ c c' rs, errCfg G A w c = true → IsPath A c.stack → recover c = some (c', rs) → rs ≠ [] →
      IsPath A c'.stack ∧ c'.pos ≤ w.length) :
    ∀ (fuel : Nat) (c : Pos), IsPath A c.stack → c.pos ≤ w.length →
      ∀ x ∈ recCalls G A w recover fuel c, errCfg G A w x = true ∧ IsPath A x.stack := by
  intro fuel c hp hc
  refine recCalls_inv (Inv := fun c => IsPath A c.stack ∧ c.pos ≤ w.length)
    (Q := fun x => errCfg G A w x = true ∧ IsPath A x.stack) ?_ ?_
    (fun c c' rs hq hr hne => hback c c' rs hq.1 hq.2 hr hne) fuel c ⟨hp, hc⟩
  · intro c s hc hf
    exact ⟨(C07.feed_shifted_isPath P (nextTok_lt hw P.wf c.pos) hc.1 hf).1, pos_lt_of_shifted (eofNeverShifted_of_props P) hf⟩
  · intro c s hc hf
    exact ⟨errCfg_of_feed_error hf hc.2, C07.feed_error_isPath P (nextTok_lt hw P.wf c.pos) hc.1 hf⟩

theorem cpct_hands_back_path (T : TableOK E) (P : Props E.G E.A) (hw : InputOk E.G E.w)
    (hhs : HashSetLike hs) {c c' : Pos} {rs : List (List Repair)} (he : errCfg E.G E.A E.w c = true)
    (hp : IsPath E.A c.stack) (h : cpctRecover E hs avoid lexStart win fuel c = some (c', rs)) :
    IsPath E.A c'.stack ∧ c'.pos ≤ E.w.length := by
  obtain ⟨⟨s0, rest, hrs, happ⟩, _, _, hall⟩ := cpct_report T hhs he h
  have hins : C07.InsertsOk E.G s0 := fun t ht => ((hall s0 (by rw [hrs]; simp)).2.1 t ht).1
  exact ⟨C07.applySeq_isPath P hw s0 c c' hins hp happ, (applySeq_pos E.G E.A E.w s0 c c' happ).2 (hyps_of_errCfg T he).pos⟩

/-- **In a run of the modelled recovering parser no call of the recoverer panics**: every configuration
at which the driver consults `cpctRecover` is an error configuration whose stack is a path, and there
the model of `recover` does not panic. -/
theorem cpct_calls_never_panic (T : TableOK E) (P : Props E.G E.A) (hw : InputOk E.G E.w)
    (hhs : HashSetLike hs) (n : Nat) (c0 : Pos) (hp0 : IsPath E.A c0.stack) (hc0 : c0.pos ≤ E.w.length) :
    ∀ x ∈ recCalls E.G E.A E.w (cpctRecover E hs avoid lexStart win fuel) n c0,
      errCfg E.G E.A E.w x = true ∧ IsPath E.A x.stack ∧
      cpctOutcome E hs avoid lexStart win fuel x ≠ .panicked := by
  intro x hx
  obtain ⟨he, hp⟩ := recCalls_isPath P hw
    (fun c c' rs he hp h _ => cpct_hands_back_path (avoid := avoid) (lexStart := lexStart) (win := win)
      (fuel := fuel) T P hw hhs he hp h) n c0 hp0 hc0 x hx
  exact ⟨he, hp, cpctOutcome_ne_panicked (hyps_of_errCfg T he) P hw hp hhs⟩

end

theorem isPathB_iff (A : Automaton) : ∀ xs : List Nat, isPathB A xs = true ↔ IsPath A xs := by
  intro xs
  induction xs with
  | nil =>
    simp only [isPathB]
    constructor
    · intro h; cases h
    · intro h; obtain ⟨st, rest, e⟩ := isPath_cons h; cases e
  | cons t tl ih =>
    cases tl with
    | nil =>
      simp only [isPathB, beq_iff_eq]
      constructor
      · intro h; subst h; exact IsPath.start A
      · intro h; exact h.single
    | cons s rest =>
      simp only [isPathB, Bool.and_eq_true, adj_iff]
      constructor
      · rintro ⟨⟨X, hX⟩, h⟩
        exact (ih.mp h).push hX
      · intro h
        exact ⟨h.tail.2, ih.mpr h.tail.1⟩

theorem inputOk_of_B {G : Grammar} {w : List Nat} (h : inputOkB G w = true) : InputOk G w := by
  intro t ht
  simp only [inputOkB, List.all_eq_true, Bool.and_eq_true, decide_eq_true_eq, bne_iff_ne, ne_eq] at h
  exact h t ht

theorem noPanicTableB_of {G : Grammar} {A : Automaton} {N : Nat} (hc : Cert.check G A = true)
    (hsa : stateActionsExactB G A = true) (hN : 1 ≤ N) : noPanicTableB G A N = true := by
  simp only [noPanicTableB, hc, hsa, hN, decide_true, Bool.and_self]

/-- every lexeme a sequence names (the argument of `next_lexeme` in `repair_to_parse_repair`) is a
lexeme of the input -/
def LexemesIn (n : Nat) (s : Seq) : Prop :=
  ∀ r ∈ s, match r with
    | .insert _ => True
    | .delete l => l < n
    | .shift l => l < n

theorem attach_lexemesIn {G : Grammar} {A : Automaton} {w : List Nat} :
    ∀ (q : List Repair) (c c' : Pos), applySeq G A w c q = some c' → LexemesIn w.length (attach c.pos q) := by
  intro q c c'
  exact applySeq_induction (motive := fun c q => LexemesIn w.length (attach c.pos q)) nofun
    (fun _ _ _ _ _ ih => List.forall_mem_cons.mpr ⟨trivial, ih⟩)
    (fun _ _ hlt ih => List.forall_mem_cons.mpr ⟨hlt, ih⟩)
    (fun _ _ _ hlt _ ih => List.forall_mem_cons.mpr ⟨hlt, ih⟩) q c

theorem collectRepairs_lexemesIn {E : Env} {start : Pos} (H : Hyps E start) {fuel : Nat} {res : List PNode}
    (hd : dijkstra E fuel start = .ok res) :
    ∀ g ∈ collectRepairs start.pos res, ∀ s ∈ g, LexemesIn E.w.length s := by
  intro g hg s hs
  have hne : res ≠ [] := by
    intro e; subst e; simp [collectRepairs] at hg
  obtain ⟨k, hf⟩ := found_of_dijkstra H hd hne
  rw [collectRepairs_eq] at hg
  obtain ⟨m, hm, rfl⟩ := List.mem_map.mp hg
  obtain ⟨q, hq, rfl⟩ := List.mem_map.mp hs
  have hro := hf.resOK m hm
  rw [traverse_of_resOK H hro] at hq
  obtain ⟨n, h1, _⟩ := resOK_isSuccess hro hq
  have := ipath_applySeq h1
  exact attach_lexemesIn q (root start).c n.c this

end GrmVerif.Cpct
