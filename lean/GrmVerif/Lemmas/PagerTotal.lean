import GrmVerif.Lemmas.PagerInvB
import GrmVerif.Lemmas.PagerGc
import GrmVerif.Lemmas.CloseData
import GrmVerif.Model.PagerImpl
/-!
Every outcome of one iteration, of the main loop and of the whole modelled `pager_stategraph` (`PagerImpl.pager`),
for every list of orders and every `maxStates`: a refused order, too few orders, the `StorageT` guard, or a normal
end in a state that satisfies the invariant. Soundness (whenever the result is `.ok`) and panic-freedom (when
`maxStates` exceeds the number of key visits: every `unwrap`, index and `position(..).unwrap()` of the main loop,
of `gc` and of the final collection is safe) are both read off it. At the end, what `Props/C02.lean` needs to hand the
result to the certificate checker: the automaton view of the output (`toAutomaton`) and the inversion of closure items.
-/
namespace GrmVerif.PagerImpl
open CloseImpl Closure

/-- the order `o` is refused in state `st`: its `coreKeys` is not an enumeration of the keys of the core
state that is processed next, or its `closedKeys` is not an enumeration of the keys of that state's closure -/
def BadOrderAt (G : Grammar) (N : Nat → Bool) (F : Nat × Nat → Bool) (o : Order) (st : St) : Prop :=
  ∃ stateI core, nextState st.closed st.todoOff = some stateI ∧ st.core[stateI]? = some core ∧
    (keysOk core o.coreKeys = false ∨
     ∃ cl, close G N F core o.coreKeys (closeFuel G o.coreKeys) = .done cl ∧ keysOk cl o.closedKeys = false)

theorem symLoop_news {G : Grammar} (hwf : G.wf = true) {core cl : List Item} (hclosed : ClosedOf G core cl)
    (hcl : CoreOk G cl) {keys : List (Nat × Nat)} (hk : keysOk cl keys = true) :
    ∃ news, symLoop G cl keys [] [] = some news ∧ news.length ≤ keys.length ∧ (∀ sn ∈ news, NewOk G core cl sn) ∧
      ∀ p d X, HasItem cl p d → (G.rhs p)[d]? = some X → ∃ sn ∈ news, sn.1 = X := by
  have hkeys := keysOk_iff hk
  obtain ⟨news, hsl, hnl, hall, hpush⟩ := symLoop_spec hwf hcl keys (fun k hk => (hkeys k.1 k.2).mp hk) [] []
  refine ⟨news, hsl, hnl, fun sn hsn => ?_, fun p d X hi hX => ?_⟩
  · obtain ⟨hgo, k, hkm, hget⟩ := hpush sn hsn
    have hki := (hkeys k.1 k.2).mp hkm
    obtain ⟨hok, hitem, _⟩ := goto_itemsOk hcl hgo
    refine ⟨hgo, Spec.wf_sym hwf (coreOk_item hcl hki).1 (List.mem_of_getElem? hget), hok, fun hnil => ?_,
      k.1, k.2, (hclosed.2.1 _ _).mp hki, hget⟩
    obtain ⟨i, hi, _⟩ := (hitem k.1 (k.2 + 1)).mpr ⟨k.2, rfl, hki, hget⟩
    rw [hnil] at hi; cases hi
  · rcases hall (p, d) ((hkeys p d).mpr hi) X hX with h1 | h
    · cases X <;> cases h1
    · exact h

theorem iter_spec {G : Grammar} (hwf : G.wf = true) {N : Nat → Bool} {F : Nat × Nat → Bool}
    (hN : ∀ r, N r = true ↔ Spec.NullableR G r) (hF : ∀ r t, F (r, t) = true ↔ Spec.FirstP G r t)
    {maxStates : Nat} {o : Order} {st : St} (inv : InvT G st) (invB : InvB G st none) (hpos : st.todo ≠ 0) :
    (iter G N F maxStates o st = .badOrder ∧ BadOrderAt G N F o st) ∨
    (iter G N F maxStates o st = .panic ∧ maxStates < st.core.length + o.closedKeys.length) ∨
    ∃ r, iter G N F maxStates o st = .ok r ∧ InvT G r.1 ∧ InvB G r.1 none ∧
      r.1.core.length ≤ st.core.length + o.closedKeys.length := by
  obtain ⟨stateI, hns, hnone⟩ := nextState_spec (closed := st.closed) (off := st.todoOff)
    (by rw [← inv.todo]; exact Nat.pos_of_ne_zero hpos)
  have hltc : stateI < st.closed.length := getElem?_some_lt hnone
  obtain ⟨core, hcore⟩ := getElem?_of_lt (inv.len1 ▸ hltc)
  unfold iter
  simp only [hns, hcore, ofOption, Res.bind]
  cases hk1 : keysOk core o.coreKeys with
  | false => exact Or.inl ⟨rfl, stateI, core, hns, hcore, Or.inl hk1⟩
  | true =>
  rw [if_neg (by decide)]
  obtain ⟨cl, hR, hclosed, hclOk, inv1⟩ := inv.close hwf hN hF hnone hcore hk1
  simp only [hR, closeRes]
  cases hk2 : keysOk cl o.closedKeys with
  | false => exact Or.inl ⟨rfl, stateI, core, hns, hcore, Or.inr ⟨cl, hR, hk2⟩⟩
  | true =>
  rw [if_neg (by decide)]
  obtain ⟨news, hsl, hnl, hnews, hall⟩ := symLoop_news hwf hclosed hclOk.1 hk2
  simp only [hsl]
  -- the state in which the `new_states` loop starts: the other closed states are untouched, nothing is done yet
  rcases processAll_spec (maxStates := maxStates) (core0 := core) (cl := cl) (done := []) news inv1
    ⟨fun s cl' es hne hc he => invB.edgeOk s cl' es nofun
      ((List.getElem?_set_ne (fun e => hne (by rw [e]))).symm.trans hc) he, invB.staleOk⟩
    ⟨⟨core, hcore, Grow.refl core⟩,
      fun cl' hc => (Option.some.inj (Option.some.inj ((List.getElem?_set_self hltc).symm.trans hc))).symm,
      fun es _ _ => ⟨fun e _ hd => (nomatch hd), fun X hX => (nomatch hX)⟩⟩
    hnews with ⟨e, hm⟩ | ⟨st2, e, inv2, invB2, invP2, hle⟩
  · rw [e]; exact Or.inr (Or.inl ⟨rfl, Nat.lt_of_lt_of_le hm (Nat.add_le_add_left hnl _)⟩)
  rw [e]
  refine Or.inr (Or.inr ⟨_, rfl, inv2, ⟨?_, invB2.staleOk⟩, Nat.le_trans hle (Nat.add_le_add_left hnl _)⟩)
  have hdone : ∀ p d X, HasItem cl p d → (G.rhs p)[d]? = some X → X ∈ news.reverse.map (·.1) ++ [] := by
    intro p d X hi hX
    obtain ⟨sn, hsn, e⟩ := hall p d X hi hX
    rw [← e, List.append_nil]; exact List.mem_map_of_mem (List.mem_reverse.mpr hsn)
  intro s cl' es _ hc he
  by_cases hs : s = stateI
  · -- `state_i`, if it was not re-opened by a merge into itself: every symbol after a dot of `cl` was handled, and
    -- an edge left over from an earlier pass has such a symbol, so it was overwritten
    subst hs
    have := invP2.curCl cl' hc
    subst this
    obtain ⟨a, b⟩ := invP2.cur es hc he
    obtain ⟨c2, hc2, _⟩ := invP2.grow
    have hcl2 := inv2.closedOk s cl' c2 hc hc2
    refine ⟨?_, fun p d X hi hX => b X (hdone p d X hi hX)⟩
    intro e hee
    obtain ⟨p, d, hcp, hX⟩ := invB2.staleOk s c2 es hc2 he e hee
    exact a e hee (hdone p d e.1 ((hcl2.2.1 p d).mpr hcp) hX)
  · exact invB2.edgeOk s cl' es (fun e => hs (by cases e; rfl)) hc he

theorem mainLoop_spec {G : Grammar} (hwf : G.wf = true) {N : Nat → Bool} {F : Nat × Nat → Bool}
    (hN : ∀ r, N r = true ↔ Spec.NullableR G r) (hF : ∀ r t, F (r, t) = true ↔ Spec.FirstP G r t)
    {maxStates : Nat} :
    ∀ (orders : List Order) {st : St}, InvT G st → InvB G st none →
      (mainLoop G N F maxStates orders st = .badOrder ∧ ∃ pre o post st', orders = pre ++ o :: post ∧
        Steps G N F maxStates pre st st' ∧ st'.todo ≠ 0 ∧ BadOrderAt G N F o st') ∨
      (mainLoop G N F maxStates orders st = .fuelOut ∧ ∃ st', Steps G N F maxStates orders st st' ∧ st'.todo ≠ 0) ∨
      (mainLoop G N F maxStates orders st = .panic ∧
        maxStates < st.core.length + (orders.map (fun o => o.closedKeys.length)).sum) ∨
      ∃ r, mainLoop G N F maxStates orders st = .ok r ∧
        (∃ pre post, orders = pre ++ post ∧ Steps G N F maxStates pre st r.1) ∧ InvT G r.1 ∧ InvB G r.1 none ∧
        r.1.todo = 0 ∧ r.1.core.length ≤ st.core.length + (orders.map (fun o => o.closedKeys.length)).sum := by
  intro orders
  induction orders with
  | nil =>
    intro st inv invB
    by_cases h0 : st.todo = 0
    · exact Or.inr (Or.inr (Or.inr ⟨_, mainLoop_zero h0, ⟨[], [], rfl, .nil st⟩, inv, invB, h0, Nat.le_refl _⟩))
    · rw [mainLoop, if_neg h0]; exact Or.inr (Or.inl ⟨rfl, st, .nil st, h0⟩)
  | cons o rest ih =>
    intro st inv invB
    rw [List.map_cons, List.sum_cons, ← Nat.add_assoc]
    by_cases h0 : st.todo = 0
    · exact Or.inr (Or.inr (Or.inr ⟨_, mainLoop_zero h0, ⟨[], o :: rest, rfl, .nil st⟩, inv, invB, h0,
        Nat.le_trans (Nat.le_add_right _ _) (Nat.le_add_right _ _)⟩))
    · rw [mainLoop, if_neg h0]
      rcases iter_spec hwf hN hF (maxStates := maxStates) (o := o) inv invB h0 with
        ⟨hi, hbad⟩ | ⟨hi, hm⟩ | ⟨r, hi, invr, invBr, hle⟩
      · left; rw [hi]; exact ⟨rfl, [], o, rest, st, rfl, .nil st, h0, hbad⟩
      · right; right; left; rw [hi]; exact ⟨rfl, Nat.lt_of_lt_of_le hm (Nat.le_add_right _ _)⟩
      · rw [hi]
        simp only [Res.bind]
        have hmono := Nat.add_le_add_right hle (rest.map (fun o => o.closedKeys.length)).sum
        rcases ih invr invBr with
          ⟨h, pre, o', post, st', e, hs, ht, hb⟩ | ⟨h, st', hs, ht⟩ | ⟨h, hm⟩ | ⟨r2, h, ⟨pre, post, e, hs⟩, a, b, c, hl⟩
        · left; rw [h]; exact ⟨rfl, o :: pre, o', post, st', by rw [e]; rfl, .cons h0 hi hs, ht, hb⟩
        · right; left; rw [h]; exact ⟨rfl, st', .cons h0 hi hs, ht⟩
        · right; right; left; rw [h]; exact ⟨rfl, Nat.lt_of_lt_of_le hm hmono⟩
        · right; right; right; rw [h]
          exact ⟨_, rfl, ⟨o :: pre, post, by rw [e]; rfl, .cons h0 hi hs⟩, a, b, c, Nat.le_trans hl hmono⟩

/-- Every outcome of the modelled `pager_stategraph`, for any orders and any `maxStates`. `panic` is left only where
`maxStates` does not exceed `1 +` the number of key visits (each visit creates at most one state): the `StorageT`
guard of `newState` or the final check of the state count. -/
theorem pager_spec {G : Grammar} (hwf : G.wf = true) {N : Nat → Bool} {F : Nat × Nat → Bool}
    (hN : ∀ r, N r = true ↔ Spec.NullableR G r) (hF : ∀ r t, F (r, t) = true ↔ Spec.FirstP G r t)
    (maxStates : Nat) (orders : List Order) :
    (pager G N F maxStates orders = .badOrder ∧ ∃ pre o post st', orders = pre ++ o :: post ∧
      Steps G N F maxStates pre (initSt G) st' ∧ st'.todo ≠ 0 ∧ BadOrderAt G N F o st') ∨
    (pager G N F maxStates orders = .fuelOut ∧ ∃ st', Steps G N F maxStates orders (initSt G) st' ∧ st'.todo ≠ 0) ∨
    (pager G N F maxStates orders = .panic ∧ maxStates ≤ 1 + (orders.map (fun o => o.closedKeys.length)).sum) ∨
    ∃ r out, mainLoop G N F maxStates orders (initSt G) = .ok r ∧ pager G N F maxStates orders = .ok out ∧
      InvT G out.pre ∧ InvB G out.pre none ∧ out.pre.todo = 0 ∧
      ∃ zs, zipStates out.pre.core out.pre.closed = some zs ∧ gc zs 0 out.pre.edges = .ok (out.states, out.edges) ∧
        out.states.length < maxStates := by
  unfold pager
  rcases mainLoop_spec hwf hN hF (maxStates := maxStates) orders (initSt_inv hwf) (initSt_invB G) with
    ⟨h, hw⟩ | ⟨h, hw⟩ | ⟨h, hm⟩ | ⟨r, h, _, inv, invB, h0, hle⟩
  · left; rw [h]; exact ⟨rfl, hw⟩
  · right; left; rw [h]; exact ⟨rfl, hw⟩
  · right; right; left; rw [h]; exact ⟨rfl, Nat.le_of_lt hm⟩
  · obtain ⟨zs, hz, hzl, _⟩ := zipStates_spec r.1.core r.1.closed inv.len1 (by rw [← inv.todo]; exact h0)
    obtain ⟨states', edges', hgc, hsl, _, _⟩ := gc_core zs 0 r.1.edges (by rw [hzl]; exact inv.len2) (by rw [hzl]; exact inv.pos)
      (by rw [hzl]; exact inv.edgeRange)
    have hle' : states'.length ≤ 1 + (orders.map (fun o => o.closedKeys.length)).sum := by
      rw [hsl]; exact Nat.le_trans (keptBefore_le _ _) (hzl ▸ hle)
    simp only [h, Res.bind, hz, ofOption, hgc]
    by_cases hlt : states'.length < maxStates
    · rw [if_neg (Nat.not_lt.mpr (Nat.le_of_lt hlt)), if_neg (by simp [hlt])]
      exact Or.inr (Or.inr (Or.inr ⟨r, _, rfl, rfl, inv, invB, h0, zs, hz, hgc, hlt⟩))
    · refine Or.inr (Or.inr (Or.inl ⟨?_, Nat.le_trans (Nat.le_of_not_lt hlt) hle'⟩))
      by_cases hgt : states'.length > maxStates
      · rw [if_pos hgt]
      · rw [if_neg hgt, if_pos (by simp [hlt])]

/-- the state graph of the modelled `pager_stategraph` as a dumped automaton (no table) -/
def toAutomaton (out : Output) : Automaton :=
  { start := 0,
    states := (out.states.zip out.edges).map (fun x =>
      { core := x.1.1, closed := x.1.2, edges := x.2, actions := [], gotos := [], stateActions := [],
        stateShifts := [], coreReduces := [], reduceOnly := false }),
    rr := [], sr := [] }

theorem toAutomaton_view (out : Output) (hlen : out.edges.length = out.states.length) :
    (toAutomaton out).nstates = out.states.length ∧
    ∀ s, s < out.states.length → out.states[s]? = some ((toAutomaton out).core s, (toAutomaton out).closed s) ∧
      out.edges[s]? = some ((toAutomaton out).edges s) := by
  refine ⟨by simp [toAutomaton, Automaton.nstates, hlen], ?_⟩
  intro s hs
  have hs2 : s < out.edges.length := hlen ▸ hs
  have hz : (out.states.zip out.edges)[s]? = some (out.states[s], out.edges[s]) := by
    rw [List.getElem?_eq_getElem (by simp; omega)]; simp
  simp [toAutomaton, Automaton.core, Automaton.closed, Automaton.edges, List.getElem?_map, hz,
    List.getElem?_eq_getElem hs, List.getElem?_eq_getElem hs2]

theorem closureP_item_inv {G : Grammar} {core : List Item} {p d : Nat} (h : ClosureP G core (.item p d)) :
    HasItem core p d ∨
    (d = 0 ∧ ∃ p' d', ClosureP G core (.item p' d') ∧ symAfter G p' d' = some (.rule (G.lhs p))) := by
  cases h with
  | kitem i hi => exact Or.inl ⟨i, hi, rfl, rfl⟩
  | citem p' d' q h1 h2 h3 => exact Or.inr ⟨rfl, p', d', h1, h2⟩

end GrmVerif.PagerImpl
