import GrmVerif.Model.AnalysesRef
/-! Textbook (inductive) definitions of nullable / FIRST / FOLLOW / reachability and the proofs that
the reference fixed-point computations are exact: nullable first, then FIRST, FOLLOW and reachability, and
the three analyses together (`analyses_exact`). -/
namespace GrmVerif.Spec
open GrmVerif Ref Fix

mutual
/-- rule `r` derives the empty string -/
inductive NullableR (G : Grammar) : Nat → Prop
  | mk (p : Nat) : p < G.nprods → NullableSeq G (G.rhs p) → NullableR G (G.lhs p)
/-- every symbol of the sequence derives the empty string -/
inductive NullableSeq (G : Grammar) : List Sym → Prop
  | nil : NullableSeq G []
  | cons (r : Nat) (rest : List Sym) : NullableR G r → NullableSeq G rest → NullableSeq G (.rule r :: rest)
end

/-- token `t` can begin a sentential form derived from rule `A` (`A ⇒* t β`) -/
inductive FirstP (G : Grammar) : Nat → Nat → Prop
  | tok (p : Nat) (α : List Sym) (t : Nat) (β : List Sym) :
      p < G.nprods → G.rhs p = α ++ .tok t :: β → NullableSeq G α → FirstP G (G.lhs p) t
  | rule (p : Nat) (α : List Sym) (q : Nat) (β : List Sym) (t : Nat) :
      p < G.nprods → G.rhs p = α ++ .rule q :: β → NullableSeq G α → FirstP G q t → FirstP G (G.lhs p) t

/-- `t` can begin a sentential form derived from the symbol sequence `l` -/
def FirstSeqP (G : Grammar) (l : List Sym) (t : Nat) : Prop :=
  ∃ α X β, l = α ++ X :: β ∧ NullableSeq G α ∧ (X = .tok t ∨ ∃ q, X = .rule q ∧ FirstP G q t)

/-- token `t` (or end of input, `G.eof`) can follow rule `A` in a sentential form derived from
`^ $` -/
inductive FollowP (G : Grammar) : Nat → Nat → Prop
  | start : FollowP G G.startRule G.eof
  | first (p : Nat) (α : List Sym) (A : Nat) (β : List Sym) (t : Nat) :
      p < G.nprods → G.rhs p = α ++ .rule A :: β → FirstSeqP G β t → FollowP G A t
  | inherit (p : Nat) (α : List Sym) (A : Nat) (β : List Sym) (t : Nat) :
      p < G.nprods → G.rhs p = α ++ .rule A :: β → NullableSeq G β → FollowP G (G.lhs p) t → FollowP G A t

/-- `B` occurs in a production of `A`, or of a rule reachable from `A` (transitive, not reflexive) -/
inductive Reach (G : Grammar) : Nat → Nat → Prop
  | edge (p : Nat) (B : Nat) : p < G.nprods → Sym.rule B ∈ G.rhs p → Reach G (G.lhs p) B
  | step (A : Nat) (p : Nat) (B : Nat) : Reach G A (G.lhs p) → p < G.nprods → Sym.rule B ∈ G.rhs p → Reach G A B

theorem mem_prodsOf {G : Grammar} {r p : Nat} : p ∈ G.prodsOf r ↔ p < G.nprods ∧ G.lhs p = r := by
  simp [Grammar.prodsOf]

theorem any_prodsOf {G : Grammar} {r : Nat} {f : Nat → Bool} :
    (G.prodsOf r).any f = true ↔ ∃ p, p < G.nprods ∧ G.lhs p = r ∧ f p = true := by
  simp only [List.any_eq_true, mem_prodsOf, and_assoc]

theorem prods_getElem {G : Grammar} {p : Nat} (hp : p < G.nprods) :
    G.prods[p]? = some (G.lhs p, G.rhs p) := by
  have : p < G.prods.length := hp
  simp [Grammar.lhs, Grammar.rhs, List.getElem?_eq_getElem this]

theorem wf_iff {G : Grammar} : G.wf = true ↔
    (∀ p, p < G.nprods → G.lhs p < G.nrules ∧ ∀ s ∈ G.rhs p, G.symOk s = true) ∧
      G.startProd < G.nprods ∧ G.eof < G.ntoks := by
  simp only [Grammar.wf, Bool.and_eq_true, List.all_eq_true, decide_eq_true_eq, and_assoc]
  refine and_congr_left' ⟨fun h p hp => h _ (List.mem_of_getElem? (prods_getElem hp)), fun h x hx => ?_⟩
  obtain ⟨p, hp, rfl⟩ := List.mem_iff_getElem.mp hx
  simpa [Grammar.lhs, Grammar.rhs, List.getElem?_eq_getElem hp] using h p hp

theorem wf_prod {G : Grammar} (h : G.wf = true) {p : Nat} (hp : p < G.nprods) :
    G.lhs p < G.nrules ∧ ∀ s ∈ G.rhs p, G.symOk s = true :=
  (wf_iff.mp h).1 p hp

theorem wf_lhs {G : Grammar} (h : G.wf = true) {p : Nat} (hp : p < G.nprods) : G.lhs p < G.nrules :=
  (wf_prod h hp).1

theorem wf_sym {G : Grammar} (h : G.wf = true) {p : Nat} (hp : p < G.nprods) {s : Sym} (hs : s ∈ G.rhs p) :
    G.symOk s = true :=
  (wf_prod h hp).2 s hs

theorem symOk_tok {G : Grammar} {t : Nat} : G.symOk (.tok t) = true ↔ t < G.ntoks := by
  simp [Grammar.symOk]

theorem symOk_rule {G : Grammar} {q : Nat} : G.symOk (.rule q) = true ↔ q < G.nrules := by
  simp [Grammar.symOk]

theorem wf_tok {G : Grammar} (h : G.wf = true) {p : Nat} (hp : p < G.nprods) {t : Nat}
    (hs : Sym.tok t ∈ G.rhs p) : t < G.ntoks :=
  symOk_tok.mp (wf_sym h hp hs)

theorem wf_rule {G : Grammar} (h : G.wf = true) {p : Nat} (hp : p < G.nprods) {q : Nat}
    (hs : Sym.rule q ∈ G.rhs p) : q < G.nrules :=
  symOk_rule.mp (wf_sym h hp hs)

theorem wf_startRule {G : Grammar} (h : G.wf = true) : G.startRule < G.nrules :=
  wf_lhs h (wf_iff.mp h).2.1

theorem wf_eof {G : Grammar} (h : G.wf = true) : G.eof < G.ntoks :=
  (wf_iff.mp h).2.2

theorem mem_pairs {n m : Nat} {x : Nat × Nat} : x ∈ pairs n m ↔ x.1 < n ∧ x.2 < m := by
  obtain ⟨a, b⟩ := x
  simp only [pairs, List.mem_flatMap, List.mem_range, List.mem_map, Prod.mk.injEq]
  constructor
  · rintro ⟨r, hr, t, ht, rfl, rfl⟩; exact ⟨hr, ht⟩
  · rintro ⟨h1, h2⟩; exact ⟨a, h1, b, h2, rfl, rfl⟩

theorem seqNullable_tok (N : Nat → Bool) (t : Nat) (l : List Sym) : seqNullable N (.tok t :: l) = false := rfl

theorem seqNullable_rule (N : Nat → Bool) (q : Nat) (l : List Sym) :
    seqNullable N (.rule q :: l) = (N q && seqNullable N l) := rfl

theorem seqNullable_sound {G : Grammar} {N : Nat → Bool} (hN : ∀ r, N r = true → NullableR G r) :
    ∀ l : List Sym, seqNullable N l = true → NullableSeq G l := by
  intro l
  induction l with
  | nil => intro _; exact .nil
  | cons s rest ih =>
    intro h
    cases s with
    | tok t => rw [seqNullable_tok] at h; cases h
    | rule q =>
      rw [seqNullable_rule, Bool.and_eq_true] at h
      exact .cons q rest (hN q h.1) (ih h.2)

mutual
theorem nullableR_complete {G : Grammar} {N : Nat → Bool}
    (hc : ∀ p, p < G.nprods → seqNullable N (G.rhs p) = true → N (G.lhs p) = true) :
    ∀ {r : Nat}, NullableR G r → N r = true
  | _, .mk p hp hseq => hc p hp (nullableSeq_complete hc hseq)
theorem nullableSeq_complete {G : Grammar} {N : Nat → Bool}
    (hc : ∀ p, p < G.nprods → seqNullable N (G.rhs p) = true → N (G.lhs p) = true) :
    ∀ {l : List Sym}, NullableSeq G l → seqNullable N l = true
  | _, .nil => rfl
  | _, .cons r rest hr hrest => by
    rw [seqNullable_rule, nullableR_complete hc hr, nullableSeq_complete hc hrest]
    rfl
end

theorem nullables_exact (G : Grammar) (hwf : G.wf = true) (N : List Nat) (h : nullables G = some N) :
    ∀ r, r ∈ N ↔ NullableR G r := by
  refine lfp_exact (List.range G.nrules) (nullableDerive G) (NullableR G) ?_ ?_ h
  · intro S hS x _ hd
    obtain ⟨p, hp1, rfl, hseq⟩ := any_prodsOf.mp hd
    exact .mk p hp1 (seqNullable_sound (fun r hr => hS r (by simpa using hr)) _ hseq)
  · intro S _ hcl r hr
    have := nullableR_complete (N := fun y => S.contains y) (fun p hp hseq => by
      simpa using hcl (G.lhs p) (by simpa using wf_lhs hwf hp) (by
        exact any_prodsOf.mpr ⟨p, hp, rfl, hseq⟩)) hr
    simpa using this

theorem firstSeq_sound {G : Grammar} {N : Nat → Bool} {F : Nat × Nat → Bool}
    (hN : ∀ r, N r = true → NullableR G r) (t : Nat) :
    ∀ l : List Sym, firstSeq N F l t = true →
      ∃ α X β, l = α ++ X :: β ∧ NullableSeq G α ∧ (X = .tok t ∨ ∃ q, X = .rule q ∧ F (q, t) = true) := by
  intro l
  induction l with
  | nil => intro h; simp [firstSeq] at h
  | cons s rest ih =>
    intro h
    cases s with
    | tok a =>
      simp only [firstSeq, beq_iff_eq] at h
      subst h
      exact ⟨[], .tok a, rest, rfl, .nil, Or.inl rfl⟩
    | rule q =>
      simp only [firstSeq, Bool.or_eq_true, Bool.and_eq_true] at h
      rcases h with h | ⟨hq, h⟩
      · exact ⟨[], .rule q, rest, rfl, .nil, Or.inr ⟨q, rfl, h⟩⟩
      · obtain ⟨α, X, β, h1, h2, h3⟩ := ih h
        exact ⟨.rule q :: α, X, β, by simp [h1], .cons q α (hN q hq) h2, h3⟩

theorem nullableSeq_head {G : Grammar} {s : Sym} {rest : List Sym} (h : NullableSeq G (s :: rest)) :
    (∃ q, s = .rule q ∧ NullableR G q) ∧ NullableSeq G rest := by
  cases h with
  | cons r _ hr hrest => exact ⟨⟨r, rfl, hr⟩, hrest⟩

theorem firstSeq_complete {G : Grammar} {N : Nat → Bool} {F : Nat × Nat → Bool}
    (hN : ∀ r, NullableR G r → N r = true) (t : Nat) :
    ∀ (α : List Sym) (X : Sym) (β : List Sym), NullableSeq G α →
      (X = .tok t ∨ ∃ q, X = .rule q ∧ F (q, t) = true) → firstSeq N F (α ++ X :: β) t = true := by
  intro α
  induction α with
  | nil =>
    intro X β _ hX
    rcases hX with rfl | ⟨q, rfl, hq⟩
    · simp [firstSeq]
    · simp [firstSeq, hq]
  | cons s rest ih =>
    intro X β hα hX
    obtain ⟨⟨q, rfl, hq⟩, hrest⟩ := nullableSeq_head hα
    simp only [List.cons_append, firstSeq, Bool.or_eq_true, Bool.and_eq_true]
    right
    exact ⟨hN q hq, ih X β hrest hX⟩

theorem firstP_tok_lt {G : Grammar} (hwf : G.wf = true) {r t : Nat} (h : FirstP G r t) : t < G.ntoks := by
  induction h with
  | tok p α t β hp hrhs _ => exact wf_tok hwf hp (by rw [hrhs]; simp)
  | rule _ _ _ _ _ _ _ _ _ ih => exact ih

theorem firstP_complete {G : Grammar} (hwf : G.wf = true) {N : Nat → Bool} {F : Nat × Nat → Bool}
    (hN : ∀ r, NullableR G r → N r = true)
    (hcl : ∀ p, p < G.nprods → ∀ t, t < G.ntoks → firstSeq N F (G.rhs p) t = true → F (G.lhs p, t) = true)
    {r t : Nat} (h : FirstP G r t) : F (r, t) = true := by
  induction h with
  | tok p α t β hp hrhs hα =>
    apply hcl p hp t (firstP_tok_lt hwf (.tok p α t β hp hrhs hα))
    rw [hrhs]
    exact firstSeq_complete hN t α (.tok t) β hα (Or.inl rfl)
  | rule p α q β t hp hrhs hα hq ih =>
    apply hcl p hp t (firstP_tok_lt hwf hq)
    rw [hrhs]
    exact firstSeq_complete hN t α (.rule q) β hα (Or.inr ⟨q, rfl, ih⟩)

theorem firsts_exact (G : Grammar) (hwf : G.wf = true) (N : Nat → Bool)
    (hN : ∀ r, N r = true ↔ NullableR G r) (F : List (Nat × Nat)) (h : firsts G N = some F) :
    ∀ r t, (r, t) ∈ F ↔ FirstP G r t := by
  intro r t
  refine lfp_exact (pairs G.nrules G.ntoks) (firstDerive G N) (fun x => FirstP G x.1 x.2) ?_ ?_ h (r, t)
  · intro S hS x _ hd
    obtain ⟨p, hp1, hp2, hseq⟩ := any_prodsOf.mp hd
    obtain ⟨α, X, β, h1, h2, h3⟩ := firstSeq_sound (fun r hr => (hN r).mp hr) x.2 _ hseq
    rw [← hp2]
    rcases h3 with rfl | ⟨q, rfl, hq⟩
    · exact .tok p α x.2 β hp1 h1 h2
    · exact .rule p α q β x.2 hp1 h1 h2 (hS (q, x.2) (by simpa using hq))
  · intro S _ hcl x hx
    have := firstP_complete hwf (F := fun x => @List.contains _ instBEqOfDecidableEq S x) (fun r hr => (hN r).mpr hr)
      (fun p hp t ht hf => by
        simpa using hcl (G.lhs p, t) (mem_pairs.mpr ⟨wf_lhs hwf hp, ht⟩) (by
          exact any_prodsOf.mpr ⟨p, hp, rfl, hf⟩)) hx
    simpa using this

theorem firstSeq_iff {G : Grammar} {N : Nat → Bool} {F : Nat × Nat → Bool}
    (hN : ∀ r, N r = true ↔ NullableR G r) (hF : ∀ r t, F (r, t) = true ↔ FirstP G r t)
    (l : List Sym) (t : Nat) : firstSeq N F l t = true ↔ FirstSeqP G l t := by
  constructor
  · intro h
    obtain ⟨α, X, β, h1, h2, h3⟩ := firstSeq_sound (fun r hr => (hN r).mp hr) t l h
    refine ⟨α, X, β, h1, h2, ?_⟩
    rcases h3 with h3 | ⟨q, hq, hf⟩
    · exact Or.inl h3
    · exact Or.inr ⟨q, hq, (hF q t).mp hf⟩
  · rintro ⟨α, X, β, h1, h2, h3⟩
    rw [h1]
    apply firstSeq_complete (fun r hr => (hN r).mpr hr) t α X β h2
    rcases h3 with h3 | ⟨q, hq, hf⟩
    · exact Or.inl h3
    · exact Or.inr ⟨q, hq, (hF q t).mpr hf⟩

theorem seqNullable_iff {G : Grammar} {N : Nat → Bool} (hN : ∀ r, N r = true ↔ NullableR G r)
    (l : List Sym) : seqNullable N l = true ↔ NullableSeq G l :=
  ⟨seqNullable_sound (fun r hr => (hN r).mp hr) l,
    nullableSeq_complete fun p hp h => (hN _).mpr (.mk p hp (seqNullable_sound (fun r hr => (hN r).mp hr) _ h))⟩

theorem followOcc_iff (N : Nat → Bool) (F : Nat × Nat → Bool) (S : Nat × Nat → Bool) (B A t : Nat) :
    ∀ l : List Sym, followOcc N F S B A t l = true ↔
      ∃ α β, l = α ++ .rule A :: β ∧ (firstSeq N F β t = true ∨ (seqNullable N β = true ∧ S (B, t) = true)) := by
  intro l
  induction l with
  | nil => simp [followOcc]
  | cons s rest ih =>
    cases s with
    | tok a =>
      simp only [followOcc, ih]
      constructor
      · rintro ⟨α, β, h1, h2⟩; exact ⟨.tok a :: α, β, by simp [h1], h2⟩
      · rintro ⟨α, β, h1, h2⟩
        cases α with
        | nil => simp at h1
        | cons x xs =>
          simp only [List.cons_append, List.cons.injEq] at h1
          exact ⟨xs, β, h1.2, h2⟩
    | rule q =>
      simp only [followOcc, Bool.or_eq_true, Bool.and_eq_true, beq_iff_eq, ih]
      constructor
      · rintro (⟨rfl, h⟩ | ⟨α, β, h1, h2⟩)
        · exact ⟨[], rest, rfl, h⟩
        · exact ⟨.rule q :: α, β, by simp [h1], h2⟩
      · rintro ⟨α, β, h1, h2⟩
        cases α with
        | nil =>
          simp only [List.nil_append, List.cons.injEq, Sym.rule.injEq] at h1
          obtain ⟨rfl, rfl⟩ := h1
          exact Or.inl ⟨rfl, h2⟩
        | cons x xs =>
          simp only [List.cons_append, List.cons.injEq] at h1
          exact Or.inr ⟨xs, β, h1.2, h2⟩

theorem firstSeqP_tok_lt {G : Grammar} (hwf : G.wf = true) {p : Nat} (hp : p < G.nprods)
    {γ l : List Sym} (hrhs : G.rhs p = γ ++ l) {t : Nat} (h : FirstSeqP G l t) : t < G.ntoks := by
  obtain ⟨α, X, β, h1, _, h3⟩ := h
  rcases h3 with rfl | ⟨q, rfl, hq⟩
  · exact wf_tok hwf hp (by rw [hrhs, h1]; simp)
  · exact firstP_tok_lt hwf hq

theorem followP_tok_lt {G : Grammar} (hwf : G.wf = true) {A t : Nat} (h : FollowP G A t) : t < G.ntoks := by
  induction h with
  | start => exact wf_eof hwf
  | first p α A β t hp hrhs hfs =>
    exact firstSeqP_tok_lt hwf hp (γ := α ++ [.rule A]) (by rw [hrhs]; simp) hfs
  | inherit _ _ _ _ _ _ _ _ _ ih => exact ih

theorem followP_complete {G : Grammar} (hwf : G.wf = true) {N : Nat → Bool} {F S : Nat × Nat → Bool}
    (hN : ∀ r, N r = true ↔ NullableR G r) (hF : ∀ r t, F (r, t) = true ↔ FirstP G r t)
    (hstart : S (G.startRule, G.eof) = true)
    (hcl : ∀ p, p < G.nprods → ∀ (α : List Sym) (A : Nat) (β : List Sym) (t : Nat), G.rhs p = α ++ .rule A :: β →
      t < G.ntoks → firstSeq N F β t = true ∨ (seqNullable N β = true ∧ S (G.lhs p, t) = true) → S (A, t) = true)
    {A t : Nat} (h : FollowP G A t) : S (A, t) = true := by
  induction h with
  | start => exact hstart
  | first p α A β t hp hrhs hfs =>
    exact hcl p hp α A β t hrhs (followP_tok_lt hwf (.first p α A β t hp hrhs hfs))
      (Or.inl ((firstSeq_iff hN hF β t).mpr hfs))
  | inherit p α A β t hp hrhs hβ hf ih =>
    exact hcl p hp α A β t hrhs (followP_tok_lt hwf hf) (Or.inr ⟨(seqNullable_iff hN β).mpr hβ, ih⟩)

theorem follows_exact (G : Grammar) (hwf : G.wf = true) (N : Nat → Bool) (F : Nat × Nat → Bool)
    (hN : ∀ r, N r = true ↔ NullableR G r) (hF : ∀ r t, F (r, t) = true ↔ FirstP G r t)
    (W : List (Nat × Nat)) (h : follows G N F = some W) :
    ∀ A t, (A, t) ∈ W ↔ FollowP G A t := by
  intro A t
  refine lfp_exact (pairs G.nrules G.ntoks) (followDerive G N F) (fun x => FollowP G x.1 x.2) ?_ ?_ h (A, t)
  · intro S hS x _ hd
    simp only [followDerive, Bool.or_eq_true, Bool.and_eq_true, beq_iff_eq, List.any_eq_true,
      List.mem_range] at hd
    rcases hd with ⟨h1, h2⟩ | ⟨p, hp, hocc⟩
    · obtain ⟨a, b⟩ := x; simp only at h1 h2; subst h1; subst h2; exact .start
    · obtain ⟨α, β, h1, h2⟩ := (followOcc_iff N F _ _ _ _ _).mp hocc
      rcases h2 with h2 | ⟨h2, h3⟩
      · exact .first p α x.1 β x.2 hp h1 ((firstSeq_iff hN hF β x.2).mp h2)
      · exact .inherit p α x.1 β x.2 hp h1 ((seqNullable_iff hN β).mp h2)
          (hS (G.lhs p, x.2) (by simpa using h3))
  · intro S _ hcl x hx
    have := followP_complete hwf (S := fun x => @List.contains _ instBEqOfDecidableEq S x) hN hF
      (by simpa using hcl (G.startRule, G.eof) (mem_pairs.mpr ⟨wf_startRule hwf, wf_eof hwf⟩) (by
        simp [followDerive]))
      (fun p hp α A β t hrhs ht hocc => by
        simpa using hcl (A, t) (mem_pairs.mpr ⟨wf_rule hwf hp (by rw [hrhs]; simp), ht⟩) (by
          simp only [followDerive, Bool.or_eq_true, List.any_eq_true, List.mem_range]
          exact Or.inr ⟨p, hp, (followOcc_iff N F _ _ _ _ _).mpr ⟨α, β, hrhs, hocc⟩⟩)) hx
    simpa using this

theorem occursIn_iff (G : Grammar) (C B : Nat) :
    occursIn G C B = true ↔ ∃ p, p < G.nprods ∧ G.lhs p = C ∧ Sym.rule B ∈ G.rhs p := by
  simp only [occursIn, any_prodsOf, List.contains_eq_mem, decide_eq_true_eq]

theorem reach_exact (G : Grammar) (hwf : G.wf = true) (A : Nat) (R : List Nat) (h : reach G A = some R) :
    ∀ B, B ∈ R ↔ Reach G A B := by
  refine lfp_exact (List.range G.nrules) (reachDerive G A) (Reach G A) ?_ ?_ h
  · intro S hS x _ hd
    simp only [reachDerive, Bool.or_eq_true, List.any_eq_true, List.mem_range, Bool.and_eq_true] at hd
    rcases hd with hd | ⟨C, _, hC, hd⟩
    · obtain ⟨p, h1, rfl, hm⟩ := (occursIn_iff G A x).mp hd
      exact .edge p x h1 hm
    · obtain ⟨p, h1, rfl, hm⟩ := (occursIn_iff G C x).mp hd
      exact .step A p x (hS _ (by simpa using hC)) h1 hm
  · intro S _ hcl B hr
    induction hr with
    | edge p B hp hm =>
      apply hcl B (by simpa using wf_rule hwf hp hm)
      simp only [reachDerive, Bool.or_eq_true]
      exact Or.inl ((occursIn_iff G _ B).mpr ⟨p, hp, rfl, hm⟩)
    | step A' p B _ hp hm ih =>
      apply hcl B (by simpa using wf_rule hwf hp hm)
      simp only [reachDerive, Bool.or_eq_true, List.any_eq_true, List.mem_range, Bool.and_eq_true]
      exact Or.inr ⟨G.lhs p, wf_lhs hwf hp, by simpa using ih h hcl, (occursIn_iff G _ B).mpr ⟨p, hp, rfl, hm⟩⟩

/-- whenever the three reference analyses return, each is the textbook notion -/
theorem analyses_exact (G : Grammar) (hwf : G.wf = true) (A : Analyses) (h : analyses G = some A) :
    (∀ r, r ∈ A.nullable ↔ NullableR G r) ∧
    (∀ r t, (r, t) ∈ A.first ↔ FirstP G r t) ∧
    (∀ r t, (r, t) ∈ A.follow ↔ FollowP G r t) := by
  unfold analyses at h
  split at h
  · cases h
  · next N hn =>
    split at h
    · cases h
    · next F hf =>
      split at h
      · cases h
      · next W hw =>
        simp only [Option.some.injEq] at h
        subst h
        have h1 := nullables_exact G hwf N hn
        have h1' : ∀ r, (fun x => N.contains x) r = true ↔ NullableR G r := by
          intro r; simpa using h1 r
        have h2 := firsts_exact G hwf _ h1' F hf
        have h2' : ∀ r t, (fun x => F.contains x) (r, t) = true ↔ FirstP G r t := by
          intro r t; simpa using h2 r t
        exact ⟨h1, h2, follows_exact G hwf _ _ h1' h2' W hw⟩

end GrmVerif.Spec
