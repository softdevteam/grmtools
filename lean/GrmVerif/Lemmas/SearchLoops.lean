import GrmVerif.Lemmas.SearchBuckets
import GrmVerif.Lemmas.SearchRef
/-!
The two loops of the modelled `dijkstra` (`phase1`, `phase2`).

Invariant ("tracking"): every TARGET — a complete repair sequence `seq` of representable cost `K` in
the implementation's search graph — has a prefix that is represented in `todo` (in the bucket of the
prefix' cost). Popping a node that is not a success and pushing its neighbours keeps every target
tracked (by the same prefix, or by the prefix extended with the target's next repair); node merging
keeps everything represented (`upsert_total`). Buckets below the current cost stay empty because every
neighbour costs at least as much as the node it comes from. Hence: when bucket `c` runs empty no
target costs `c`; when a success node is popped from bucket `c` no target costs less than `c`, and the
second loop — which only follows Shifts — still reaches every target of cost `c`, because Inserts and
Deletes cost at least 1.

The second part of the file reads the result off the invariant: what a returned node's chain expands to
(`traverse_of_resOK`), and the two outcomes against the specification's `Rec.Search` (`found_of_dijkstra`,
`none_of_dijkstra`, `reference_of_found`).
-/
namespace GrmVerif.SearchImpl
open Rec

variable {E : Env} {start : Pos}

/-- a complete repair sequence of representable cost in the implementation's search graph -/
def Target (E : Env) (start : Pos) (seq : List Repair) (K : Nat) : Prop :=
  ISearch E.G E.A E.w E.cost E.N start K seq ∧ K ≤ U16MAX

def Tracked (I : List Repair → Prop) (seq : List Repair) : Prop := ∃ p, p <+: seq ∧ I p

def ResOK (E : Env) (start : Pos) (c : Nat) (m : PNode) : Prop :=
  m.cf = c ∧ NodeInv E start m ∧ success E m = .ok true

theorem target_split {m : PNode} {p seq : List Repair} {K : Nat} (hm : NodeInv E start m)
    (hp : p ∈ seqs m.repairs) (hpre : p <+: seq) (ht : Target E start seq K) :
    ∃ np nf q k₂, seq = p ++ q ∧ IPath E.G E.A E.w E.cost E.N (root start) p np m.cf ∧
      IPath E.G E.A E.w E.cost E.N np q nf k₂ ∧ K = m.cf + k₂ ∧
      isSuccess E.G E.A E.w E.N nf = true ∧ np.c.pos = m.laidx ∧ np.trail = numShifts m.repairs ∧
      StackRel E np m := by
  obtain ⟨q, rfl⟩ := hpre
  obtain ⟨⟨nf, hpath, hsucc⟩, _⟩ := ht
  obtain ⟨np, h1, h2, h3, _, h5, _⟩ := hm.1 p hp
  obtain ⟨mid, k₁, k₂, s1, s2, e⟩ := IPath.split hpath
  obtain ⟨rfl, rfl⟩ := IPath.det s1 h1
  exact ⟨mid, nf, q, k₂, rfl, h1, s2, e, hsucc, h2, h3, h5⟩

/-- a popped success node represents only whole targets of its own cost; `I` is what is represented
before the pop, `I'` after -/
theorem tracked_pop_success (H : Hyps E start) {n : PNode} (hn : NodeInv E start n)
    (hs : success E n = .ok true) {I I' : List Repair → Prop}
    (hpop : ∀ p, I p → I' p ∨ p ∈ seqs n.repairs) {seq : List Repair}
    (ht : Target E start seq n.cf) (htr : Tracked I seq) : Tracked I' seq ∨ seq ∈ seqs n.repairs := by
  obtain ⟨p, hpre, hp⟩ := htr
  rcases hpop p hp with hp | hp
  · exact Or.inl ⟨p, hpre, hp⟩
  obtain ⟨np, nf, q, k₂, rfl, _, h2, hK, _, hpos, htr, hrel⟩ := target_split hn hp hpre ht
  have hk : k₂ = 0 := Nat.add_left_cancel (n := n.cf) (m := k₂) (k := 0) hK.symm
  subst hk
  cases q with
  | nil => rw [List.append_nil]; exact Or.inr hp
  | cons r q' =>
    exfalso
    obtain ⟨_, _, _, hst, _⟩ := h2.cons_inv
    have hns := hst.not_succ
    rcases hrel with hrel | ⟨hrel, _⟩
    · rw [success_of_stack_eq hs hrel hpos htr] at hns; cases hns
    · exact absurd (h2.cost_pos_of_isSuccess H.cost_pos (isSuccess_iff.mpr (Or.inr ⟨_, hrel⟩)))
        (Nat.not_succ_le_zero 0)

/-- **expanding a popped node keeps its targets tracked** (first loop: all neighbours; second loop:
neighbours of the same cost, for targets of that cost) -/
theorem expand_tracks (H : Hyps E start) {m : PNode} (hm : NodeInv E start m)
    (hs : success E m = .ok false) {b : Bool} {nbrs : List (Nat × PNode)}
    (h : neighbours E b m = .ok nbrs) {p seq : List Repair} {K : Nat} (hp : p ∈ seqs m.repairs)
    (hpre : p <+: seq) (ht : Target E start seq K) (hb : b = true ∨ K = m.cf) :
    ∃ x ∈ nbrs, ∃ p', p' <+: seq ∧ p' ∈ seqs x.2.repairs ∧ (K = m.cf → x.1 = m.cf) := by
  obtain ⟨np, nf, q, k₂, rfl, h1, h2, hK, hsucc, _, _, _⟩ := target_split hm hp hpre ht
  cases q with
  | nil =>
    obtain ⟨rfl, _⟩ := h2.nil_inv
    obtain ⟨x, hx, hx1, hx2⟩ := neighbours_complete_late hm hs h hp h1 hsucc
    exact ⟨x, hx, p, by simp, by rw [hx2]; exact hp, fun _ => hx1⟩
  | cons r q' =>
    obtain ⟨a', c0, k, hst, hrest, rfl⟩ := h2.cons_inv
    -- `K = m.cf + (c0 + k)`
    have hc : m.cf + c0 ≤ U16MAX :=
      Nat.le_trans (Nat.add_le_add_left (Nat.le_add_right c0 k) _) (hK ▸ ht.2)
    have hc0 : K = m.cf → c0 = 0 := fun e =>
      (Nat.add_eq_zero_iff.mp (Nat.add_left_cancel (m := c0 + k) (k := 0) (hK.symm.trans e))).1
    have hb' : b = true ∨ r = .shift :=
      hb.imp_right fun e => (hst.shift_or_cost_pos H.cost_pos).resolve_right (hc0 e ▸ Nat.not_succ_le_zero 0)
    obtain ⟨x, hx, hx1, hx2⟩ := neighbours_complete_step H hm hs h hp h1 hst hb' hc
    refine ⟨x, hx, p ++ [r], ⟨q', by rw [List.append_assoc]; rfl⟩, hx2, fun e => ?_⟩
    rw [hx1, hc0 e]
    rfl

/-- **one iteration of either loop on a node that is not a success keeps a target tracked**; `I` is what
is represented before the pop, `I'` after the neighbours are pushed -/
theorem tracked_expand (H : Hyps E start) {n : PNode} (hn : NodeInv E start n)
    (hs : success E n = .ok false) {b : Bool} {nbrs : List (Nat × PNode)}
    (h : neighbours E b n = .ok nbrs) {I I' : List Repair → Prop} {seq : List Repair} {K : Nat}
    (hpop : ∀ p, I p → I' p ∨ p ∈ seqs n.repairs)
    (hpush : ∀ x ∈ nbrs, (K = n.cf → x.1 = n.cf) → ∀ p ∈ seqs x.2.repairs, I' p)
    (ht : Target E start seq K) (hb : b = true ∨ K = n.cf) (htr : Tracked I seq) : Tracked I' seq := by
  obtain ⟨p, hpre, hp⟩ := htr
  rcases hpop p hp with hp | hp
  · exact ⟨p, hpre, hp⟩
  · obtain ⟨x, hx, p', h1, h2, h3⟩ := expand_tracks H hn hs h hp hpre ht hb
    exact ⟨p', h1, hpush x hx h3 p' h2⟩

/-- the closures of `recover` do not panic on the nodes the search creates -/
def Safe (E : Env) (start : Pos) : Prop :=
  ∀ m, NodeInv E start m → success E m ≠ .panic ∧ ∀ b, neighbours E b m ≠ .panic

/-- the form of the conclusion of every loop lemma below (`phase2_post`, `phase1_post`) -/
def Post {α : Type} (S : Prop) (Q : α → Prop) (o : Out α) : Prop := (S → o ≠ .panic) ∧ ∀ r, o = .ok r → Q r

theorem Post.fuelOut {α : Type} {S : Prop} {Q : α → Prop} : Post S Q .fuelOut :=
  ⟨fun _ h => (nomatch h), fun _ h => (nomatch h)⟩

theorem Post.panic {α : Type} {S : Prop} {Q : α → Prop} (h : ¬ S) : Post S Q .panic :=
  ⟨fun hs => absurd hs h, fun _ h => (nomatch h)⟩

theorem Post.ok {α : Type} {S : Prop} {Q : α → Prop} {a : α} (h : Q a) : Post S Q (.ok a) :=
  ⟨fun _ h => (nomatch h), fun _ e => Out.ok.inj e ▸ h⟩

theorem Post.imp {α : Type} {S S' : Prop} {Q Q' : α → Prop} {o : Out α} (h : Post S Q o) (hs : S' → S)
    (hq : ∀ r, Q r → Q' r) : Post S' Q' o := ⟨fun h' => h.1 (hs h'), fun r e => hq r (h.2 r e)⟩

/-- **the second loop**, both halves by one induction over its iterations: it does not panic when the
closures do not; and when it ends properly it returns success nodes of cost `c`, among them those it was
given, that represent every tracked target of cost `c` -/
theorem phase2_post (H : Hyps E start) : ∀ (fuel c : Nat) (b : Bucket) (scs : List PNode),
    BucketOK E start c b →
    Post (Safe E start) (fun res => (∀ m ∈ scs, ResOK E start c m) →
      (∀ m ∈ res, ResOK E start c m) ∧ (∀ m ∈ scs, m ∈ res) ∧
      ∀ seq, Target E start seq c →
        (Tracked (InBucket b) seq ∨ ∃ m ∈ scs, seq ∈ seqs m.repairs) → ∃ m ∈ res, seq ∈ seqs m.repairs)
      (phase2 E fuel c b scs) := by
  intro fuel
  induction fuel with
  | zero => intro c b scs _; exact .fuelOut
  | succ fuel ih =>
    intro c b scs hb
    rw [phase2]
    cases hpop : popLast b with
    | none =>
      refine .ok fun hscs => ⟨hscs, fun m hm => hm, fun seq _ htr => htr.resolve_left ?_⟩
      rw [popLast_none hpop]
      exact fun ⟨p, _, e, he, _⟩ => nomatch he
    | some v =>
      obtain ⟨b', n⟩ := v
      obtain ⟨hpop, hb', rfl, n3⟩ := pop_ok hb hpop
      simp only
      cases hsucc : success E n with
      | panic => exact .panic fun hs => (hs n n3).1 hsucc
      | fuelOut => exact .fuelOut
      | ok sb =>
        cases sb with
        | true =>
          refine (ih n.cf b' (scs ++ [n]) hb').imp id fun res j2 hscs => ?_
          obtain ⟨i1, i2, i3⟩ := j2
            (List.forall_mem_append.mpr ⟨hscs, List.forall_mem_singleton.mpr ⟨rfl, n3, hsucc⟩⟩)
          refine ⟨i1, fun m hm => i2 m (List.mem_append_left _ hm), fun seq ht htr => i3 seq ht ?_⟩
          rcases htr with htr | ⟨m, hm, hseq⟩
          · exact (tracked_pop_success H n3 hsucc hpop ht htr).imp_right
              fun h => ⟨n, List.mem_append_right _ (List.mem_singleton.mpr rfl), h⟩
          · exact Or.inr ⟨m, List.mem_append_left _ hm, hseq⟩
        | false =>
          simp only
          cases hnb : neighbours E false n with
          | panic => exact .panic fun hs => (hs n n3).2 false hnb
          | fuelOut => exact .fuelOut
          | ok nbrs =>
            obtain ⟨b'', hu, u1, u2, u3⟩ := upsertAll_total H (nbrs_ok H n3 hsucc hnb) hb'
            simp only [hu]
            refine (ih n.cf b'' scs u1).imp id fun res j2 hscs => ?_
            obtain ⟨i1, i2, i3⟩ := j2 hscs
            refine ⟨i1, i2, fun seq ht htr => i3 seq ht (htr.imp_left ?_)⟩
            exact tracked_expand H n3 hsucc hnb (fun p hp => (hpop p hp).imp_left (u2 p))
              (fun x hx hc => u3 x hx (hc rfl)) ht (Or.inr rfl)

theorem phase2_spec (H : Hyps E start) : ∀ (fuel c : Nat) (b : Bucket) (scs res : List PNode),
    BucketOK E start c b → (∀ m ∈ scs, ResOK E start c m) → phase2 E fuel c b scs = .ok res →
    (∀ m ∈ res, ResOK E start c m) ∧ (∀ m ∈ scs, m ∈ res) ∧
    ∀ seq, Target E start seq c →
      (Tracked (InBucket b) seq ∨ ∃ m ∈ scs, seq ∈ seqs m.repairs) → ∃ m ∈ res, seq ∈ seqs m.repairs :=
  fun fuel c b scs res hb hscs h => (phase2_post H fuel c b scs hb).2 res h hscs

def SearchResult (E : Env) (start : Pos) (res : List PNode) : Prop :=
  (res = [] → ∀ seq K, ¬ Target E start seq K) ∧
  (res ≠ [] → ∃ c, c ≤ U16MAX ∧ (∀ m ∈ res, ResOK E start c m) ∧ (∀ seq K, Target E start seq K → c ≤ K) ∧
    ∀ seq, Target E start seq c → ∃ m ∈ res, seq ∈ seqs m.repairs)

/-- where a tracked target is tracked, when the buckets below `c` are empty: in a bucket of the vector, from
`c` on, not above the target's cost (a prefix costs no more than the whole) -/
theorem tracked_where {todo : Array Bucket} {c K : Nat} {seq : List Repair} (hok : TodoOK E start todo)
    (hlow : ∀ k, k < c → bk todo k = []) (ht : Target E start seq K) (htr : Tracked (InTodo todo) seq) :
    ∃ p k, p <+: seq ∧ InBucket (bk todo k) p ∧ c ≤ k ∧ k ≤ K ∧ k < todo.size := by
  obtain ⟨p, hpre, k, e, he, hp⟩ := htr
  have hne : bk todo k ≠ [] := List.ne_nil_of_mem he
  obtain ⟨e1, _, e3⟩ := hok k e he
  obtain ⟨_, _, _, k₂, _, _, _, hK, _⟩ := target_split e3 hp hpre ht
  exact ⟨p, k, hpre, ⟨e, he, hp⟩, Nat.le_of_not_lt fun h => hne (hlow k h),
    by rw [hK, ← e1]; exact Nat.le_add_right _ _, Nat.lt_of_not_le fun h => hne (bk_beyond h)⟩

/-- **the first loop** (followed by the second), both halves by one induction over its iterations: it
does not panic when the closures do not and `todo[c]` exists; and when it ends properly, having started
with every target tracked and nothing below bucket `c`, it establishes `SearchResult` -/
theorem phase1_post (H : Hyps E start) : ∀ (fuel : Nat) (todo : Array Bucket) (c : Nat),
    TodoOK E start todo →
    Post (Safe E start ∧ c < todo.size) (fun res => (∀ k, k < c → bk todo k = []) →
      (∀ seq K, Target E start seq K → Tracked (InTodo todo) seq) → c ≤ U16MAX → SearchResult E start res)
      (phase1 E fuel todo c) := by
  intro fuel
  induction fuel with
  | zero => intro todo c _; exact .fuelOut
  | succ fuel ih =>
    intro todo c hok
    rw [phase1]
    cases hget : todo[c]? with
    | none =>
      refine .panic fun hs => ?_
      rw [Array.getElem?_eq_getElem hs.2] at hget
      cases hget
    | some b =>
      obtain ⟨hbk, hsz⟩ := bk_of_get hget
      simp only
      cases hpl : popLast b with
      | none =>
        simp only
        -- bucket `c` is empty: every target is tracked above it
        have hlow' : (∀ k, k < c → bk todo k = []) → ∀ k, k < c + 1 → bk todo k = [] := by
          intro hlow k hk
          rcases Nat.eq_or_lt_of_le (Nat.le_of_lt_succ hk) with rfl | hk
          · rw [hbk]; exact popLast_none hpl
          · exact hlow k hk
        by_cases h1 : c + 1 > U16MAX
        · rw [if_pos h1]
          refine .ok fun hlow htr _ => ⟨fun _ seq K ht => ?_, fun hne => absurd rfl hne⟩
          obtain ⟨p, k, _, _, h3, h4, _⟩ := tracked_where hok (hlow' hlow) ht (htr seq K ht)
          exact Nat.lt_irrefl _ (Nat.lt_of_lt_of_le h1 (Nat.le_trans h3 (Nat.le_trans h4 ht.2)))
        · rw [if_neg h1]
          by_cases h2 : (c + 1 == todo.size) = true
          · rw [if_pos h2]
            refine .ok fun hlow htr _ => ⟨fun _ seq K ht => ?_, fun hne => absurd rfl hne⟩
            obtain ⟨p, k, _, _, h3, _, h5⟩ := tracked_where hok (hlow' hlow) ht (htr seq K ht)
            rw [← beq_iff_eq.mp h2] at h5
            exact Nat.lt_irrefl _ (Nat.lt_of_lt_of_le h5 h3)
          · rw [if_neg h2]
            exact (ih todo (c + 1) hok).imp
              (fun hs => ⟨hs.1, Nat.lt_of_le_of_ne hsz fun e => h2 (beq_iff_eq.mpr e)⟩)
              fun res j2 hlow htr _ => j2 (hlow' hlow) htr (Nat.le_of_not_lt h1)
      | some v =>
        obtain ⟨b', n⟩ := v
        obtain ⟨hpop, hb', n1, n3⟩ := pop_ok (by rw [← hbk]; exact hok c) hpl
        simp only
        cases hsucc : success E n with
        | panic => exact .panic fun hs => (hs.1 n n3).1 hsucc
        | fuelOut => exact .fuelOut
        | ok sb =>
          cases sb with
          | true =>
            refine (phase2_post H fuel c b' [n] hb').imp And.left fun res j2 hlow htr hcu => ?_
            obtain ⟨i1, i2, i3⟩ := j2 (List.forall_mem_singleton.mpr ⟨n1, n3, hsucc⟩)
            have hne : res ≠ [] := List.ne_nil_of_mem (i2 n (List.mem_singleton.mpr rfl))
            refine ⟨fun e => absurd e hne, fun _ => ⟨c, hcu, i1, fun seq K ht => ?_, fun seq ht => i3 seq ht ?_⟩⟩
            · obtain ⟨_, k, _, _, h3, h4, _⟩ := tracked_where hok hlow ht (htr seq K ht)
              exact Nat.le_trans h3 h4
            · obtain ⟨p, k, h1, h2, h3, h4, _⟩ := tracked_where hok hlow ht (htr seq c ht)
              rw [Nat.le_antisymm h4 h3, hbk] at h2
              exact (tracked_pop_success H n3 hsucc hpop (n1 ▸ ht) ⟨p, h1, h2⟩).imp_right
                fun h => ⟨n, List.mem_singleton.mpr rfl, h⟩
          | false =>
            simp only
            cases hnb : neighbours E true n with
            | panic => exact .panic fun hs => (hs.1 n n3).2 true hnb
            | fuelOut => exact .fuelOut
            | ok nbrs =>
              obtain ⟨hbc, hbo⟩ := bk_set b' hsz
              obtain ⟨todo', hpa, p1, p2, p3, p4, p5⟩ :=
                pushAll_total H (nbrs_ok H n3 hsucc hnb) (todoOK_replace hok hbc hbo hb')
              simp only [hpa]
              refine (ih todo' c p1).imp
                (fun hs => ⟨hs.1, Nat.lt_of_lt_of_le (by rw [Array.size_setIfInBounds]; exact hsz) p5⟩)
                fun res j2 hlow htr hcu => j2 (fun k hk => ?_) (fun seq K ht => ?_) hcu
              · -- neighbours cost at least `c`: the buckets below stay empty
                rw [p4 k ?_, hbo k (Nat.ne_of_lt hk)]
                · exact hlow k hk
                · intro x hx e
                  have hx' := neighbours_sound H n3 hsucc hnb x hx
                  rw [← e, hx'.1, ← n1] at hk
                  exact Nat.lt_irrefl _ (Nat.lt_of_lt_of_le hk hx'.2.1)
              · exact tracked_expand H n3 hsucc hnb
                  (fun p hp => (inTodo_replace hbc hbo (hbk ▸ hpop) hp).imp_left (p2 p))
                  (fun x hx _ => p3 x hx) ht (Or.inl rfl) (htr seq K ht)

theorem phase1_spec (H : Hyps E start) : ∀ (fuel : Nat) (todo : Array Bucket) (c : Nat) (res : List PNode),
    TodoOK E start todo → (∀ k, k < c → bk todo k = []) →
    (∀ seq K, Target E start seq K → Tracked (InTodo todo) seq) → c ≤ U16MAX →
    phase1 E fuel todo c = .ok res → SearchResult E start res :=
  fun fuel todo c res hok hlow htr hcu h => (phase1_post H fuel todo c hok).2 res h hlow htr hcu

theorem dijkstra_spec (H : Hyps E start) {fuel : Nat} {res : List PNode}
    (h : dijkstra E fuel start = .ok res) : SearchResult E start res := by
  refine phase1_spec H fuel _ 0 res (todoOK_start H.pos) (fun k hk => absurd hk (Nat.not_lt_zero k)) ?_
    (Nat.zero_le _) h
  intro seq K _
  exact ⟨[], List.nil_prefix, 0, (startNode start, startNode start), List.mem_singleton.mpr rfl,
    List.mem_singleton.mpr rfl⟩

theorem resOK_isSuccess {c : Nat} {m : PNode} (hm : ResOK E start c m) {s : List Repair}
    (hs : s ∈ seqs m.repairs) :
    ∃ n, IPath E.G E.A E.w E.cost E.N (root start) s n c ∧ isSuccess E.G E.A E.w E.N n = true ∧
      n.c.pos = m.laidx ∧ StackRel E n m := by
  obtain ⟨h1, h2, h3⟩ := hm
  obtain ⟨n, r1, r2, r3, _, r5, _⟩ := h2.1 s hs
  refine ⟨n, by rw [← h1]; exact r1, ?_, r2, r5⟩
  rcases r5 with r5 | ⟨r5, _⟩
  · exact implSucc_imp_isSuccess (success_of_stack_eq h3 r5 r2 r3)
  · exact isSuccess_iff.mpr (Or.inr ⟨_, r5⟩)

/-- a returned node never carries the bare `Terminator`: `traverse` expands exactly `seqs` -/
theorem traverse_of_resOK (H : Hyps E start) {c : Nat} {m : PNode} (hm : ResOK E start c m) :
    traverse m.repairs = seqs m.repairs := by
  rw [traverse_eq _ hm.2.1.2]
  cases ht : isTerm m.repairs with
  | false => rfl
  | true =>
    obtain ⟨n, h1, h2, _⟩ := resOK_isSuccess hm (s := [])
      (by rw [eq_term_of_isTerm ht]; exact List.mem_singleton.mpr rfl)
    obtain ⟨rfl, _⟩ := h1.nil_inv
    rw [H.nsucc] at h2
    cases h2

/-- what the search says of a non-empty result `res` (`found_of_dijkstra`), in terms of the specification's
`Rec.Search`: all nodes cost `c`, and what `collect_repairs` expands from them (`traverse`) is exactly the set
of complete repair sequences of cost `c`, the least cost at which there is one. The post-processing
lemmas use the search through this alone (`resOK` keeps the node invariant for the distance argument). -/
structure Found (E : Env) (start : Pos) (res : List PNode) (c : Nat) : Prop where
  cost : ∀ m ∈ res, m.cf = c
  bound : c ≤ U16MAX
  sound : ∀ m ∈ res, ∀ s ∈ traverse m.repairs, Search E.G E.A E.w E.cost E.N (root start) c s
  minimal : ∀ c', c' < c → ∀ seq, ¬ Search E.G E.A E.w E.cost E.N (root start) c' seq
  complete : ∀ seq, Search E.G E.A E.w E.cost E.N (root start) c seq → ∃ m ∈ res, seq ∈ traverse m.repairs
  nonempty : ∀ m ∈ res, traverse m.repairs ≠ []
  resOK : ∀ m ∈ res, ResOK E start c m

theorem found_of_dijkstra (H : Hyps E start) {fuel : Nat} {res : List PNode}
    (h : dijkstra E fuel start = .ok res) (hne : res ≠ []) : ∃ c, Found E start res c := by
  obtain ⟨c, hcu, h1, h2, h3⟩ := (dijkstra_spec H h).2 hne
  have hmin : ∀ c', c' < c → ∀ seq, ¬ Search E.G E.A E.w E.cost E.N (root start) c' seq := by
    intro c' hc' seq hs
    exact Nat.not_le_of_lt hc' (h2 seq c' ⟨isearch_of_search hs, Nat.le_trans (Nat.le_of_lt hc') hcu⟩)
  refine ⟨c, fun m hm => (h1 m hm).1, hcu, ?_, hmin, ?_, ?_, h1⟩
  · intro m hm s hs
    rw [traverse_of_resOK H (h1 m hm)] at hs
    obtain ⟨n, p1, p2, _⟩ := resOK_isSuccess (h1 m hm) hs
    rcases search_of_isearch H.cost_pos ⟨n, p1, p2⟩ with hsr | ⟨k', seq', hk, hs'⟩
    · exact hsr
    · exact absurd hs' (hmin k' hk seq')
  · intro seq hs
    obtain ⟨m, hm, hseq⟩ := h3 seq ⟨isearch_of_search hs, hcu⟩
    exact ⟨m, hm, by rw [traverse_of_resOK H (h1 m hm)]; exact hseq⟩
  · intro m hm
    rw [traverse_of_resOK H (h1 m hm)]
    exact seqs_ne_nil _

theorem none_of_dijkstra (H : Hyps E start) {fuel : Nat} (h : dijkstra E fuel start = .ok []) :
    ∀ c, c ≤ U16MAX → ∀ seq, ¬ Search E.G E.A E.w E.cost E.N (root start) c seq := by
  intro c hc seq hs
  exact (dijkstra_spec H h).1 rfl seq c ⟨isearch_of_search hs, hc⟩

/-- **The modelled search and the reference enumeration agree**: when the search returns nodes of cost
`c`, the reference (with any cap `≥ c`) answers cost `c` with exactly the sequences `collect_repairs`
expands -/
theorem reference_of_found {res : List PNode} {c : Nat} (hf : Found E start res c) (hne : res ≠ [])
    (cap : Nat) (hcap : c ≤ cap) :
    ∃ rs, minCostRepairs E.G E.A E.w E.cost E.N start cap = some (c, rs) ∧
      ∀ seq, seq ∈ rs ↔ ∃ m ∈ res, seq ∈ traverse m.repairs := by
  obtain ⟨m0, hm0⟩ := List.exists_mem_of_ne_nil _ hne
  obtain ⟨s0, hs0⟩ := List.exists_mem_of_ne_nil _ (hf.nonempty m0 hm0)
  have hex := hf.sound m0 hm0 s0 hs0
  cases hmc : minCostRepairs E.G E.A E.w E.cost E.N start cap with
  | none =>
    exfalso
    exact minCostFrom_none (cap + 1) 0 hmc c (Nat.zero_le _) (by rw [Nat.zero_add]; exact Nat.lt_succ_of_le hcap) s0 hex
  | some v =>
    obtain ⟨c0, rs⟩ := v
    obtain ⟨_, hne', hiff, hmin⟩ := minCostFrom_some E.G E.A E.w E.cost E.N start _ 0 c0 rs hmc
    have hc0 : c0 = c := by
      obtain ⟨s1, hs1⟩ := List.exists_mem_of_ne_nil _ hne'
      have h1 : ¬ c0 < c := fun hlt => hf.minimal c0 hlt s1 ((hiff s1).mp hs1)
      have h2 : ¬ c < c0 := fun hlt => hmin c (Nat.zero_le _) hlt s0 hex
      exact Nat.le_antisymm (Nat.le_of_not_lt h2) (Nat.le_of_not_lt h1)
    subst hc0
    refine ⟨rs, rfl, ?_⟩
    intro seq
    rw [hiff seq]
    constructor
    · exact hf.complete seq
    · rintro ⟨m, hm, hs⟩; exact hf.sound m hm seq hs

end GrmVerif.SearchImpl
