import GrmVerif.Lemmas.YaccRoundtripScan
/-!
C10, text → AST stage: facts about a rendered rules section and its image that do not involve the parser: how each
piece is laid out before the text that follows it, what a rendered piece starts with, where the image puts the position,
and the measure that stands for fuel (`At.fuel`).
-/
namespace GrmVerif.YaccRender
open GrmVerif.YaccParse
open GrmVerif.Header (byteLen byteLen_append)

theorem renderSyms_cons_append (s : RTok) (ss : List RTok) (k : List Char) :
    renderSyms (s :: ss) ++ k = s.text ++ ' ' :: (renderSyms ss ++ k) :=
  List.append_assoc s.text (' ' :: renderSyms ss) k

theorem renderProd_append (pr : RProd) (k : List Char) :
    renderProd pr ++ k
      = renderEmpty pr.empty ++ (renderSyms pr.syms ++ (renderPrec pr.prec ++ (renderAction pr.action ++ k))) := by
  simp only [renderProd, List.append_assoc]

theorem renderProds_nil_append (pr : RProd) (post : List Char) :
    renderProds pr [] ++ post = renderProd pr ++ ';' :: '\n' :: post :=
  List.append_assoc (renderProd pr) [';', '\n'] post

theorem renderProds_cons_append (pr q : RProd) (qs : List RProd) (post : List Char) :
    renderProds pr (q :: qs) ++ post = renderProd pr ++ '|' :: ' ' :: (renderProds q qs ++ post) :=
  List.append_assoc (renderProd pr) ('|' :: ' ' :: renderProds q qs) post

theorem renderRule_append (g : Bool) (r : RRule) (post : List Char) :
    renderRule g r ++ post = r.name ++ (renderHead g r ++ ':' :: ' ' :: (renderProds r.first r.more ++ post)) := by
  simp only [renderRule, List.append_assoc, List.cons_append]

theorem renderRules_cons_append (g : Bool) (r : RRule) (rs : List RRule) (post : List Char) :
    renderRules g (r :: rs) ++ post = renderRule g r ++ (renderRules g rs ++ post) :=
  List.append_assoc (renderRule g r) (renderRules g rs) post

/-- a character that starts neither white space nor a comment -/
def Solid (c : Char) : Prop := YaccLex.isBlank c = false ∧ YaccLex.isEol c = false ∧ c ≠ '/'

/-- the text begins with a character at which `parse_ws` stops (so it is not empty) -/
def Starts (k : List Char) : Prop := ∃ c t, k = c :: t ∧ Solid c

theorem Starts.stops {k : List Char} (h : Starts k) : Stops k := by
  obtain ⟨c, t, rfl, h1, h2, h3⟩ := h
  exact .other h1 h2 h3

theorem starts_cons {c : Char} (t : List Char) (h : Solid c) : Starts (c :: t) := ⟨c, t, rfl, h⟩

instance (c : Char) : Decidable (Solid c) := inferInstanceAs (Decidable (_ ∧ _ ∧ _))

theorem solid_of_test {p : Char → Bool} {c : Char} (hc : p c = true)
    (hp : p ' ' = false ∧ p '\t' = false ∧ p '\n' = false ∧ p '\r' = false ∧ p '/' = false) : Solid c := by
  obtain ⟨h1, h2, h3, h4, h5⟩ := hp
  refine ⟨?_, ?_, ne_of_test hc h5⟩
  · rw [YaccLex.isBlank, Bool.or_eq_false_iff, beq_eq_false_iff_ne, beq_eq_false_iff_ne]
    exact ⟨ne_of_test hc h1, ne_of_test hc h2⟩
  · rw [YaccLex.isEol, Bool.or_eq_false_iff, beq_eq_false_iff_ne, beq_eq_false_iff_ne]
    exact ⟨ne_of_test hc h3, ne_of_test hc h4⟩

theorem nameStart_facts {c : Char} (hc : isNameStart c = true) :
    c ≠ '|' ∧ c ≠ ';' ∧ c ≠ '"' ∧ c ≠ '\'' ∧ c ≠ '%' ∧ c ≠ '{' ∧ Solid c :=
  ⟨ne_of_test hc (by decide), ne_of_test hc (by decide), ne_of_test hc (by decide), ne_of_test hc (by decide),
    ne_of_test hc (by decide), ne_of_test hc (by decide), solid_of_test hc (by decide)⟩

theorem nameEnd_cons {c : Char} (hc : isNameCont c = false) (k : List Char) : NameEnd (c :: k) :=
  fun _ _ h => (List.cons.inj h).1 ▸ hc

theorem wfName_starts {n : List Char} (hn : wfName n = true) (k : List Char) : Starts (n ++ k) := by
  obtain ⟨c, cs, rfl, hc, -⟩ := wfName_cons hn
  exact starts_cons _ (nameStart_facts hc).2.2.2.2.2.2

theorem wfTok_starts {s : RTok} (hs : wfTok s = true) (k : List Char) : Starts (s.text ++ k) := by
  cases s with
  | quoted q t => rcases (wfTok_quoted hs).1 with rfl | rfl <;> exact starts_cons _ (by decide)
  | bare n => exact wfName_starts hs k

theorem tok_not_pct {t : RTok} (hw : wfTok t = true) (k : List Char) :
    ∃ c r, t.text ++ k = c :: r ∧ c ≠ '%' := by
  cases t with
  | quoted q t => exact ⟨q, _, rfl, by rcases (wfTok_quoted hw).1 with rfl | rfl <;> decide⟩
  | bare n =>
    obtain ⟨c, cs, rfl, hc, -⟩ := wfName_cons hw
    exact ⟨c, _, rfl, ne_of_test hc (by decide)⟩

theorem starts_syms {ss : List RTok} (h : ss.all wfTok = true) {k : List Char} (hk : Starts k) :
    Starts (renderSyms ss ++ k) := by
  cases ss with
  | nil => exact hk
  | cons s ss =>
    simp only [List.all_cons, Bool.and_eq_true] at h
    rw [renderSyms_cons_append]
    exact wfTok_starts h.1 _

theorem starts_prec (o : Option RTok) {k : List Char} (hk : Starts k) : Starts (renderPrec o ++ k) := by
  cases o with
  | none => exact hk
  | some t => exact starts_cons _ (by decide)

theorem starts_action (o : Option (List Char)) {k : List Char} (hk : Starts k) :
    Starts (renderAction o ++ k) := by
  cases o with
  | none => exact hk
  | some t => exact starts_cons _ (by decide)

theorem starts_bar (k : List Char) : Starts ('|' :: k) := starts_cons _ (by decide)

theorem starts_semi (k : List Char) : Starts (';' :: k) := starts_cons _ (by decide)

def BarSemi (k : List Char) : Prop := ∃ c t, k = c :: t ∧ (c = '|' ∨ c = ';')

theorem BarSemi.starts {k : List Char} (h : BarSemi k) : Starts k := by
  obtain ⟨c, t, rfl, rfl | rfl⟩ := h
  · exact starts_bar _
  · exact starts_semi _

/-- what may follow `%empty `: `|`, `;`, `{` or `%prec` -/
def FollowE (k : List Char) : Prop :=
  BarSemi k ∨ (∃ t, k = '{' :: t) ∨ (∃ t, k = '%' :: 'p' :: 'r' :: 'e' :: 'c' :: t)

theorem FollowE.starts {k : List Char} (h : FollowE k) : Starts k := by
  rcases h with h | ⟨t, rfl⟩ | ⟨t, rfl⟩
  · exact h.starts
  · exact starts_cons _ (by decide)
  · exact starts_cons _ (by decide)

theorem followE_tail (c : Option RTok) (a : Option (List Char)) {k : List Char} (hk : BarSemi k) :
    FollowE (renderPrec c ++ (renderAction a ++ k)) := by
  cases c with
  | some t => exact .inr (.inr ⟨_, rfl⟩)
  | none =>
    cases a with
    | some t => exact .inr (.inl ⟨_, rfl⟩)
    | none => exact .inl hk

theorem wfProd_spec {pr : RProd} (h : wfProd pr = true) :
    pr.syms.all wfTok = true ∧ pr.prec.all wfTok = true ∧ pr.action.all wfAction = true ∧
      (pr.empty = true → pr.syms = []) := by
  simp only [wfProd, Bool.and_eq_true, Bool.or_eq_true, Bool.not_eq_true', List.isEmpty_iff] at h
  exact ⟨h.1.1.1, h.1.1.2, h.1.2, fun he => h.2.resolve_left fun e => Bool.noConfusion (he.symm.trans e)⟩

theorem wfRule_spec {g : Bool} {r : RRule} (h : wfRule g r = true) :
    wfName r.name = true ∧ (∀ q ∈ r.first :: r.more, wfProd q = true) ∧ (g = true → wfType r.ty = true) := by
  simp only [wfRule, Bool.and_eq_true, List.all_eq_true, RRule.prods, Bool.or_eq_true, Bool.not_eq_true'] at h
  exact ⟨h.1.1, h.1.2, fun hg => h.2.resolve_left fun e => Bool.noConfusion (hg.symm.trans e)⟩

theorem starts_prod {pr : RProd} (hw : wfProd pr = true) {k : List Char} (hk : Starts k) :
    Starts (renderProd pr ++ k) := by
  obtain ⟨hs, -⟩ := wfProd_spec hw
  rw [renderProd_append]
  cases pr.empty with
  | true => exact starts_cons _ (by decide)
  | false => exact starts_syms hs (starts_prec _ (starts_action _ hk))

theorem starts_prods {pr : RProd} {more : List RProd} (hw : wfProd pr = true) (post : List Char) :
    Starts (renderProds pr more ++ post) := by
  cases more with
  | nil => rw [renderProds_nil_append]; exact starts_prod hw (starts_semi _)
  | cons q qs => rw [renderProds_cons_append]; exact starts_prod hw (starts_bar _)

theorem At.lt_of_starts {src : List Char} {i : Nat} {k : List Char} (h : At src i k) (hk : Starts k) :
    i < byteLen src := by
  obtain ⟨c, t, rfl, _⟩ := hk
  exact h.lt

theorem sz_sp : Char.utf8Size ' ' = 1 := by decide

theorem runEmpty_pos (i : Nat) (e : Bool) (p : PState) :
    (runEmpty i e p).1 = i + byteLen (renderEmpty e) := by
  cases e
  · simp [runEmpty, renderEmpty, byteLen]
  · simp only [runEmpty, renderEmpty, if_true]
    rw [show byteLen ['%', 'e', 'm', 'p', 't', 'y', ' '] = 7 by decide]

theorem runSyms_pos : ∀ (ss : List RTok) (i : Nat) (p : PState) (st : St),
    (runSyms i ss p st).1 = i + byteLen (renderSyms ss) := by
  intro ss
  induction ss with
  | nil => intro i p st; simp [runSyms, renderSyms, byteLen]
  | cons s ss ih =>
    intro i p st
    rw [runSyms, ih]
    simp only [renderSyms, byteLen_append, byteLen, sz_sp]; omega

theorem runPrec_pos (i : Nat) (o : Option RTok) (p : PState) (st : St) :
    (runPrec i o p st).1 = i + byteLen (renderPrec o) := by
  cases o with
  | none => simp [runPrec, renderPrec, byteLen]
  | some t =>
    have : byteLen (renderPrec (some t)) = byteLen ['%', 'p', 'r', 'e', 'c', ' '] + (byteLen t.text + 1) := by
      rw [show renderPrec (some t) = ['%', 'p', 'r', 'e', 'c', ' '] ++ (t.text ++ [' ']) from rfl,
        byteLen_append, byteLen_append]
      simp [byteLen, sz_sp]
    rw [this, show byteLen ['%', 'p', 'r', 'e', 'c', ' '] = 6 by decide]
    simp only [runPrec]; omega

theorem runAction_pos (i : Nat) (o : Option (List Char)) (p : PState) (st : St) :
    (runAction i o p st).1 = i + byteLen (renderAction o) := by
  cases o with
  | none => simp [runAction, renderAction, byteLen]
  | some a =>
    have : byteLen (renderAction (some a)) = 1 + (byteLen a + 2) := by
      rw [show renderAction (some a) = ['{'] ++ (a ++ ['}', ' ']) from rfl, byteLen_append, byteLen_append,
        show byteLen ['{'] = 1 by decide, show byteLen ['}', ' '] = 2 by decide]
    rw [this]; simp only [runAction]; omega

theorem runProd_pos (i : Nat) (pr : RProd) (st : St) :
    (runProd i pr st).1 = i + byteLen (renderProd pr) := by
  simp only [runProd, runAction_pos, runPrec_pos, runSyms_pos, runEmpty_pos, renderProd, byteLen_append]
  omega

/-- the three intermediate results of `runProd` by name, for proofs that go through its stages one after the other -/
theorem runProd_stages (i : Nat) (pr : RProd) (st : St) : ∃ e s c,
    runEmpty i pr.empty { prodStart := i } = e ∧ runSyms e.1 pr.syms e.2 st = s ∧
      runPrec s.1 pr.prec s.2.1 s.2.2 = c ∧ runProd i pr st = runAction c.1 pr.action c.2.1 c.2.2 :=
  ⟨_, _, _, rfl, rfl, rfl, rfl⟩

theorem runProds_pos (rn : Name) : ∀ (more : List RProd) (pr : RProd) (i : Nat) (st : St),
    (runProds rn i pr more st).1 + 1 = i + byteLen (renderProds pr more) := by
  intro more
  induction more with
  | nil =>
    intro pr i st
    simp only [runProds, runProd_pos, renderProds, byteLen_append]
    rw [show byteLen [';', '\n'] = 2 by decide]
    omega
  | cons q qs ih =>
    intro pr i st
    rw [runProds, ih, runProd_pos]
    rw [show renderProds pr (q :: qs) = renderProd pr ++ (['|', ' '] ++ renderProds q qs) from rfl,
      byteLen_append, byteLen_append, show byteLen ['|', ' '] = 2 by decide]
    omega

theorem runRule_pos (g : Bool) (i : Nat) (r : RRule) (st : St) :
    (runRule g i r st).1 = i + byteLen (renderRule g r) := by
  simp only [runRule, runProds_pos]
  rw [show renderRule g r = r.name ++ (renderHead g r ++ ([':', ' '] ++ renderProds r.first r.more)) from rfl,
    byteLen_append, byteLen_append, byteLen_append, show byteLen [':', ' '] = 2 by decide]
  omega

theorem runRules_pos (g : Bool) : ∀ (rs : List RRule) (i : Nat) (st : St),
    (runRules g i rs st).1 = i + byteLen (renderRules g rs) := by
  intro rs
  induction rs with
  | nil => intro i st; simp [runRules, renderRules, byteLen]
  | cons r rs ih => intro i st; rw [runRules, ih, runRule_pos, renderRules, byteLen_append]; omega

theorem length_le_byteLen (s : List Char) : s.length ≤ byteLen s := by
  induction s with
  | nil => simp [byteLen]
  | cons c cs ih => have := Char.utf8Size_pos c; simp only [List.length_cons, byteLen]; omega

/-- Fuel is measured against the text that is left: a loop at byte `j` with fuel `f` has `byteLen src < j + f`.
A scanner that reads the piece `t` written at `j` makes one iteration per character, so it has enough. -/
theorem At.fuel {src : List Char} {j f : Nat} {t rest : List Char} (h : At src j (t ++ rest))
    (hf : byteLen src < j + f) : t.length < f := by
  have h1 := Header.dropBytes_len h
  rw [byteLen_append] at h1
  have h2 := length_le_byteLen t
  omega

/-- a loop that is not at the end of the text has fuel for one iteration -/
theorem fuel_succ {n i f : Nat} (hlt : i < n) (hf : n < i + f) : ∃ f', f = f' + 1 :=
  Nat.exists_eq_add_one.2 (Nat.pos_of_lt_add_right (Nat.lt_trans hlt hf))

end GrmVerif.YaccRender
