import GrmVerif.Lemmas.Lex
/-! Helper definitions/lemmas for C09: what the run relation `Tiles` implies about the event list. -/
namespace GrmVerif.Lex

def Ev.isStep : Ev → Bool
  | .tok .. => true
  | .skip .. => true
  | _ => false

def Ev.start : Ev → Nat
  | .tok _ _ s _ => s
  | .skip _ s _ => s
  | .err o _ => o
  | .panic => 0

def Ev.len : Ev → Nat
  | .tok _ _ _ l => l
  | .skip _ _ l => l
  | _ => 0

def Ev.ridx : Ev → Nat
  | .tok r _ _ _ => r
  | .skip r _ _ => r
  | _ => 0

/-- `Chain i steps e`: all of `steps` are lexemes or skipped matches, each non-empty, the first starts
at `i`, each next one starts where the previous one ended, the last one ends at `e` -/
def Chain : Nat → List Ev → Nat → Prop
  | i, [], e => e = i
  | i, ev :: evs, e => ev.isStep = true ∧ ev.start = i ∧ 0 < ev.len ∧ Chain (i + ev.len) evs e

/-- every target state a rule refers to exists (guaranteed by the `.l` parser: `UnknownStartState`) -/
def TargetsOK (cfg : Cfg) : Prop :=
  ∀ r ∈ cfg.rules, ∀ tid op, r.target = some (tid, op) → ∃ s, getState cfg.states tid = some s

/-- every named rule has a token id (true of a parsed definition; `set_rule_ids` can unset ids) -/
def AllIds (cfg : Cfg) : Prop := ∀ r ∈ cfg.rules, r.name.isSome = true → r.tokId.isSome = true

/-- matches lie inside the input -/
def MlBounded (ml : Nat → Nat → Option Nat) (n : Nat) : Prop := ∀ r i l, ml r i = some l → i + l ≤ n

theorem Emits.facts {r : Rule} {ridx i len : Nat} {ev : Ev} (h : Emits r ridx i len ev) :
    ev.isStep = true ∧ ev.start = i ∧ ev.len = len ∧ ev.ridx = ridx := by
  rcases h with ⟨_, rfl⟩ | ⟨t, _, _, rfl⟩ <;> exact ⟨rfl, rfl, rfl, rfl⟩

/-- the plain stack after a list of step events (each event names its rule) -/
def stackAfter (cfg : Cfg) (init : St) : List St → List Ev → List St
  | ps, [] => ps
  | ps, ev :: evs =>
    match cfg.rules[ev.ridx]? with
    | some r =>
      match r.target with
      | some (tid, op) =>
        match getState cfg.states tid with
        | some s => stackAfter cfg init (plainOp init ps s op) evs
        | none => stackAfter cfg init ps evs
      | none => stackAfter cfg init ps evs
    | none => stackAfter cfg init ps evs

theorem stackAfter_step {cfg : Cfg} {init : St} {ps ps' : List St} {r : Rule} {ev : Ev} {evs : List Ev}
    (hr : cfg.rules[ev.ridx]? = some r) (hm : Moves cfg init ps r ps') :
    stackAfter cfg init ps (ev :: evs) = stackAfter cfg init ps' evs := by
  rcases hm with ⟨ht, rfl⟩ | ⟨tid, op, s, ht, hg, rfl⟩
  · simp only [stackAfter, hr, ht]
  · simp only [stackAfter, hr, ht, hg]

theorem tiles_shape {cfg : Cfg} {ml : Nat → Nat → Option Nat} {n : Nat} {init : St} (htg : TargetsOK cfg)
    {i : Nat} {ps : List St} {evs : List Ev} (h : Tiles cfg ml n init i ps evs) :
    ∃ steps e, Chain i steps e ∧ (MlBounded ml n → i ≤ n → e ≤ n) ∧
      ((evs = steps ∧ n ≤ e) ∨ (∃ st, evs = steps ++ [.err e st] ∧ e < n)) := by
  induction h with
  | done hn => exact ⟨[], _, rfl, fun _ h => h, Or.inl ⟨rfl, hn⟩⟩
  | stuck hin _ => exact ⟨[], _, rfl, fun _ h => h, Or.inr ⟨_, rfl, hin⟩⟩
  | unset hin _ _ _ _ => exact ⟨[], _, rfl, fun _ h => h, Or.inr ⟨_, rfl, hin⟩⟩
  | badTarget hin hle hr hem ht hg =>
    obtain ⟨s, hs⟩ := htg _ (List.mem_of_getElem? hr) _ _ ht
    rw [hg] at hs; cases hs
  | step hin hle hr hem hmv _ ih =>
    obtain ⟨steps, e, hc, hb, hsh⟩ := ih
    obtain ⟨f1, f2, f3, _⟩ := hem.facts
    refine ⟨_ :: steps, e, ⟨f1, f2, f3 ▸ hle.pos, f3 ▸ hc⟩, fun hml _ => hb hml (hml _ _ _ hle.hit), ?_⟩
    rcases hsh with ⟨rfl, hn⟩ | ⟨st, rfl, hn⟩
    · exact Or.inl ⟨rfl, hn⟩
    · exact Or.inr ⟨st, rfl, hn⟩

theorem singleton_eq_append_cons {α} {x b : α} {pre post : List α} (h : [x] = pre ++ b :: post) :
    pre = [] ∧ b = x ∧ post = [] := by
  rcases List.singleton_eq_append_iff.mp h with ⟨rfl, h'⟩ | ⟨_, h'⟩
  · cases h'; exact ⟨rfl, rfl, rfl⟩
  · cases h'

theorem tiles_positions {cfg : Cfg} {ml : Nat → Nat → Option Nat} {n : Nat} {init : St}
    {i : Nat} {ps : List St} {evs : List Ev} (h : Tiles cfg ml n init i ps evs) :
    ∀ pre ev post, evs = pre ++ ev :: post →
      (ev.isStep = true → ∃ cur rest, stackAfter cfg init ps pre = cur :: rest ∧
        LongestEarliest cfg ml cur ev.start ev.ridx ev.len) ∧
      (∀ e id, ev = .err e (some id) →
        ∃ cur rest, stackAfter cfg init ps pre = cur :: rest ∧ id = cur.id ∧ Stuck cfg ml cur e) := by
  have head : ∀ {cur ps ridx len r ev i}, LongestEarliest cfg ml cur i ridx len → Emits r ridx i len ev →
      (ev.isStep = true → ∃ c rest, stackAfter cfg init (cur :: ps) [] = c :: rest ∧
        LongestEarliest cfg ml c ev.start ev.ridx ev.len) ∧
      (∀ e id, ev = .err e (some id) →
        ∃ c rest, stackAfter cfg init (cur :: ps) [] = c :: rest ∧ id = c.id ∧ Stuck cfg ml c e) :=
    fun hle hem => by
      obtain ⟨f1, f2, f3, f4⟩ := hem.facts
      exact ⟨fun _ => ⟨_, _, rfl, by rw [f2, f3, f4]; exact hle⟩, fun e id h => by rw [h] at f1; cases f1⟩
  -- the event asked about is the head of the list (`head`), or lies in the tail: then `stackAfter_step` moves
  -- the stack over the head and the induction hypothesis answers
  induction h with
  | done hn => exact fun _ _ _ h => (nomatch (List.append_eq_nil_iff.mp h.symm).2)
  | @stuck i cur ps hin hs =>
    intro pre ev post h
    obtain ⟨rfl, rfl, rfl⟩ := singleton_eq_append_cons h
    exact ⟨nofun, fun e id h => by cases h; exact ⟨cur, ps, rfl, rfl, hs⟩⟩
  | unset hin _ _ _ _ =>
    intro pre ev post h
    obtain ⟨rfl, rfl, rfl⟩ := singleton_eq_append_cons h
    exact ⟨nofun, nofun⟩
  | badTarget hin hle hr hem ht hg =>
    intro pre ev' post h
    rcases List.cons_eq_append_iff.mp h with ⟨rfl, h'⟩ | ⟨pre, rfl, h'⟩
    · cases h'; exact head hle hem
    · obtain ⟨rfl, rfl, rfl⟩ := singleton_eq_append_cons h'; exact ⟨nofun, nofun⟩
  | @step i cur ps ridx len r ev ps' evs hin hle hr hem hmv _ ih =>
    intro pre ev' post h
    rcases List.cons_eq_append_iff.mp h with ⟨rfl, h'⟩ | ⟨pre, rfl, h'⟩
    · cases h'; exact head hle hem
    · rw [stackAfter_step (hem.facts.2.2.2 ▸ hr) hmv]; exact ih pre ev' post h'

theorem tiles_no_panic {cfg : Cfg} {ml : Nat → Nat → Option Nat} {n : Nat} {init : St}
    {i : Nat} {ps : List St} {evs : List Ev} (h : Tiles cfg ml n init i ps evs) : Ev.panic ∉ evs := by
  induction h with
  | done _ => exact List.not_mem_nil
  | stuck _ _ => exact fun h => nomatch List.mem_singleton.mp h
  | unset _ _ _ _ _ => exact fun h => nomatch List.mem_singleton.mp h
  | badTarget _ _ _ hem _ _ =>
    intro hm
    rcases List.mem_cons.mp hm with rfl | hm
    · exact nomatch hem.facts.1
    · exact nomatch List.mem_singleton.mp hm
  | step _ _ _ hem _ _ ih =>
    intro hm
    rcases List.mem_cons.mp hm with rfl | hm
    · exact nomatch hem.facts.1
    · exact ih hm

theorem tiles_error_kind {cfg : Cfg} {ml : Nat → Nat → Option Nat} {n : Nat} {init : St}
    (htg : TargetsOK cfg) (hids : AllIds cfg)
    {i : Nat} {ps : List St} {evs : List Ev} (h : Tiles cfg ml n init i ps evs) :
    ∀ e st, Ev.err e st ∈ evs → ∃ id, st = some id := by
  induction h with
  | done _ => exact fun _ _ h => nomatch h
  | stuck _ _ => intro e st h; cases List.mem_singleton.mp h; exact ⟨_, rfl⟩
  | unset _ _ hr hn ht =>
    have := hids _ (List.mem_of_getElem? hr) hn
    rw [ht] at this; cases this
  | badTarget _ _ hr _ ht hg =>
    obtain ⟨s, hs⟩ := htg _ (List.mem_of_getElem? hr) _ _ ht
    rw [hg] at hs; cases hs
  | step _ _ _ hem _ _ ih =>
    intro e st h
    rcases List.mem_cons.mp h with rfl | h
    · exact nomatch hem.facts.1
    · exact ih e st h

end GrmVerif.Lex
