import GrmVerif.Lemmas.RecActKept
import GrmVerif.Lemmas.RunSpec
/-!
From the plain run with values over the edited lexemes to `Act.parseA` on the edited input. The plain driver
calls the `k`-th lexeme of its input `k`, the recovering driver calls it `lexId` of the `k`-th edited item;
reductions and pushes commute with renaming the identities (`feedA_mapIdx`), so value and log of the
recovering run are the renamed value and log of that parse (`plain_run_is_parseA`).
-/
namespace GrmVerif.RecAct
open LR Act Rec Cert C05

variable {G : Grammar} {A : Automaton}

theorem treesMapIdx_eq_map (f : Nat → Nat) : ∀ ts : List Tree, treesMapIdx f ts = ts.map (treeMapIdx f)
  | [] => rfl
  | k :: ks => by simp [treesMapIdx, treesMapIdx_eq_map f ks]

def VCfg.mapIdx (f : Nat → Nat) (v : VCfg) : VCfg :=
  ⟨v.pstack, v.astack.map (treeMapIdx f), v.spans, v.log.map (callMapIdx f)⟩

def FedA.mapIdx (f : Nat → Nat) : FedA → FedA
  | .shifted s' v => .shifted s' (v.mapIdx f)
  | .accept v => .accept (v.mapIdx f)
  | .error v => .error (v.mapIdx f)
  | .crash => .crash
  | .fuelOut => .fuelOut

theorem FedA.mapIdx_shifted {f : Nat → Nat} {r : FedA} {s' : Nat} {x : VCfg} (h : r.mapIdx f = .shifted s' x) :
    ∃ x', r = .shifted s' x' ∧ x = x'.mapIdx f := by
  cases r <;> cases h
  exact ⟨_, rfl, rfl⟩

theorem FedA.mapIdx_accept {f : Nat → Nat} {r : FedA} {x : VCfg} (h : r.mapIdx f = .accept x) :
    ∃ x', r = .accept x' ∧ x = x'.mapIdx f := by
  cases r <;> cases h
  exact ⟨_, rfl, rfl⟩

def Lx.mapIdx (f : Nat → Nat) (l : Lx) : Lx := ⟨l.tok, f l.id, l.span⟩

theorem argOf_mapIdx (f : Nat → Nat) : ∀ t : Tree, argOf (treeMapIdx f t) = argMapIdx f (argOf t)
  | .leaf _ _ => rfl
  | .node _ _ => rfl

theorem reduceV_mapIdx (G : Grammar) (f : Nat → Nat) (p s' : Nat) (v : VCfg) :
    reduceV G p s' (v.mapIdx f) = (reduceV G p s' v).mapIdx f := by
  have hfun : (argOf ∘ treeMapIdx f) = (argMapIdx f ∘ argOf) := funext (argOf_mapIdx f)
  simp only [reduceV, VCfg.mapIdx, List.map_cons, List.map_append, List.map_nil, List.map_drop, treeMapIdx,
    treesMapIdx_eq_map, List.map_reverse, List.map_take, callMapIdx, List.map_map, hfun]

theorem stopA_mapIdx (A : Automaton) (f : Nat → Nat) (la : Nat) (v : VCfg) :
    stopA A la (v.mapIdx f) = (stopA A la v).mapIdx f := by
  obtain ⟨ps, as, sp, lg⟩ := v
  cases ps with
  | nil => rfl
  | cons st tl => simp only [stopA, VCfg.mapIdx]; cases A.action st la <;> rfl

theorem redsV_mapIdx (G : Grammar) (f : Nat → Nat) (ps : List (Nat × Nat)) :
    ∀ v : VCfg, redsV G ps (v.mapIdx f) = (redsV G ps v).mapIdx f := by
  induction ps with
  | nil => intro v; rfl
  | cons q qs ih => intro v; simp only [redsV, List.foldl_cons] at ih ⊢; rw [reduceV_mapIdx, ih]

theorem feedA_mapIdx (G : Grammar) (A : Automaton) (f : Nat → Nat) (la : Nat) :
    ∀ (fuel : Nat) (v : VCfg), feedA G A la fuel (v.mapIdx f) = (feedA G A la fuel v).mapIdx f := by
  intro fuel v
  rcases Rec.reds_cases G A la fuel v.pstack with ⟨ps, b, hr, hb, hl⟩ | ⟨ps, b, hr, rfl⟩
  · rw [feedA_eq_stopA (v := v.mapIdx f) hr hb hl, feedA_eq_stopA hr hb hl, redsV_mapIdx, stopA_mapIdx]
  · rw [feedA_eq_fuelOut (v := v.mapIdx f) hr, feedA_eq_fuelOut hr]; rfl

theorem pushLex_mapIdx (f : Nat → Nat) (s' tok id : Nat) (sp : Nat × Nat) (v : VCfg) :
    pushLex s' tok (f id) sp (v.mapIdx f) = (pushLex s' tok id sp v).mapIdx f := by
  simp [pushLex, VCfg.mapIdx, treeMapIdx]

theorem feedsToA_unmap (f : Nat → Nat) :
    ∀ (lexs : List Lx) (v st : VCfg), FeedsToA G A (v.mapIdx f) (lexs.map (Lx.mapIdx f)) st →
      ∃ st', st = st'.mapIdx f ∧ FeedsToA G A v lexs st' := by
  intro lexs
  induction lexs with
  | nil => intro v st h; simp only [List.map_nil, FeedsToA] at h; exact ⟨v, h, rfl⟩
  | cons l ls ih =>
    intro v st h
    simp only [List.map_cons, FeedsToA, Lx.mapIdx] at h
    obtain ⟨s', x, fu, hx, hrest⟩ := h
    rw [feedA_mapIdx] at hx
    obtain ⟨x', hx', rfl⟩ := FedA.mapIdx_shifted hx
    rw [pushLex_mapIdx] at hrest
    obtain ⟨st', h1, h2⟩ := ih _ st hrest
    exact ⟨st', h1, s', x', fu, hx', h2⟩

theorem acceptOut_unmap {f : Nat → Nat} {y : VCfg} {t : Tree} (h : acceptOut (y.mapIdx f) = .accept t) :
    ∃ t', acceptOut y = .accept t' ∧ t = treeMapIdx f t' := by
  simp only [acceptOut, VCfg.mapIdx, List.getLast?_map] at h
  cases hl : y.astack.getLast? with
  | none => rw [hl] at h; simp at h
  | some x =>
    rw [hl] at h
    cases x with
    | leaf a b => simp [treeMapIdx] at h
    | node p kids =>
      simp only [Option.map_some, treeMapIdx, Outcome.accept.injEq] at h
      exact ⟨.node p kids, by simp [acceptOut, hl], by rw [← h]; simp [treeMapIdx]⟩

/-- the lexemes of a token list as the plain action driver pushes them: the `k`-th is called `k` -/
def idxLexs (span : Nat → Nat × Nat) : Nat → List Nat → List Lx
  | _, [] => []
  | i, t :: ts => ⟨t, i, span i⟩ :: idxLexs span (i + 1) ts

theorem feedsToA_stepsA (G : Grammar) (A : Automaton) (toks : List Nat) (span : Nat → Nat × Nat) :
    ∀ (ts : List Nat) (i : Nat) (v st : VCfg), i ≤ toks.length → toks.drop i = ts →
      FeedsToA G A v (idxLexs span i ts) st →
      StepsA G A toks span (v.toA i) (st.toA toks.length) := by
  intro ts
  induction ts with
  | nil =>
    intro i v st hle hd h
    simp only [idxLexs, FeedsToA] at h
    subst h
    cases Nat.le_antisymm hle (List.drop_eq_nil_iff.mp hd)
    exact .refl _
  | cons t ts ih =>
    intro i v st hle hd h
    simp only [idxLexs, FeedsToA] at h
    obtain ⟨s', x, f, hf, h⟩ := h
    obtain ⟨hget, hd'⟩ := drop_cons_getElem hd
    rw [← nextTok_of_drop_cons (G := G) hd] at hf h
    exact (feedA_shifted_stepsA G A toks span i hf).trans
      (ih (i + 1) _ st (List.getElem?_eq_some_iff.mp hget).1 hd' h)

theorem idxLexs_items {α : Type} (its : List α) (tokOf : α → Nat) (idOf : α → Nat) (spanOf : α → Nat × Nat)
    (span : Nat → Nat × Nat) (f : Nat → Nat)
    (hspan : ∀ i it, its[i]? = some it → span i = spanOf it) (hf : ∀ i it, its[i]? = some it → f i = idOf it) :
    ∀ (rest : List α) (i : Nat), its.drop i = rest →
      (idxLexs span i (rest.map tokOf)).map (Lx.mapIdx f) = rest.map (fun it => ⟨tokOf it, idOf it, spanOf it⟩) := by
  intro rest
  induction rest with
  | nil => intro i _; rfl
  | cons it rest ih =>
    intro i hd
    obtain ⟨hget, hd'⟩ := drop_cons_getElem hd
    simp only [List.map_cons, idxLexs, Lx.mapIdx, hspan i it hget, hf i it hget, ih (i + 1) hd']

theorem editedSpan_get {w : List Nat} {lexSpan : Nat → Nat × Nat} {errs : List Err} {i : Nat} {it : EItem}
    (h : (editedItems w.length 0 errs)[i]? = some it) :
    editedSpan w lexSpan errs i = itemSpan lexSpan w.length it := by
  simp [editedSpan, editedLex, List.getD, List.getElem?_map, h]

theorem editedId_get {w : List Nat} {errs : List Err} {i : Nat} {it : EItem}
    (h : (editedItems w.length 0 errs)[i]? = some it) : editedId w errs i = lexId w.length it := by
  simp [editedId, List.getD, h]

theorem plain_run_is_parseA (G : Grammar) (A : Automaton) (w : List Nat) (lexSpan : Nat → Nat × Nat)
    (errs : List Err) {st y : VCfg} {f : Nat} {t : Tree}
    (hfeeds : FeedsToA G A (initV A) ((editedItems w.length 0 errs).map (itemLx w lexSpan)) st)
    (hacc : feedA G A G.eof f st = .accept y) (hout : acceptOut y = .accept t) :
    ∃ fuel' t' log', parseA G A (editedToks w w.length 0 errs) (editedSpan w lexSpan errs) fuel' = (.accept t', log') ∧
      t = treeMapIdx (editedId w errs) t' ∧ y.log = log'.map (callMapIdx (editedId w errs)) := by
  have hlex : (idxLexs (editedSpan w lexSpan errs) 0 (editedToks w w.length 0 errs)).map (Lx.mapIdx (editedId w errs)) =
      (editedItems w.length 0 errs).map (itemLx w lexSpan) :=
    idxLexs_items (editedItems w.length 0 errs) (itemTok w) (lexId w.length) (itemSpan lexSpan w.length)
      (editedSpan w lexSpan errs) (editedId w errs) (fun i it h => editedSpan_get h) (fun i it h => editedId_get h)
      (editedItems w.length 0 errs) 0 rfl
  have hinit : initV A = (initV A).mapIdx (editedId w errs) := by simp [initV, VCfg.mapIdx]
  rw [← hlex, hinit] at hfeeds
  obtain ⟨st', hst, hfeeds'⟩ := feedsToA_unmap _ _ _ _ hfeeds
  have hsteps := feedsToA_stepsA G A (editedToks w w.length 0 errs) (editedSpan w lexSpan errs) _ 0 _ _
    (Nat.zero_le _) (by simp) hfeeds'
  rw [hst, feedA_mapIdx] at hacc
  obtain ⟨y', hacc', hy⟩ := FedA.mapIdx_accept hacc
  rw [← nextTok_of_le (G := G) (Nat.le_refl (editedToks w w.length 0 errs).length)] at hacc'
  obtain ⟨hs2, hdone⟩ := feedA_accept_stepsA G A _ (editedSpan w lexSpan errs) _ hacc'
  rw [hy] at hout
  obtain ⟨t', hout', ht⟩ := acceptOut_unmap hout
  rw [hout'] at hdone
  obtain ⟨fuel', hrun⟩ := runA_of_stepsA (hsteps.trans hs2) hdone
  exact ⟨fuel', t', y'.log, hrun, ht, by rw [hy]; rfl⟩

mutual
theorem leafIdxs_mapIdx (f : Nat → Nat) : ∀ t : Tree, Tree.leafIdxs (treeMapIdx f t) = (Tree.leafIdxs t).map f
  | .leaf _ _ => rfl
  | .node _ kids => by simp only [treeMapIdx, Tree.leafIdxs]; exact leafIdxsList_mapIdx f kids
theorem leafIdxsList_mapIdx (f : Nat → Nat) :
    ∀ ts : List Tree, Tree.leafIdxsList (treesMapIdx f ts) = (Tree.leafIdxsList ts).map f
  | [] => rfl
  | k :: ks => by
    simp only [treesMapIdx, Tree.leafIdxsList, List.map_append, leafIdxs_mapIdx f k, leafIdxsList_mapIdx f ks]
end

mutual
theorem yield_mapIdx (f : Nat → Nat) : ∀ t : Tree, Tree.yield (treeMapIdx f t) = Tree.yield t
  | .leaf _ _ => rfl
  | .node _ kids => by simp only [treeMapIdx, Tree.yield]; exact yieldList_mapIdx f kids
theorem yieldList_mapIdx (f : Nat → Nat) : ∀ ts : List Tree, Tree.yieldList (treesMapIdx f ts) = Tree.yieldList ts
  | [] => rfl
  | k :: ks => by simp only [treesMapIdx, Tree.yieldList, yield_mapIdx f k, yieldList_mapIdx f ks]
end

mutual
theorem postorder_mapIdx (f : Nat → Nat) : ∀ t : Tree, Tree.postorder (treeMapIdx f t) = Tree.postorder t
  | .leaf _ _ => rfl
  | .node _ kids => by simp only [treeMapIdx, Tree.postorder, postorderList_mapIdx f kids]
theorem postorderList_mapIdx (f : Nat → Nat) :
    ∀ ts : List Tree, Tree.postorderList (treesMapIdx f ts) = Tree.postorderList ts
  | [] => rfl
  | k :: ks => by simp only [treesMapIdx, Tree.postorderList, postorder_mapIdx f k, postorderList_mapIdx f ks]
end

theorem root_mapIdx (G : Grammar) (f : Nat → Nat) : ∀ t : Tree, Tree.root G (treeMapIdx f t) = Tree.root G t
  | .leaf _ _ => rfl
  | .node _ _ => rfl

mutual
theorem valid_mapIdx (G : Grammar) (f : Nat → Nat) : ∀ t : Tree, Tree.valid G (treeMapIdx f t) = Tree.valid G t
  | .leaf _ _ => rfl
  | .node p kids => by
    have hr : (Tree.root G ∘ treeMapIdx f) = Tree.root G := funext (root_mapIdx G f)
    have hv := validList_mapIdx G f kids
    simp only [treeMapIdx, Tree.valid, hv]
    rw [treesMapIdx_eq_map, List.map_map, hr]
theorem validList_mapIdx (G : Grammar) (f : Nat → Nat) :
    ∀ ts : List Tree, Tree.validList G (treesMapIdx f ts) = Tree.validList G ts
  | [] => rfl
  | k :: ks => by simp only [treesMapIdx, Tree.validList, valid_mapIdx G f k, validList_mapIdx G f ks]
end

theorem range_map_getD {α β : Type} (l : List α) (g : α → β) (d : α) :
    (List.range l.length).map (fun k => g (l.getD k d)) = l.map g := by
  apply List.ext_getElem
  · simp
  · intro i h1 h2
    simp only [List.length_map, List.length_range] at h1
    simp [List.getD, List.getElem?_eq_getElem h1]

theorem logMap_prods (f : Nat → Nat) (log : List Call) : (log.map (callMapIdx f)).map (·.p) = log.map (·.p) := by
  simp [List.map_map, Function.comp_def, callMapIdx]

end GrmVerif.RecAct
