import GrmVerif.Lemmas.YaccBuild
/-!
C10, stage A: the name → index map (`lastIdx`), the rule-name list of `buildGrammar` as the names
cfgrammar adds followed by the user's (`cfgOk`: the three units give pairwise distinct fresh names),
and what the context `mkCtx` knows about both. The hypotheses and counts that the property theorems of
Props/C10 speak of are defined here together (`cfgOk`, `refsOk`, `addedRules`; `addedProds` stands with the shape of
the added productions in YaccBuildShape).
-/
namespace GrmVerif.YaccBuild

theorem lastIdxFrom_shift (n : Str) : ∀ (l : List Str) (i : Nat),
    lastIdxFrom n l (i + 1) = (lastIdxFrom n l i).map (· + 1) := by
  intro l
  induction l with
  | nil => intro i; rfl
  | cons x xs ih =>
    intro i
    rw [lastIdxFrom, lastIdxFrom, ih (i + 1)]
    cases lastIdxFrom n xs (i + 1) with
    | some j => rfl
    | none => by_cases hx : x = n <;> simp [hx]

theorem lastIdx_nil (n : Str) : lastIdx [] n = none := rfl

theorem lastIdx_cons (x : Str) (xs : List Str) (n : Str) :
    lastIdx (x :: xs) n =
      match lastIdx xs n with
      | some j => some (j + 1)
      | none => if x = n then some 0 else none := by
  unfold lastIdx
  rw [lastIdxFrom, lastIdxFrom_shift n xs 0]
  cases lastIdxFrom n xs 0 <;> rfl

theorem lastIdx_lt : ∀ {names : List Str} {n : Str} {j : Nat}, lastIdx names n = some j →
    j < names.length ∧ names[j]? = some n := by
  intro names
  induction names with
  | nil => intro n j h; cases h
  | cons x xs ih =>
    intro n j h
    rw [lastIdx_cons] at h
    split at h
    · next j' hj' =>
      cases h
      exact ⟨Nat.succ_lt_succ (ih hj').1, (ih hj').2⟩
    · split at h
      · next hx => cases h; exact ⟨Nat.succ_pos _, congrArg some hx⟩
      · cases h

theorem lastIdx_eq_none_iff {l : List Str} {n : Str} : lastIdx l n = none ↔ n ∉ l := by
  induction l with
  | nil => simp [lastIdx_nil]
  | cons x xs ih =>
    rw [lastIdx_cons, List.mem_cons, not_or]
    cases h : lastIdx xs n with
    | some j => simp [← ih, h]
    | none => simp [← ih, h, eq_comm]

theorem lastIdx_of_mem {names : List Str} {n : Str} (h : n ∈ names) : ∃ j, lastIdx names n = some j :=
  Option.ne_none_iff_exists'.mp (fun hn => lastIdx_eq_none_iff.mp hn h)

theorem lastIdx_append (xs ys : List Str) (n : Str) :
    lastIdx (xs ++ ys) n =
      match lastIdx ys n with
      | some j => some (j + xs.length)
      | none => lastIdx xs n := by
  induction xs with
  | nil => rw [List.nil_append]; cases lastIdx ys n <;> rfl
  | cons x xs ih =>
    rw [List.cons_append, lastIdx_cons, ih]
    cases lastIdx ys n with
    | some j => rfl
    | none => exact (lastIdx_cons x xs n).symm

theorem lastIdx_nodup {l : List Str} {j : Nat} {n : Str} (hnd : l.Nodup) (h : l[j]? = some n) :
    lastIdx l n = some j := by
  obtain ⟨i, hi⟩ := lastIdx_of_mem (List.mem_of_getElem? h)
  rw [hi, (List.getElem?_inj (lastIdx_lt hi).1 hnd).mp ((lastIdx_lt hi).2.trans h.symm)]

/-- what the proofs need of `START_RULE`, `IMPLICIT_RULE`, `IMPLICIT_START_RULE` (`"^"`, `"~"`, `"^~"`):
the first two are non-empty, and each pair is told apart by a character that one unit has and the
other lacks — then the three generated names are pairwise distinct whatever the user's rules are called -/
def cfgOk (cfg : Cfg) : Bool :=
  !cfg.startRule.isEmpty && !cfg.implicitRule.isEmpty &&
  cfg.startRule.any (fun ch => !cfg.implicitRule.contains ch) &&
  cfg.implicitStartRule.any (fun ch => !cfg.startRule.contains ch) &&
  cfg.implicitStartRule.any (fun ch => !cfg.implicitRule.contains ch)

def userNames (a : AST) : List Str := a.rules.map (·.name)

/-- number of rules cfgrammar adds: `^`, and for Eco grammars with `%implicit_tokens` also `~` and `^~` -/
def addedRules (a : AST) (k : Kind) : Nat :=
  match k, a.implicitTokens with
  | .eco, some _ => 3
  | _, _ => 1

/-- the added names, in the order of `rule_names` -/
def specialNames (cfg : Cfg) (a : AST) (k : Kind) : List Str :=
  match k, a.implicitTokens with
  | .eco, some _ => [fresh (userNames a) cfg.startRule, fresh (userNames a) cfg.implicitRule,
                     fresh (userNames a) cfg.implicitStartRule]
  | _, _ => [fresh (userNames a) cfg.startRule]

def ASym.refOk (names : List Str) : ASym → Bool
  | .rule n _ => names.contains n
  | .tok _ _ => true

def startOk (a : AST) : Bool :=
  match a.start with
  | some (us, _) => (userNames a).contains us
  | none => false

/-- `%start` names a rule of the AST and so does every rule symbol of every production
(`InvalidStartRule` / `UnknownRuleRef` of `complete_and_validate`, which
`new_from_ast_with_validity_info` requires to have passed) -/
def refsOk (a : AST) : Bool :=
  startOk a && a.prods.all (fun p => p.syms.all (ASym.refOk (userNames a)))

theorem refsOk_start {a : AST} (h : refsOk a = true) {us : Str} {sp : Span} (hs : a.start = some (us, sp)) :
    us ∈ userNames a := by
  simp only [refsOk, Bool.and_eq_true, startOk, hs, List.contains_eq_mem, decide_eq_true_eq] at h
  exact h.1

theorem refsOk_sym {a : AST} (h : refsOk a = true) {p : AProd} (hp : p ∈ a.prods) {n : Str} {sp : Span}
    (hs : ASym.rule n sp ∈ p.syms) : n ∈ userNames a := by
  simp only [refsOk, Bool.and_eq_true, List.all_eq_true] at h
  have := h.2 p hp _ hs
  simpa [ASym.refOk] using this

/-- a small AST for the non-vacuity examples: `%start A  A: 'a';` -/
def exampleAst : AST :=
  { start := some ([65], (0, 1)), rules := [⟨[65], (0, 1), [0], none⟩],
    prods := [⟨[.tok [97] (4, 5)], none, none, (3, 6)⟩], tokens := [([97], (4, 5))], precs := [],
    avoidInsert := none, implicitTokens := none, epp := [], expect := none, expectrr := none }

theorem specialNames_length (cfg : Cfg) (a : AST) (k : Kind) : (specialNames cfg a k).length = addedRules a k := by
  unfold specialNames addedRules
  cases k <;> cases a.implicitTokens <;> rfl

theorem addedRules_pos (a : AST) (k : Kind) : 0 < addedRules a k := by
  unfold addedRules
  cases k <;> cases a.implicitTokens <;> exact Nat.succ_pos _

theorem ruleNamesOf_eq (cfg : Cfg) (a : AST) (k : Kind) :
    ruleNamesOf cfg a k =
      (specialNames cfg a k).map (fun n => (n, ((0, 0) : Span))) ++ a.rules.map (fun r => (r.name, r.nameSpan)) := by
  unfold ruleNamesOf addedNames specialNames userNames
  cases k <;> cases a.implicitTokens <;> rfl

theorem ruleNamesOf_length (cfg : Cfg) (a : AST) (k : Kind) :
    (ruleNamesOf cfg a k).length = a.rules.length + addedRules a k := by
  rw [ruleNamesOf_eq, List.length_append, List.length_map, List.length_map, specialNames_length, Nat.add_comm]

theorem ruleNamesOf_names (cfg : Cfg) (a : AST) (k : Kind) :
    (ruleNamesOf cfg a k).map (·.1) = specialNames cfg a k ++ userNames a := by
  rw [ruleNamesOf_eq, List.map_append, List.map_map, List.map_map]
  exact congrArg (· ++ _) (List.map_id' _)

theorem ruleNamesOf_user (cfg : Cfg) (a : AST) (k : Kind) (j : Nat) :
    (ruleNamesOf cfg a k)[addedRules a k + j]? = (a.rules[j]?).map (fun r => (r.name, r.nameSpan)) := by
  rw [ruleNamesOf_eq, ← specialNames_length cfg, ← List.length_map (as := specialNames cfg a k),
    List.getElem?_append_right (Nat.le_add_right _ _), Nat.add_sub_cancel_left, List.getElem?_map]

/-! The fields of `Ctx` are the locals of `new_from_ast_with_validity_info` (grammar.rs): `startName` = `start_rule`,
`implName` = `implicit_rule`, `implStartName` = `implicit_start_rule`, `userStart` = `start_name`, `rmap` = `rule_map`,
`tmap` = `token_map`. -/

theorem mkCtx_tmap (cfg : Cfg) (a : AST) (k : Kind) (us : Str) :
    (mkCtx cfg a k us).tmap = lastIdx (a.tokens.map (·.1)) := rfl

theorem mkCtx_rmap (cfg : Cfg) (a : AST) (k : Kind) (us : Str) :
    (mkCtx cfg a k us).rmap = lastIdx (specialNames cfg a k ++ userNames a) :=
  congrArg lastIdx (ruleNamesOf_names cfg a k)

theorem mkCtx_startName (cfg : Cfg) (a : AST) (k : Kind) (us : Str) :
    (mkCtx cfg a k us).startName = fresh (userNames a) cfg.startRule := by
  unfold mkCtx addedNames userNames
  cases k <;> cases a.implicitTokens <;> rfl

theorem mkCtx_shape (cfg : Cfg) (a : AST) (k : Kind) (us : Str) :
    ((mkCtx cfg a k us).implName = none ∧ (mkCtx cfg a k us).implStartName = none ∧
      specialNames cfg a k = [(mkCtx cfg a k us).startName]) ∨
    (∃ its, k = .eco ∧ a.implicitTokens = some its ∧
      (mkCtx cfg a k us).implName = some (fresh (userNames a) cfg.implicitRule) ∧
      (mkCtx cfg a k us).implStartName = some (fresh (userNames a) cfg.implicitStartRule) ∧
      specialNames cfg a k = [(mkCtx cfg a k us).startName, fresh (userNames a) cfg.implicitRule,
        fresh (userNames a) cfg.implicitStartRule]) := by
  unfold mkCtx addedNames specialNames userNames
  cases k with
  | eco =>
    cases h : a.implicitTokens with
    | none => exact Or.inl ⟨rfl, rfl, rfl⟩
    | some its => exact Or.inr ⟨its, rfl, rfl, rfl, rfl, rfl⟩
  | original => cases a.implicitTokens <;> exact Or.inl ⟨rfl, rfl, rfl⟩
  | grmtools => cases a.implicitTokens <;> exact Or.inl ⟨rfl, rfl, rfl⟩

/-- what the main loop needs to know about its context: the rule map is the last-index map of the added
names `sp` followed by the user's names `U`, no added name is a user's name, and the three
distinguished names are among the added ones -/
structure CtxOk (c : Ctx) (sp U : List Str) : Prop where
  rmap : c.rmap = lastIdx (sp ++ U)
  disj : ∀ n ∈ sp, n ∉ U
  start : c.startName ∈ sp
  impl : ∀ n, c.implName = some n → n ∈ sp
  implStart : ∀ n, c.implStartName = some n → n ∈ sp

theorem mkCtx_ok {cfg : Cfg} (hc : cfgOk cfg = true) (a : AST) (k : Kind) (us : Str) :
    CtxOk (mkCtx cfg a k us) (specialNames cfg a k) (userNames a) := by
  simp only [cfgOk, Bool.and_eq_true, Bool.not_eq_true', List.isEmpty_eq_false_iff] at hc
  obtain ⟨⟨⟨⟨h1, h2⟩, _⟩, h4⟩, _⟩ := hc
  have h3 : cfg.implicitStartRule ≠ [] := fun he => by rw [he] at h4; cases h4
  have f1 := mkCtx_startName cfg a k us ▸ fresh_not_mem (userNames a) _ h1
  rcases mkCtx_shape cfg a k us with ⟨hi, his, h⟩ | ⟨_, _, _, hi, his, h⟩
  · refine ⟨mkCtx_rmap cfg a k us, ?_, ?_, ?_, ?_⟩
    · rw [h]; exact List.forall_mem_singleton.mpr f1
    · rw [h]; exact List.mem_cons_self
    · intro n hn; rw [hi] at hn; cases hn
    · intro n hn; rw [his] at hn; cases hn
  · refine ⟨mkCtx_rmap cfg a k us, ?_, ?_, ?_, ?_⟩
    · rw [h]
      exact List.forall_mem_cons.mpr ⟨f1, List.forall_mem_cons.mpr ⟨fresh_not_mem _ _ h2,
        List.forall_mem_singleton.mpr (fresh_not_mem _ _ h3)⟩⟩
    · rw [h]; exact List.mem_cons_self
    · intro n hn; rw [hi] at hn; cases hn
      rw [h]; exact List.mem_cons_of_mem _ List.mem_cons_self
    · intro n hn; rw [his] at hn; cases hn
      rw [h]; exact List.mem_cons_of_mem _ (List.mem_cons_of_mem _ List.mem_cons_self)

theorem specialNames_nodup {cfg : Cfg} (hc : cfgOk cfg = true) (a : AST) (k : Kind) :
    (specialNames cfg a k).Nodup := by
  simp only [cfgOk, Bool.and_eq_true] at hc
  obtain ⟨⟨⟨_, h3⟩, h4⟩, h5⟩ := hc
  have n1 := fresh_ne (userNames a) h3
  have n2 := fresh_ne (userNames a) h4
  have n3 := fresh_ne (userNames a) h5
  unfold specialNames
  cases k <;> cases a.implicitTokens <;> simp
  exact ⟨⟨n1, fun h => n2 h.symm⟩, fun h => n3 h.symm⟩

theorem specialNames_head (cfg : Cfg) (a : AST) (k : Kind) (us : Str) :
    (specialNames cfg a k)[0]? = some (mkCtx cfg a k us).startName := by
  rcases mkCtx_shape cfg a k us with ⟨_, _, h⟩ | ⟨_, _, _, _, _, h⟩ <;> rw [h] <;> rfl

theorem rmap_special {c : Ctx} {sp U : List Str} (ok : CtxOk c sp U) (hnd : sp.Nodup) {j : Nat} {n : Str}
    (h : sp[j]? = some n) : c.rmap n = some j := by
  rw [ok.rmap, lastIdx_append, lastIdx_eq_none_iff.mpr (ok.disj n (List.mem_of_getElem? h))]
  exact lastIdx_nodup hnd h

theorem rmap_user {c : Ctx} {sp U : List Str} (ok : CtxOk c sp U) {n : Str} (h : n ∈ U) :
    ∃ j, lastIdx U n = some j ∧ c.rmap n = some (j + sp.length) := by
  obtain ⟨j, hj⟩ := lastIdx_of_mem h
  exact ⟨j, hj, by rw [ok.rmap, lastIdx_append, hj]⟩

/-- an index below the number of added rules is only returned for that added rule's name -/
theorem rmap_lt_special {c : Ctx} {sp U : List Str} (ok : CtxOk c sp U) {n : Str} {j : Nat}
    (h : c.rmap n = some j) (hj : j < sp.length) : sp[j]? = some n := by
  rw [ok.rmap] at h
  have := (lastIdx_lt h).2
  rwa [List.getElem?_append_left hj] at this

theorem rmap_implName {cfg : Cfg} (hc : cfgOk cfg = true) (a : AST) (k : Kind) (us : Str) {ir : Str}
    (h : (mkCtx cfg a k us).implName = some ir) : (mkCtx cfg a k us).rmap ir = some 1 := by
  rcases mkCtx_shape cfg a k us with ⟨hi, _, _⟩ | ⟨_, _, _, hi, _, hsp⟩ <;> rw [hi] at h <;> cases h
  exact rmap_special (mkCtx_ok hc a k us) (specialNames_nodup hc a k) (j := 1) (by rw [hsp]; rfl)

theorem stepRule_of_rmap {c : Ctx} {st : St} {n : Str} {ridx : Nat} (h : c.rmap n = some ridx) :
    stepRule c st n =
      if n = c.startName then stepStart c st ridx
      else if c.implStartName = some n then stepImplStart c st ridx
      else if c.implName = some n then implLoop c ridx (c.ast.implicitTokens.getD []) st
      else stepUser c st n ridx := by
  unfold stepRule
  rw [h]

/-- a user rule is number "its index among the user's names, after the added ones" -/
theorem stepRule_user {c : Ctx} {sp U : List Str} (ok : CtxOk c sp U) {n : Str} (h : n ∈ U) (st : St) :
    stepRule c st n = stepUser c st n ((lastIdx U n).getD 0 + sp.length) := by
  obtain ⟨j, hj, hr⟩ := rmap_user ok h
  rw [stepRule_of_rmap hr, if_neg fun (he : n = c.startName) => ok.disj _ ok.start (he ▸ h),
    if_neg fun he => ok.disj _ (ok.implStart _ he) h, if_neg fun he => ok.disj _ (ok.impl _ he) h, hj]
  rfl

end GrmVerif.YaccBuild
