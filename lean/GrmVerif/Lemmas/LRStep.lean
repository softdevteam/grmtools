import GrmVerif.Model.Term
import GrmVerif.Model.Recover
/-!
One reduction of the LR machine on a state stack, as a relation that names the production and the goto state
(`Rec.Red`); a stack from which none can be made is `Rec.Stuck`, and `Term.stop` is what the table says there.
`Term.localStep`, `Rec.feed`, `Term.localRun` and `LR.step` are readings: each needs what it does at a `Red` and
what at a `Stuck` stack. The case analysis of the Reduce arm (stack too short, nothing left, no goto) is made
once, in `Stuck.of_reduce`.
-/
namespace GrmVerif.Term

theorem length_of_drop_cons {xs l : List Nat} {n a : Nat} (h : xs.drop n = a :: l) : ¬ xs.length ≤ n :=
  fun hle => by rw [List.drop_eq_nil_of_le hle] at h; cases h

/-- what `feed` answers on a stack from which no reduction can be made -/
def stop (A : Automaton) (la : Nat) : List Nat → Rec.Fed
  | [] => .crash
  | st :: tl =>
    match A.action st la with
    | .shift s' => .shifted (s' :: st :: tl)
    | .accept => .accept (st :: tl)
    | .error => .error (st :: tl)
    | .reduce _ => .crash

theorem stop_ne_fuelOut (A : Automaton) (la : Nat) (st : List Nat) : stop A la st ≠ .fuelOut := by
  unfold stop
  split
  · nofun
  · split <;> nofun

end GrmVerif.Term

namespace GrmVerif.Rec
open GrmVerif Term

section
variable {G : Grammar} {A : Automaton} {la : Nat}

/-- under lookahead `la` the table reduces the stack `a` by production `p`; `s'` is the goto state -/
def Red (G : Grammar) (A : Automaton) (la : Nat) (a : List Nat) (p s' : Nat) : Prop :=
  ∃ st tl prior rest, a = st :: tl ∧ A.action st la = .reduce p ∧
    a.drop (G.rhs p).length = prior :: rest ∧ A.goto prior (G.lhs p) = some s'

/-- the stack after that reduction -/
def red (G : Grammar) (p s' : Nat) (a : List Nat) : List Nat := s' :: a.drop (G.rhs p).length

/-- no reduction can be made: the top cell holds no Reduce, or the real code would panic -/
def Stuck (G : Grammar) (A : Automaton) (la : Nat) (a : List Nat) : Prop := ∀ p s', ¬ Red G A la a p s'

/-- `Term.localStep` is the reading that forgets the production -/
theorem localStep_eq_some {a b : List Nat} :
    localStep G A la a = some b ↔ ∃ p s', Red G A la a p s' ∧ b = red G p s' a := by
  constructor
  · intro h
    unfold localStep at h
    split at h
    · cases h
    · split at h
      · split at h
        · cases h
        · split at h
          · cases h
          · split at h
            · cases h
            · injection h with h
              exact ⟨_, _, ⟨_, _, _, _, rfl, ‹_›, ‹_›, ‹_›⟩,
                by rw [red, ‹List.drop _ _ = _›]; exact h.symm⟩
      · cases h
  · rintro ⟨p, s', ⟨st, tl, prior, rest, rfl, hact, hd, hg⟩, rfl⟩
    simp only [localStep, hact, length_of_drop_cons hd, ↓reduceIte, hd, hg, red]

theorem Red.localStep {a : List Nat} {p s' : Nat} (h : Red G A la a p s') :
    Term.localStep G A la a = some (red G p s' a) :=
  localStep_eq_some.mpr ⟨p, s', h, rfl⟩

theorem localStep_eq_none {a : List Nat} : localStep G A la a = none ↔ Stuck G A la a := by
  constructor
  · intro h p s' hr
    rw [hr.localStep] at h
    cases h
  · intro hs
    cases h : localStep G A la a with
    | none => rfl
    | some b => obtain ⟨p, s', hr, -⟩ := localStep_eq_some.mp h; exact absurd hr (hs p s')

/-- either a reduction can be made or none can: the case split every reading starts from -/
theorem red_or_stuck (G : Grammar) (A : Automaton) (la : Nat) (a : List Nat) :
    (∃ p s', Red G A la a p s') ∨ Stuck G A la a := by
  cases h : localStep G A la a with
  | none => exact Or.inr (localStep_eq_none.mp h)
  | some b => obtain ⟨p, s', hr, -⟩ := localStep_eq_some.mp h; exact Or.inl ⟨p, s', hr⟩

theorem Red.det {a : List Nat} {p s' q t' : Nat} (h : Red G A la a p s') (h' : Red G A la a q t') :
    p = q ∧ s' = t' := by
  have e := Option.some.inj (h.localStep.symm.trans h'.localStep)
  obtain ⟨st, tl, _, _, rfl, hact, -, -⟩ := h
  obtain ⟨_, _, _, _, he, hact', -, -⟩ := h'
  cases he
  exact ⟨Act.reduce.inj (hact.symm.trans hact'), (List.cons.inj e).1⟩

/-- a stuck stack whose top cell holds a Reduce is one on which the real code panics -/
theorem Stuck.of_reduce {st p : Nat} {tl : List Nat} (hs : Stuck G A la (st :: tl))
    (hact : A.action st la = .reduce p) :
    (st :: tl).length ≤ (G.rhs p).length ∨
      ∃ prior rest, (st :: tl).drop (G.rhs p).length = prior :: rest ∧ A.goto prior (G.lhs p) = none := by
  by_cases hle : (st :: tl).length ≤ (G.rhs p).length
  · exact Or.inl hle
  · cases hd : (st :: tl).drop (G.rhs p).length with
    | nil => exact absurd (List.drop_eq_nil_iff.mp hd) hle
    | cons prior rest =>
      cases hg : A.goto prior (G.lhs p) with
      | none => exact Or.inr ⟨prior, rest, rfl, hg⟩
      | some s' => exact absurd ⟨st, tl, prior, rest, rfl, hact, hd, hg⟩ (hs p s')

theorem feed_red {a : List Nat} {p s' : Nat} (h : Red G A la a p s') (f : Nat) :
    feed G A la (f + 1) a = feed G A la f (red G p s' a) := by
  obtain ⟨st, tl, prior, rest, rfl, hact, hd, hg⟩ := h
  simp only [feed, red, hact, length_of_drop_cons hd, ↓reduceIte, hd, hg]

theorem feed_stuck {a : List Nat} (h : Stuck G A la a) (f : Nat) : feed G A la (f + 1) a = stop A la a := by
  cases a with
  | nil => rfl
  | cons st tl =>
    cases hact : A.action st la with
    | shift s' => simp only [feed, stop, hact]
    | accept => simp only [feed, stop, hact]
    | error => simp only [feed, stop, hact]
    | reduce p =>
      rcases h.of_reduce hact with hle | ⟨prior, rest, hd, hg⟩
      · simp only [feed, stop, hact, hle, ↓reduceIte]
      · simp only [feed, stop, hact, length_of_drop_cons hd, ↓reduceIte, hd, hg]

theorem localRun_red {a : List Nat} {p s' : Nat} (h : Red G A la a p s') (f : Nat) :
    localRun G A la (f + 1) a = localRun G A la f (red G p s' a) := by
  obtain ⟨st, tl, prior, rest, rfl, hact, hd, hg⟩ := h
  simp only [localRun, red, hact, length_of_drop_cons hd, ↓reduceIte, hd, hg]

theorem localRun_stuck {a : List Nat} (h : Stuck G A la a) (f : Nat) : localRun G A la (f + 1) a ≠ .fuelOut := by
  cases a with
  | nil => nofun
  | cons st tl =>
    cases hact : A.action st la with
    | shift s' => simp only [localRun, hact]; nofun
    | accept => simp only [localRun, hact]; nofun
    | error => simp only [localRun, hact]; nofun
    | reduce p =>
      rcases h.of_reduce hact with hle | ⟨prior, rest, hd, hg⟩
      · simp only [localRun, hact, hle, ↓reduceIte]; nofun
      · simp only [localRun, hact, length_of_drop_cons hd, ↓reduceIte, hd, hg]; nofun

end

end GrmVerif.Rec

namespace GrmVerif.LR
open GrmVerif Rec Term

section
variable {G : Grammar} {A : Automaton} {w : List Nat}

def reduced (G : Grammar) (p : Nat) (ps' : List Nat) (c : Cfg) : Cfg :=
  ⟨ps', .node p (c.astack.take (G.rhs p).length).reverse :: c.astack.drop (G.rhs p).length, c.laidx⟩

def shifted (G : Grammar) (w : List Nat) (s' : Nat) (c : Cfg) : Cfg :=
  ⟨s' :: c.pstack, .leaf (nextTok G w c.laidx) c.laidx :: c.astack, c.laidx + 1⟩

theorem step_shifted {c : Cfg} {st s' : Nat} {tl : List Nat} (hps : c.pstack = st :: tl)
    (hact : A.action st (nextTok G w c.laidx) = .shift s') : step G A w c = .cont (shifted G w s' c) := by
  simp only [step, hps, hact, shifted]

theorem step_red {c : Cfg} {p s' : Nat} (h : Red G A (nextTok G w c.laidx) c.pstack p s') :
    step G A w c = .cont (reduced G p (red G p s' c.pstack) c) := by
  obtain ⟨st, tl, prior, rest, hps, hact, hd, hg⟩ := h
  rw [hps] at hd
  simp only [step, hps, hact, length_of_drop_cons hd, ↓reduceIte, hd, hg, reduced, red]

theorem step_spec {c : Cfg} {r : Step} (h : step G A w c = r) :
    match (generalizing := false) r with
    | .cont c' =>
        (∃ st tl s', c.pstack = st :: tl ∧ A.action st (nextTok G w c.laidx) = .shift s' ∧ c' = shifted G w s' c) ∨
        (∃ p s', Red G A (nextTok G w c.laidx) c.pstack p s' ∧ c' = reduced G p (red G p s' c.pstack) c)
    | .done (.error i s) => ∃ tl, c.pstack = s :: tl ∧ A.action s (nextTok G w c.laidx) = .error ∧ i = c.laidx
    | .done (.accept t) => ∃ st tl p kids, c.pstack = st :: tl ∧ A.action st (nextTok G w c.laidx) = .accept ∧
        c.astack.getLast? = some t ∧ t = .node p kids
    | .done (.crash _) => True
    | .done .fuelOut => False := by
  subst h
  obtain ⟨ps, as, i⟩ := c
  cases ps with
  | nil => trivial
  | cons st tl =>
    cases hact : A.action st (nextTok G w i) with
    | error =>
      have hs : step G A w ⟨st :: tl, as, i⟩ = .done (.error i st) := by simp only [step, hact]
      rw [hs]; exact ⟨tl, rfl, hact, rfl⟩
    | shift s' =>
      rw [step_shifted (c := ⟨st :: tl, as, i⟩) rfl hact]
      exact Or.inl ⟨st, tl, s', rfl, hact, rfl⟩
    | accept =>
      cases hl : as.getLast? with
      | none =>
        have hs : step G A w ⟨st :: tl, as, i⟩ = .done (.crash 3) := by simp only [step, hact, hl]
        rw [hs]; trivial
      | some t =>
        cases t with
        | leaf a b =>
          have hs : step G A w ⟨st :: tl, as, i⟩ = .done (.crash 3) := by simp only [step, hact, hl]
          rw [hs]; trivial
        | node p kids =>
          have hs : step G A w ⟨st :: tl, as, i⟩ = .done (.accept (.node p kids)) := by
            simp only [step, hact, hl]
          rw [hs]; exact ⟨st, tl, p, kids, rfl, hact, rfl, rfl⟩
    | reduce p =>
      rcases red_or_stuck G A (nextTok G w i) (st :: tl) with ⟨q, s', hr⟩ | hst
      · rw [step_red (c := ⟨st :: tl, as, i⟩) hr]
        exact Or.inr ⟨q, s', hr, rfl⟩
      · have hs : ∃ n, step G A w ⟨st :: tl, as, i⟩ = .done (.crash n) := by
          rcases hst.of_reduce hact with hle | ⟨prior, rest, hd, hg⟩
          · exact ⟨1, by simp only [step, hact, hle, ↓reduceIte]⟩
          · exact ⟨2, by simp only [step, hact, length_of_drop_cons hd, ↓reduceIte, hd, hg]⟩
        obtain ⟨n, hs⟩ := hs
        rw [hs]; trivial

theorem step_cont_inv {c c' : Cfg} (h : step G A w c = .cont c') :
    (∃ st tl s', c.pstack = st :: tl ∧ A.action st (nextTok G w c.laidx) = .shift s' ∧ c' = shifted G w s' c) ∨
    (∃ p s', Red G A (nextTok G w c.laidx) c.pstack p s' ∧ c' = reduced G p (red G p s' c.pstack) c) :=
  step_spec h

theorem step_error_inv {c : Cfg} {i s : Nat} (h : step G A w c = .done (.error i s)) :
    ∃ tl, c.pstack = s :: tl ∧ A.action s (nextTok G w c.laidx) = .error ∧ i = c.laidx :=
  step_spec h

theorem step_accept_inv {c : Cfg} {t : Tree} (h : step G A w c = .done (.accept t)) :
    ∃ st tl p kids, c.pstack = st :: tl ∧ A.action st (nextTok G w c.laidx) = .accept ∧
      c.astack.getLast? = some t ∧ t = .node p kids :=
  step_spec h

theorem step_done_ne_fuelOut (c : Cfg) : step G A w c ≠ .done .fuelOut :=
  fun h => step_spec h

end

end GrmVerif.LR
