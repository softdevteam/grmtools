import GrmVerif.Model.Header
import GrmVerif.Lemmas.HeaderSpec
/-!
Helper lemmas for C12: byte-offset slicing (`Valid`, `MatchAt`), the Hoare-style predicate `Res.Sat`
over the model's result type with its rules (`Sat.from` moves the lower bound of a position; `fuel_ind` is the
induction for every fuelled loop), and the well-formedness of spans (`SpanOK`).
-/
namespace GrmVerif.Header

theorem byteLen_append (a b : List Char) : byteLen (a ++ b) = byteLen a + byteLen b := by
  induction a with
  | nil => exact (Nat.zero_add _).symm
  | cons c cs ih => rw [List.cons_append, byteLen, byteLen, ih, Nat.add_assoc]

theorem dropBytes_cons_add (c : Char) (cs : List Char) (k : Nat) :
    dropBytes (c :: cs) (c.utf8Size + k) = dropBytes cs k := by
  obtain ⟨n, hn⟩ : ∃ n, c.utf8Size + k = n + 1 :=
    Nat.exists_eq_succ_of_ne_zero (Nat.ne_of_gt (Nat.add_pos_left (Char.utf8Size_pos c) k))
  rw [hn, dropBytes, if_pos (hn ▸ Nat.le_add_right _ _), ← hn, Nat.add_sub_cancel_left]

theorem takeBytes_cons_add (c : Char) (cs : List Char) (k : Nat) :
    takeBytes (c :: cs) (c.utf8Size + k) = (takeBytes cs k).map (c :: ·) := by
  obtain ⟨n, hn⟩ : ∃ n, c.utf8Size + k = n + 1 :=
    Nat.exists_eq_succ_of_ne_zero (Nat.ne_of_gt (Nat.add_pos_left (Char.utf8Size_pos c) k))
  rw [hn, takeBytes, if_pos (hn ▸ Nat.le_add_right _ _), ← hn, Nat.add_sub_cancel_left]

theorem dropBytes_append (pre post : List Char) : dropBytes (pre ++ post) (byteLen pre) = some post := by
  induction pre with
  | nil => cases post <;> rfl
  | cons c cs ih => rw [List.cons_append, byteLen, dropBytes_cons_add, ih]

theorem takeBytes_append (pre post : List Char) : takeBytes (pre ++ post) (byteLen pre) = some pre := by
  induction pre with
  | nil => cases post <;> rfl
  | cons c cs ih => rw [List.cons_append, byteLen, takeBytes_cons_add, ih]; rfl

theorem dropBytes_some {src : List Char} {i : Nat} {rest : List Char} (h : dropBytes src i = some rest) :
    ∃ pre, src = pre ++ rest ∧ byteLen pre = i := by
  induction src generalizing i with
  | nil =>
    cases i with
    | zero => exact ⟨[], Option.some.inj h, rfl⟩
    | succ n => exact nomatch h
  | cons c cs ih =>
    cases i with
    | zero => exact ⟨[], Option.some.inj h, rfl⟩
    | succ n =>
      rw [dropBytes] at h
      split at h
      · next hle =>
        obtain ⟨pre, h1, h2⟩ := ih h
        exact ⟨c :: pre, congrArg (c :: ·) h1, by rw [byteLen, h2]; exact Nat.add_sub_of_le hle⟩
      · exact nomatch h

/-- `i` is a position at which `&src[i..]` does not panic -/
def Valid (src : List Char) (i : Nat) : Prop := ∃ rest, dropBytes src i = some rest

theorem valid_iff_boundary (src : List Char) (i : Nat) : Valid src i ↔ IsBoundary src i := by
  constructor
  · rintro ⟨rest, h⟩
    obtain ⟨pre, h1, h2⟩ := dropBytes_some h
    exact ⟨pre, rest, h1, h2⟩
  · rintro ⟨pre, post, h1, h2⟩
    exact ⟨post, by rw [h1, ← h2]; exact dropBytes_append pre post⟩

theorem isBoundaryB_iff (src : List Char) (b : Nat) : isBoundaryB src b = true ↔ IsBoundary src b := by
  rw [← valid_iff_boundary]
  simp [isBoundaryB, Valid, Option.isSome_iff_exists]

theorem dropBytes_len {src : List Char} {i : Nat} {rest : List Char} (h : dropBytes src i = some rest) :
    i + byteLen rest = byteLen src := by
  obtain ⟨pre, h1, h2⟩ := dropBytes_some h
  rw [h1, byteLen_append, h2]

theorem Valid.le {src : List Char} {i : Nat} (h : Valid src i) : i ≤ byteLen src :=
  h.elim fun _ h => Nat.le.intro (dropBytes_len h)

theorem valid_zero (src : List Char) : Valid src 0 := ⟨src, by cases src <;> simp [dropBytes]⟩

theorem dropBytes_advance {src : List Char} {i : Nat} {rest pre : List Char}
    (h : dropBytes src i = some rest) (hp : pre <+: rest) :
    dropBytes src (i + byteLen pre) = some (rest.drop pre.length) := by
  obtain ⟨p, h1, h2⟩ := dropBytes_some h
  obtain ⟨post, hpost⟩ := hp
  subst hpost
  have : src = (p ++ pre) ++ post := by simp [h1]
  rw [this, ← h2, ← byteLen_append]
  simp only [List.drop_left']
  exact dropBytes_append _ _

theorem valid_advance {src : List Char} {i : Nat} {rest pre : List Char}
    (h : dropBytes src i = some rest) (hp : pre <+: rest) : Valid src (i + byteLen pre) :=
  ⟨_, dropBytes_advance h hp⟩

theorem valid_step {src : List Char} {j : Nat} {c : Char} {rest : List Char}
    (h : dropBytes src j = some (c :: rest)) : dropBytes src (j + c.utf8Size) = some rest := by
  have := dropBytes_advance h (pre := [c]) (List.prefix_iff_eq_append.2 rfl)
  rwa [byteLen, byteLen, Nat.add_zero] at this

/-- stated apart from `valid_step`: `j + 1` and `j + c.utf8Size` are only equal after evaluating
`utf8Size`, which is slow to check by unification -/
theorem valid_step1 {src : List Char} {j : Nat} {c : Char} {rest : List Char}
    (h : dropBytes src j = some (c :: rest)) (hc : c.utf8Size = 1) : dropBytes src (j + 1) = some rest :=
  hc ▸ valid_step h

theorem ok_bind {ε α β : Type} (a : α) (f : α → Res ε β) : (Res.ok a >>= f) = f a := rfl

theorem slice_ok {ε : Type} {src : List Char} {i : Nat} {rest : List Char} (h : dropBytes src i = some rest) :
    (slice src i : Res ε _) = .ok rest := by
  rw [slice, h]

theorem sliceRange_ok {ε : Type} {src : List Char} {a : Nat} {rest pre : List Char}
    (h : dropBytes src a = some rest) (hp : pre <+: rest) :
    (sliceRange src a (a + byteLen pre) : Res ε (List Char)) = .ok pre := by
  obtain ⟨post, hpost⟩ := hp
  subst hpost
  simp [sliceRange, h, Nat.add_sub_cancel_left, takeBytes_append]

theorem ascii_size (c : Char) (h : c.toNat ≤ 127) : c.utf8Size = 1 := by
  have h1 : c.val ≤ UInt32.ofNatLT 127 (by decide) := by
    rw [UInt32.le_iff_toNat_le]
    exact h
  simp only [Char.utf8Size]
  rw [if_pos h1]

theorem forall_mem_snoc {α : Type} {p : α → Prop} {l : List α} {a : α} (hl : ∀ x ∈ l, p x) (ha : p a) :
    ∀ x ∈ l ++ [a], p x :=
  List.forall_mem_append.2 ⟨hl, List.forall_mem_singleton.2 ha⟩

theorem cons_takeWhile (p : Char → Bool) (c : Char) (cs : List Char) :
    (c :: cs.takeWhile p) <+: (c :: cs) ∧ (c :: cs.takeWhile p) ≠ [] :=
  ⟨List.cons_prefix_cons.2 ⟨rfl, List.takeWhile_prefix p⟩, List.cons_ne_nil _ _⟩

/-- the shape shared by `reName`, `reDigits` and the yacc `reName` -/
theorem headRun_some {P Q : Char → Bool} {rest m : List Char}
    (h : (match rest with
      | [] => none
      | c :: cs => if P c then some (c :: cs.takeWhile Q) else none) = some m) :
    m <+: rest ∧ m ≠ [] := by
  cases rest with
  | nil => exact nomatch h
  | cons c cs =>
    dsimp only at h
    split at h
    · exact Option.some.inj h ▸ cons_takeWhile _ c cs
    · exact nomatch h

/-- the text `s` stands at `i` and ends at `j`: what a successful `lookahead_is(s, i)` says -/
def MatchAt (src s : List Char) (i j : Nat) : Prop :=
  ∃ t, dropBytes src i = some (s ++ t) ∧ j = i + byteLen s

theorem MatchAt.valid {src s : List Char} {i j : Nat} (h : MatchAt src s i j) : Valid src j := by
  obtain ⟨t, ht, rfl⟩ := h
  exact valid_advance ht (List.prefix_append s t)

theorem MatchAt.le {src s : List Char} {i j : Nat} (h : MatchAt src s i j) : i ≤ j := by
  obtain ⟨t, _, rfl⟩ := h
  exact Nat.le_add_right _ _

theorem byteLen_pos {m : List Char} (h : m ≠ []) : 0 < byteLen m := by
  cases m with
  | nil => exact absurd rfl h
  | cons c cs => exact Nat.add_pos_left (Char.utf8Size_pos c) _

theorem MatchAt.lt {src s : List Char} {i j : Nat} (h : MatchAt src s i j) (hs : s ≠ []) : i < j := by
  obtain ⟨t, _, rfl⟩ := h
  exact Nat.lt_add_of_pos_right (byteLen_pos hs)

/-- the fuel of a loop that has moved from `j` to `k`: with `n < j + f` as the measure no upper
bound on `k` is needed -/
theorem fuel_step {n j k f : Nat} (hf : n < j + (f + 1)) (hjk : j < k) : n < k + f :=
  Nat.lt_of_lt_of_le hf (Nat.add_right_comm j 1 f ▸ Nat.add_le_add_right hjk f)

/-- induction on the fuel, done once for all loops: `byteLen src < i + f` is the measure, so a loop that has moved
forward may go on with the fuel it has left. What else a loop carries is quantified inside `C`. -/
theorem fuel_ind {src : List Char} {C : Nat → Nat → Prop}
    (step : ∀ f i, Valid src i → (∀ k, i < k → Valid src k → C f k) → C (f + 1) i) :
    ∀ f i, Valid src i → byteLen src < i + f → C f i := by
  intro f
  induction f with
  | zero => intro i hv hf; exact absurd hv.le (Nat.not_le_of_lt hf)
  | succ f ih => intro i hv hf; exact step f i hv fun k hik hk => ih k hk (fuel_step hf hik)

/-- the result is `ok a` with `P a` or `err e` with `E e`; never a panic, never out of fuel -/
def Res.Sat {ε α : Type} (r : Res ε α) (P : α → Prop) (E : ε → Prop) : Prop :=
  match r with
  | .ok a => P a
  | .err e => E e
  | .panic => False
  | .fuelOut => False

theorem Sat.cases {ε α : Type} {r : Res ε α} {P : α → Prop} {E : ε → Prop} (h : r.Sat P E) :
    (∃ a, r = .ok a ∧ P a) ∨ (∃ e, r = .err e ∧ E e) := by
  cases r with
  | ok a => exact .inl ⟨a, rfl, h⟩
  | err e => exact .inr ⟨e, rfl, h⟩
  | panic => exact h.elim
  | fuelOut => exact h.elim

theorem Sat.bind {ε α β : Type} {r : Res ε α} {f : α → Res ε β} {P : α → Prop} {Q : β → Prop}
    {E : ε → Prop} (h : r.Sat P E) (hf : ∀ a, P a → (f a).Sat Q E) : (r >>= f).Sat Q E := by
  rcases Sat.cases h with ⟨a, rfl, ha⟩ | ⟨e, rfl, he⟩
  · exact hf a ha
  · exact he

theorem Sat.pure {ε α : Type} {a : α} {P : α → Prop} {E : ε → Prop} (h : P a) :
    (Pure.pure a : Res ε α).Sat P E := h

theorem Sat.ne {ε α : Type} {r : Res ε α} {P : α → Prop} {E : ε → Prop} (h : r.Sat P E) :
    r ≠ .fuelOut ∧ r ≠ .panic := by
  rcases Sat.cases h with ⟨a, rfl, -⟩ | ⟨e, rfl, -⟩ <;> exact ⟨nofun, nofun⟩

theorem Sat.ite {ε α : Type} {c : Prop} [Decidable c] {a b : Res ε α} {P : α → Prop} {E : ε → Prop}
    (ha : c → a.Sat P E) (hb : ¬c → b.Sat P E) : (if c then a else b).Sat P E := by
  by_cases h : c
  · rw [if_pos h]; exact ha h
  · rw [if_neg h]; exact hb h

theorem Sat.mono {ε α : Type} {r : Res ε α} {P Q : α → Prop} {E : ε → Prop}
    (h : r.Sat P E) (hp : ∀ a, P a → Q a) : r.Sat Q E := by
  rcases Sat.cases h with ⟨a, rfl, ha⟩ | ⟨e, rfl, he⟩
  · exact hp a ha
  · exact he

/-- A postcondition with a lower bound on the position reached may be read from further back. `pos` is the position
component of the result (`id`, `(·.1)`, `(·.2)`, …); it and `R` are found by unification with the goal. A strict bound
`i < pos x` is `i + 1 ≤ pos x`, so `hab` may be the strict step `i < b`. -/
theorem Sat.from {ε β : Type} {r : Res ε β} {pos : β → Nat} {R : β → Prop} {E : ε → Prop} {a b : Nat}
    (h : r.Sat (fun x => b ≤ pos x ∧ R x) E) (hab : a ≤ b) : r.Sat (fun x => a ≤ pos x ∧ R x) E :=
  Sat.mono h fun _ h' => ⟨Nat.le_trans hab h'.1, h'.2⟩

theorem Sat.mapErr {ε ε' α : Type} {r : Res ε α} {P : α → Prop} {E : ε → Prop} {F : ε' → Prop}
    {g : ε → ε'} (h : r.Sat P E) (hg : ∀ e, E e → F (g e)) : (r.mapErr g).Sat P F := by
  rcases Sat.cases h with ⟨a, rfl, ha⟩ | ⟨e, rfl, he⟩
  · exact ha
  · exact hg e he

/-- the span condition in terms of slicing: `start ≤ end`, both positions sliceable -/
def SpanOK (src : List Char) (sp : Span) : Prop := sp.1 ≤ sp.2 ∧ Valid src sp.1 ∧ Valid src sp.2

theorem SpanOK.wf {src : List Char} {sp : Span} (h : SpanOK src sp) : SpanWF src sp :=
  ⟨h.1, h.2.2.le, (valid_iff_boundary _ _).1 h.2.1, (valid_iff_boundary _ _).1 h.2.2⟩

theorem spanOK_refl {src : List Char} {i : Nat} (h : Valid src i) : SpanOK src (i, i) :=
  ⟨Nat.le_refl _, h, h⟩

def ErrOK (src : List Char) (e : HErr) : Prop := e.spans ≠ [] ∧ ∀ sp ∈ e.spans, SpanOK src sp

def Namespaced.spans (n : Namespaced) : List Span :=
  (match n.ns with | some (_, s) => [s] | none => []) ++ [n.member.2]

mutual
def Setting.spans : Setting → List Span
  | .unitary n => n.spans
  | .ctor c a => c.spans ++ a.spans
  | .num _ s => [s]
  | .str s => [s]
  | .array xs o c => o :: c :: Setting.spansList xs
def Setting.spansList : List Setting → List Span
  | [] => []
  | x :: xs => x.spans ++ Setting.spansList xs
end

theorem spansList_eq (xs : List Setting) : Setting.spansList xs = xs.flatMap Setting.spans := by
  induction xs with
  | nil => rfl
  | cons x xs ih => rw [Setting.spansList, ih, List.flatMap_cons]

def Value.spans : Value → List Span
  | .flag _ s => [s]
  | .setting s => s.spans

def Entry.spans (e : Entry) : List Span := e.loc :: e.val.spans

def SettingOK (src : List Char) (s : Setting) : Prop := ∀ sp ∈ s.spans, SpanOK src sp

end GrmVerif.Header
