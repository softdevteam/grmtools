import GrmVerif.Model.Cpct
import GrmVerif.Lemmas.RecoverImpl
import GrmVerif.Lemmas.RankOut
/-!
What one call of the modelled recoverer `Cpct.cpctRecover` (= `SearchImpl.recoverImpl` seen through the
interface of `Rec.recRun`) returns, at a configuration at which `Parser::lr` calls `recover`
(`Cpct.errCfg`), on a table satisfying `TableOK`. In the order of the file:

* `TableOK` (costs ≥ 1, end-of-input never shifted, `state_actions` exact, `PARSE_AT_LEAST ≥ 1`) gives the
  hypotheses `Hyps` of the search theorems at every such configuration (`hyps_of_errCfg`);
* a stripped `Search` sequence still repairs: it applies (a prefix of a sequence that applies), and the
  stripped Shifts are then performed by `continueFrom`, which reaches the success configuration of the
  full sequence — `N` shifts done, or acceptance (`search_stripped_valid`);
* every reported sequence is a `Rec.Search` sequence of the common minimum cost with its trailing Shifts
  stripped (`recoverTail_found`, `reported_is_search`: `search_sound` + `rank_cnds` is a filter +
  `simplify_repairs` keeps the set of stripped sequences); the configuration returned is `applySeq` of
  the first reported sequence (`apply_repairs` agrees with `applySeq` where the latter is defined:
  `RankImpl.applyRepairs_of_applySeq`);
* together, the one statement C05 and C07 use (`cpct_report`).
-/
namespace GrmVerif.Cpct
open LR Rec RankImpl SearchImpl

/-- the hypotheses about table, costs and `PARSE_AT_LEAST` under which the modelled recoverer is
analysed: every token costs at least 1 (asserted by `parse_actions`), no state shifts end-of-input,
`state_actions` lists exactly the non-Error tokens (`C16.state_actions_spec`), `PARSE_AT_LEAST ≥ 1` -/
structure TableOK (E : Env) : Prop where
  cost_pos : ∀ t, 1 ≤ E.cost t
  eof : EofNeverShifted E.G E.A
  sa : StateActionsOK E.G E.A
  npos : 1 ≤ E.N

theorem tableOK_of_check {E : Env} (hcost : ∀ t, 1 ≤ E.cost t) (hN : 1 ≤ E.N)
    (h : tableOkB E.G E.A = true) : TableOK E := by
  simp only [tableOkB, Bool.and_eq_true] at h
  exact ⟨hcost, eofNeverShifted_of_check h.1, stateActionsOK_of_check h.2, hN⟩

/-- at a configuration where `Parser::lr` calls `recover` the standing hypotheses `Hyps` of the search
theorems hold: the position is inside the input and the configuration is not itself a success (no
trailing Shifts yet, and the top state refuses the next token) -/
theorem hyps_of_errCfg {E : Env} (T : TableOK E) {c : Pos} (h : errCfg E.G E.A E.w c = true) : Hyps E c := by
  simp only [errCfg, Bool.and_eq_true, decide_eq_true_eq] at h
  obtain ⟨hpos, htop⟩ := h
  refine ⟨T.cost_pos, T.eof, hpos, T.sa, ?_⟩
  cases hst : c.stack with
  | nil => rw [hst] at htop; cases htop
  | cons st rest =>
    rw [hst] at htop
    simp only [beq_iff_eq] at htop
    have hf : feed E.G E.A (nextTok E.G E.w c.pos) FUEL (st :: rest) = .error (st :: rest) := by
      simp only [FUEL, feed, htop]
    refine Bool.eq_false_iff.mpr fun h => ?_
    rcases isSuccess_iff.mp h with h | ⟨s, h⟩
    · exact Nat.not_succ_le_zero 0 (Nat.le_trans T.npos h)
    · rw [root, hst, hf] at h; cases h

theorem errCfg_of_feed_error {G : Grammar} {A : Automaton} {w : List Nat} {pos : Nat} :
    ∀ {f : Nat} {stack s : List Nat}, feed G A (nextTok G w pos) f stack = .error s → pos ≤ w.length →
      errCfg G A w ⟨s, pos⟩ = true := by
  intro f stack s h hpos
  obtain ⟨_, st, rest, _, rfl, ha⟩ := feed_spec h
  simp only [errCfg, hpos, ha, decide_true, beq_self_eq_true, Bool.and_self]

theorem applySeq_append (G : Grammar) (A : Automaton) (w : List Nat) :
    ∀ (a b : List Repair) (c : Pos),
      applySeq G A w c (a ++ b) = (applySeq G A w c a).bind (fun c1 => applySeq G A w c1 b) := by
  intro a
  induction a with
  | nil => intro b c; rfl
  | cons r rs ih =>
    intro b c
    simp only [List.cons_append, applySeq]
    cases applyRepair G A w c r with
    | none => rfl
    | some c1 => exact ih b c1

def trailing (seq : List Repair) : Nat := (seq.reverse.takeWhile (· == Repair.shift)).length

theorem stripShifts_append (seq : List Repair) :
    seq = stripShifts seq ++ List.replicate (trailing seq) .shift := by
  have h : seq.reverse.takeWhile (· == Repair.shift) = List.replicate (trailing seq) .shift :=
    List.eq_replicate_iff.mpr ⟨rfl, fun b hb => beq_iff_eq.mp (List.all_eq_true.mp List.all_takeWhile b hb)⟩
  rw [stripShifts, ← List.reverse_replicate, ← h, ← List.reverse_append, List.takeWhile_append_dropWhile,
    List.reverse_reverse]

/-- along a `Search` derivation the node's `trail` is the number of Shifts its history ends in, and
inserted tokens are tokens of the grammar other than end-of-input; so the complete sequence applies,
and it ends in `N` Shifts or in a configuration that accepts -/
theorem search_final {G : Grammar} {A : Automaton} {w : List Nat} {cost : Nat → Nat} {N : Nat} :
    ∀ (n : Node) (k : Nat) (seq : List Repair), Search G A w cost N n k seq →
      n.trail = (n.rev.takeWhile (· == Repair.shift)).length →
      (∀ t, Repair.insert t ∈ n.rev → t < G.ntoks ∧ t ≠ G.eof) →
      ∃ suffix cf, seq = n.rev.reverse ++ suffix ∧ applySeq G A w n.c suffix = some cf ∧
        (∀ t, Repair.insert t ∈ seq → t < G.ntoks ∧ t ≠ G.eof) ∧
        (N ≤ trailing seq ∨ ∃ s, feed G A (nextTok G w cf.pos) FUEL cf.stack = .accept s) := by
  intro n k seq hs htr hins
  obtain ⟨suf, m, hp, hsucc, rfl⟩ := ipath_of_search hs
  have hrev := hp.rev
  refine ⟨suf, m.c, by rw [hrev, List.reverse_append, List.reverse_reverse], hp.apply, ?_, ?_⟩
  · intro t ht
    rw [hrev, List.reverse_append, List.reverse_reverse, List.mem_append] at ht
    rcases ht with ht | ht
    · exact hins t (List.mem_reverse.mp ht)
    · exact hp.inserts_ok t ht
  · refine (isSuccess_iff.mp hsucc).imp_left fun h => ?_
    rw [trailing, List.reverse_reverse, ← hp.trail_eq htr]
    exact h

theorem continueFrom_shifts {G : Grammar} {A : Automaton} {w : List Nat} :
    ∀ (k : Nat) (c1 cf : Pos), applySeq G A w c1 (List.replicate k .shift) = some cf →
      (k ≠ 0 → c1.pos + k ≤ w.length) ∧
      ∀ fuel n, continueFrom G A w (fuel + k) c1 n = continueFrom G A w fuel cf (n + k) := by
  intro k
  induction k with
  | zero =>
    intro c1 cf h
    simp only [List.replicate_zero, applySeq, Option.some.injEq] at h
    subst h
    exact ⟨fun h => absurd rfl h, fun fuel n => rfl⟩
  | succ k ih =>
    intro c1 cf h
    obtain ⟨c2, ha, h⟩ := applySeq_cons_inv h
    obtain ⟨hlt, s, hf, rfl⟩ := applyRepair_shift.mp ha
    obtain ⟨hb, hc⟩ := ih _ cf h
    refine ⟨fun _ => ?_, ?_⟩
    · by_cases hk : k = 0
      · subst hk; exact hlt
      · rw [Nat.add_comm k 1, ← Nat.add_assoc]; exact hb hk
    · intro fuel n
      rw [show fuel + (k + 1) = (fuel + k) + 1 from rfl]
      simp only [continueFrom, hf]
      rw [hc fuel (n + 1), Nat.add_assoc, Nat.add_comm 1 k]

/-- **Stripping trailing Shifts keeps `validSeq`.** If the stripped part applies, the trailing Shifts
apply after it, and the full sequence ends in `N` Shifts or in a configuration that accepts, then the
stripped part satisfies `validSeq`: `continueFrom` performs the stripped Shifts itself. -/
theorem validSeq_stripped {G : Grammar} {A : Automaton} {w : List Nat} {N : Nat} {c c1 cf : Pos}
    {p : List Repair} {k : Nat} (h1 : applySeq G A w c p = some c1)
    (h2 : applySeq G A w c1 (List.replicate k .shift) = some cf)
    (h3 : N ≤ k ∨ ∃ s, feed G A (nextTok G w cf.pos) FUEL cf.stack = .accept s) :
    validSeq G A w N c p = true := by
  obtain ⟨hb, hc⟩ := continueFrom_shifts k c1 cf h2
  have hk : k ≤ w.length := by
    rcases Nat.eq_zero_or_pos k with rfl | hpos
    · exact Nat.zero_le _
    · exact Nat.le_trans (Nat.le_add_left k c1.pos) (hb (Nat.ne_of_gt hpos))
  -- `continueFrom` spends one unit of fuel per lexeme shifted and one on the `feed` that ends it; `k ≤ |w|`
  -- of the `|w| + 2` units go to the stripped Shifts, and at least two are left for `cf`
  have e : w.length + 2 = (w.length + 1 - k) + 1 + k := by
    rw [Nat.add_right_comm (w.length + 1 - k) 1 k, Nat.sub_add_cancel (Nat.le_succ_of_le hk)]
  simp only [validSeq, h1]
  rw [e, hc, Nat.zero_add]
  rcases h3 with h3 | ⟨s, h3⟩
  · have := (continueFrom_ge (G := G) (A := A) (w := w) (w.length + 1 - k + 1) cf k).1
    cases hcf : continueFrom G A w (w.length + 1 - k + 1) cf k with
    | mk n rest =>
      rw [hcf] at this
      simp only [Bool.or_eq_true, decide_eq_true_eq]
      exact Or.inr (Nat.le_trans h3 this)
  · simp only [continueFrom, h3, Bool.true_or]

theorem search_stripped_valid {G : Grammar} {A : Automaton} {w : List Nat} {cost : Nat → Nat} {N : Nat}
    {c : Pos} {k : Nat} {seq : List Repair} (hs : Search G A w cost N ⟨c, [], 0⟩ k seq) :
    validSeq G A w N c (stripShifts seq) = true ∧
    (∃ c1, applySeq G A w c (stripShifts seq) = some c1) ∧
    (∀ t, Repair.insert t ∈ stripShifts seq → t < G.ntoks ∧ t ≠ G.eof) := by
  obtain ⟨suf, cf, h1, h2, h3, h4⟩ := search_final _ k seq hs rfl (by intro t ht; cases ht)
  simp only [List.reverse_nil, List.nil_append] at h1
  subst h1
  have hsplit := stripShifts_append seq
  rw [hsplit, applySeq_append] at h2
  cases ha : applySeq G A w c (stripShifts seq) with
  | none => rw [ha] at h2; cases h2
  | some c1 =>
    rw [ha] at h2
    simp only [Option.bind_some] at h2
    exact ⟨validSeq_stripped ha h2 h4, ⟨c1, rfl⟩, fun t ht => h3 t (by rw [hsplit]; exact List.mem_append_left _ ht)⟩

section
variable {E : Env} {hs : List Seq → List Seq} {avoid : Nat → Bool} {lexStart : Nat → Nat} {win fuel : Nat}
  {c : Pos}

theorem cpct_some_unpack {c' : Pos} {rs : List (List Repair)}
    (h : cpctRecover E hs avoid lexStart win fuel c = some (c', rs)) :
    ∃ out, recoverImpl E hs avoid lexStart win fuel c = .ok (c', out) ∧ out ≠ [] ∧ rs = eraseAll out := by
  unfold cpctRecover at h
  cases hr : recoverImpl E hs avoid lexStart win fuel c with
  | ok x =>
    obtain ⟨c1, out⟩ := x
    rw [hr] at h
    cases out with
    | nil => cases h
    | cons s0 rest => cases h; exact ⟨_, rfl, List.cons_ne_nil _ _, rfl⟩
  | _ => rw [hr] at h; cases h

theorem cpctOutcome_noRepair (h : cpctOutcome E hs avoid lexStart win fuel c = .noRepair) :
    (∃ c', recoverImpl E hs avoid lexStart win fuel c = .ok (c', [])) ∧
      cpctRecover E hs avoid lexStart win fuel c = none := by
  unfold cpctOutcome at h
  unfold cpctRecover
  cases hr : recoverImpl E hs avoid lexStart win fuel c with
  | ok x =>
    obtain ⟨c1, out⟩ := x
    rw [hr] at h
    cases out with
    | nil => exact ⟨⟨c1, rfl⟩, rfl⟩
    | cons s0 rest => cases h
  | _ => rw [hr] at h; cases h

theorem cpctOutcome_repaired (h : cpctOutcome E hs avoid lexStart win fuel c = .repaired) :
    ∃ c' rs, cpctRecover E hs avoid lexStart win fuel c = some (c', rs) ∧ rs ≠ [] := by
  unfold cpctOutcome at h
  unfold cpctRecover
  cases hr : recoverImpl E hs avoid lexStart win fuel c with
  | ok x =>
    obtain ⟨c1, out⟩ := x
    rw [hr] at h
    cases out with
    | nil => cases h
    | cons s0 rest => exact ⟨c1, _, rfl, List.cons_ne_nil _ _⟩
  | _ => rw [hr] at h; cases h

end

theorem recoverImpl_ok {E : Env} {hs : List Seq → List Seq} {avoid : Nat → Bool} {lexStart : Nat → Nat}
    {win fuel : Nat} {c : Pos} {r : Pos × List Seq} (h : recoverImpl E hs avoid lexStart win fuel c = .ok r) :
    ∃ res, dijkstra E fuel c = .ok res ∧ recoverTail E hs avoid lexStart win c res = .ok r := by
  unfold recoverImpl at h
  cases hd : dijkstra E fuel c with
  | ok res => rw [hd] at h; exact ⟨res, rfl, h⟩
  | _ => rw [hd] at h; cases h

/-- `rank_cnds` is a filter: whatever it keeps comes from one of the groups it was given -/
theorem rankCnds_mem {G : Grammar} {A : Automaton} {w : List Nat} {win : Nat} {start : Pos}
    {cnds : List (List Seq)} {kept : List Seq} (h : rankCnds G A w win start cnds = some kept)
    {s : Seq} (hs : s ∈ kept) : ∃ g ∈ cnds, s ∈ g := by
  obtain ⟨_, rfl⟩ := rankCnds_some h
  simp only [List.mem_flatMap, List.mem_filter, List.mem_map] at hs
  obtain ⟨_, ⟨⟨g, hg, rfl⟩, _⟩, hsp⟩ := hs
  exact ⟨g, hg, hsp⟩

theorem kept_is_search {E : Env} {hs : List Seq → List Seq} (hhs : HashSetLike hs) {avoid : Nat → Bool}
    {lexStart : Nat → Nat} {win k : Nat} {c : Pos} {res : List PNode} (hf : Found E c res k)
    {kept : List Seq} (hrk : rankCnds E.G E.A E.w win c (collectRepairs c.pos res) = some kept) {s : Seq}
    (hs' : s ∈ simplify hs avoid lexStart kept) :
    ∃ seq, Search E.G E.A E.w E.cost E.N ⟨c, [], 0⟩ k seq ∧
      s = stripTrailing (attach c.pos seq) ∧ s.map PRepair.erase = stripShifts seq := by
  obtain ⟨s1, hs1, rfl⟩ := (mem_simplify hhs avoid lexStart kept s).mp hs'
  obtain ⟨g, hg, hsg⟩ := rankCnds_mem hrk hs1
  rw [collectRepairs_eq] at hg
  obtain ⟨m, hm, rfl⟩ := List.mem_map.mp hg
  obtain ⟨seq, hseq, rfl⟩ := List.mem_map.mp hsg
  exact ⟨seq, hf.sound m hm seq hseq, rfl, by rw [map_erase_stripTrailing, erase_map_attach]⟩

theorem rankCnds_nonempty {G : Grammar} {A : Automaton} {w : List Nat} {win : Nat} {start : Pos}
    {cnds : List (List Seq)} {kept : List Seq} (h : rankCnds G A w win start cnds = some kept)
    (hne : cnds ≠ []) (hall : ∀ g ∈ cnds, g ≠ []) : kept ≠ [] := by
  obtain ⟨_, rfl⟩ := rankCnds_some h
  obtain ⟨p, hp, hpf⟩ := furthest_attained (fun e => hne (List.map_eq_nil_iff.mp e))
  obtain ⟨g, hg, rfl⟩ := List.mem_map.mp hp
  obtain ⟨x, hx⟩ := List.exists_mem_of_ne_nil _ (hall g hg)
  exact List.ne_nil_of_mem (List.mem_flatMap.mpr ⟨_, List.mem_filter.mpr ⟨hp, beq_iff_eq.mpr hpf⟩, hx⟩)

section
variable {E : Env} {hs : List Seq → List Seq} {avoid : Nat → Bool} {lexStart : Nat → Nat} {win fuel : Nat}
  {c c' : Pos}

/-- **the post-processing on the nodes of a search that ended properly**: only `rank_cnds` can fail to
answer. It keeps a group (the furthest distance is attained and no group is empty), so
`simplify_repairs` of what it keeps is not empty (`rnk_rprs[0]` exists); the first reported sequence is a
minimum-cost sequence with its trailing Shifts stripped, which applies with plain LR semantics, so
`apply_repairs` answers, with the configuration `applySeq` leaves. -/
theorem recoverTail_found (H : Hyps E c) (hhs : HashSetLike hs) {res : List PNode} {k : Nat}
    (hf : Found E c res k) (hne : res ≠ []) :
    match rankCndsO E.G E.A E.w win c (collectRepairs c.pos res) with
    | .ok kept => ∃ s0 rest c', simplify hs avoid lexStart kept = s0 :: rest ∧
        applySeq E.G E.A E.w c (s0.map PRepair.erase) = some c' ∧
        recoverTail E hs avoid lexStart win c res = .ok (c', s0 :: rest)
    | .panic => recoverTail E hs avoid lexStart win c res = .panic
    | .fuelOut => recoverTail E hs avoid lexStart win c res = .fuelOut := by
  obtain ⟨cnd, cnds, rfl⟩ := List.exists_cons_of_ne_nil hne
  rw [recoverTail]
  cases hrkO : rankCndsO E.G E.A E.w win c (collectRepairs c.pos (cnd :: cnds)) with
  | panic => rfl
  | fuelOut => rfl
  | ok kept =>
    have hrk := rankCnds_of_O hrkO
    have hkne : kept ≠ [] := by
      refine rankCnds_nonempty hrk (by rw [collectRepairs_eq]; exact List.cons_ne_nil _ _) fun g hg => ?_
      rw [collectRepairs_eq] at hg
      obtain ⟨m, hm, rfl⟩ := List.mem_map.mp hg
      exact fun e => hf.nonempty m hm (List.map_eq_nil_iff.mp e)
    obtain ⟨x, hx⟩ := List.exists_mem_of_ne_nil _ hkne
    have hmem : stripTrailing x ∈ simplify hs avoid lexStart kept :=
      (mem_simplify hhs avoid lexStart kept _).mpr ⟨x, hx, rfl⟩
    cases hsim : simplify hs avoid lexStart kept with
    | nil => rw [hsim] at hmem; cases hmem
    | cons s0 rest =>
      obtain ⟨seq, hsr, _, he⟩ := kept_is_search (s := s0) hhs hf hrk (by rw [hsim]; exact List.mem_cons_self)
      obtain ⟨_, ⟨c1, hc1⟩, _⟩ := search_stripped_valid hsr
      rw [← he] at hc1
      refine ⟨s0, rest, c1, hsim, hc1, ?_⟩
      simp only
      rw [if_neg (by simpa using hkne), hsim]
      simp only [applyRepairsO_of_some (applyRepairs_of_applySeq s0 c c1 H.pos hc1).1]

theorem recoverImpl_unpack (H : Hyps E c) (hhs : HashSetLike hs) {out : List Seq}
    (h : recoverImpl E hs avoid lexStart win fuel c = .ok (c', out)) :
    (dijkstra E fuel c = .ok [] ∧ out = []) ∨
    ∃ res k kept s0 rest, res ≠ [] ∧ Found E c res k ∧
      rankCnds E.G E.A E.w win c (collectRepairs c.pos res) = some kept ∧
      simplify hs avoid lexStart kept = s0 :: rest ∧ out = s0 :: rest ∧
      applySeq E.G E.A E.w c (s0.map PRepair.erase) = some c' := by
  obtain ⟨res, hd, ht⟩ := recoverImpl_ok h
  by_cases hres : res = []
  · subst hres; cases ht; exact Or.inl ⟨hd, rfl⟩
  obtain ⟨k, hf⟩ := found_of_dijkstra H hd hres
  have := recoverTail_found (avoid := avoid) (lexStart := lexStart) (win := win) H hhs hf hres
  cases hrk : rankCndsO E.G E.A E.w win c (collectRepairs c.pos res) with
  | ok kept =>
    rw [hrk] at this
    obtain ⟨s0, rest, c1, hsim, happ, e⟩ := this
    cases ht.symm.trans e
    exact Or.inr ⟨res, k, kept, s0, rest, hres, hf, rankCnds_of_O hrk, hsim, rfl, happ⟩
  | _ => rw [hrk, ht] at this; cases this

end

/-- **every reported sequence is a minimum-cost `Search` sequence with its trailing Shifts stripped.**
`rank_cnds` only filters the groups `collect_repairs` made of the returned nodes, `simplify_repairs`
keeps the set of stripped sequences: whatever is reported comes from the expansion of a returned node,
which `search_sound` (`Found.sound`) places in `Rec.Search` at the common cost. No window hypothesis. -/
theorem reported_is_search {E : Env} {hs : List Seq → List Seq} (hhs : HashSetLike hs) {avoid : Nat → Bool}
    {lexStart : Nat → Nat} {win fuel : Nat} {c c' : Pos} (H : Hyps E c) {out : List Seq}
    (h : recoverImpl E hs avoid lexStart win fuel c = .ok (c', out)) (hne : out ≠ []) :
    ∃ k, k ≤ U16MAX ∧ ∀ s ∈ out, ∃ seq, Search E.G E.A E.w E.cost E.N ⟨c, [], 0⟩ k seq ∧
      s = stripTrailing (attach c.pos seq) ∧ s.map PRepair.erase = stripShifts seq := by
  obtain ⟨res, k, kept, s0, rest, _, hf, hrk, hsim, hout, _⟩ :=
    (recoverImpl_unpack H hhs h).resolve_left fun h0 => hne h0.2
  exact ⟨k, hf.bound, fun s hs' => kept_is_search hhs hf hrk (by rw [hsim, ← hout]; exact hs')⟩

/-- **a properly ended call that reports nothing found no node**: `recoverImpl … = .ok (_, [])` only when
`dijkstra` returned no node — `rank_cnds` always keeps a group (the furthest distance is attained) and
`simplify_repairs` of a non-empty list is non-empty. No window hypothesis. -/
theorem noRepair_dijkstra_nil {E : Env} {hs : List Seq → List Seq} (hhs : HashSetLike hs) {avoid : Nat → Bool}
    {lexStart : Nat → Nat} {win fuel : Nat} {c c' : Pos} (H : Hyps E c)
    (h : recoverImpl E hs avoid lexStart win fuel c = .ok (c', [])) : dijkstra E fuel c = .ok [] := by
  rcases recoverImpl_unpack H hhs h with ⟨hd, _⟩ | ⟨_, _, _, _, _, _, _, _, _, e, _⟩
  · exact hd
  · cases e

/-- **What one call of the modelled recoverer returns** at a configuration at which `Parser::lr`
calls `recover`, on a table satisfying `TableOK`, for any `HashSet` order, window and search budget:
if it reports anything, then (1) the list is `s0 :: rest` and the configuration parsing continues from
is `applySeq` of `s0` — plain LR semantics — from the error configuration; (2) there is one cost `k`
such that EVERY reported sequence is a `Rec.Search` sequence of cost `k` with its trailing Shifts
stripped, satisfies `validSeq … PARSE_AT_LEAST`, and inserts only tokens of the grammar other than
end-of-input. -/
theorem cpct_report {E : Env} (T : TableOK E) {hs : List Seq → List Seq} (hhs : HashSetLike hs)
    {avoid : Nat → Bool} {lexStart : Nat → Nat} {win fuel : Nat} {c c' : Pos} {rs : List (List Repair)}
    (hc : errCfg E.G E.A E.w c = true)
    (h : cpctRecover E hs avoid lexStart win fuel c = some (c', rs)) :
    (∃ s0 rest, rs = s0 :: rest ∧ applySeq E.G E.A E.w c s0 = some c') ∧
    ∃ k, k ≤ U16MAX ∧ ∀ r ∈ rs, validSeq E.G E.A E.w E.N c r = true ∧
      (∀ t, Repair.insert t ∈ r → t < E.G.ntoks ∧ t ≠ E.G.eof) ∧
      ∃ seq, Search E.G E.A E.w E.cost E.N ⟨c, [], 0⟩ k seq ∧ r = stripShifts seq := by
  have H := hyps_of_errCfg T hc
  obtain ⟨out, hri, hne, rfl⟩ := cpct_some_unpack h
  obtain ⟨k, hk, hall⟩ := reported_is_search hhs H hri hne
  refine ⟨?_, k, hk, ?_⟩
  · obtain ⟨_, _, _, s0, rest, _, _, _, _, rfl, happ⟩ :=
      (recoverImpl_unpack H hhs hri).resolve_left fun h0 => hne h0.2
    exact ⟨s0.map PRepair.erase, eraseAll rest, rfl, happ⟩
  · intro r hr
    simp only [eraseAll, List.mem_map] at hr
    obtain ⟨s, hs', rfl⟩ := hr
    obtain ⟨seq, hsr, _, he⟩ := hall s hs'
    obtain ⟨hv, _, hins⟩ := search_stripped_valid hsr
    rw [he]
    exact ⟨hv, hins, seq, hsr, rfl⟩

end GrmVerif.Cpct
