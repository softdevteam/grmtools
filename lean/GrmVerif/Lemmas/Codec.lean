import GrmVerif.Model.Codec
/-! Round-trip laws of the codec combinators of `Model/Codec.lean` (helper lemmas for `Props/C14.lean`). -/
namespace GrmVerif.C14

theorem decLE_encLE (k : Nat) : ∀ (n : Nat) (rest : Bytes), n < 256 ^ k →
    decLE k (encLE k n ++ rest) = some (n, rest) := by
  induction k with
  | zero =>
    intro n rest h
    cases Nat.lt_one_iff.mp h
    rfl
  | succ k ih =>
    intro n rest h
    have h' : n / 256 < 256 ^ k :=
      Nat.div_lt_of_lt_mul (by rwa [Nat.pow_succ, Nat.mul_comm] at h)
    simp only [encLE, List.cons_append, decLE, ih (n / 256) rest h', Nat.mod_add_div]

theorem decVar_encVar (w : Nat) (n : Nat) (rest : Bytes) (hw : w = 2 ∨ w = 4 ∨ w = 8) (h : n < 256 ^ w) :
    decVar w (encVar n ++ rest) = some (n, rest) := by
  unfold encVar
  split
  · next h1 => exact if_pos h1
  split
  · next h2 => exact decLE_encLE 2 n rest h2
  next h2 =>
  -- a value of at least `2^16` is not of the two-byte type, so the decoder accepts tag 252
  have hw4 : 4 ≤ w := by
    rcases hw with rfl | rfl | rfl
    · exact absurd h h2
    · exact Nat.le_refl _
    · decide
  split
  · next h3 => exact (if_pos hw4).trans (decLE_encLE 4 n rest h3)
  next h3 =>
  have hw8 : w = 8 := by
    rcases hw with rfl | rfl | rfl
    · exact absurd h h2
    · exact absurd h h3
    · rfl
  subst hw8
  exact decLE_encLE 8 n rest h

theorem int_law (cfg : IntEnc) (i : IntTy) : (Codec.int cfg i).Law := by
  intro n rest h
  simp only [Codec.int] at h ⊢
  cases i <;> cases cfg <;> simp only [encInt, decInt, IntTy.bytes] at h ⊢
  all_goals first
    | exact decLE_encLE _ n rest h
    | exact decVar_encVar _ n rest (by simp) h

theorem decInt_encInt (cfg : IntEnc) (i : IntTy) (n : Nat) (rest : Bytes) (h : n < 256 ^ i.bytes) :
    decInt cfg i (encInt cfg i n ++ rest) = some (n, rest) :=
  int_law cfg i n rest h

theorem bool_law : Codec.bool.Law := by
  intro b rest _
  cases b <;> simp [Codec.bool, decBool]

theorem string_law (cfg : IntEnc) : (Codec.string cfg).Law := by
  intro s rest h
  simp only [Codec.string] at h ⊢
  obtain ⟨hl, hv⟩ := h
  simp only [decString, List.append_assoc, decInt_encInt cfg .u64 s.length (s ++ rest) hl]
  simp [hv]

theorem option_law {α : Type} (c : Codec α) (hc : c.Law) : c.option.Law := by
  intro o rest h
  cases o with
  | none => simp [Codec.option, encOption, decOption]
  | some x =>
    simp only [Codec.option, wfOption] at h
    simp [Codec.option, encOption, decOption, hc x rest h]

theorem decN_encList {α : Type} (c : Codec α) (hc : c.Law) : ∀ (xs : List α) (rest : Bytes),
    (∀ x ∈ xs, c.wf x) → decN c xs.length (encList c xs ++ rest) = some (xs, rest) := by
  intro xs
  induction xs with
  | nil => intro rest _; simp [decN, encList]
  | cons x xs ih =>
    intro rest h
    have hx : c.wf x := h x (by simp)
    have hxs : ∀ y ∈ xs, c.wf y := fun y hy => h y (by simp [hy])
    simp only [List.length_cons, encList, List.append_assoc, decN, hc x (encList c xs ++ rest) hx,
      ih rest hxs]

theorem seq_law {α : Type} (cfg : IntEnc) (c : Codec α) (hc : c.Law) : (c.seq cfg).Law := by
  intro xs rest h
  simp only [Codec.seq] at h ⊢
  obtain ⟨hl, hall⟩ := h
  simp only [decSeq, List.append_assoc, decInt_encInt cfg .u64 xs.length (encList c xs ++ rest) hl,
    decN_encList c hc xs rest hall]

theorem pair_law {α β : Type} (name : String) (a : Codec α) (b : Codec β) (ha : a.Law) (hb : b.Law) :
    (Codec.pair name a b).Law := by
  intro p rest h
  obtain ⟨x, y⟩ := p
  simp only [Codec.pair] at h ⊢
  simp only [decPair, List.append_assoc, ha x (b.enc y ++ rest) h.1, hb y rest h.2]

theorem unit_law : Codec.unit.Law := by
  intro x rest _
  simp [Codec.unit]

theorem empty_law : Codec.empty.Law := by
  intro x
  exact nomatch x

theorem empty_tagsFrom (cfg : IntEnc) (k : Nat) : Codec.empty.TagsFrom cfg k := by
  intro x
  exact nomatch x

theorem sum_law {α β : Type} (cfg : IntEnc) (k : Nat) (name : String) (a : Codec α) (b : Codec β)
    (ha : a.Law) (hb : b.Law) (hbt : b.TagsFrom cfg (k + 1)) : (Codec.sum cfg k name a b).Law := by
  intro s rest h
  cases s with
  | inl x =>
    simp only [Codec.sum, wfSum] at h
    simp only [Codec.sum, encSum, decSum, List.append_assoc,
      decInt_encInt cfg .u32 k (a.enc x ++ rest) (by simpa [IntTy.bytes] using h.1), if_true,
      ha x rest h.2]
  | inr y =>
    simp only [Codec.sum, wfSum] at h
    obtain ⟨t, body, hk, ht, he⟩ := hbt y h
    have hne : ¬ t = k := by omega
    have hd : decInt cfg .u32 (b.enc y ++ rest) = some (t, body ++ rest) := by
      rw [he, List.append_assoc]
      exact decInt_encInt cfg .u32 t (body ++ rest) (by simpa [IntTy.bytes] using ht)
    simp only [Codec.sum, encSum, decSum, hd, hne, if_false, hb y rest h]

theorem sum_tagsFrom {α β : Type} (cfg : IntEnc) (k : Nat) (name : String) (a : Codec α) (b : Codec β)
    (hbt : b.TagsFrom cfg (k + 1)) : (Codec.sum cfg k name a b).TagsFrom cfg k := by
  intro s h
  cases s with
  | inl x => exact ⟨k, a.enc x, Nat.le_refl k, h.1, rfl⟩
  | inr y =>
    obtain ⟨t, body, hk, ht, he⟩ := hbt y h
    exact ⟨t, body, Nat.le_of_succ_le hk, ht, he⟩

mutual
  theorem codec_law (cfg : IntEnc) : (t : Ty) → (codec cfg t).Law
    | .int i => by rw [codec]; exact int_law cfg i
    | .bool => by rw [codec]; exact bool_law
    | .string => by rw [codec]; exact string_law cfg
    | .option t => by rw [codec]; exact option_law _ (codec_law cfg t)
    | .seq t => by rw [codec]; exact seq_law cfg _ (codec_law cfg t)
    | .struct fs => by rw [codec]; exact codecProd_law cfg fs
    | .enum vs => by rw [codec]; exact (codecSum_law cfg 0 vs).1
  theorem codecProd_law (cfg : IntEnc) : (ts : Tys) → (codecProd cfg ts).Law
    | .nil => by rw [codecProd]; exact unit_law
    | .cons n t ts => by rw [codecProd]; exact pair_law n _ _ (codec_law cfg t) (codecProd_law cfg ts)
  theorem codecSum_law (cfg : IntEnc) (k : Nat) : (ts : Tys) →
      (codecSum cfg k ts).Law ∧ (codecSum cfg k ts).TagsFrom cfg k
    | .nil => by rw [codecSum]; exact ⟨empty_law, empty_tagsFrom cfg k⟩
    | .cons n t ts => by
      rw [codecSum]
      have ih := codecSum_law cfg (k + 1) ts
      exact ⟨sum_law cfg k n _ _ (codec_law cfg t) ih.1 ih.2, sum_tagsFrom cfg k n _ _ ih.2⟩
end

end GrmVerif.C14
