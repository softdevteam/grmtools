import GrmVerif.Model.SearchImpl
import GrmVerif.Lemmas.RecBasics
/-!
Specification-level relations for the proof that the modelled search (`Model/SearchImpl.lean`) is
correct.

`Step`/`IPath` describe the search graph as the IMPLEMENTATION walks it: like `Rec.Search`, except that
a node stops the walk when the implementation's `success` closure says so (`implSucc`: `N` trailing
shifts, or the action of the TOP state on the next token is Accept — no reductions are tried), whereas
`Rec.isSuccess` also accepts after reductions ("late accept"). `ISearch` = a walk that ends in a node
that is a success in the specification's sense. The two notions yield the same minimum cost and the
same sequences at that cost when every token costs at least 1 (`search_of_isearch`,
`isearch_of_search`).
-/
namespace GrmVerif.SearchImpl
open LR Rec

/-- the `success` closure of `recover` on a specification node -/
def implSucc (G : Grammar) (A : Automaton) (w : List Nat) (N : Nat) (n : Node) : Bool :=
  decide (n.trail ≥ N) ||
  (match n.c.stack with
   | [] => false
   | st :: _ => A.action st (nextTok G w n.c.pos) == .accept)

inductive Step (G : Grammar) (A : Automaton) (w : List Nat) (cost : Nat → Nat) (N : Nat) (a : Node) :
    Repair → Node → Nat → Prop
  | shift (c' : Pos) : implSucc G A w N a = false → applyRepair G A w a.c .shift = some c' →
      Step G A w cost N a .shift ⟨c', .shift :: a.rev, a.trail + 1⟩ 0
  | insert (t : Nat) (c' : Pos) : implSucc G A w N a = false → a.rev.head? ≠ some .delete →
      t < G.ntoks → t ≠ G.eof → applyRepair G A w a.c (.insert t) = some c' →
      Step G A w cost N a (.insert t) ⟨c', .insert t :: a.rev, 0⟩ (cost t)
  | delete (t : Nat) : implSucc G A w N a = false → w[a.c.pos]? = some t →
      Step G A w cost N a .delete ⟨⟨a.c.stack, a.c.pos + 1⟩, .delete :: a.rev, 0⟩ (cost t)

inductive IPath (G : Grammar) (A : Automaton) (w : List Nat) (cost : Nat → Nat) (N : Nat) :
    Node → List Repair → Node → Nat → Prop
  | nil (a : Node) : IPath G A w cost N a [] a 0
  | cons {a a' n : Node} {r : Repair} {suf : List Repair} {c0 k : Nat} :
      Step G A w cost N a r a' c0 → IPath G A w cost N a' suf n k →
      IPath G A w cost N a (r :: suf) n (c0 + k)

def ISearch (G : Grammar) (A : Automaton) (w : List Nat) (cost : Nat → Nat) (N : Nat) (start : Pos)
    (K : Nat) (seq : List Repair) : Prop :=
  ∃ n, IPath G A w cost N ⟨start, [], 0⟩ seq n K ∧ isSuccess G A w N n = true

variable {G : Grammar} {A : Automaton} {w : List Nat} {cost : Nat → Nat} {N : Nat}

theorem Step.det {a a₁ a₂ : Node} {r : Repair} {c₁ c₂ : Nat}
    (h₁ : Step G A w cost N a r a₁ c₁) (h₂ : Step G A w cost N a r a₂ c₂) : a₁ = a₂ ∧ c₁ = c₂ := by
  cases h₁ with
  | shift c' _ ha =>
    cases h₂ with
    | shift c'' _ ha' => rw [ha] at ha'; injection ha' with e; subst e; exact ⟨rfl, rfl⟩
  | insert t c' _ _ _ _ ha =>
    cases h₂ with
    | insert _ c'' _ _ _ _ ha' => rw [ha] at ha'; injection ha' with e; subst e; exact ⟨rfl, rfl⟩
  | delete t _ hw =>
    cases h₂ with
    | delete t' _ hw' => rw [hw] at hw'; injection hw' with e; subst e; exact ⟨rfl, rfl⟩

theorem IPath.det {a n₁ n₂ : Node} {s : List Repair} {k₁ k₂ : Nat}
    (h₁ : IPath G A w cost N a s n₁ k₁) (h₂ : IPath G A w cost N a s n₂ k₂) : n₁ = n₂ ∧ k₁ = k₂ := by
  induction h₁ generalizing n₂ k₂ with
  | nil a => cases h₂; exact ⟨rfl, rfl⟩
  | cons hs _ ih =>
    cases h₂ with
    | cons hs' hp' =>
      obtain ⟨e1, e2⟩ := Step.det hs hs'
      subst e1; subst e2
      obtain ⟨e3, e4⟩ := ih hp'
      exact ⟨e3, by rw [e4]⟩

theorem IPath.cons_inv {a n : Node} {r : Repair} {suf : List Repair} {K : Nat}
    (h : IPath G A w cost N a (r :: suf) n K) :
    ∃ a' c0 k, Step G A w cost N a r a' c0 ∧ IPath G A w cost N a' suf n k ∧ K = c0 + k := by
  cases h with
  | cons hst hp => exact ⟨_, _, _, hst, hp, rfl⟩

theorem IPath.nil_inv {a n : Node} {K : Nat} (h : IPath G A w cost N a [] n K) : n = a ∧ K = 0 :=
  IPath.det h (IPath.nil a)

theorem IPath.split {a n : Node} {p q : List Repair} {k : Nat}
    (h : IPath G A w cost N a (p ++ q) n k) :
    ∃ m k₁ k₂, IPath G A w cost N a p m k₁ ∧ IPath G A w cost N m q n k₂ ∧ k = k₁ + k₂ := by
  induction p generalizing a k with
  | nil => exact ⟨a, 0, k, IPath.nil a, h, by simp⟩
  | cons r p ih =>
    cases h with
    | cons hs hp =>
      obtain ⟨m, k₁, k₂, h1, h2, e⟩ := ih hp
      exact ⟨m, _, k₂, IPath.cons hs h1, h2, by rw [e, Nat.add_assoc]⟩

theorem IPath.append {a m n : Node} {p q : List Repair} {k₁ k₂ : Nat}
    (h₁ : IPath G A w cost N a p m k₁) (h₂ : IPath G A w cost N m q n k₂) :
    IPath G A w cost N a (p ++ q) n (k₁ + k₂) := by
  induction h₁ with
  | nil a => simpa using h₂
  | cons hs _ ih =>
    have := IPath.cons hs (ih h₂)
    simpa [Nat.add_assoc] using this

theorem IPath.snoc {a n n' : Node} {s : List Repair} {r : Repair} {k c0 : Nat}
    (h : IPath G A w cost N a s n k) (hs : Step G A w cost N n r n' c0) :
    IPath G A w cost N a (s ++ [r]) n' (k + c0) :=
  IPath.append h (IPath.cons hs (IPath.nil n'))

theorem Step.rev {a a' : Node} {r : Repair} {c0 : Nat} (h : Step G A w cost N a r a' c0) :
    a'.rev = r :: a.rev := by
  cases h <;> rfl

theorem IPath.rev {a n : Node} {s : List Repair} {k : Nat} (h : IPath G A w cost N a s n k) :
    n.rev = s.reverse ++ a.rev := by
  induction h with
  | nil a => simp
  | cons hs _ ih => rw [ih, hs.rev]; simp

theorem IPath.seq_of_root {c : Pos} {t : Nat} {n : Node} {s : List Repair} {k : Nat}
    (h : IPath G A w cost N ⟨c, [], t⟩ s n k) : n.rev.reverse = s := by
  rw [h.rev, List.append_nil, List.reverse_reverse]

theorem Step.not_succ {a a' : Node} {r : Repair} {c0 : Nat} (h : Step G A w cost N a r a' c0) :
    implSucc G A w N a = false := by
  cases h <;> assumption

theorem Step.apply {a a' : Node} {r : Repair} {c0 : Nat} (h : Step G A w cost N a r a' c0) :
    applyRepair G A w a.c r = some a'.c := by
  cases h with
  | shift c' _ ha => exact ha
  | insert t c' _ _ _ _ ha => exact ha
  | delete t _ hw => exact applyRepair_delete.mpr ⟨(List.getElem?_eq_some_iff.mp hw).1, rfl⟩

theorem IPath.apply {a n : Node} {s : List Repair} {k : Nat} (h : IPath G A w cost N a s n k) :
    applySeq G A w a.c s = some n.c := by
  induction h with
  | nil a => rfl
  | cons hst _ ih => simp only [applySeq, hst.apply, ih]

theorem IPath.seqCost {a n : Node} {s : List Repair} {k : Nat} (h : IPath G A w cost N a s n k) :
    seqCost w cost a.c.pos s = k := by
  induction h with
  | nil a => rfl
  | cons hst _ ih =>
    cases hst with
    | shift c' _ ha =>
      obtain ⟨_, s, _, rfl⟩ := applyRepair_shift.mp ha
      rw [Rec.seqCost, Nat.zero_add]; exact ih
    | insert t c' _ _ _ _ ha =>
      obtain ⟨s, _, rfl⟩ := applyRepair_insert.mp ha
      rw [Rec.seqCost]; exact congrArg (cost t + ·) ih
    | delete t _ hw => rw [Rec.seqCost, hw]; exact congrArg (cost t + ·) ih

theorem IPath.inserts_ok {a n : Node} {s : List Repair} {k : Nat} (h : IPath G A w cost N a s n k) :
    ∀ t, Repair.insert t ∈ s → t < G.ntoks ∧ t ≠ G.eof := by
  induction h with
  | nil a => intro t ht; cases ht
  | cons hst _ ih =>
    intro t ht
    rcases List.mem_cons.mp ht with e | ht
    · cases hst with
      | insert t' _ _ _ htl hne _ => cases e; exact ⟨htl, hne⟩
      | _ => cases e
    · exact ih t ht

theorem IPath.trail_eq {a n : Node} {s : List Repair} {k : Nat} (h : IPath G A w cost N a s n k)
    (ht : a.trail = (a.rev.takeWhile (· == Repair.shift)).length) :
    n.trail = (n.rev.takeWhile (· == Repair.shift)).length := by
  induction h with
  | nil a => exact ht
  | cons hst _ ih => exact ih (by cases hst <;> simp [ht])

theorem feed_of_top_accept {la st : Nat} {rest : List Nat} (h : A.action st la = .accept) :
    feed G A la FUEL (st :: rest) = .accept (st :: rest) := by
  simp only [FUEL, feed, h]

theorem feed_accept_same {la : Nat} {f : Nat} {st : Nat} {rest s : List Nat}
    (h : feed G A la (f + 1) (st :: rest) = .accept s) (hne : A.action st la ≠ .accept) :
    ∃ p, A.action st la = .reduce p := by
  cases ha : A.action st la with
  | accept => exact absurd ha hne
  | reduce p => exact ⟨p, rfl⟩
  | _ => simp only [feed, ha] at h; cases h

theorem isSuccess_iff {n : Node} : isSuccess G A w N n = true ↔
    N ≤ n.trail ∨ ∃ s, feed G A (nextTok G w n.c.pos) FUEL n.c.stack = .accept s := by
  simp only [isSuccess, Bool.or_eq_true, decide_eq_true_eq]
  cases feed G A (nextTok G w n.c.pos) FUEL n.c.stack <;> simp

theorem implSucc_imp_isSuccess {n : Node} (h : implSucc G A w N n = true) : isSuccess G A w N n = true := by
  simp only [implSucc, Bool.or_eq_true, decide_eq_true_eq] at h
  refine isSuccess_iff.mpr (h.imp_right fun h => ?_)
  cases hs : n.c.stack with
  | nil => rw [hs] at h; cases h
  | cons st rest =>
    rw [hs] at h
    exact ⟨_, feed_of_top_accept (beq_iff_eq.mp h)⟩

theorem feed_of_applyShift {c c' : Pos} (h : applyRepair G A w c .shift = some c') :
    feed G A (nextTok G w c.pos) FUEL c.stack = .shifted c'.stack := by
  obtain ⟨_, s, hf, rfl⟩ := applyRepair_shift.mp h
  exact hf

theorem Step.shift_or_cost_pos (hcost : ∀ t, 1 ≤ cost t) {a a' : Node} {r : Repair} {c0 : Nat}
    (h : Step G A w cost N a r a' c0) : r = .shift ∨ 1 ≤ c0 := by
  cases h with
  | shift _ _ _ => exact Or.inl rfl
  | insert t _ _ _ _ _ _ => exact Or.inr (hcost t)
  | delete t _ _ => exact Or.inr (hcost t)

/-- a step out of a node that is a success for the specification but not for the implementation (a
late accept) is never a Shift: it costs at least one token -/
theorem Step.cost_pos_of_isSuccess (hcost : ∀ t, 1 ≤ cost t) {a a' : Node} {r : Repair} {c0 : Nat}
    (h : Step G A w cost N a r a' c0) (hs : isSuccess G A w N a = true) : 1 ≤ c0 := by
  refine (h.shift_or_cost_pos hcost).resolve_left fun e => ?_
  subst e
  cases h with
  | shift c' hns ha =>
    simp only [implSucc, Bool.or_eq_false_iff, decide_eq_false_iff_not] at hns
    rcases isSuccess_iff.mp hs with hs | ⟨s, hs⟩
    · exact hns.1 hs
    · rw [feed_of_applyShift ha] at hs; cases hs

theorem IPath.cost_pos_of_isSuccess (hcost : ∀ t, 1 ≤ cost t) {a n : Node} {r : Repair} {s : List Repair}
    {k : Nat} (h : IPath G A w cost N a (r :: s) n k) (hs : isSuccess G A w N a = true) : 1 ≤ k := by
  cases h with
  | cons hst _ => exact Nat.le_trans (hst.cost_pos_of_isSuccess hcost hs) (Nat.le_add_right _ _)

theorem search_step (hcost : ∀ t, 1 ≤ cost t) {a a' : Node} {r : Repair} {c0 k : Nat} {seq : List Repair}
    (h : Step G A w cost N a r a' c0) (hns : isSuccess G A w N a = false)
    (hs : Search G A w cost N a' k seq) : Search G A w cost N a (k + c0) seq := by
  cases h with
  | shift c' _ ha => exact .shift a c' k seq hns ha hs
  | insert t c' _ hnd ht hne ha =>
    exact .insert a t c' k seq hns hnd ht hne (Nat.ne_of_gt (hcost t)) ha hs
  | delete t _ hw => exact .delete a t k seq hns hw (Nat.ne_of_gt (hcost t)) hs

/-- **From the implementation's walk to the specification's search**: a walk of cost `k` that ends in
a success node contains a `Search` sequence of cost at most `k`; if none is cheaper, the walk itself
is that sequence. -/
theorem search_of_ipath (hcost : ∀ t, 1 ≤ cost t) {a n : Node} {s : List Repair} {k : Nat}
    (h : IPath G A w cost N a s n k) (hsucc : isSuccess G A w N n = true) :
    ∃ k' seq', Search G A w cost N a k' seq' ∧ k' ≤ k ∧ (k' = k → seq' = n.rev.reverse) := by
  induction h with
  | nil a => exact ⟨0, _, .done a hsucc, Nat.le_refl _, fun _ => rfl⟩
  | @cons a a' n r suf c0 k hst hp ih =>
    by_cases hsa : isSuccess G A w N a = true
    · refine ⟨0, _, .done a hsa, Nat.zero_le _, fun e => ?_⟩
      have := (IPath.cons hst hp).cost_pos_of_isSuccess hcost hsa
      rw [← e] at this
      exact absurd this (Nat.not_succ_le_zero 0)
    · have hsa' : isSuccess G A w N a = false := by simpa using hsa
      obtain ⟨k', seq', h1, h2, h3⟩ := ih hsucc
      refine ⟨k' + c0, seq', search_step hcost hst hsa' h1, by rw [Nat.add_comm]; exact Nat.add_le_add_left h2 c0, ?_⟩
      intro e
      exact h3 (Nat.add_right_cancel (e.trans (Nat.add_comm c0 _)))

theorem ipath_of_search {a : Node} {k : Nat} {seq : List Repair} (h : Search G A w cost N a k seq) :
    ∃ suf n, IPath G A w cost N a suf n k ∧ isSuccess G A w N n = true ∧ seq = n.rev.reverse := by
  have hni : ∀ m : Node, isSuccess G A w N m = false → implSucc G A w N m = false := by
    intro m hm
    cases hi : implSucc G A w N m with
    | false => rfl
    | true => rw [implSucc_imp_isSuccess hi] at hm; cases hm
  induction h with
  | done n hs => exact ⟨[], n, IPath.nil n, hs, rfl⟩
  | shift n c' k seq hns ha _ ih =>
    obtain ⟨suf, m, h1, h2, h3⟩ := ih
    refine ⟨.shift :: suf, m, ?_, h2, h3⟩
    have := IPath.cons (Step.shift (cost := cost) c' (hni n hns) ha) h1
    simpa using this
  | insert n t c' k seq hns hnd ht hne _ ha _ ih =>
    obtain ⟨suf, m, h1, h2, h3⟩ := ih
    refine ⟨.insert t :: suf, m, ?_, h2, h3⟩
    have := IPath.cons (Step.insert (cost := cost) t c' (hni n hns) hnd ht hne ha) h1
    rw [Nat.add_comm]; exact this
  | delete n t k seq hns hw _ _ ih =>
    obtain ⟨suf, m, h1, h2, h3⟩ := ih
    refine ⟨.delete :: suf, m, ?_, h2, h3⟩
    have := IPath.cons (Step.delete (cost := cost) (A := A) (G := G) (N := N) t (hni n hns) hw) h1
    rw [Nat.add_comm]; exact this

theorem isearch_of_search {start : Pos} {k : Nat} {seq : List Repair}
    (h : Search G A w cost N ⟨start, [], 0⟩ k seq) : ISearch G A w cost N start k seq := by
  obtain ⟨suf, n, h1, h2, rfl⟩ := ipath_of_search h
  rw [h1.seq_of_root]
  exact ⟨n, h1, h2⟩

theorem search_of_isearch (hcost : ∀ t, 1 ≤ cost t) {start : Pos} {k : Nat} {seq : List Repair}
    (h : ISearch G A w cost N start k seq) :
    Search G A w cost N ⟨start, [], 0⟩ k seq ∨
      ∃ k' seq', k' < k ∧ Search G A w cost N ⟨start, [], 0⟩ k' seq' := by
  obtain ⟨n, hp, hs⟩ := h
  obtain ⟨k', seq', h1, h2, h3⟩ := search_of_ipath hcost hp hs
  by_cases e : k' = k
  · left
    subst e
    rw [← hp.seq_of_root, ← h3 rfl]
    exact h1
  · right
    exact ⟨k', seq', Nat.lt_of_le_of_ne h2 e, h1⟩

variable {E : Env}

theorem ipath_applySeq {a n : Node} {s : List Repair} {k : Nat}
    (h : IPath E.G E.A E.w E.cost E.N a s n k) : applySeq E.G E.A E.w a.c s = some n.c :=
  h.apply

end GrmVerif.SearchImpl
