import GrmVerif.Model.OrderIndep
import GrmVerif.Lemmas.Nodup
/-! Specification definitions and helper lemmas for C15 (core Lean only). -/
namespace GrmVerif.OrderIndep

/-- `Reach edges start x`: `x` can be reached from `start` along edges (reflexive-transitive) -/
inductive Reach (edges : Nat → List Nat) (start : Nat) : Nat → Prop
  | refl : Reach edges start start
  | step {x y : Nat} : Reach edges start x → y ∈ edges x → Reach edges start y

/-- specification of the `%avoid_insert` vector: bit `i` is set iff `i` is one of the keys -/
def avoidInsertSpec (ntoks : Nat) (keys : List Nat) : List Bool :=
  (List.range ntoks).map (fun i => keys.contains i)

/-- specification of the numbering of the `~: T ~` productions: the production of token `t` has index
`base +` the number of implicit tokens with a smaller index (no reference to any order) -/
def implicitProdsSpec (base ntoks : Nat) (keys : List Nat) : List (Nat × Nat) × Nat :=
  ((List.range ntoks).filterMap (fun t =>
      if keys.contains t then some (base + (keys.filter (· < t)).length, t) else none),
   base + keys.length)

theorem foldl_setBit_perm {o₁ o₂ : List Nat} (h : o₁.Perm o₂) (v : List Bool) :
    o₁.foldl setBit v = o₂.foldl setBit v :=
  h.foldl_eq' (fun x _ y _ z => by
    by_cases e : x = y
    · rw [e]
    · exact List.set_comm _ _ e) v

theorem insertSorted_perm (x : Nat) (l : List Nat) : (insertSorted x l).Perm (x :: l) := by
  induction l with
  | nil => exact List.Perm.refl _
  | cons y ys ih =>
    simp only [insertSorted]
    split
    · exact List.Perm.refl _
    · exact (List.Perm.cons y ih).trans (List.Perm.swap x y ys)

theorem sortNat_perm (l : List Nat) : (sortNat l).Perm l := by
  induction l with
  | nil => exact List.Perm.refl _
  | cons x xs ih => exact (insertSorted_perm x _).trans (List.Perm.cons x ih)

theorem insertSorted_sorted (x : Nat) (l : List Nat) (h : l.Pairwise (· ≤ ·)) :
    (insertSorted x l).Pairwise (· ≤ ·) := by
  induction l with
  | nil => simp [insertSorted]
  | cons y ys ih =>
    simp only [insertSorted]
    have hy := List.pairwise_cons.mp h
    split
    · next hxy =>
      exact List.pairwise_cons.mpr
        ⟨List.forall_mem_cons.mpr ⟨hxy, fun a ha => Nat.le_trans hxy (hy.1 a ha)⟩, h⟩
    · next hxy =>
      -- what follows `y` is `x` and the old tail
      exact List.pairwise_cons.mpr ⟨fun a ha => List.forall_mem_cons.mpr ⟨Nat.le_of_not_le hxy, hy.1⟩ a
        ((insertSorted_perm x ys).mem_iff.mp ha), ih hy.2⟩

theorem sortNat_sorted (l : List Nat) : (sortNat l).Pairwise (· ≤ ·) := by
  induction l with
  | nil => simp [sortNat]
  | cons x xs ih => exact insertSorted_sorted x _ ih

theorem sortNat_perm_eq {o₁ o₂ : List Nat} (h : o₁.Perm o₂) : sortNat o₁ = sortNat o₂ :=
  List.Perm.eq_of_pairwise (fun _ _ _ _ => Nat.le_antisymm) (sortNat_sorted o₁) (sortNat_sorted o₂)
    ((sortNat_perm o₁).trans (h.trans (sortNat_perm o₂).symm))

theorem number_snd (b : Nat) (l : List Nat) : (number b l).map Prod.snd = l := by
  induction l generalizing b with
  | nil => rfl
  | cons t ts ih => simp [number, ih]

theorem number_fst (b : Nat) (l : List Nat) : (number b l).map Prod.fst = List.range' b l.length := by
  induction l generalizing b with
  | nil => rfl
  | cons t ts ih => simp [number, ih, List.range'_succ]

/-- the invariant of the `gc` loop -/
structure GcInv (edges : Nat → List Nat) (start : Nat) (todo seen : List Nat) : Prop where
  sound : ∀ x, x ∈ todo ∨ x ∈ seen → Reach edges start x
  start : start ∈ todo ∨ start ∈ seen
  closed : ∀ x, x ∈ seen → ∀ y, y ∈ edges x → y ∈ seen ∨ y ∈ todo

theorem gcInv_step {edges : Nat → List Nat} {start : Nat} {todo seen : List Nat} {s : Nat}
    (hs : s ∈ todo) (inv : GcInv edges start todo seen) :
    GcInv edges start
      (todo.filter (fun x => x != s) ++ (edges s).filter (fun x => !(s :: seen).contains x)) (s :: seen) := by
  -- what was seen or waiting is still seen or waiting: only `s` has moved
  have key : ∀ y, y ∈ seen ∨ y ∈ todo →
      y ∈ s :: seen ∨ y ∈ todo.filter (fun x => x != s) ++ (edges s).filter (fun x => !(s :: seen).contains x) := by
    intro y h
    rcases h with h | h
    · exact Or.inl (List.mem_cons_of_mem _ h)
    · by_cases e : y = s
      · exact Or.inl (e ▸ List.mem_cons_self)
      · exact Or.inr (List.mem_append.mpr (Or.inl (List.mem_filter.mpr ⟨h, by simpa using e⟩)))
  refine ⟨?_, (key start inv.start.symm).symm, ?_⟩
  · intro x hx
    rcases hx with hx | hx
    · rcases List.mem_append.mp hx with hx | hx
      · exact inv.sound x (Or.inl (List.mem_filter.mp hx).1)
      · exact Reach.step (inv.sound s (Or.inl hs)) (List.mem_filter.mp hx).1
    · cases hx with
      | head => exact inv.sound s (Or.inl hs)
      | tail _ hx => exact inv.sound x (Or.inr hx)
  · intro x hx y hy
    cases hx with
    | head =>
      by_cases hc : y ∈ s :: seen
      · exact Or.inl hc
      · exact Or.inr (List.mem_append.mpr (Or.inr (List.mem_filter.mpr ⟨hy, by simpa using hc⟩)))
    | tail _ hx => exact key y (inv.closed x hx y hy)

theorem gcLoop_spec {edges : Nat → List Nat} {σ : List Nat → List Nat} (hσ : ∀ l, (σ l).Perm l)
    {start : Nat} : ∀ (fuel : Nat) (todo seen r : List Nat), GcInv edges start todo seen →
      gcLoop edges σ fuel todo seen = some r → ∀ x, x ∈ r ↔ Reach edges start x := by
  intro fuel
  induction fuel with
  | zero => intro todo seen r _ h; simp [gcLoop] at h
  | succ fuel ih =>
    intro todo seen r inv h
    unfold gcLoop at h
    split at h
    · rename_i hnil
      cases List.nil_perm.mp (hnil ▸ hσ todo)
      cases h
      intro x
      constructor
      · intro hx; exact inv.sound x (Or.inr hx)
      · intro hx
        induction hx with
        | refl => rcases inv.start with h | h
                  · cases h
                  · exact h
        | step _ hy ihx =>
          rcases inv.closed _ ihx _ hy with h | h
          · exact h
          · cases h
    · rename_i s rest hcons
      have hs : s ∈ todo := (hσ todo).mem_iff.mp (hcons ▸ List.mem_cons_self)
      exact ih _ _ r (gcInv_step hs inv) h

/-- two edges either write different cells or are the same edge -/
theorem fillCells_perm {e₁ e₂ : List (Nat × Nat)} (h : e₁.Perm e₂) (hnd : (e₁.map Prod.fst).Nodup)
    (tbl : List Nat) : fillCells tbl e₁ = fillCells tbl e₂ :=
  h.foldl_eq' (fun x hx y hy z => by
    by_cases e : x.1 = y.1
    · rw [eq_of_nodup_map hnd hx hy e]
    · exact List.set_comm _ _ e) tbl

end GrmVerif.OrderIndep
