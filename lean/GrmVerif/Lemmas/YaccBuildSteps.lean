import GrmVerif.Lemmas.YaccBuildNames
import GrmVerif.Lemmas.Nodup
/-!
C10, stage A: what the steps of the main loop of `buildGrammar` do to the state (an added production is appended
and listed under its rule: `St.push`; a user's production is written at its own index and listed under its rule;
a user's rule sets its entry of `actiontypes`), and the user-rule phase as a whole (`userPhase_spec`): what it
leaves alone and what it writes.
-/
namespace GrmVerif.YaccBuild

theorem modify_append_append (v : List (List Nat)) (i : Nat) (x y : List Nat) :
    (v.modify i (· ++ x)).modify i (· ++ y) = v.modify i (· ++ (x ++ y)) := by
  rw [List.modify_modify_eq]
  exact congrArg (v.modify i) (funext fun l => List.append_assoc l x y)

theorem pushAt_eq {v v' : List (List Nat)} {i x : Nat} (h : pushAt v i x = some v') :
    i < v.length ∧ v' = v.modify i (· ++ [x]) := by
  unfold pushAt at h
  split at h
  · next l hl => cases h; exact ⟨(List.getElem?_eq_some_iff.mp hl).1, by rw [List.modify_eq_set, hl]; rfl⟩
  · cases h

theorem setAt_eq {α : Type} {v v' : List α} {i : Nat} {x : α} (h : setAt v i x = some v') :
    i < v.length ∧ v' = v.set i x := by
  unfold setAt at h
  split at h
  · next hlt => cases h; exact ⟨hlt, rfl⟩
  · cases h

/-- `r` becomes the next production and is listed under rule `ridx` -/
def St.push (st : St) (ridx : Nat) (r : PRec) : St :=
  { slots := st.slots ++ [some r], rulesProds := st.rulesProds.modify ridx (· ++ [st.slots.length]),
    actiontypes := st.actiontypes }

variable {c : Ctx} {ridx : Nat} {st st' : St}

theorem stepStart_eq (h : stepStart c st ridx = some st') :
    ∃ tgt, c.rmap (c.implStartName.getD c.userStart) = some tgt ∧ st' = st.push ridx (addedRec [.rule tgt] ridx) := by
  unfold stepStart at h
  split at h
  · next rp tgt hp ht =>
    cases h
    rw [(pushAt_eq hp).2]
    exact ⟨tgt, ht, rfl⟩
  · cases h

theorem stepImplStart_eq (h : stepImplStart c st ridx = some st') :
    ∃ ir s, c.implName.bind c.rmap = some ir ∧ c.rmap c.userStart = some s ∧
      st' = st.push ridx (addedRec [.rule ir, .rule s] ridx) := by
  unfold stepImplStart at h
  split at h
  · next rp ir s hp h1 h2 =>
    cases h
    rw [(pushAt_eq hp).2]
    exact ⟨ir, s, h1, h2, rfl⟩
  · cases h

theorem implLoop_nil_some (h : implLoop c ridx [] st = some st') :
    st' = st.push ridx (addedRec [] ridx) := by
  rw [implLoop] at h
  split at h
  · next rp hp =>
    cases h
    rw [(pushAt_eq hp).2]
    rfl
  · cases h

theorem implLoop_cons_some {t : Str} {ts : List Str}
    (h : implLoop c ridx (t :: ts) st = some st') :
    ∃ ti, c.tmap t = some ti ∧
      implLoop c ridx ts (st.push ridx (addedRec [.tok ti, .rule ridx] ridx)) = some st' := by
  rw [implLoop] at h
  split at h
  · next rp ti hp ht =>
    rw [(pushAt_eq hp).2] at h
    exact ⟨ti, ht, h⟩
  · cases h

theorem userRec_rule {p : AProd} {r : PRec} (h : userRec c ridx p = some r) :
    r.rule = ridx ∧ resolveSyms c.rmap c.tmap c.implName p.syms = some r.rhs ∧
    prodPrec c.ast.precs p = some r.prec ∧ r.action = p.action.map (·.1) ∧
    r.actionSpan = p.action.map (·.2) ∧ r.span = p.span := by
  unfold userRec at h
  split at h
  · next rhs prec h1 h2 => cases h; exact ⟨rfl, h1, h2, rfl, rfl, rfl⟩
  · cases h

theorem userLoop_cons_some {pidx : Nat} {rest : List Nat}
    (h : userLoop c ridx (pidx :: rest) st = some st') :
    ∃ p r, c.ast.prods[pidx]? = some p ∧ userRec c ridx p = some r ∧
      pidx < st.slots.length ∧
      userLoop c ridx rest
        { st with slots := st.slots.set pidx (some r), rulesProds := st.rulesProds.modify ridx (· ++ [pidx]) } = some st' := by
  rw [userLoop] at h
  split at h
  · cases h
  next p hp =>
  split at h
  · next r rp hu hpa =>
    split at h
    · next sl hs =>
      obtain ⟨hlt, rfl⟩ := setAt_eq hs
      rw [(pushAt_eq hpa).2] at h
      exact ⟨p, r, hp, hu, hlt, h⟩
    · cases h
  · cases h

theorem stepUser_eq {n : Str} (h : stepUser c st n ridx = some st') :
    ∃ r, findRule c.ast.rules n = some r ∧ ridx < st.actiontypes.length ∧
      userLoop c ridx r.pidxs { st with actiontypes := st.actiontypes.set ridx r.actiont } = some st' := by
  unfold stepUser at h
  split at h
  · cases h
  next r hf =>
  split at h
  · cases h
  next at' hs =>
  obtain ⟨hlt, rfl⟩ := setAt_eq hs
  exact ⟨r, hf, hlt, h⟩

theorem userLoop_frame : ∀ (ps : List Nat) (st st' : St),
    userLoop c ridx ps st = some st' →
    st'.slots.length = st.slots.length ∧ st'.actiontypes = st.actiontypes ∧
    st'.rulesProds = st.rulesProds.modify ridx (· ++ ps) ∧ (∀ p ∈ ps, p < st.slots.length) ∧
    (∀ i : Nat, st'.slots[i]? = st.slots[i]? ∨
      ∃ p r, i ∈ ps ∧ c.ast.prods[i]? = some p ∧ userRec c ridx p = some r ∧ st'.slots[i]? = some (some r)) := by
  intro ps
  induction ps with
  | nil =>
    intro st st' h
    cases h
    refine ⟨rfl, rfl, ?_, nofun, fun _ => Or.inl rfl⟩
    rw [show (fun l : List Nat => l ++ []) = id from funext List.append_nil, List.modify_id]
  | cons pidx rest ih =>
    intro st st' h
    obtain ⟨p, r, hp, hu, hlt, h⟩ := userLoop_cons_some h
    obtain ⟨i1, i2, i3, i5, i4⟩ := ih _ _ h
    refine ⟨i1.trans (List.length_set ..), i2, i3.trans (modify_append_append ..),
      List.forall_mem_cons.mpr ⟨hlt, fun q hq => List.length_set (as := st.slots) ▸ i5 q hq⟩, ?_⟩
    intro i
    rcases i4 i with h4 | ⟨p', r', hm, h4⟩
    · by_cases hi : pidx = i
      · subst hi
        exact Or.inr ⟨p, r, List.mem_cons_self, hp, hu, h4.trans (List.getElem?_set_self hlt)⟩
      · exact Or.inl (h4.trans (List.getElem?_set_ne hi))
    · exact Or.inr ⟨p', r', List.mem_cons_of_mem _ hm, h4⟩

theorem findRule_nodup {rules : List ARule} {j : Nat} {r : ARule}
    (hnd : (rules.map (·.name)).Nodup) (h : rules[j]? = some r) : findRule rules r.name = some r := by
  cases hf : findRule rules r.name with
  | none => exact absurd (beq_self_eq_true _) (List.find?_eq_none.mp hf r (List.mem_of_getElem? h))
  | some r' =>
    exact congrArg some (eq_of_nodup_map hnd (List.mem_of_find?_eq_some hf) (List.mem_of_getElem? h)
      (eq_of_beq (List.find?_some (p := fun x : ARule => x.name == r.name) hf)))

/-- a run over user rules, rule `n` being number `idx n`: what it leaves alone, and what it writes when no
number is met twice -/
theorem userPhase_spec {idx : Str → Nat} : ∀ (ns : List Str) (st st' : St),
    (∀ n ∈ ns, ∀ s, stepRule c s n = stepUser c s n (idx n)) → mainLoop c ns st = some st' →
    st'.slots.length = st.slots.length ∧
    (∀ i : Nat, st'.slots[i]? = st.slots[i]? ∨ ∃ p n r, n ∈ ns ∧ c.ast.prods[i]? = some p ∧
      userRec c (idx n) p = some r ∧ st'.slots[i]? = some (some r)) ∧
    (∀ q, q ∉ ns.map idx → st'.rulesProds[q]? = st.rulesProds[q]? ∧ st'.actiontypes[q]? = st.actiontypes[q]?) ∧
    ((ns.map idx).Nodup → ∀ n ∈ ns, ∃ r, findRule c.ast.rules n = some r ∧
      st'.rulesProds[idx n]? = (st.rulesProds[idx n]?).map (· ++ r.pidxs) ∧
      st'.actiontypes[idx n]? = some r.actiont) := by
  intro ns
  induction ns with
  | nil => intro st st' _ h; cases h; exact ⟨rfl, fun _ => .inl rfl, fun _ _ => ⟨rfl, rfl⟩, fun _ _ hn => nomatch hn⟩
  | cons n ns ih =>
    intro st st' hU h
    obtain ⟨st1, hs, hrest⟩ := mainLoop_cons_some h
    rw [hU n List.mem_cons_self st] at hs
    obtain ⟨r, hf, hlt, hu⟩ := stepUser_eq hs
    obtain ⟨i1, i2, i3, _, i4⟩ := userLoop_frame _ _ _ hu
    obtain ⟨j1, j4, fr, ef⟩ := ih st1 st' (fun m hm => hU m (List.mem_cons_of_mem _ hm)) hrest
    have step : ∀ q, idx n ≠ q → st1.rulesProds[q]? = st.rulesProds[q]? ∧ st1.actiontypes[q]? = st.actiontypes[q]? :=
      fun q hq => ⟨(congrArg (·[q]?) i3).trans (List.getElem?_modify_ne _ _ hq),
        (congrArg (·[q]?) i2).trans (List.getElem?_set_ne hq)⟩
    refine ⟨j1.trans i1, fun i => ?_, fun q hq => ?_, fun hnd m hm => ?_⟩
    · rcases j4 i with h4 | ⟨p, m, r', hm, a1, a2, a3⟩
      · rcases i4 i with h4' | ⟨p, r', _, a1, a2, a3⟩
        · exact .inl (h4.trans h4')
        · exact .inr ⟨p, n, r', List.mem_cons_self, a1, a2, h4.trans a3⟩
      · exact .inr ⟨p, m, r', List.mem_cons_of_mem _ hm, a1, a2, a3⟩
    · rw [List.map_cons, List.mem_cons, not_or] at hq
      exact ⟨(fr q hq.2).1.trans (step q (Ne.symm hq.1)).1, (fr q hq.2).2.trans (step q (Ne.symm hq.1)).2⟩
    · rw [List.map_cons, List.nodup_cons] at hnd
      rcases List.mem_cons.mp hm with rfl | hm
      · exact ⟨r, hf, (fr _ hnd.1).1.trans ((congrArg (·[idx m]?) i3).trans (List.getElem?_modify_eq ..)),
          (fr _ hnd.1).2.trans ((congrArg (·[idx m]?) i2).trans (List.getElem?_set_self hlt))⟩
      · obtain ⟨r', hf', e1, e2⟩ := ef hnd.2 m hm
        exact ⟨r', hf', e1.trans (congrArg _ (step _ fun he => hnd.1 (he ▸ List.mem_map_of_mem hm)).1), e2⟩

end GrmVerif.YaccBuild
