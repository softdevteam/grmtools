import GrmVerif.Lemmas.MinSentencesImpl
import GrmVerif.Lemmas.RuleGraph
/-! `min_sentences` (plural) in closed form (`msw_closed`): the model never panics, its recursion ends exactly when the
depth it is allowed exceeds the length of every path through cheapest productions (`Depth` in the graph `allTightG`),
and then it returns the vector `sentsD`: the yields of the derivation trees built from cheapest productions to that depth
(`treesD`), which are, over the cheapest productions in order, the combinations of the vectors one level deeper
(`sentsD_priced`: the shape the loops produce). So it returns exactly on the grammars in which following ANY cheapest
production of each rule never revisits a rule (`tightInfAll = false`). -/
namespace GrmVerif.Impl
open GrmVerif Spec Ref

section
variable (G : Grammar) (tc : List Nat) (mc : Option (List Nat))

theorem allTightG_nrules : (allTightG G tc mc).nrules = G.nrules := rfl

theorem allTightG_nprods : (allTightG G tc mc).nprods = G.nprods := keepG_nprods G _

theorem allTightG_lhs (p : Nat) : (allTightG G tc mc).lhs p = G.lhs p := keepG_lhs G _ p

theorem allTightG_rhs (p : Nat) :
    (allTightG G tc mc).rhs p = if p < G.nprods ∧ inCheapest G tc mc p = true then G.rhs p else [] :=
  keepG_rhs G _ p

theorem allTightG_wf (hwf : G.wf = true) : (allTightG G tc mc).wf = true := keepG_wf G _ hwf

theorem succ_allTightG (q q' : Nat) :
    Succ (allTightG G tc mc) q q' ↔
      ∃ p, p < G.nprods ∧ G.lhs p = q ∧ inCheapest G tc mc p = true ∧ Sym.rule q' ∈ G.rhs p :=
  succ_keepG G _ q q'

theorem inCheapest_iff {q p : Nat} {ps : List Nat} (hl : G.lhs p = q) (hps : cheapestProds G tc mc q = some ps) :
    inCheapest G tc mc p = true ↔ p ∈ ps := by
  unfold inCheapest
  rw [hl, hps]
  simp

theorem tightInfAll_iff (hwf : G.wf = true) (r : Nat) :
    tightInfAll G tc mc r = true ↔ Inf (allTightG G tc mc) r :=
  infB_iff (allTightG G tc mc) (allTightG_wf G tc mc hwf) r

end

/-- a derivation tree: a token, or a production with one subtree per symbol -/
inductive DTree where
  | leaf (t : Nat)
  | node (p : Nat) (kids : List DTree)

mutual
/-- the tokens at the leaves, left to right -/
def DTree.yield : DTree → List Nat
  | .leaf t => [t]
  | .node _ kids => DTree.yieldL kids
def DTree.yieldL : List DTree → List Nat
  | [] => []
  | k :: ks => k.yield ++ DTree.yieldL ks
end

/-- all lists with one element of each list, the first list varying slowest: the product `combos` forms on
sentences, before the parts are concatenated and for any element type; `combos_map_yield` ties the two -/
def prodLists {α : Type} : List (List α) → List (List α)
  | [] => [[]]
  | l :: ls => l.flatMap (fun a => (prodLists ls).map (fun xs => a :: xs))

theorem combos_map_yield (ls : List (List DTree)) :
    combos (ls.map (fun l => l.map DTree.yield)) = (prodLists ls).map DTree.yieldL := by
  induction ls with
  | nil => simp [combos, prodLists, DTree.yieldL]
  | cons l ls ih =>
    simp only [List.map_cons, combos, prodLists, ih, List.flatMap_map, List.map_flatMap, List.map_map]
    rfl

/-- the trees of a symbol, given those of the rules -/
def symTrees (T : Nat → List DTree) : Sym → List DTree
  | .tok t => [.leaf t]
  | .rule q => T q

/-- the derivation trees of `r` from cheapest productions, in the order of the vector `min_sentences`
returns, for a recursion of depth `fuel` -/
def treesD (G : Grammar) (tc : List Nat) (m : List (Option Nat)) : Nat → Nat → List DTree
  | 0, _ => []
  | fuel + 1, r =>
    match look m r with
    | none => []
    | some x =>
      (cheapSet G tc m r x).flatMap (fun p =>
        (prodLists ((G.rhs p).map (symTrees (treesD G tc m fuel)))).map (fun ks => DTree.node p ks))

theorem gatherP_trees (T : Nat → List DTree) (l : List Sym) :
    gatherP (fun q => (T q).map DTree.yield) l = (l.map (symTrees T)).map (fun l => l.map DTree.yield) := by
  rw [gatherP_eq_map, List.map_map]
  exact List.map_congr_left fun s _ => by cases s <;> rfl

/-- the vector `min_sentences` returns at recursion depth `n`: the yields of the trees `treesD` -/
def sentsD (G : Grammar) (tc : List Nat) (m : List (Option Nat)) (n r : Nat) : List (List Nat) :=
  (treesD G tc m n r).map DTree.yield

theorem sentsD_priced {G : Grammar} {m : List (Option Nat)} {r x : Nat} (h : Priced G m r x) (tc : List Nat) (n : Nat) :
    sentsD G tc m (n + 1) r = (cheapSet G tc m r x).flatMap (prodSents G (sentsD G tc m n)) := by
  simp only [sentsD, treesD, h.cost]
  rw [List.map_flatMap]
  refine flatMap_congr' _ fun p _ => ?_
  show _ = combos (gatherP (fun q => (treesD G tc m n q).map DTree.yield) (G.rhs p))
  rw [gatherP_trees, combos_map_yield, List.map_map]
  exact List.map_congr_left fun ks _ => by simp [DTree.yield]

section
variable (G : Grammar) (hwf : G.wf = true) (tc : List Nat) (m : List (Option Nat))
  (htc : tc.length = G.ntoks) (hmt : MinTable G (tcF tc) m)
include hwf htc hmt

theorem succ_allTightG_cheap {r x : Nat} (h : Priced G m r x) (q : Nat) :
    Succ (allTightG G tc (some (concr m))) r q ↔ ∃ p ∈ cheapSet G tc m r x, Sym.rule q ∈ G.rhs p := by
  have hps := cheapestProds_spec G hwf tc m htc hmt h
  rw [succ_allTightG]
  constructor
  · rintro ⟨p, _, hl, hc, hm⟩
    exact ⟨p, (inCheapest_iff G tc _ hl hps).mp hc, hm⟩
  · rintro ⟨p, hp, hm⟩
    obtain ⟨hp1, hp2⟩ := mem_prodsOf.mp (mem_cheapSet.mp hp).1
    exact ⟨p, hp1, hp2, (inCheapest_iff G tc _ hp2 hps).mpr hp, hm⟩

theorem depth_allTightG_succ {n r x : Nat} (h : Priced G m r x) :
    Depth (allTightG G tc (some (concr m))) (n + 1) r ↔
      ∀ p ∈ cheapSet G tc m r x, ∀ q, Sym.rule q ∈ G.rhs p → Depth (allTightG G tc (some (concr m))) n q :=
  ⟨fun hd p hp q hq => hd q ((succ_allTightG_cheap G hwf tc m htc hmt h q).mpr ⟨p, hp, hq⟩), fun hd q hq => by
    obtain ⟨p, hp, hm⟩ := (succ_allTightG_cheap G hwf tc m htc hmt h q).mp hq
    exact hd p hp q hm⟩

/-- **`min_sentences` in closed form**, for a rule with a minimal sentence: a vector it returns is not empty, which is
what keeps the odometer one level up within its columns -/
theorem msw_closed : ∀ (n r x : Nat), Priced G m r x →
    (minSentencesWith G tc (some (concr m)) n r).DoneWhen (Depth (allTightG G tc (some (concr m))) n r)
      (sentsD G tc m n r) ∧
    (Depth (allTightG G tc (some (concr m))) n r → sentsD G tc m n r ≠ []) := by
  intro n
  induction n with
  | zero => intro r x _; exact ⟨⟨fun h => h.elim, fun _ => rfl⟩, fun h => h.elim⟩
  | succ n ih =>
    intro r x h
    have hsub : ∀ p ∈ cheapSet G tc m r x, ∀ q, Sym.rule q ∈ G.rhs p →
        (minSentencesWith G tc (some (concr m)) n q).DoneWhen (Depth (allTightG G tc (some (concr m))) n q)
          (sentsD G tc m n q) ∧
        (Depth (allTightG G tc (some (concr m))) n q → sentsD G tc m n q ≠ []) := fun p hp q hq => by
      obtain ⟨x', hq'⟩ := h.sub hwf hp hq
      exact ih q x' hq'
    have := iterO_mssProd_doneWhen G (cheapSet G tc m r x) [] hsub
    simp only [minSentencesWith, cheapestProds_spec G hwf tc m htc hmt h, sentsD_priced h,
      depth_allTightG_succ G hwf tc m htc hmt h]
    refine ⟨by simpa using this, fun hd => ?_⟩
    -- there is a cheapest production, and it contributes a sentence
    obtain ⟨pt, hpt⟩ := List.exists_mem_of_ne_nil _ (cheapSet_ne_nil G tc m hmt h.lt h.cost)
    obtain ⟨w0, hw0⟩ := List.exists_mem_of_ne_nil _ (combos_ne_nil _ (gatherP_ne_nil
      (sentsD G tc m n) (G.rhs pt) fun q hq => (hsub pt hpt q hq).2 (hd pt hpt q hq)))
    exact List.ne_nil_of_mem (List.mem_flatMap.mpr ⟨pt, hpt, hw0⟩)

theorem sentsD_succ : ∀ (n r x : Nat), Priced G m r x → Depth (allTightG G tc (some (concr m))) n r →
    sentsD G tc m (n + 1) r = sentsD G tc m n r := by
  intro n
  induction n with
  | zero => intro r x _ h; exact h.elim
  | succ n ih =>
    intro r x h hd
    rw [sentsD_priced h, sentsD_priced h]
    refine flatMap_congr' _ fun p hp => congrArg combos (gatherP_congr (G.rhs p) fun q hq => ?_)
    obtain ⟨x', hq'⟩ := h.sub hwf hp hq
    exact ih q x' hq' ((depth_allTightG_succ G hwf tc m htc hmt h).mp hd p hp q hq)

/-- **`min_sentences` returns** when it follows no cycle: the recursion depth `minSentencesFuel` = `nrules + 1` suffices (it
is above the number of rules reachable through cheapest productions), and every larger depth gives the same vector -/
theorem minSentencesWith_terminates {r x : Nat} (h : Priced G m r x)
    (hni : ¬ Inf (allTightG G tc (some (concr m))) r) :
    ∃ L, ∀ fuel, minSentencesFuel G ≤ fuel → minSentencesWith G tc (some (concr m)) fuel r = .done L := by
  have hd := depth_of_not_inf (allTightG_wf G tc _ hwf) hni (Nat.lt_succ_of_le (rho_le _ r))
  refine ⟨sentsD G tc m (G.nrules + 1) r, fun fuel hf => ?_⟩
  rw [(msw_closed G hwf tc m htc hmt fuel r x h).1.1 (hd.mono hf)]
  congr 1
  induction hf with
  | refl => rfl
  | step hle ih => rw [sentsD_succ G hwf tc m htc hmt _ r x h (hd.mono hle), ih]

/-- **what a call that returns has computed**: its recursive calls — one per rule of every cheapest production,
one level deeper — returned, and the vector is the concatenation, over the cheapest productions in order, of the
combinations of the vectors of their symbols -/
theorem minSentencesWith_order {n r x : Nat} (h : Priced G m r x) {L : List (List Nat)}
    (hres : minSentencesWith G tc (some (concr m)) (n + 1) r = .done L) :
    (∀ p ∈ cheapSet G tc m r x, ∀ q, Sym.rule q ∈ G.rhs p →
      ∃ L', minSentencesWith G tc (some (concr m)) n q = .done L') ∧
    L = (cheapSet G tc m r x).flatMap
      (prodSents G (fun q => (minSentencesWith G tc (some (concr m)) n q).val [])) := by
  obtain ⟨hd, rfl⟩ := (msw_closed G hwf tc m htc hmt (n + 1) r x h).1.of_done hres
  have hsub : ∀ p ∈ cheapSet G tc m r x, ∀ q, Sym.rule q ∈ G.rhs p →
      minSentencesWith G tc (some (concr m)) n q = .done (sentsD G tc m n q) := fun p hp q hq => by
    obtain ⟨x', hq'⟩ := h.sub hwf hp hq
    exact (msw_closed G hwf tc m htc hmt n q x' hq').1.1 ((depth_allTightG_succ G hwf tc m htc hmt h).mp hd p hp q hq)
  refine ⟨fun p hp q hq => ⟨_, hsub p hp q hq⟩, ?_⟩
  rw [sentsD_priced h]
  exact flatMap_congr' _ fun p hp => congrArg combos (gatherP_congr (G.rhs p) fun q hq => by
    rw [hsub p hp q hq]; rfl)

end

end GrmVerif.Impl
