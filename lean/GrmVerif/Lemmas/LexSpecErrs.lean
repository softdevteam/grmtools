import GrmVerif.Model.LexSpecParse
/-!
The error list of the specification parser: the records `add_duplicate_occurrence` keeps of the
occurrences of a name (`Rec`, `Listed`: under which record an occurrence is booked, and that records
only grow), and the errors that stop the parse (`fatalKind`, `StoppedAt`; `Aborted`: the list ends with
one). That one item is read before another is written `[a, b].Sublist l` (`pair_sublist`, `pair_cut`).
-/
namespace GrmVerif.LexSpecParse

/-- `e` is the record of the duplicates of the occurrence at span `o` -/
def isDupOf (k : EKind) (o : Nat × Nat) (e : Err) : Bool := decide (e.kind = k ∧ e.spans.head? = some o)

/-- some error of kind `k` lists both spans -/
def HasDup (k : EKind) (s1 s2 : Nat × Nat) (es : List Err) : Prop :=
  ∃ e ∈ es, e.kind = k ∧ s1 ∈ e.spans ∧ s2 ∈ e.spans

theorem addDup_ne_nil (es : List Err) (k : EKind) (o d : Nat × Nat) : addDup es k o d ≠ [] := by
  cases es with
  | nil => simp [addDup]
  | cons e es => simp only [addDup]; split <;> simp

theorem isDupOf_extend (k : EKind) (o o' d : Nat × Nat) (e : Err) (h : e.spans.head? = some o') :
    isDupOf k o ⟨e.kind, e.spans ++ [d]⟩ = isDupOf k o e := by
  simp only [isDupOf, List.head?_append, h, Option.some_or]

theorem find_addDup_same (k : EKind) (o d : Nat × Nat) : ∀ es : List Err,
    (addDup es k o d).find? (isDupOf k o)
      = some ⟨k, match es.find? (isDupOf k o) with
                 | some e => e.spans ++ [d]
                 | none => [o, d]⟩ := by
  intro es
  induction es with
  | nil => simp [addDup, isDupOf]
  | cons e es ih =>
    rw [addDup]
    by_cases hm : e.kind = k ∧ e.spans.head? = some o
    · have h1 : isDupOf k o e = true := by simp [isDupOf, hm]
      rw [if_pos hm, List.find?_cons, isDupOf_extend k o o d e hm.2, h1, List.find?_cons, h1, hm.1]
    · have h1 : isDupOf k o e = false := by simp [isDupOf, hm]
      rw [if_neg hm, List.find?_cons, h1, List.find?_cons, h1, ih]

theorem find_addDup_other (k k' : EKind) (o o' d : Nat × Nat) (hne : ¬ (k' = k ∧ o' = o)) :
    ∀ es : List Err, (addDup es k' o' d).find? (isDupOf k o) = es.find? (isDupOf k o) := by
  intro es
  induction es with
  | nil =>
    have : isDupOf k o ⟨k', [o', d]⟩ = false := by
      simp only [isDupOf, List.head?_cons, Option.some.injEq, decide_eq_false_iff_not]; exact hne
    simp [addDup, this]
  | cons e es ih =>
    rw [addDup]
    by_cases hm : e.kind = k' ∧ e.spans.head? = some o'
    · have h1 : isDupOf k o e = false := by
        simp only [isDupOf, decide_eq_false_iff_not]
        intro h
        exact hne ⟨by rw [← hm.1, h.1], Option.some.inj (hm.2.symm.trans h.2)⟩
      rw [if_pos hm, List.find?_cons, isDupOf_extend k o o' d e hm.2, h1, List.find?_cons, h1]
    · rw [if_neg hm, List.find?_cons, List.find?_cons, ih]

/-- a record of kind `k` lists all the spans of `S` -/
def Rec (k : EKind) (S : List (Nat × Nat)) (es : List Err) : Prop :=
  ∃ o e, es.find? (isDupOf k o) = some e ∧ ∀ s ∈ S, s ∈ e.spans

/-- the occurrence at `s` is booked under the first occurrence `o` of its name: it is `o` itself, or
the record of the duplicates of `o` lists it -/
def Listed (k : EKind) (o s : Nat × Nat) (es : List Err) : Prop :=
  o = s ∨ ∃ e, es.find? (isDupOf k o) = some e ∧ s ∈ e.spans

theorem find_addDup_mono (k k' : EKind) (o o' d : Nat × Nat) (es : List Err) (e : Err)
    (h : es.find? (isDupOf k o) = some e) :
    ∃ e', (addDup es k' o' d).find? (isDupOf k o) = some e' ∧ ∀ s ∈ e.spans, s ∈ e'.spans := by
  by_cases hne : k' = k ∧ o' = o
  · obtain ⟨rfl, rfl⟩ := hne
    exact ⟨_, find_addDup_same k' o' d es, fun s hs => by simp [h, hs]⟩
  · exact ⟨e, by rw [find_addDup_other k k' o o' d hne, h], fun s hs => hs⟩

theorem Rec.addDup {k : EKind} {S : List (Nat × Nat)} {es : List Err} (h : Rec k S es)
    (k' : EKind) (o' d : Nat × Nat) : Rec k S (addDup es k' o' d) := by
  obtain ⟨o, e, hf, hs⟩ := h
  obtain ⟨e', hf', hs'⟩ := find_addDup_mono k k' o o' d es e hf
  exact ⟨o, e', hf', fun s hsS => hs' s (hs s hsS)⟩

theorem Rec.append {k : EKind} {S : List (Nat × Nat)} {es : List Err} (h : Rec k S es) (x : Err) :
    Rec k S (es ++ [x]) := by
  obtain ⟨o, e, hf, hs⟩ := h
  exact ⟨o, e, by rw [List.find?_append, hf]; rfl, hs⟩

theorem Rec.hasDup {k : EKind} {s1 s2 : Nat × Nat} {es : List Err} (h : Rec k [s1, s2] es) :
    HasDup k s1 s2 es := by
  obtain ⟨o, e, hf, hs⟩ := h
  have hk := List.find?_some hf
  simp only [isDupOf, decide_eq_true_eq] at hk
  exact ⟨e, List.mem_of_find?_eq_some hf, hk.1, hs s1 (by simp), hs s2 (by simp)⟩

theorem Listed.addDup {k : EKind} {o s : Nat × Nat} {es : List Err} (h : Listed k o s es)
    (k' : EKind) (o' d : Nat × Nat) : Listed k o s (addDup es k' o' d) := by
  rcases h with h | ⟨e, he, hs⟩
  · exact Or.inl h
  · obtain ⟨e', he', hs'⟩ := find_addDup_mono k k' o o' d es e he
    exact Or.inr ⟨e', he', hs' s hs⟩

theorem Listed.append {k : EKind} {o s : Nat × Nat} {es : List Err} (h : Listed k o s es) (x : Err) :
    Listed k o s (es ++ [x]) :=
  h.imp id fun ⟨e, he, hs⟩ => ⟨e, by rw [List.find?_append, he]; rfl, hs⟩

theorem listed_addDup (k : EKind) (o d : Nat × Nat) (es : List Err) : Listed k o d (addDup es k o d) := by
  refine Or.inr ⟨_, find_addDup_same k o d es, ?_⟩
  simp only
  split <;> simp

theorem Listed.record {k : EKind} {o s : Nat × Nat} {es : List Err} (h : Listed k o s es) (d : Nat × Nat) :
    Rec k [s, d] (LexSpecParse.addDup es k o d) := by
  refine ⟨o, _, find_addDup_same k o d es, ?_⟩
  intro x hx
  simp only [List.mem_cons, List.not_mem_nil, or_false] at hx
  rcases h with rfl | ⟨e, he, hse⟩
  · cases hfe : es.find? (isDupOf k o) with
    | none => rcases hx with rfl | rfl <;> simp
    | some e =>
      have hh := List.find?_some hfe
      simp only [isDupOf, decide_eq_true_eq] at hh
      have hmem : o ∈ e.spans := List.mem_of_head? hh.2
      rcases hx with rfl | rfl <;> simp [hmem]
  · simp only [he]
    rcases hx with rfl | rfl <;> simp [hse]

/-- the kinds of error after which the parser stops (all but duplicates and verbatim lines) -/
def fatalKind : EKind → Bool
  | .duplicateName | .duplicateStartState | .verbatimNotSupported => false
  | _ => true

/-- the error list ends with the error that stopped the parser -/
def Aborted (es : List Err) : Prop := ∃ e, es.getLast? = some e ∧ fatalKind e.kind = true

theorem aborted_snoc (es : List Err) (k : EKind) (p : Nat) (hk : fatalKind k = true) :
    Aborted (es ++ [mkErr k p]) := ⟨mkErr k p, by simp, hk⟩

/-- the error list is the errors `errs` collected so far plus one parse-stopping error at a
position satisfying `P` -/
def StoppedAt (P : Nat → Prop) (errs es : List Err) : Prop :=
  ∃ k p, es = errs ++ [mkErr k p] ∧ fatalKind k = true ∧ P p

theorem StoppedAt.aborted {P : Nat → Prop} {errs es : List Err} (h : StoppedAt P errs es) : Aborted es := by
  obtain ⟨k, p, rfl, hk, _⟩ := h
  exact aborted_snoc _ _ _ hk

theorem StoppedAt.mono {P Q : Nat → Prop} {errs es : List Err} (h : StoppedAt P errs es)
    (hpq : ∀ p, P p → Q p) : StoppedAt Q errs es := by
  obtain ⟨k, p, he, hk, hp⟩ := h
  exact ⟨k, p, he, hk, hpq p hp⟩

theorem StoppedAt.rec {P : Nat → Prop} {errs es : List Err} {k : EKind} {S : List (Nat × Nat)}
    (h : StoppedAt P errs es) (hr : Rec k S errs) : Rec k S es := by
  obtain ⟨k', p, rfl, _, _⟩ := h
  exact hr.append _

/-- the errors a section leaves behind, whether it is read to its end or stops the parse -/
def errsOf : Except (List Err) PState → List Err
  | .ok st => st.errs
  | .error es => es

theorem pair_sublist {α} {a b : α} {l A B : List α} (hl : l = A ++ a :: B) (hb : b ∈ B) : [a, b].Sublist l :=
  hl ▸ ((List.singleton_sublist.mpr hb).cons_cons a).trans (List.sublist_append_right A _)

/-- two members in order of `p ++ q` are both in `p`, or one in each, or both in `q` -/
theorem pair_cut {α} {a b : α} {p q : List α} (h : [a, b].Sublist (p ++ q)) :
    [a, b].Sublist p ∨ (a ∈ p ∧ b ∈ q) ∨ [a, b].Sublist q := by
  obtain ⟨r₁, r₂, hr, h1, h2⟩ := List.sublist_append_iff.mp h
  rcases List.cons_eq_append_iff.mp hr with ⟨rfl, rfl⟩ | ⟨_, rfl, hr'⟩
  · exact Or.inr (Or.inr h2)
  · rcases List.cons_eq_append_iff.mp hr' with ⟨rfl, rfl⟩ | ⟨_, rfl, hr''⟩
    · exact Or.inr (Or.inl ⟨h1.subset (by simp), h2.subset (by simp)⟩)
    · obtain ⟨rfl, rfl⟩ := List.nil_eq_append_iff.mp hr''
      exact Or.inl h1

end GrmVerif.LexSpecParse
