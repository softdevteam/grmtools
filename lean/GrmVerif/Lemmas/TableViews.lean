import GrmVerif.Lemmas.TableSpec
import GrmVerif.Model.Table
/-! The derived views of a table row (`nt_depth`, `core_reduces`, `reduce_only_state`): all three are read off one
fact about the fold `ntDepth`. -/
namespace GrmVerif.Table
open GrmVerif

/-- association list with distinct keys, each entry keyed by its production's (rule, length) -/
def DepthInv (G : Grammar) (acc : List ((Nat × Nat) × Nat)) : Prop :=
  (acc.map (·.1)).Nodup ∧ ∀ e ∈ acc, e.1 = rkey G e.2

theorem depthInv_step (G : Grammar) (acc : List ((Nat × Nat) × Nat)) (p : Nat) (h : DepthInv G acc) :
    DepthInv G ((acc.filter (fun e => e.1 != rkey G p)) ++ [(rkey G p, p)]) := by
  obtain ⟨h1, h2⟩ := h
  constructor
  · rw [List.map_append, List.nodup_append]
    refine ⟨?_, by simp, ?_⟩
    · exact (List.Nodup.sublist (List.Sublist.map _ (List.filter_sublist)) h1)
    · intro a ha b hb
      simp only [List.map_cons, List.map_nil, List.mem_singleton] at hb
      simp only [List.mem_map, List.mem_filter, bne_iff_ne, ne_eq] at ha
      obtain ⟨e, ⟨_, hne⟩, rfl⟩ := ha
      subst hb; exact hne
  · intro e he
    rcases List.mem_append.mp he with he | he
    · exact h2 e (List.mem_filter.mp he).1
    · simp at he; subst he; rfl

/-- the last part: a later production with the same (rule, length) key only overwrites the value, so no key of `acc` is lost -/
theorem ntDepth_spec (G : Grammar) :
    ∀ (row : List Act) (acc : List ((Nat × Nat) × Nat)), DepthInv G acc →
      DepthInv G (ntDepth G row acc) ∧
      (∀ e ∈ ntDepth G row acc, e ∈ acc ∨ Act.reduce e.2 ∈ row) ∧
      (∀ p, Act.reduce p ∈ row → ∃ q, (rkey G p, q) ∈ ntDepth G row acc) ∧
      (∀ e ∈ acc, ∃ q, (e.1, q) ∈ ntDepth G row acc) := by
  intro row
  induction row with
  | nil =>
    intro acc h
    refine ⟨h, fun e he => Or.inl he, ?_, fun e he => ⟨e.2, he⟩⟩
    intro p hp; cases hp
  | cons a rest ih =>
    intro acc h
    by_cases hr : ∃ p, a = .reduce p
    · obtain ⟨p, rfl⟩ := hr
      simp only [ntDepth]
      obtain ⟨i1, i2, i3, i4⟩ := ih _ (depthInv_step G acc p h)
      refine ⟨i1, ?_, ?_, ?_⟩
      · intro e he
        rcases i2 e he with h' | h'
        · rcases List.mem_append.mp h' with h'' | h''
          · exact Or.inl (List.mem_filter.mp h'').1
          · cases List.mem_singleton.mp h''; exact Or.inr (List.mem_cons_self ..)
        · exact Or.inr (List.mem_cons_of_mem _ h')
      · intro q hq
        rcases List.mem_cons.mp hq with hq | hq
        · cases hq
          exact i4 (rkey G p, p) (List.mem_append_right _ (List.mem_singleton.mpr rfl))
        · exact i3 q hq
      · intro e he
        by_cases hk : e.1 = rkey G p
        · rw [hk]; exact i4 (rkey G p, p) (List.mem_append_right _ (List.mem_singleton.mpr rfl))
        · exact i4 e (List.mem_append_left _ (List.mem_filter.mpr ⟨he, by simpa using hk⟩))
    · have e : ntDepth G (a :: rest) acc = ntDepth G rest acc := by
        cases a with
        | reduce p => exact absurd ⟨p, rfl⟩ hr
        | _ => rfl
      obtain ⟨i1, i2, i3, i4⟩ := ih acc h
      rw [e]
      exact ⟨i1, fun e he => (i2 e he).imp_right (List.mem_cons_of_mem _),
        fun q hq => i3 q ((List.mem_cons.mp hq).resolve_left (fun e => hr ⟨q, e.symm⟩)), i4⟩

theorem depthInv_nil (G : Grammar) : DepthInv G [] := ⟨by simp, by simp⟩

theorem ntDepth_keys (G : Grammar) (row : List Act) :
    ((ntDepth G row []).map (·.1)).Nodup ∧
    ∀ k, k ∈ (ntDepth G row []).map (·.1) ↔ ∃ p, Act.reduce p ∈ row ∧ rkey G p = k := by
  obtain ⟨hinv, hA, hB, _⟩ := ntDepth_spec G row [] (depthInv_nil G)
  refine ⟨hinv.1, fun k => ⟨fun hk => ?_, fun ⟨p, hp, hk⟩ => ?_⟩⟩
  · obtain ⟨e, he, rfl⟩ := List.mem_map.mp hk
    exact ⟨e.2, (hA e he).resolve_left (fun h => nomatch h), (hinv.2 e he).symm⟩
  · obtain ⟨q, hq⟩ := hB p hp
    exact List.mem_map.mpr ⟨_, hq, hk⟩

theorem nodup_length_eq_one {α : Type} {l : List α} (h : l.Nodup) : l.length = 1 ↔ ∃ k, k ∈ l ∧ ∀ x ∈ l, x = k := by
  match l, h with
  | [], _ => exact ⟨nofun, fun ⟨_, hk, _⟩ => nomatch hk⟩
  | [a], _ => exact ⟨fun _ => ⟨a, List.mem_singleton.mpr rfl, fun x hx => List.mem_singleton.mp hx⟩, fun _ => rfl⟩
  | a :: b :: rest, h =>
    refine ⟨nofun, fun ⟨k, _, hall⟩ => ?_⟩
    have hab : a = b := (hall a (List.mem_cons_self ..)).trans (hall b (List.mem_cons_of_mem _ (List.mem_cons_self ..))).symm
    exact absurd (hab ▸ List.mem_cons_self ..) (List.nodup_cons.mp h).1

end GrmVerif.Table
