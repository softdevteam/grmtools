import GrmVerif.Lemmas.YaccRoundtripText
/-!
C10, text → AST stage: the span the image records for a production, and the text it delimits.
-/
namespace GrmVerif.YaccRender
open GrmVerif.YaccParse
open GrmVerif.Header (byteLen byteLen_append)

/-- the items of a production that come before its action, each followed by its space -/
def prodItems (pr : RProd) : List Char := renderEmpty pr.empty ++ (renderSyms pr.syms ++ renderPrec pr.prec)

/-- the text a production's span delimits: with an action, everything from the first item to the `{`
(the space before the brace included); without, the items without the space after the last one -/
def prodSpanText (pr : RProd) : List Char :=
  match pr.action with
  | some _ => prodItems pr
  | none => (prodItems pr).dropLast

/-- The items of a production read so far are the text `t`, written from byte `i0` on, each followed by a
space: the recorded end is the byte before the last space — or nothing, if nothing was read. -/
def Ends (i0 : Nat) (t : List Char) (p : PState) : Prop :=
  p.prodStart = i0 ∧ ((t = [] ∧ p.prodEnd = none) ∨ ∃ y, t = y ++ [' '] ∧ p.prodEnd = some (i0 + byteLen y))

theorem runEmpty_ends (i : Nat) (e : Bool) : Ends i (renderEmpty e) (runEmpty i e { prodStart := i }).2 := by
  cases e
  · exact ⟨rfl, .inl ⟨rfl, rfl⟩⟩
  · exact ⟨rfl, .inr ⟨['%', 'e', 'm', 'p', 't', 'y'], rfl, rfl⟩⟩

theorem runSyms_ends {i0 : Nat} : ∀ (ss : List RTok) (t : List Char) (i : Nat) (p : PState) (st : St),
    Ends i0 t p → i = i0 + byteLen t → Ends i0 (t ++ renderSyms ss) (runSyms i ss p st).2.1
  | [], t, _, _, _, h, _ => by rw [renderSyms, List.append_nil]; exact h
  | s :: ss, t, i, p, st, h, hi => by
    rw [runSyms, renderSyms, ← List.singleton_append, ← List.append_assoc, ← List.append_assoc]
    refine runSyms_ends ss _ _ _ _ ⟨?_, .inr ⟨t ++ s.text, rfl, ?_⟩⟩ ?_
    · cases s <;> exact h.1
    · rw [byteLen_append, ← Nat.add_assoc, ← hi]; cases s <;> rfl
    · rw [byteLen_append, byteLen_append, hi, Nat.add_assoc, Nat.add_assoc]; rfl

theorem runPrec_ends {i0 i : Nat} {t : List Char} (o : Option RTok) {p : PState} (st : St) (h : Ends i0 t p)
    (hi : i = i0 + byteLen t) : Ends i0 (t ++ renderPrec o) (runPrec i o p st).2.1 := by
  cases o with
  | none => rw [renderPrec, List.append_nil]; exact h
  | some u =>
    refine ⟨h.1, .inr ⟨t ++ (['%', 'p', 'r', 'e', 'c', ' '] ++ u.text), by simp [renderPrec], ?_⟩⟩
    rw [byteLen_append, byteLen_append, ← Nat.add_assoc, ← Nat.add_assoc, ← hi]; rfl

theorem runProd_ends (i : Nat) (pr : RProd) (st : St) : ∃ p3 st3,
    runProd i pr st = runAction (i + byteLen (prodItems pr)) pr.action p3 st3 ∧ Ends i (prodItems pr) p3 := by
  obtain ⟨e, s, c, he, hs, hc, hr⟩ := runProd_stages i pr st
  have h1 : e.1 = i + byteLen (renderEmpty pr.empty) := he ▸ runEmpty_pos i pr.empty { prodStart := i }
  have h2 : s.1 = i + byteLen (renderEmpty pr.empty ++ renderSyms pr.syms) := by
    rw [← hs, runSyms_pos, h1, byteLen_append, Nat.add_assoc]
  have h3 : c.1 = i + byteLen (prodItems pr) := by
    rw [← hc, runPrec_pos, h2, prodItems, ← List.append_assoc, byteLen_append _ (renderPrec _), Nat.add_assoc]
  have es : Ends i _ s.2.1 := hs ▸ runSyms_ends pr.syms _ e.1 e.2 st (he ▸ runEmpty_ends i pr.empty) h1
  have ec : Ends i _ c.2.1 := hc ▸ runPrec_ends pr.prec s.2.2 es h2
  rw [List.append_assoc] at ec
  exact ⟨c.2.1, c.2.2, hr.trans (h3 ▸ rfl), ec⟩

/-- **the production's span**: it starts at the production's first byte and ends behind
`prodSpanText` (for an empty production without `%empty`, `%prec` and action: the empty span at the
`|`/`;`) -/
theorem runProd_span (rn : Name) (i : Nat) (pr : RProd) (st : St) :
    (mkProd rn (runProd i pr st).2.1 (runProd i pr st).1).span = (i, i + byteLen (prodSpanText pr)) := by
  obtain ⟨p3, st3, e, hstart, hend⟩ := runProd_ends i pr st
  rw [e, prodSpanText]
  cases pr.action with
  | some a => exact congrArg (·, _) hstart
  | none =>
    show (p3.prodStart, p3.prodEnd.getD (i + byteLen (prodItems pr))) = _
    rcases hend with ⟨ht, hn⟩ | ⟨y, ht, hs⟩
    · rw [hstart, hn, ht]; rfl
    · rw [hstart, hs, ht, List.dropLast_concat]; rfl

/-- `Span::new(pos_prod_start, pos_prod_end.unwrap_or(i))` in `finishProd` gets an ordered pair -/
theorem runProd_start_le (i : Nat) (pr : RProd) (st : St) :
    (runProd i pr st).2.1.prodStart ≤ (runProd i pr st).2.1.prodEnd.getD (runProd i pr st).1 := by
  have h := Prod.mk.inj (runProd_span [] i pr st)
  rw [show (runProd i pr st).2.1.prodStart = i from h.1, show Option.getD _ _ = _ from h.2]
  exact Nat.le_add_right _ _

theorem prodSpanText_prefix (pr : RProd) : ∃ tail, renderProd pr = prodSpanText pr ++ tail := by
  have e : renderProd pr = prodItems pr ++ renderAction pr.action := by simp [renderProd, prodItems]
  rw [e, prodSpanText]
  cases pr.action with
  | some a => exact ⟨_, rfl⟩
  | none => exact ⟨(prodItems pr).drop ((prodItems pr).length - 1), by
      rw [renderAction, List.append_nil, List.dropLast_eq_take, List.take_append_drop]⟩

end GrmVerif.YaccRender
