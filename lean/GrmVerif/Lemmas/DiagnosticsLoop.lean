import GrmVerif.Lemmas.Diagnostics
/-! The loop of `prefixed_underline_span_with_text` prints the prescribed rows, for every split text
and every prefix of at most 3 bytes; with a longer prefix it panics, whatever the text (C19). -/
namespace GrmVerif.Diag
open GrmVerif.Newline

theorem nlc_eq_ofText (s : List Char) : nlc s = ofText s :=
  feed_ofText [] s

/-- One iteration, up to its tail, at a boundary `a ++ pre | cov ++ W` of the text; `cov` is what the
iteration underlines (`hu`), `line` the source line it prints. -/
theorem rowStep_eval (sw : List Char → Nat) (s a pre cov W line pfx msg : List Char) (uc : Char)
    (last : Bool) (n start stop : Nat) (hp : byteLen pfx ≤ 3) (hs : s = a ++ (pre ++ (cov ++ W)))
    (ha : a = [] ∨ a.getLast? = some '\n') (hpre : '\n' ∉ pre)
    (hn : n = 1 + a.count '\n') (hst : start = byteLen a + byteLen pre) (hle : start ≤ stop)
    (hu : min stop (start + (byteLen line - byteLen pre)) = start + byteLen cov) :
    rowStep sw s (ofText s) pfx msg uc line last start stop
      = rowNext s msg last (rowText sw pfx uc n line pre cov) (byteLen a) line start stop := by
  subst hs hn hst
  have hcov : sliceBytes (a ++ (pre ++ (cov ++ W))) (byteLen a + byteLen pre)
      (byteLen a + byteLen pre + byteLen cov) = some cov := by
    have := sliceBytes_mid (a ++ pre) cov W
    rwa [byteLen_append, List.append_assoc] at this
  simp only [rowStep, spanLineBytes_spec _ _ _ (ofText_sorted _) (.head _) hle,
    lineStartOf_decomp a pre _ ha hpre, byteToLineCol_decomp a pre _ ha hpre,
    Nat.add_sub_cancel_left, hu, rowEmit, sliceBytes_mid a pre _, hcov,
    if_neg (Nat.not_lt.mpr (Nat.le_add_right _ _)), if_neg (Nat.not_lt.mpr hp)]

theorem rowNext_last (src msg txt line : List Char) (lsb start stop : Nat) :
    rowNext src msg true txt lsb line start stop = some (txt ++ ' ' :: msg, start) := by
  simp [rowNext]

theorem rowNext_more (s a ln0 R msg txt : List Char) (start stop : Nat)
    (hs : s = a ++ (ln0 ++ '\n' :: R)) (hstop : byteLen a + byteLen ln0 + 1 ≤ stop) :
    rowNext s msg false txt (byteLen a) (dropCR ln0) start stop
      = some (txt ++ ['\n'], byteLen a + byteLen ln0 + 1) := by
  subst hs
  obtain ⟨cr, hcr, hl⟩ := dropCR_split ln0
  have hd : dropBytes (byteLen a + byteLen (dropCR ln0)) (a ++ (ln0 ++ '\n' :: R))
      = some (cr ++ '\n' :: R) := by
    have := dropBytes_append (a ++ dropCR ln0) (cr ++ '\n' :: R)
    rwa [byteLen_append, List.append_assoc, ← List.append_assoc (dropCR ln0), ← hl] at this
  have hlen : byteLen ln0 = byteLen (dropCR ln0) + byteLen cr := by
    conv => lhs; rw [hl, byteLen_append]
  have hnl : (if startsCRLF (cr ++ '\n' :: R) then 2 else 1) = byteLen cr + 1 := by
    rcases hcr with rfl | rfl
    · cases R <;> rfl
    · rfl
  rw [hlen] at hstop ⊢
  simp only [rowNext, Bool.false_eq_true, if_false, hd, hnl, Nat.add_assoc] at hstop ⊢
  exact if_neg (Nat.not_lt.mpr hstop)

/-- The loop, started at any covered line `a ++ pre | c0 …` with `out` printed so far, prints the
prescribed rows. -/
theorem rowsLoop_spec (sw : List Char → Nat) (pfx msg : List Char) (uc : Char)
    (hp : byteLen pfx ≤ 3) (s : List Char) :
    ∀ (cs : List (List Char)) (first : Bool) (a pre c0 suf z out : List Char) (n start stop : Nat),
      s = a ++ (pre ++ (joinNl c0 cs ++ (suf ++ z))) →
      (a = [] ∨ a.getLast? = some '\n') → '\n' ∉ pre → '\n' ∉ c0 → (∀ c ∈ cs, '\n' ∉ c) →
      n = 1 + a.count '\n' → start = byteLen a + byteLen pre →
      stop = start + byteLen (joinNl c0 cs) →
      rowsLoop sw s (ofText s) pfx msg uc stop ((specRows first n pre c0 cs suf).map (·.text)) start out
        = some (out ++ renderRows sw pfx msg uc (specRows first n pre c0 cs suf)) := by
  intro cs
  induction cs with
  | nil =>
    intro first a pre c0 suf z out n start stop hs ha hpre hc0 _ hn hst hstop
    simp only [joinNl] at hs hstop
    simp only [specRows]
    split
    · simp [rowsLoop, renderRows]
    · simp only [List.map_cons, List.map_nil, rowsLoop, List.isEmpty_nil]
      rw [rowStep_eval sw s a pre c0 (suf ++ z) (pre ++ (c0 ++ suf)) pfx msg uc true n start stop hp
        hs ha hpre hn hst (hstop ▸ Nat.le_add_right _ _)
        (by rw [byteLen_append, Nat.add_sub_cancel_left, byteLen_append, hstop]
            exact Nat.min_eq_left (Nat.add_le_add_left (Nat.le_add_right _ _) _)), rowNext_last]
      simp [renderRows]
  | cons c1 cs ih =>
    intro first a pre c0 suf z out n start stop hs ha hpre hc0 hcs hn hst hstop
    have hjoin : byteLen (joinNl c0 (c1 :: cs)) = byteLen c0 + 1 + byteLen (joinNl c1 cs) := by
      simp only [joinNl, byteLen_append, byteLen_nl, Nat.add_assoc]
    -- the first iteration underlines `c0` without its `'\r'`
    obtain ⟨W, hW⟩ : ∃ W, c0 ++ '\n' :: (joinNl c1 cs ++ (suf ++ z)) = dropCR c0 ++ W := by
      obtain ⟨cr, _, hl⟩ := dropCR_split c0
      exact ⟨cr ++ '\n' :: (joinNl c1 cs ++ (suf ++ z)), by rw [← List.append_assoc (dropCR c0), ← hl]⟩
    have hstep := rowStep_eval sw s a pre (dropCR c0) W (dropCR (pre ++ c0)) pfx msg uc
      ((specRows false (n + 1) [] c1 cs suf).map (·.text)).isEmpty n start stop hp
      (by rw [hs, ← hW]; simp [joinNl]) ha hpre hn hst (hstop ▸ Nat.le_add_right _ _)
      (by rw [byteLen_dropCR_sub, hstop, hjoin]
          exact Nat.min_eq_right (Nat.add_le_add_left (Nat.le_trans (byteLen_dropCR_le c0)
            (Nat.le_trans (Nat.le_add_right _ 1) (Nat.le_add_right _ _))) _))
    simp only [specRows, List.map_cons, rowsLoop, hstep]
    simp only [List.isEmpty_map]
    cases hrows : specRows false (n + 1) [] c1 cs suf with
    | nil => simp only [List.isEmpty_nil, rowNext_last, List.map_nil, rowsLoop, renderRows]
    | cons r' rs =>
      have hnext := rowNext_more s a (pre ++ c0) (joinNl c1 cs ++ (suf ++ z)) msg
        (rowText sw pfx uc n (dropCR (pre ++ c0)) pre (dropCR c0)) start stop
        (by rw [hs]; simp [joinNl])
        (by simp only [hstop, hst, hjoin, byteLen_append, Nat.add_assoc]
            exact Nat.add_le_add_left (Nat.add_le_add_left (Nat.add_le_add_left
              (Nat.le_add_right _ _) _) _) _)
      have := ih false (a ++ (pre ++ c0) ++ ['\n']) [] c1 suf z
        (out ++ (rowText sw pfx uc n (dropCR (pre ++ c0)) pre (dropCR c0) ++ ['\n'])) (n + 1)
        (byteLen a + byteLen (pre ++ c0) + 1) stop
        (by rw [hs]; simp [joinNl]) (.inr List.getLast?_concat) List.not_mem_nil (hcs c1 (.head _))
        (fun c hc => hcs c (.tail _ hc))
        (by simp only [hn, List.count_append, List.count_eq_zero.mpr hpre,
              List.count_eq_zero.mpr hc0,
              List.count_singleton_self, Nat.add_zero, Nat.add_assoc])
        (by simp only [byteLen_append, byteLen, utf8Size_nl])
        (by simp only [hstop, hst, hjoin, byteLen_append, Nat.add_assoc])
      rw [hrows] at this
      simp only [List.isEmpty_cons, hnext, this, renderRows]
      simp

/-- **A prefix of more than 3 bytes makes the formatter panic**, on every text and every span (on
character boundaries or not): the loop always has a first iteration, and every exit of an iteration
up to and including the `assert!(prefix.len() <= "0| ".len())` is a panic. -/
theorem prefixedUnderline_long_prefix (sw : List Char → Nat) (src pfx : List Char)
    (start stop : Nat) (msg : List Char) (uc : Char) (hp : 3 < byteLen pfx) :
    prefixedUnderline sw src pfx start stop msg uc = none := by
  have hstep : ∀ line last, rowStep sw src (nlc src) pfx msg uc line last start stop = none := by
    intro line last
    simp only [rowStep, rowEmit, if_pos hp]
    repeat' split
    all_goals rfl
  have hloop : ∀ body, rowsLoop sw src (nlc src) pfx msg uc stop (linesOf body) start [] = none := by
    intro body
    cases h : linesOf body with
    | nil => exact absurd h (linesOf_ne_nil body)
    | cons line rest => rw [rowsLoop, hstep]
  simp only [prefixedUnderline, hloop]
  repeat' split
  all_goals rfl

end GrmVerif.Diag
