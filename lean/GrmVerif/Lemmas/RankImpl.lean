import GrmVerif.Model.RankImpl
/-! Helper lemmas about the post-processing model (`Model/RankImpl.lean`). `simplify_repairs`: trailing
shifts, deduplication, the comparison closure is a total preorder (a linear order when lexemes are
identified by their span start). `rank_cnds`: the score of a group (`reachD`), and `rankCnds` keeps the
groups whose score is the maximum (`rankCnds_some`, `furthest_eq`, `eq_foldl_max_map_iff`). -/
namespace GrmVerif.RankImpl
open Rec Std

theorem getLast?_reverse_dropWhile {α : Type} (p : α → Bool) (l : List α) {a : α}
    (h : (l.reverse.dropWhile p).reverse.getLast? = some a) : p a = false := by
  rw [List.getLast?_reverse] at h
  have := List.head?_dropWhile_not p l.reverse
  rw [h] at this
  exact this

theorem stripTrailing_no_trailing (rs : Seq) (k : Nat) :
    (stripTrailing rs).getLast? ≠ some (.shift k) :=
  fun h => Bool.noConfusion (getLast?_reverse_dropWhile isShift rs h)

theorem stripTrailing_of_no_trailing {rs : Seq} (h : ∀ k, rs.getLast? ≠ some (.shift k)) :
    stripTrailing rs = rs := by
  unfold stripTrailing
  cases hr : rs.reverse with
  | nil => rw [List.reverse_eq_nil_iff.mp hr]; rfl
  | cons a as =>
    have hna : isShift a = false := by
      cases a with
      | shift k => exact absurd (by rw [← List.head?_reverse, hr]; rfl) (h k)
      | _ => rfl
    rw [List.dropWhile_cons_of_neg (by rw [hna]; exact Bool.false_ne_true), ← hr, List.reverse_reverse]

theorem stripTrailing_idem (rs : Seq) : stripTrailing (stripTrailing rs) = stripTrailing rs :=
  stripTrailing_of_no_trailing (stripTrailing_no_trailing rs)

theorem mem_dedup {α : Type} [DecidableEq α] (l : List α) (x : α) : x ∈ dedup l ↔ x ∈ l := by
  induction l with
  | nil => simp [dedup]
  | cons a as ih =>
    simp only [dedup]
    split
    · next hm =>
      rw [ih, List.mem_cons]
      exact ⟨Or.inr, fun h => h.elim (fun e => ih.mp (e ▸ hm)) id⟩
    · simp [ih]

theorem nodup_dedup {α : Type} [DecidableEq α] (l : List α) : (dedup l).Nodup := by
  induction l with
  | nil => simp [dedup]
  | cons a as ih =>
    simp only [dedup]
    split
    · exact ih
    · next hm => exact List.nodup_cons.mpr ⟨hm, ih⟩

theorem dedup_of_nodup {α : Type} [DecidableEq α] {l : List α} (h : l.Nodup) : dedup l = l := by
  induction l with
  | nil => rfl
  | cons a as ih =>
    obtain ⟨hna, has⟩ := List.nodup_cons.mp h
    simp only [dedup, ih has, hna, ↓reduceIte]

theorem hashSetLike_dedup : HashSetLike dedup :=
  fun l => ⟨nodup_dedup l, mem_dedup l⟩

theorem hashSetLike_perm {hs₁ hs₂ : List Seq → List Seq} (h₁ : HashSetLike hs₁) (h₂ : HashSetLike hs₂)
    {l₁ l₂ : List Seq} (hset : ∀ x, x ∈ l₁ ↔ x ∈ l₂) : (hs₁ l₁).Perm (hs₂ l₂) := by
  rw [List.perm_ext_iff_of_nodup (h₁ l₁).1 (h₂ l₂).1]
  intro x
  rw [(h₁ l₁).2, (h₂ l₂).2, hset]

instance : TransCmp keyCmp :=
  inferInstanceAs <| TransCmp (compareLex (compareOn Prod.fst) (compareOn Prod.snd))

instance : LawfulEqCmp keyCmp where
  eq_of_compare {a b} h := by
    simp only [keyCmp, Ordering.then_eq_eq, Nat.compare_eq_eq] at h
    exact Prod.ext h.1 h.2

theorem lexCmp_eq (a b : List (Nat × Nat)) : lexCmp a b = List.compareLex keyCmp a b := by
  induction a generalizing b with
  | nil => cases b <;> simp [lexCmp, List.compareLex_nil_nil, List.compareLex_nil_cons]
  | cons x xs ih =>
    cases b with
    | nil => simp [lexCmp, List.compareLex_cons_nil]
    | cons y ys => simp [lexCmp, List.compareLex_cons_cons, ih]

/-- 0 = no `%avoid_insert` token inserted, 1 = some -/
def grp (avoid : Nat → Bool) (x : Seq) : Nat := if containsAvoidInsert avoid x then 1 else 0

/-- `cmpSeq` as a `compareLex` of three keys: `%avoid_insert` group, length, content (`cmpSeq_eq`) -/
def cmpSeq' (avoid : Nat → Bool) (start : Nat → Nat) : Seq → Seq → Ordering :=
  compareLex (compareOn (grp avoid))
    (compareLex (compareOn List.length)
      (fun x y => List.compareLex keyCmp (x.map (contentKey start)) (y.map (contentKey start))))

theorem cmpSeq_eq (avoid : Nat → Bool) (start : Nat → Nat) (x y : Seq) :
    cmpSeq avoid start x y = cmpSeq' avoid start x y := by
  simp only [cmpSeq, cmpSeq', compareLex, compareOn, grp, lexCmp_eq]
  have h01 : compare (0 : Nat) 1 = .lt := rfl
  have h10 : compare (1 : Nat) 0 = .gt := rfl
  cases containsAvoidInsert avoid x <;> cases containsAvoidInsert avoid y <;> simp [h01, h10]

instance pullbackTrans {α β : Type} (f : α → β) (cmp : β → β → Ordering) [TransCmp cmp] :
    TransCmp (fun x y => cmp (f x) (f y)) where
  eq_swap := OrientedCmp.eq_swap (cmp := cmp)
  isLE_trans := TransCmp.isLE_trans (cmp := cmp)

instance (avoid : Nat → Bool) (start : Nat → Nat) : TransCmp (cmpSeq' avoid start) := by
  unfold cmpSeq'
  have : TransCmp (fun x y : Seq => List.compareLex keyCmp (x.map (contentKey start)) (y.map (contentKey start))) :=
    pullbackTrans (fun x : Seq => x.map (contentKey start)) (List.compareLex keyCmp)
  infer_instance

instance (avoid : Nat → Bool) (start : Nat → Nat) : TransCmp (cmpSeq avoid start) := by
  have : cmpSeq avoid start = cmpSeq' avoid start := by
    funext x y; exact cmpSeq_eq avoid start x y
  rw [this]; infer_instance

/-- the repair a content key stands for -/
def keyKind : Nat × Nat → Repair
  | (0, t) => .insert t
  | (1, _) => .delete
  | _ => .shift

theorem keyKind_contentKey (start : Nat → Nat) (r : PRepair) : keyKind (contentKey start r) = r.erase := by
  cases r <;> rfl

theorem contentKey_inj {start : Nat → Nat} (hinj : ∀ i j, start i = start j → i = j) :
    ∀ a b : PRepair, contentKey start a = contentKey start b → a = b := by
  intro a b h
  have he := congrArg keyKind h
  rw [keyKind_contentKey, keyKind_contentKey] at he
  cases a <;> cases b <;> cases he
  · rfl
  · rw [hinj _ _ (Prod.mk.inj h).2]
  · rw [hinj _ _ (Prod.mk.inj h).2]

theorem cmpSeq_eq_keys {avoid : Nat → Bool} {start : Nat → Nat} {x y : Seq}
    (h : cmpSeq avoid start x y = .eq) : x.map (contentKey start) = y.map (contentKey start) := by
  rw [cmpSeq_eq] at h
  simp only [cmpSeq', compareLex_eq_eq] at h
  exact LawfulEqCmp.eq_of_compare h.2.2

theorem cmpSeq_eq_eq {avoid : Nat → Bool} {start : Nat → Nat} (hinj : ∀ i j, start i = start j → i = j)
    {x y : Seq} (h : cmpSeq avoid start x y = .eq) : x = y :=
  (List.map_inj_right (contentKey_inj hinj)).mp (cmpSeq_eq_keys h)

theorem seqLe_trans (avoid : Nat → Bool) (start : Nat → Nat) (a b c : Seq) :
    seqLe avoid start a b = true → seqLe avoid start b c = true → seqLe avoid start a c = true := by
  unfold seqLe
  exact TransCmp.isLE_trans

theorem seqLe_total (avoid : Nat → Bool) (start : Nat → Nat) (a b : Seq) :
    (seqLe avoid start a b || seqLe avoid start b a) = true := by
  unfold seqLe
  rw [OrientedCmp.eq_swap (cmp := cmpSeq avoid start) (a := b) (b := a)]
  cases cmpSeq avoid start a b <;> simp

theorem seqLe_antisymm {avoid : Nat → Bool} {start : Nat → Nat} (hinj : ∀ i j, start i = start j → i = j)
    {a b : Seq} (h₁ : seqLe avoid start a b = true) (h₂ : seqLe avoid start b a = true) : a = b :=
  cmpSeq_eq_eq hinj (OrientedCmp.isLE_antisymm h₁ h₂)

theorem seqLe_documented {avoid : Nat → Bool} {start : Nat → Nat} {x y : Seq}
    (h : seqLe avoid start x y = true) :
    (containsAvoidInsert avoid x = true → containsAvoidInsert avoid y = true) ∧
    (containsAvoidInsert avoid x = containsAvoidInsert avoid y → x.length ≤ y.length) := by
  -- by the two flags: they differ (the closure answers at once), or the lengths are compared first
  unfold seqLe cmpSeq at h
  cases hx : containsAvoidInsert avoid x <;> cases hy : containsAvoidInsert avoid y <;>
    simp [hx, hy, Ordering.isLE_then_iff_and, Nat.isLE_compare] at h ⊢
  · exact h.1
  · exact h.1

/-- inserting into a sorted list is merging a one-element list into it: what a sort needs to know of
`insertSeq` is what core knows of `List.merge` -/
theorem insertSeq_eq (le : Seq → Seq → Bool) (a : Seq) (l : List Seq) :
    insertSeq le a l = List.merge [a] l le := by
  induction l with
  | nil => exact (List.merge_right _).symm
  | cons b bs ih => rw [insertSeq, List.cons_merge_cons, ih, List.nil_merge]

theorem sortSeqs_perm (avoid : Nat → Bool) (start : Nat → Nat) : ∀ l, (sortSeqs avoid start l).Perm l := by
  intro l
  induction l with
  | nil => exact List.Perm.refl _
  | cons a as ih =>
    rw [sortSeqs, List.foldr_cons, insertSeq_eq]
    exact (List.merge_perm_append _).trans (ih.cons a)

theorem mem_sortSeqs {avoid : Nat → Bool} {start : Nat → Nat} {l : List Seq} {x : Seq} :
    x ∈ sortSeqs avoid start l ↔ x ∈ l := (sortSeqs_perm avoid start l).mem_iff

theorem sortSeqs_pairwise (avoid : Nat → Bool) (start : Nat → Nat) :
    ∀ l : List Seq, (sortSeqs avoid start l).Pairwise (fun x y => seqLe avoid start x y = true) := by
  intro l
  induction l with
  | nil => exact List.Pairwise.nil
  | cons a as ih =>
    rw [sortSeqs, List.foldr_cons, insertSeq_eq]
    exact List.pairwise_merge (seqLe_trans avoid start) (seqLe_total avoid start) [a] _
      (List.pairwise_singleton _ a) ih

theorem sortSeqs_of_pairwise {avoid : Nat → Bool} {start : Nat → Nat} :
    ∀ {l : List Seq}, l.Pairwise (fun x y => seqLe avoid start x y = true) → sortSeqs avoid start l = l := by
  intro l h
  induction h with
  | nil => rfl
  | @cons a as ha _ ih =>
    rw [sortSeqs, List.foldr_cons, insertSeq_eq]
    exact (congrArg (List.merge [a] · _) ih).trans
      (List.merge_of_le fun x b hx hb => List.mem_singleton.mp hx ▸ ha b hb)

theorem mem_simplify {hs : List Seq → List Seq} (h : HashSetLike hs) (avoid : Nat → Bool)
    (start : Nat → Nat) (l : List Seq) (r : Seq) :
    r ∈ simplify hs avoid start l ↔ ∃ s ∈ l, stripTrailing s = r := by
  unfold simplify
  rw [mem_sortSeqs, (h _).2, List.mem_map]

theorem simplify_sorted (hs : List Seq → List Seq) (avoid : Nat → Bool) (start : Nat → Nat)
    (l : List Seq) :
    (simplify hs avoid start l).Pairwise (fun x y => seqLe avoid start x y = true) :=
  sortSeqs_pairwise avoid start _

theorem simplify_perm (hs : List Seq → List Seq) (avoid : Nat → Bool) (start : Nat → Nat)
    (l : List Seq) : (simplify hs avoid start l).Perm (hs (l.map stripTrailing)) :=
  sortSeqs_perm avoid start _

/-- `sort_unstable_by` is modelled by one particular algorithm; this is why that is enough: any
sorted arrangement of the same sequences is the model's -/
theorem sorted_perm_unique {avoid : Nat → Bool} {start : Nat → Nat}
    (hinj : ∀ i j, start i = start j → i = j) {l₁ l₂ : List Seq}
    (h₁ : l₁.Pairwise (fun x y => seqLe avoid start x y = true))
    (h₂ : l₂.Pairwise (fun x y => seqLe avoid start x y = true)) (hp : l₁.Perm l₂) : l₁ = l₂ :=
  List.Perm.eq_of_pairwise (fun _ _ _ _ hab hba => seqLe_antisymm hinj hab hba) h₁ h₂ hp

/-- any sorted arrangement of the drained `HashSet` is the model's list, provided no two distinct stripped
sequences compare `Equal`; so the output depends on the SET of stripped input sequences only -/
theorem eq_simplify_of_sorted {hs : List Seq → List Seq} (h : HashSetLike hs) {avoid : Nat → Bool}
    {start : Nat → Nat} {l : List Seq}
    (hanti : ∀ a b, a ∈ l.map stripTrailing → b ∈ l.map stripTrailing → cmpSeq avoid start a b = .eq → a = b)
    {out : List Seq} (hp : out.Perm (hs (l.map stripTrailing)))
    (hsorted : out.Pairwise (fun x y => seqLe avoid start x y = true)) : out = simplify hs avoid start l := by
  refine List.Perm.eq_of_pairwise (fun a b ha hb hab hba => ?_) hsorted (simplify_sorted hs avoid start l)
    (hp.trans (simplify_perm hs avoid start l).symm)
  exact hanti a b ((h _).2 a |>.mp (hp.mem_iff.mp ha))
    ((h _).2 b |>.mp ((simplify_perm hs avoid start l).mem_iff.mp hb))
    (OrientedCmp.isLE_antisymm (cmp := cmpSeq avoid start) hab hba)

theorem wellLexed_prefix : ∀ (a b : Seq) (la : Nat), WellLexed la (a ++ b) = true → WellLexed la a = true := by
  intro a
  induction a with
  | nil => intro b la _; rfl
  | cons r rs ih =>
    intro b la h
    cases r with
    | insert t => simp only [List.cons_append, WellLexed] at h ⊢; exact ih b la h
    | delete l =>
      simp only [List.cons_append, WellLexed, Bool.and_eq_true] at h ⊢
      exact ⟨h.1, ih b _ h.2⟩
    | shift l =>
      simp only [List.cons_append, WellLexed, Bool.and_eq_true] at h ⊢
      exact ⟨h.1, ih b _ h.2⟩

theorem stripTrailing_prefix (rs : Seq) : stripTrailing rs <+: rs := by
  unfold stripTrailing
  have := List.dropWhile_suffix isShift (l := rs.reverse)
  rw [← List.reverse_prefix, List.reverse_reverse] at this
  exact this

theorem wellLexed_stripTrailing {la : Nat} {rs : Seq} (h : WellLexed la rs = true) :
    WellLexed la (stripTrailing rs) = true := by
  obtain ⟨t, ht⟩ := stripTrailing_prefix rs
  rw [← ht] at h
  exact wellLexed_prefix _ t la h

theorem erase_map_attach (la : Nat) (rs : List Repair) : (attach la rs).map PRepair.erase = rs := by
  induction rs generalizing la with
  | nil => rfl
  | cons r rs ih => cases r <;> simp [attach, PRepair.erase, ih]

theorem wellLexed_iff : ∀ (s : Seq) (la : Nat), WellLexed la s = true ↔ attach la (s.map PRepair.erase) = s := by
  intro s
  induction s with
  | nil => intro la; exact ⟨fun _ => rfl, fun _ => rfl⟩
  | cons r rs ih =>
    intro la
    cases r <;>
      simp only [WellLexed, List.map_cons, PRepair.erase, attach, List.cons.injEq, Bool.and_eq_true, beq_iff_eq,
        PRepair.delete.injEq, PRepair.shift.injEq, true_and, ih, eq_comm (a := la)]

theorem wellLexed_attach (la : Nat) (rs : List Repair) : WellLexed la (attach la rs) = true :=
  (wellLexed_iff _ la).mpr (by rw [erase_map_attach])

/-- content keys determine the erasure, and the erasure determines a well-lexed sequence -/
theorem wellLexed_keys_inj (start : Nat → Nat) (x y : Seq) (la : Nat) (hx : WellLexed la x = true)
    (hy : WellLexed la y = true) (h : x.map (contentKey start) = y.map (contentKey start)) : x = y := by
  have he : PRepair.erase = keyKind ∘ contentKey start := funext fun r => (keyKind_contentKey start r).symm
  rw [← (wellLexed_iff x la).mp hx, ← (wellLexed_iff y la).mp hy, he, ← List.map_map, ← List.map_map, h]

theorem cmpSeq_eq_eq_of_wellLexed {avoid : Nat → Bool} {start : Nat → Nat} {la : Nat} {x y : Seq}
    (hx : WellLexed la x = true) (hy : WellLexed la y = true)
    (h : cmpSeq avoid start x y = .eq) : x = y :=
  wellLexed_keys_inj start x y la hx hy (cmpSeq_eq_keys h)

/-- the distance of a group, 0 where the real code would have panicked -/
def reachD (G : Grammar) (A : Automaton) (w : List Nat) (win : Nat) (start : Pos) (g : List Seq) : Nat :=
  (groupReach G A w win start g).getD 0

theorem scoreCnds_eq {G : Grammar} {A : Automaton} {w : List Nat} {win : Nat} {start : Pos}
    (cnds : List (List Seq)) :
    scoreCnds G A w win start cnds =
      if cnds.all (fun g => (groupReach G A w win start g).isSome) then
        some (cnds.map (fun g => (reachD G A w win start g, g)))
      else none := by
  induction cnds with
  | nil => rfl
  | cons g gs ih =>
    rw [scoreCnds, ih, List.all_cons, List.map_cons, reachD]
    cases groupReach G A w win start g with
    | none => rfl
    | some d => cases gs.all (fun g => (groupReach G A w win start g).isSome) <;> rfl

theorem rankCnds_some {G : Grammar} {A : Automaton} {w : List Nat} {win : Nat} {start : Pos}
    {cnds : List (List Seq)} {out : List Seq} (h : rankCnds G A w win start cnds = some out) :
    (∀ g ∈ cnds, ∃ d, groupReach G A w win start g = some d) ∧
    out = ((cnds.map (fun g => (reachD G A w win start g, g))).filter (fun p =>
      p.1 == furthest (cnds.map (fun g => (reachD G A w win start g, g))))).flatMap (·.2) := by
  rw [rankCnds, scoreCnds_eq] at h
  by_cases hall : cnds.all (fun g => (groupReach G A w win start g).isSome) = true
  · rw [if_pos hall] at h
    exact ⟨fun g hg => Option.isSome_iff_exists.mp (List.all_eq_true.mp hall g hg), (Option.some.inj h).symm⟩
  · rw [if_neg hall] at h; cases h

theorem foldl_max_ge (l : List Nat) (init x : Nat) (h : x ∈ l) : x ≤ l.foldl max init := by
  rw [List.foldl_max]
  exact Nat.le_trans (List.le_max?_getD_of_mem h) (Nat.le_max_right _ _)

theorem eq_foldl_max_map_iff {α : Type} {f : α → Nat} {l : List α} {x : α} (h : x ∈ l) :
    f x = (l.map f).foldl max 0 ↔ ∀ y ∈ l, f y ≤ f x := by
  rw [List.foldl_max, Nat.zero_max]
  cases hm : (l.map f).max? with
  | none => rw [List.map_eq_nil_iff.mp (List.max?_eq_none_iff.mp hm)] at h; cases h
  | some a =>
    obtain ⟨ha, hle⟩ := List.max?_eq_some_iff.mp hm
    rw [List.forall_mem_map] at hle
    obtain ⟨z, hz, rfl⟩ := List.mem_map.mp ha
    exact ⟨fun e y hy => e ▸ hle y hy, fun hmax => Nat.le_antisymm (hle x h) (hmax z hz)⟩

/-- the running maximum of `rank_cnds` is the maximum of the distances -/
theorem furthest_eq (l : List (Nat × List Seq)) : furthest l = (l.map (·.1)).foldl max 0 := by
  rw [List.foldl_map]; rfl

theorem furthest_attained {l : List (Nat × List Seq)} (h : l ≠ []) : ∃ p ∈ l, p.1 = furthest l := by
  rw [furthest_eq, List.foldl_max, Nat.zero_max]
  cases hm : (l.map (·.1)).max? with
  | none => exact absurd (List.map_eq_nil_iff.mp (List.max?_eq_none_iff.mp hm)) h
  | some a => exact List.mem_map.mp (List.max?_mem hm)

end GrmVerif.RankImpl
