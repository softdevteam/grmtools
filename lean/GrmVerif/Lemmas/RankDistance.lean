import GrmVerif.Lemmas.LRIter
import GrmVerif.Lemmas.RecBasics
import GrmVerif.Lemmas.RankImpl
/-! The distance `rank_cnds` measures (`RankImpl.reach`: replay with `apply_repairs`, parse on with
`lr_upto` to the end of the window) is the specification's `Rec.distance` for every sequence that
applies with plain LR semantics and ends within the window. -/
namespace GrmVerif.RankImpl
open LR Rec

theorem applyRepairs_of_applySeq {G : Grammar} {A : Automaton} {w : List Nat} :
    ∀ (seq : Seq) (c c' : Pos), c.pos ≤ w.length →
      applySeq G A w c (seq.map PRepair.erase) = some c' →
      applyRepairs G A w c seq = some c' ∧ c'.pos ≤ w.length := by
  intro seq
  induction seq with
  | nil =>
    intro c c' hc h
    simp only [List.map_nil, applySeq, Option.some.injEq] at h
    subst h
    exact ⟨rfl, hc⟩
  | cons r rs ih =>
    intro c c' hc h
    obtain ⟨c1, h1, h⟩ := applySeq_cons_inv h
    have key : applyOne G A w c r = some c1 ∧ c1.pos ≤ w.length := by
      cases r with
      | insert t =>
        obtain ⟨s, hf, rfl⟩ := applyRepair_insert.mp h1
        exact ⟨by simp only [applyOne, Nat.not_lt.mpr hc, ↓reduceIte, hf], hc⟩
      | delete l =>
        obtain ⟨hlt, rfl⟩ := applyRepair_delete.mp h1
        exact ⟨rfl, hlt⟩
      | shift l =>
        obtain ⟨hlt, s, hf, rfl⟩ := applyRepair_shift.mp h1
        exact ⟨by simp only [applyOne, Nat.not_lt.mpr hc, ↓reduceIte, hf], hlt⟩
    obtain ⟨h2, h3⟩ := ih c1 c' key.2 h
    exact ⟨by simp only [applyRepairs, key.1, h2], h3⟩

theorem continueFrom_ge {G : Grammar} {A : Automaton} {w : List Nat} :
    ∀ (fuel : Nat) (c : Pos) (n : Nat),
      n ≤ (continueFrom G A w fuel c n).1 ∧ c.pos ≤ (continueFrom G A w fuel c n).2.2 := by
  intro fuel
  induction fuel with
  | zero => intro c n; exact ⟨Nat.le_refl _, Nat.le_refl _⟩
  | succ f ih =>
    intro c n
    simp only [continueFrom]
    cases hf : feed G A (nextTok G w c.pos) FUEL c.stack with
    | shifted s =>
      obtain ⟨h1, h2⟩ := ih ⟨s, c.pos + 1⟩ (n + 1)
      exact ⟨Nat.le_trans (Nat.le_succ _) h1, Nat.le_trans (Nat.le_succ _) h2⟩
    | _ => exact ⟨Nat.le_refl _, Nat.le_refl _⟩

theorem lrUpto_pos {G : Grammar} {A : Automaton} {w : List Nat} (hEof : EofNeverShifted G A) (endIdx : Nat) :
    ∀ (fuel : Nat) (c c'' : Pos) (n : Nat), c.pos ≤ endIdx → c.pos ≤ w.length →
      lrUpto G A w endIdx fuel c = some c'' →
      c''.pos = min (continueFrom G A w fuel c n).2.2 endIdx := by
  intro fuel
  induction fuel with
  | zero => intro c c'' n _ _ h; simp [lrUpto] at h
  | succ f ih =>
    intro c c'' n he hl h
    rw [lrUpto] at h
    by_cases hstop : (c.pos == endIdx || decide (c.pos > w.length)) = true
    · rw [if_pos hstop, Option.some.injEq] at h
      subst h
      -- inside the input the loop guard can only have been `laidx = end_laidx`
      have hce : c.pos = endIdx := by
        rcases (Bool.or_eq_true _ _).mp hstop with h' | h'
        · exact beq_iff_eq.mp h'
        · exact absurd hl (Nat.not_le_of_gt (of_decide_eq_true h'))
      have hge := (continueFrom_ge (G := G) (A := A) (w := w) (f + 1) c n).2
      rw [hce] at hge ⊢
      exact (Nat.min_eq_right hge).symm
    · rw [if_neg hstop] at h
      have hne : c.pos ≠ endIdx := fun e => hstop (by rw [beq_iff_eq.mpr e]; rfl)
      rw [continueFrom]
      cases hf : feed G A (nextTok G w c.pos) FUEL c.stack with
      | shifted s =>
        rw [hf] at h
        exact ih ⟨s, c.pos + 1⟩ c'' (n + 1) (Nat.lt_of_le_of_ne he hne) (pos_lt_of_shifted hEof hf) h
      | accept s =>
        rw [hf, Option.some.injEq] at h; subst h; exact (Nat.min_eq_left he).symm
      | error s =>
        rw [hf, Option.some.injEq] at h; subst h; exact (Nat.min_eq_left he).symm
      | _ => rw [hf] at h; cases h

theorem reach_eq_distance {G : Grammar} {A : Automaton} {w : List Nat} (hEof : EofNeverShifted G A)
    {win : Nat} {start c' : Pos} {seq : Seq} {d : Nat} (hpos : start.pos ≤ w.length)
    (happ : applySeq G A w start (seq.map PRepair.erase) = some c')
    (hwin : c'.pos ≤ start.pos + win)
    (hr : reach G A w win start seq = some d) :
    d = distance G A w win start (seq.map PRepair.erase) := by
  obtain ⟨h1, h2⟩ := applyRepairs_of_applySeq seq start c' hpos happ
  simp only [reach, h1] at hr
  cases hl : lrUpto G A w (start.pos + win) (w.length + 2) c' with
  | none => rw [hl] at hr; cases hr
  | some c'' =>
    rw [hl] at hr
    simp only [Option.map_some, Option.some.injEq] at hr
    subst hr
    simp only [distance, happ]
    exact lrUpto_pos hEof _ _ c' c'' 0 hwin h2 hl

end GrmVerif.RankImpl
