import GrmVerif.Lemmas.RecLive
import GrmVerif.Lemmas.SearchLoops
/-!
Panic-freedom of the modelled SEARCH of `CPCTPlus::recover` (`SearchImpl.dijkstra`) on a certified table.

By the search invariant of the correctness proof (`NodeInv`: every plain sequence of a node's chain is a
walk of the search graph from the error configuration to a specification node with the node's stack,
position, …): if the stack of the error configuration is a PATH of the automaton, then — `feed` on a path
never crashes and hands back a path (`C07.feed_path`), repairs applied with plain LR semantics keep paths
(`C07.applySeq_isPath`) — the stack of every node the search creates is a path and its position lies
inside the input (`nodeInv_pathOK`). Hence

* `lr_cactus` never `unwrap`s a missing goto, never pops below the stack (`neighbours_ne_panic`);
* `*n.pstack.val().unwrap()` in `success`/`insert` sees a non-empty stack whose top is a state of the
  table (`success_ne_panic`);
* `next_lexeme(n.laidx)` in `insert` stays inside the input;
* the merge closure's `unreachable!()` is not reached: an entry whose chain is the bare `Terminator`
  is only ever met by a node whose chain is the bare `Terminator` too, and then the closure returns
  early (`merge_total` in `Lemmas/SearchBuckets.lean`, from `term_of_compat` with the roles exchanged);
* `todo[off]` is in range after the `resize`, `todo[c]` because `c` only advances while
  `c + 1 ≠ todo.len()` (`pushNbr_spec`, `pushAll_total`).

The induction over the two loops is the one of the correctness proof, `phase1_post`/`phase2_post`
(`Lemmas/SearchLoops.lean`), whose no-panic half is parametrised by `Safe`: `success` and `neighbours` do
not panic on a node satisfying the invariant. The first two items give `Safe` (`safe_of_path`).
-/
namespace GrmVerif.SearchImpl
open LR Rec Cert Term

variable {E : Env} {start : Pos}

theorem ipath_insertsOk {a n : Node} {s : List Repair} {k : Nat}
    (h : IPath E.G E.A E.w E.cost E.N a s n k) : C07.InsertsOk E.G s :=
  fun t ht => (h.inserts_ok t ht).1

def PathOK (E : Env) (m : PNode) : Prop := IsPath E.A m.pstack ∧ m.laidx ≤ E.w.length

/-- **every node that satisfies the search invariant has a path stack and a position inside the
input**, provided the error configuration's stack is a path -/
theorem nodeInv_pathOK (P : Props E.G E.A) (hw : InputOk E.G E.w) (hp : IsPath E.A start.stack)
    {m : PNode} (hm : NodeInv E start m) : PathOK E m := by
  obtain ⟨s, hs⟩ := List.exists_mem_of_ne_nil _ (seqs_ne_nil m.repairs)
  obtain ⟨n, h1, h2, _, _, h5, h6⟩ := hm.1 s hs
  have happ := ipath_applySeq h1
  have hpn : IsPath E.A n.c.stack :=
    C07.applySeq_isPath P hw s (root start).c n.c (ipath_insertsOk h1) hp happ
  refine ⟨?_, by rw [← h2]; exact h6⟩
  rcases h5 with h5 | ⟨h5, _⟩
  · rw [← h5]; exact hpn
  · exact C07.feed_accept_isPath P (nextTok_lt hw P.wf n.c.pos) hpn h5

theorem isPath_cons {A : Automaton} {xs : List Nat} (h : IsPath A xs) : ∃ st rest, xs = st :: rest := by
  obtain ⟨labels, hp⟩ := h
  cases hp with
  | base => exact ⟨_, _, rfl⟩
  | step s t rest labels X _ _ => exact ⟨_, _, rfl⟩

theorem success_ne_panic {m : PNode} (hm : PathOK E m) : success E m ≠ .panic := by
  obtain ⟨st, rest, e⟩ := isPath_cons hm.1
  unfold success
  split
  · intro h; cases h
  · rw [e]; intro h; cases h

theorem out_map_ne_panic {α β : Type} {f : α → β} {x : Out α} (h : x ≠ .panic) : x.map f ≠ .panic := by
  cases x with
  | panic => exact absurd rfl h
  | _ => intro e; cases e

theorem insertNbrs_ne_panic (P : Props E.G E.A) {m : PNode} (hm : PathOK E m) :
    ∀ ts : List Nat, (∀ t ∈ ts, t < E.G.ntoks) → insertNbrs E m ts ≠ .panic := by
  intro ts
  induction ts with
  | nil => intro _ h; cases h
  | cons t ts ih =>
    intro hts
    have ih' := ih (fun t' ht' => hts t' (List.mem_cons_of_mem _ ht'))
    rw [insertNbrs]
    by_cases he : (t == E.G.eof) = true
    · rw [if_pos he]; exact ih'
    · have hnp : ¬ ((decide (m.laidx > E.w.length) && (E.w.length != 0)) = true) := by
        rw [Bool.and_eq_true, decide_eq_true_eq]
        exact fun h => Nat.lt_irrefl _ (Nat.lt_of_lt_of_le h.1 hm.2)
      rw [if_neg he, if_neg hnp]
      cases hf : feed E.G E.A t FUEL m.pstack with
      | shifted s =>
        simp only
        by_cases hc : m.cf + E.cost t ≤ U16MAX
        · rw [if_pos hc]; exact out_map_ne_panic ih'
        · rw [if_neg hc]; exact ih'
      | crash => exact absurd hf (C07.feed_ne_crash P (hts t List.mem_cons_self) hm.1)
      | fuelOut => intro h; cases h
      | _ => exact ih'

theorem stateActionsOf_some {st : Nat} (h : st < E.A.nstates) :
    ∃ sa, stateActionsOf E.A st = some sa := by
  unfold stateActionsOf
  have : st < E.A.states.length := h
  rw [List.getElem?_eq_getElem this]
  exact ⟨_, rfl⟩

theorem insertAll_ne_panic (P : Props E.G E.A) (hsa : StateActionsOK E.G E.A) {m : PNode}
    (hm : PathOK E m) : insertAll E m ≠ .panic := by
  obtain ⟨st, rest, e⟩ := isPath_cons hm.1
  have hst : st < E.A.nstates := hm.1.states_lt P st (by rw [e]; simp)
  obtain ⟨sa, hsa'⟩ := stateActionsOf_some hst
  unfold insertAll
  rw [e]
  simp only [hsa']
  exact insertNbrs_ne_panic P hm sa (fun t ht => ((hsa st sa hsa' t).mp ht).1)

theorem shiftNbrs_ne_panic (P : Props E.G E.A) (hw : InputOk E.G E.w) {m : PNode} (hm : PathOK E m) :
    shiftNbrs E m ≠ .panic := by
  unfold shiftNbrs
  cases hf : feed E.G E.A (nextTok E.G E.w m.laidx) FUEL m.pstack with
  | accept s => simp only; split <;> (intro h; cases h)
  | crash => exact absurd hf (C07.feed_ne_crash P (nextTok_lt hw P.wf m.laidx) hm.1)
  | _ => intro h; cases h

theorem neighbours_ne_panic (P : Props E.G E.A) (hw : InputOk E.G E.w) (hsa : StateActionsOK E.G E.A)
    {m : PNode} (hm : PathOK E m) (b : Bool) : neighbours E b m ≠ .panic := by
  have hi : insPart E b m ≠ .panic := by
    unfold insPart
    split
    · intro h; cases h
    · split
      · exact insertAll_ne_panic P hsa hm
      · intro h; cases h
  rw [neighbours_eq]
  cases hins : insPart E b m with
  | panic => exact absurd hins hi
  | fuelOut => intro h; cases h
  | ok i =>
    cases hs : shiftNbrs E m with
    | panic => exact absurd hs (shiftNbrs_ne_panic P hw hm)
    | _ => intro h; cases h

theorem upsert_ne_none (H : Hyps E start) {k : Nat} {nbr : PNode} (hn : NodeInv E start nbr)
    (hcf : nbr.cf = k) : ∀ {b : Bucket}, BucketOK E start k b → upsert nbr b ≠ none := by
  intro b hb
  obtain ⟨b', h, _⟩ := upsert_total H hn hcf hb
  rw [h]
  exact Option.some_ne_none _

theorem pushNbr_ne_none (H : Hyps E start) {todo : Array Bucket} {off : Nat} {nbr : PNode}
    (hn : NodeInv E start nbr) (hcf : nbr.cf = off) (hok : TodoOK E start todo) :
    pushNbr todo off nbr ≠ none := by
  obtain ⟨b', hu, _⟩ := upsert_total H hn hcf (hok off)
  obtain ⟨todo', h, _⟩ := pushNbr_spec hu
  rw [h]
  exact Option.some_ne_none _

theorem pushAll_ne_none (H : Hyps E start) : ∀ {nbrs : List (Nat × PNode)} {todo : Array Bucket},
    (∀ x ∈ nbrs, x.1 = x.2.cf ∧ NodeInv E start x.2) → TodoOK E start todo →
    pushAll todo nbrs ≠ none := by
  intro nbrs todo hx hok
  obtain ⟨todo', h, _⟩ := pushAll_total H hx hok
  rw [h]
  exact Option.some_ne_none _

theorem safe_of_path (H : Hyps E start) (P : Props E.G E.A) (hw : InputOk E.G E.w)
    (hp : IsPath E.A start.stack) : Safe E start :=
  fun _ hm => ⟨success_ne_panic (nodeInv_pathOK P hw hp hm),
    neighbours_ne_panic P hw H.sa (nodeInv_pathOK P hw hp hm)⟩

theorem phase2_ne_panic (H : Hyps E start) (P : Props E.G E.A) (hw : InputOk E.G E.w)
    (hp : IsPath E.A start.stack) : ∀ (fuel c : Nat) (b : Bucket) (scs : List PNode),
    BucketOK E start c b → phase2 E fuel c b scs ≠ .panic :=
  fun fuel c b scs hb => (phase2_post H fuel c b scs hb).1 (safe_of_path H P hw hp)

/-- **the first loop of `dijkstra` never panics**: `todo[c]` is in range (`c < todo.len()` is kept by
the loop), the popped node has a path stack, pushing its neighbours stays in range and never reaches
`unreachable!()` -/
theorem phase1_ne_panic (H : Hyps E start) (P : Props E.G E.A) (hw : InputOk E.G E.w)
    (hp : IsPath E.A start.stack) : ∀ (fuel : Nat) (todo : Array Bucket) (c : Nat),
    TodoOK E start todo → c < todo.size → phase1 E fuel todo c ≠ .panic :=
  fun fuel todo c hok hsz => (phase1_post H fuel todo c hok).1 ⟨safe_of_path H P hw hp, hsz⟩

/-- **The modelled search never panics** at a configuration that satisfies the hypotheses of the search
theorems and whose stack is a path of a certified automaton, on an input of real tokens: for every
search fuel. -/
theorem dijkstra_ne_panic (H : Hyps E start) (P : Props E.G E.A) (hw : InputOk E.G E.w)
    (hp : IsPath E.A start.stack) (fuel : Nat) : dijkstra E fuel start ≠ .panic :=
  phase1_ne_panic H P hw hp fuel _ 0 (todoOK_start H.pos) (Nat.zero_lt_succ _)

end GrmVerif.SearchImpl
