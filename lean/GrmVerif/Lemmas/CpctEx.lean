import GrmVerif.Lemmas.KeptCertEx
import GrmVerif.Model.Cpct
/-!
The certified merged LALR automaton of `Lemmas/KeptCertEx.lean` (`S: x A c | y A d | x B f | y B g;
A: a; B: a e`, 14 states, item sets included) with the `state_actions` view filled in, as the search of
the modelled recoverer needs it: the concrete instance for the non-vacuity examples of the capstone
theorems (`Props/C05.lean`, `Props/C06.lean`, `Props/C07.lean`).

The certificates read a state's item sets, edges and tables only, so filling in `state_actions` keeps
them (`wholeRunCert_mapStates`), and filling it in with the non-`Error` columns makes it exact
(`stateActionsExactB_fill`): nothing about the table is evaluated a second time here.
-/
namespace GrmVerif.Cpct
open Rec RankImpl SearchImpl C05

def mapStates (A : Automaton) (f : StateD → StateD) : Automaton := { A with states := A.states.map f }

def KeepsTables (f : StateD → StateD) : Prop :=
  ∀ sd, (f sd).core = sd.core ∧ (f sd).closed = sd.closed ∧ (f sd).edges = sd.edges ∧
    (f sd).actions = sd.actions ∧ (f sd).gotos = sd.gotos

section
variable {A : Automaton} {f : StateD → StateD} (hf : KeepsTables f)
include hf

theorem mapStates_core (s : Nat) : (mapStates A f).core s = A.core s := by
  simp only [mapStates, Automaton.core, List.getElem?_map, Option.map_map]
  cases A.states[s]? with
  | none => rfl
  | some sd => exact (hf sd).1

theorem mapStates_closed (s : Nat) : (mapStates A f).closed s = A.closed s := by
  simp only [mapStates, Automaton.closed, List.getElem?_map, Option.map_map]
  cases A.states[s]? with
  | none => rfl
  | some sd => exact (hf sd).2.1

theorem mapStates_edges (s : Nat) : (mapStates A f).edges s = A.edges s := by
  simp only [mapStates, Automaton.edges, List.getElem?_map, Option.map_map]
  cases A.states[s]? with
  | none => rfl
  | some sd => exact (hf sd).2.2.1

theorem mapStates_action (s t : Nat) : (mapStates A f).action s t = A.action s t := by
  simp only [mapStates, Automaton.action, List.getElem?_map]
  cases A.states[s]? with
  | none => rfl
  | some sd => simp only [Option.map_some, Option.bind_some, (hf sd).2.2.2.1]

theorem mapStates_goto (s r : Nat) : (mapStates A f).goto s r = A.goto s r := by
  simp only [mapStates, Automaton.goto, List.getElem?_map]
  cases A.states[s]? with
  | none => rfl
  | some sd => simp only [Option.map_some, Option.bind_some, (hf sd).2.2.2.2]

/-- **the certificates of the whole-run theorems do not look at `state_actions`**, nor at any field of a
state other than its item sets, its edges and its two tables: every clause reads the automaton through
the accessors above -/
theorem wholeRunCert_mapStates (G : Grammar) : wholeRunCert G (mapStates A f) = wholeRunCert G A := by
  have hcols : colsOk G (mapStates A f) = colsOk G A := by
    simp only [colsOk, mapStates, List.all_map, Function.comp_def, (hf _).2.2.2.1]
  have hstart : (mapStates A f).start = A.start := rfl
  have hn : (mapStates A f).nstates = A.nstates := List.length_map f
  open Cert in
  simp only [wholeRunCert, check, itemsOk, k1, k2, k3', k3, k4, k5, k6, vpClosed, checkLA, l1, l2, l3, l4,
    allStates, Automaton.edge, hcols, hstart, hn, mapStates_core hf, mapStates_closed hf, mapStates_edges hf,
    mapStates_action hf, mapStates_goto hf]

end

theorem stateActionsExactB_fill (G : Grammar) (A : Automaton) :
    stateActionsExactB G (mapStates A (fun sd =>
      { sd with stateActions := (List.range G.ntoks).filter (fun t => (sd.actions[t]?).getD .error != .error) })) =
      true := by
  simp only [stateActionsExactB, mapStates, List.all_map, List.all_eq_true, Function.comp_def, beq_iff_eq]
  intro sd _ t _
  rw [Bool.eq_iff_iff]
  simp only [List.contains_iff_mem, List.mem_filter, List.mem_range, Bool.and_eq_true, decide_eq_true_eq]

-- the tests of Props/C05, C06 evaluate `recCalls … = […]` with `decide`
deriving instance DecidableEq for Rec.Pos, Rec.Err

/-- `exA2` with `state_actions(st)` = the tokens whose action in `st` is not `Error` -/
def exA3 : Automaton :=
  { exA2 with states := exA2.states.map (fun sd =>
      { sd with stateActions := (List.range 9).filter (fun t => (sd.actions[t]?).getD .error != .error) }) }

/-- the parser of the example: input `x a d`, every token costs 1, `PARSE_AT_LEAST = 3` -/
def exE : Env := ⟨exG2, exA3, [0, 2, 4], fun _ => 1, 3⟩

/-- the modelled recoverer of the example: `HashSet` order `dedup`, no `%avoid_insert`, lexemes 2 bytes
long with 1-byte gaps, `TRY_PARSE_AT_MOST = 250`, a search budget of 200 iterations -/
def exRec : Pos → Option (Pos × List (List Repair)) :=
  cpctRecover exE dedup (fun _ => false) (fun i => 3 * i + 1) 250 200

theorem ex3_cert : wholeRunCert exG2 exA3 = true :=
  (wholeRunCert_mapStates (A := exA2) (f := fun sd =>
      { sd with stateActions := (List.range 9).filter (fun t => (sd.actions[t]?).getD .error != .error) })
    (fun _ => ⟨rfl, rfl, rfl, rfl, rfl⟩) exG2).trans ex2_cert
theorem ex3_sa : stateActionsExactB exG2 exA3 = true := stateActionsExactB_fill exG2 exA2
theorem ex3_cost : ∀ t, 1 ≤ exE.cost t := fun _ => Nat.le_refl _
theorem ex3_inputOk : Cert.InputOk exG2 [0, 2, 4] := by
  intro t ht
  simp only [List.mem_cons, List.not_mem_nil, or_false] at ht
  rcases ht with rfl | rfl | rfl <;> decide

end GrmVerif.Cpct
