import GrmVerif.Lemmas.RecActEdited
/-!
The loop of `Parser::lr` taken one table action per iteration (`RecAct.lrA`) returns what the
lookahead-granular model `recRunA` returns, whenever the latter returns a value or gives up at an error.
-/
namespace GrmVerif.RecAct
open LR Act Rec

variable {G : Grammar} {A : Automaton} {w : List Nat}

theorem ofA_toA (v : VCfg) (i : Nat) : VCfg.ofA (v.toA i) = v := rfl

theorem toA_laidx (v : VCfg) (i : Nat) : (v.toA i).c.laidx = i := rfl

theorem toA_ofA (a : ACfg) : (VCfg.ofA a).toA a.c.laidx = a := rfl

theorem lrA_of_stepsA {lexSpan : Nat → Nat × Nat}
    {recover : Pos → List (List Repair)} {a b : ACfg} (hs : StepsA G A w lexSpan a b) (errs : List Err) :
    ∀ (f : Nat) (r : Outcome × List Call × List Err),
      lrA G A w lexSpan recover f ⟨VCfg.ofA b, b.c.laidx⟩ errs = r →
      ∃ f', lrA G A w lexSpan recover f' ⟨VCfg.ofA a, a.c.laidx⟩ errs = r := by
  induction hs with
  | refl a => intro f r h; exact ⟨f, h⟩
  | step x y z hxy _ ih =>
    intro f r h
    obtain ⟨f1, h1⟩ := ih f r h
    refine ⟨f1 + 1, ?_⟩
    simp only [lrA, toA_ofA, hxy]
    exact h1

theorem lrA_of_recRunA (G : Grammar) (A : Automaton) (w : List Nat) (lexSpan : Nat → Nat × Nat)
    (recover : Pos → List (List Repair)) :
    ∀ (fuel : Nat) (c : RACfg) (errs : List Err) (o : Outcome) (log : List Call) (errs' : List Err),
      recRunA G A w lexSpan recover fuel c errs = (o, log, errs') →
      ((∃ t, o = .accept t) ∨ (∃ la st, o = .error la st)) →
      ∃ fuel', lrA G A w lexSpan recover fuel' c errs = (o, log, errs') := by
  intro fuel c errs o log errs' h ho
  refine recRunA_induction ?_ ?_ ?_ ?_ ?_ fuel c errs h
  · intro c errs s' v' hf ⟨f1, h1⟩
    exact lrA_of_stepsA (feedA_shifted_stepsA G A w lexSpan c.laidx hf) errs f1 _ h1
  · intro c v' hf ho' hlog
    obtain ⟨hs, hdone⟩ := feedA_accept_stepsA G A w lexSpan c.laidx hf
    refine lrA_of_stepsA hs errs' 1 _ ?_
    simp only [lrA, ofA_toA, toA_laidx, hdone, ho', hlog]
    rcases ho with ⟨t, ht⟩ | ⟨la, st, ht⟩
    · rw [← ho', ht]
    · -- the Accept arm never reports an error
      rw [ho'] at ht
      unfold acceptOut at ht
      split at ht <;> cases ht
  · intro c errs v' s0 rest c' hf hrec' happ ⟨f1, h1⟩
    obtain ⟨hs, hdone⟩ := feedA_error_stepsA G A w lexSpan c.laidx hf
    refine lrA_of_stepsA hs errs (f1 + 1) _ ?_
    simp only [lrA, ofA_toA, toA_laidx, hdone, hrec', happ]
    exact h1
  · intro c errs v' hf hrec' ho' hlog he
    obtain ⟨hs, hdone⟩ := feedA_error_stepsA G A w lexSpan c.laidx hf
    refine lrA_of_stepsA hs errs 1 _ ?_
    simp only [lrA, ofA_toA, toA_laidx, hdone, hrec', ho', hlog, he]
  · intro _ _ ho' _
    rcases ho with ⟨t, rfl⟩ | ⟨la, st, rfl⟩ <;> rcases ho' with ho' | ho' | ho' <;> cases ho'

end GrmVerif.RecAct
