import GrmVerif.Lemmas.MaxCostsInv
/-! A bound table that passes `maxCert` whenever the sums fit: `maxUB`, computed by `nrules` rounds of
"the largest production sum" over the rules that are not recursive (their dependency order is acyclic, so
the table is stable after at most `nrules` rounds). This turns the certificate of `max_costs_impl_spec_cert`
into the closed, decidable condition `maxFits` of `max_costs_impl_spec`. -/
namespace GrmVerif.Impl
open GrmVerif Spec

/-- the largest sum of a production of `r` that refers to no recursive rule (0 for a recursive `r`) -/
def ubStep (G : Grammar) (tc : Nat → Nat) (U : Nat → Nat) (r : Nat) : Nat :=
  if isCyc G r then 0
  else ((G.prodsOf r).filter (fun p => !hasStop (isCyc G) (G.rhs p))).foldl
    (fun acc p => max acc (curSum tc U (G.rhs p))) 0

def ubIter (G : Grammar) (tc : Nat → Nat) : Nat → List Nat
  | 0 => List.replicate G.nrules 0
  | k + 1 => (List.range G.nrules).map (ubStep G tc (cget (ubIter G tc k)))

/-- the bound table: `nrules` rounds -/
def maxUB (G : Grammar) (tc : Nat → Nat) : Nat → Nat := cget (ubIter G tc G.nrules)

/-- **the sums fit**: with the bound table `maxUB`, in every production of a rule that is not recursive the
costs of the symbols before the first recursive rule add up to less than `u16::MAX` -/
def maxFits (G : Grammar) (tc : Nat → Nat) : Bool :=
  (List.range G.nprods).all (fun p =>
    isCyc G (G.lhs p) || decide (prefSum tc (maxUB G tc) (isCyc G) (G.rhs p) < U16MAX))

theorem cget_ubIter_succ (G : Grammar) (tc : Nat → Nat) (k r : Nat) (hr : r < G.nrules) :
    cget (ubIter G tc (k + 1)) r = ubStep G tc (cget (ubIter G tc k)) r := by
  unfold cget
  simp only [ubIter]
  rw [List.getD_eq_getElem?_getD, List.getElem?_map, List.getElem?_range hr]
  rfl

theorem ubStep_congr (G : Grammar) (tc : Nat → Nat) (U U' : Nat → Nat) (r : Nat)
    (h : ∀ p ∈ G.prodsOf r, hasStop (isCyc G) (G.rhs p) = false → ∀ q, Sym.rule q ∈ G.rhs p → U q = U' q) :
    ubStep G tc U r = ubStep G tc U' r := by
  unfold ubStep
  split
  · rfl
  · apply foldl_max_congr
    intro p hp
    simp only [List.mem_filter, Bool.not_eq_true'] at hp
    exact curSum_congr _ (h p hp.1 hp.2)

/-- the table is stable, from round `k` on, at the rules of rank below `k` -/
theorem ubIter_stable (G : Grammar) (hwf : G.wf = true) (tc : Nat → Nat) :
    ∀ k r, r < G.nrules → ¬ Cyc G r → rho G r < k →
      ∀ j, k ≤ j → cget (ubIter G tc j) r = cget (ubIter G tc k) r := by
  intro k
  induction k with
  | zero => intro r _ _ h; exact absurd h (Nat.not_lt_zero _)
  | succ k ih =>
    intro r hr hnc hrho j hj
    obtain ⟨j', rfl⟩ : ∃ j', j = j' + 1 := ⟨j - 1, by omega⟩
    rw [cget_ubIter_succ G tc j' r hr, cget_ubIter_succ G tc k r hr]
    apply ubStep_congr
    intro p hp hns q hq
    have hsucc : Succ G r q := succ_iff.mpr ⟨p, hp, hq⟩
    have hqn : q < G.nrules := reach_lt hwf (reach_of_succ hsucc)
    have hqc : ¬ Cyc G q := fun hc =>
      Bool.eq_false_iff.mp ((hasStop_eq_false _ _).mp hns q hq) ((isCyc_iff G hwf q).mpr hc)
    have hlt := rho_lt G hwf hsucc hqc
    exact ih q hqn hqc (Nat.lt_of_lt_of_le hlt (Nat.le_of_lt_succ hrho)) j' (Nat.le_of_succ_le_succ hj)

/-- **`maxUB` passes the certificate whenever the sums fit** -/
theorem maxCert_maxUB (G : Grammar) (hwf : G.wf = true) (tc : Nat → Nat) (hfit : maxFits G tc = true) :
    maxCert G tc (maxUB G tc) = true := by
  simp only [maxFits, List.all_eq_true, List.mem_range, Bool.or_eq_true, decide_eq_true_eq] at hfit
  refine maxCert_iff.mpr fun p hp hc => ⟨(hfit p hp).resolve_left (by simp [hc]), fun hs => ?_⟩
  have hr : G.lhs p < G.nrules := wf_lhs hwf hp
  have hnc : ¬ Cyc G (G.lhs p) := fun h => Bool.eq_false_iff.mp hc ((isCyc_iff G hwf _).mpr h)
  -- one more round does not change the entry of `lhs p`, and that round takes the maximum over `p` too
  have hst := ubIter_stable G hwf tc G.nrules (G.lhs p) hr hnc (rho_lt_n G hwf hr hnc) (G.nrules + 1) (by omega)
  rw [cget_ubIter_succ G tc G.nrules _ hr] at hst
  show curSum tc (maxUB G tc) (G.rhs p) ≤ maxUB G tc (G.lhs p)
  unfold maxUB
  rw [← hst]
  unfold ubStep
  rw [hc]
  simp only [Bool.false_eq_true, if_false]
  exact foldl_max_ge (fun p => curSum tc (cget (ubIter G tc G.nrules)) (G.rhs p)) _ 0 p
    (by simp [List.mem_filter, mem_prodsOf, hp, hs])

end GrmVerif.Impl
