import GrmVerif.Lemmas.SearchChains
import GrmVerif.Lemmas.SearchGraph
import GrmVerif.Lemmas.LRIter
import GrmVerif.Lemmas.RankImpl
/-!
The node invariant of the modelled search and what the `neighbours` closure does to it.

`Reach s m`: the plain sequence `s` (one of those the chain of the search node `m` stands for) is a walk
of the search graph from the error configuration, of cost `m.cf`, to a specification node with `m`'s
position, `m`'s number of trailing shifts and `m`'s "ends in a Delete" flag, whose stack is `m.pstack`
— or, for the node the `shift` function creates when reductions lead to Accept, whose stack reduces
to `m.pstack` under the next token, where it accepts.

At the head: the standing hypotheses `Hyps` of the search theorems and their Boolean form.
-/
namespace GrmVerif.SearchImpl
open LR Rec RankImpl

def root (start : Pos) : Node := ⟨start, [], 0⟩

/-- `state_actions(st)` lists exactly the tokens whose action in `st` is not Error
(`C16.state_actions_spec`) -/
def StateActionsOK (G : Grammar) (A : Automaton) : Prop :=
  ∀ st sa, stateActionsOf A st = some sa → ∀ t, t ∈ sa ↔ (t < G.ntoks ∧ A.action st t ≠ .error)

/-- what the search theorems assume of the table, the costs and the error configuration `start`: every
token costs at least 1 (`parse_actions` asserts `token_cost(tidx) > 0`); no state shifts end-of-input
(true of every table `StateTable::new` builds; from a certificate: `Cpct.tableOK_of_cert`); the error
position is inside the input; `state_actions` is exact; the error configuration is not itself a success
(`recover` is called when the top state refuses the next lexeme: `Cpct.hyps_of_errCfg`). The first, second
and fourth are the table's share (`Cpct.TableOK`); `checkHyps` is the Boolean form (`hyps_of_check`). -/
structure Hyps (E : Env) (start : Pos) : Prop where
  cost_pos : ∀ t, 1 ≤ E.cost t
  eof : EofNeverShifted E.G E.A
  pos : start.pos ≤ E.w.length
  sa : StateActionsOK E.G E.A
  nsucc : isSuccess E.G E.A E.w E.N (root start) = false

def StackRel (E : Env) (n : Node) (m : PNode) : Prop :=
  n.c.stack = m.pstack ∨
  (feed E.G E.A (nextTok E.G E.w n.c.pos) FUEL n.c.stack = .accept m.pstack ∧ m.pstack ≠ n.c.stack)

def Reach (E : Env) (start : Pos) (s : List Repair) (m : PNode) : Prop :=
  ∃ n, IPath E.G E.A E.w E.cost E.N (root start) s n m.cf ∧ n.c.pos = m.laidx ∧
    n.trail = numShifts m.repairs ∧
    (n.rev.head? = some .delete ↔ isDelete (lastRepair m.repairs) = true) ∧
    StackRel E n m ∧ n.c.pos ≤ E.w.length

/-- every sequence the chain stands for reaches the node; and no alternative of the chain is the bare
`Terminator`, which `traverse` (`collect_repairs`) would drop: under `okT` it expands exactly `seqs`
(`traverse_eq`) -/
def NodeInv (E : Env) (start : Pos) (m : PNode) : Prop :=
  (∀ s ∈ seqs m.repairs, Reach E start s m) ∧ okT m.repairs = true

variable {E : Env} {start : Pos}

theorem eofNeverShifted_of_check {G : Grammar} {A : Automaton} (h : eofNeverShiftedB G A = true) :
    EofNeverShifted G A := by
  intro st s' ha
  obtain ⟨sd, h1, h2⟩ := action_eq_some ha (by simp)
  simp only [eofNeverShiftedB, List.all_eq_true] at h
  have := h sd (List.mem_of_getElem? h1)
  rw [h2] at this
  cases this

theorem stateActionsOK_of_check {G : Grammar} {A : Automaton} (h : stateActionsExactB G A = true) :
    StateActionsOK G A := by
  intro st sa hsa t
  unfold stateActionsOf at hsa
  cases hs : A.states[st]? with
  | none => rw [hs] at hsa; cases hsa
  | some sd =>
    rw [hs] at hsa
    simp only [Option.map_some, Option.some.injEq] at hsa
    subst hsa
    simp only [stateActionsExactB, List.all_eq_true] at h
    have hsd := h sd (List.mem_of_getElem? hs)
    have hact : A.action st t = (sd.actions[t]?).getD .error := by
      simp [Automaton.action, hs]
    rw [hact]
    by_cases hb : t < max G.ntoks (sd.stateActions.foldl max 0 + 1)
    · have := hsd t (List.mem_range.mpr hb)
      simp only [beq_iff_eq] at this
      rw [← List.contains_iff_mem, this]
      simp
    · have h1 : ¬ t < G.ntoks := fun h => hb (Nat.lt_of_lt_of_le h (Nat.le_max_left _ _))
      have h2 : t ∉ sd.stateActions := fun hm =>
        hb (Nat.lt_of_lt_of_le (Nat.lt_succ_of_le (foldl_max_ge sd.stateActions 0 t hm)) (Nat.le_max_right _ _))
      simp [h1, h2]

theorem hyps_of_check (hcost : ∀ t, 1 ≤ E.cost t) (h : checkHyps E start = true) : Hyps E start := by
  simp only [checkHyps, Bool.and_eq_true, decide_eq_true_eq, Bool.not_eq_true'] at h
  obtain ⟨⟨⟨h1, h2⟩, h3⟩, h4⟩ := h
  exact ⟨hcost, eofNeverShifted_of_check h1, h3, stateActionsOK_of_check h2, h4⟩

theorem nodeInv_start (hpos : start.pos ≤ E.w.length) : NodeInv E start (startNode start) := by
  refine ⟨?_, rfl⟩
  intro s hs
  simp only [startNode, seqs, List.mem_singleton] at hs
  subst hs
  exact ⟨root start, IPath.nil _, rfl, rfl, by simp [root, startNode, lastRepair, isDelete], Or.inl rfl, hpos⟩

theorem NodeInv.laidx_le {m : PNode} (hm : NodeInv E start m) : m.laidx ≤ E.w.length := by
  obtain ⟨s, hs⟩ := List.exists_mem_of_ne_nil _ (seqs_ne_nil m.repairs)
  obtain ⟨n, _, h2, _, _, _, h6⟩ := hm.1 s hs
  exact h2 ▸ h6

theorem success_of_stack_eq {m : PNode} {n : Node} {b : Bool} (h : success E m = .ok b)
    (h1 : n.c.stack = m.pstack) (h2 : n.c.pos = m.laidx) (h3 : n.trail = numShifts m.repairs) :
    implSucc E.G E.A E.w E.N n = b := by
  simp only [success, endsWithShifts_iff] at h
  simp only [implSucc, h1, h2, h3]
  by_cases hN : E.N ≤ numShifts m.repairs
  · simp only [hN, decide_true, ↓reduceIte] at h
    injection h with h
    subst h
    simp [hN]
  · simp only [hN, decide_false, Bool.false_eq_true, ↓reduceIte] at h
    cases hp : m.pstack with
    | nil => rw [hp] at h; cases h
    | cons st rest =>
      rw [hp] at h
      simp only at h
      injection h with h
      subst h
      simp [hN]

theorem success_of_late {m : PNode} {la : Nat} {f : Nat} {stack : List Nat} {b : Bool}
    (h : success E m = .ok b) (hf : feed E.G E.A la f stack = .accept m.pstack)
    (hla : la = nextTok E.G E.w m.laidx) : b = true := by
  obtain ⟨st, rest, e, ha⟩ := feed_accept_top hf
  simp only [success] at h
  split at h
  · injection h with h; exact h.symm
  · rw [e] at h
    simp only at h
    injection h with h
    subst h
    rw [← hla, ha]
    rfl

theorem feed_shifted_top_ne_error {G : Grammar} {A : Automaton} {la : Nat} {f : Nat} {st : Nat}
    {rest s : List Nat} (h : feed G A la f (st :: rest) = .shifted s) : A.action st la ≠ .error := by
  intro he
  cases f with
  | zero => cases h
  | succ f => simp only [feed, he] at h; cases h

theorem isDelete_some (r : Repair) : isDelete (some r) = true ↔ some r = some Repair.delete := by
  cases r <;> simp [isDelete]

theorem reach_unfold {m : PNode} {s : List Repair} (hs : success E m = .ok false)
    (hr : Reach E start s m) :
    ∃ n, IPath E.G E.A E.w E.cost E.N (root start) s n m.cf ∧ n.c = ⟨m.pstack, m.laidx⟩ ∧
      n.trail = numShifts m.repairs ∧
      (n.rev.head? = some .delete ↔ isDelete (lastRepair m.repairs) = true) ∧
      implSucc E.G E.A E.w E.N n = false := by
  obtain ⟨n, h1, h2, h3, h4, h5, _⟩ := hr
  have hst : n.c.stack = m.pstack := by
    rcases h5 with h | ⟨h, _⟩
    · exact h
    · cases success_of_late hs h (by rw [h2])
  exact ⟨n, h1, by rw [← hst, ← h2], h3, h4, success_of_stack_eq hs hst h2 h3⟩

theorem nodeInv_child {m : PNode} (hm : NodeInv E start m) (hs : success E m = .ok false) {r : Repair}
    {c' : Pos} {c0 : Nat} (hpos : c'.pos ≤ E.w.length)
    (hst : ∀ n : Node, n.c = ⟨m.pstack, m.laidx⟩ →
      (n.rev.head? = some .delete ↔ isDelete (lastRepair m.repairs) = true) →
      implSucc E.G E.A E.w E.N n = false → ∃ n', Step E.G E.A E.w E.cost E.N n r n' c0 ∧ n'.c = c') :
    NodeInv E start ⟨c'.stack, c'.pos, .rep m.repairs r, m.cf + c0⟩ := by
  refine ⟨?_, hm.2⟩
  intro s2 hs2
  obtain ⟨s, hsm, rfl⟩ := mem_seqs_rep.mp hs2
  obtain ⟨n, h1, h2, h3, h4, h6⟩ := reach_unfold hs (hm.1 s hsm)
  obtain ⟨n', hst', rfl⟩ := hst n h2 h4 h6
  refine ⟨n', h1.snoc hst', rfl, ?_, ?_, Or.inl rfl, hpos⟩
  · cases hst' <;> simp [numShifts, h3]
  · rw [hst'.rev, List.head?_cons, lastRepair, isDelete_some]

def insNode (E : Env) (m : PNode) (t : Nat) (s' : List Nat) : Nat × PNode :=
  (m.cf + E.cost t, ⟨s', m.laidx, .rep m.repairs (.insert t), m.cf + E.cost t⟩)

theorem insertNbrs_ok {m : PNode} : ∀ {ts : List Nat} {l : List (Nat × PNode)},
    insertNbrs E m ts = .ok l →
    ∀ x, x ∈ l ↔ ∃ t ∈ ts, t ≠ E.G.eof ∧ ∃ s', feed E.G E.A t FUEL m.pstack = .shifted s' ∧
      m.cf + E.cost t ≤ U16MAX ∧ x = insNode E m t s' := by
  intro ts
  induction ts with
  | nil => intro l h x; cases h; simp
  | cons t ts ih =>
    intro l h x
    simp only [List.mem_cons, exists_eq_or_imp]
    -- a token that contributes no neighbour
    have skip : ∀ {P : Prop}, ¬ P → insertNbrs E m ts = .ok l →
        (x ∈ l ↔ P ∨ ∃ t' ∈ ts, t' ≠ E.G.eof ∧ ∃ s', feed E.G E.A t' FUEL m.pstack = .shifted s' ∧
          m.cf + E.cost t' ≤ U16MAX ∧ x = insNode E m t' s') :=
      fun hn h' => by rw [ih h' x]; exact (or_iff_right hn).symm
    rw [insertNbrs] at h
    by_cases he : (t == E.G.eof) = true
    · rw [if_pos he] at h
      exact skip (fun hW => hW.1 (beq_iff_eq.mp he)) h
    · rw [if_neg he] at h
      by_cases hp : (decide (m.laidx > E.w.length) && E.w.length != 0) = true
      · rw [if_pos hp] at h; cases h
      · rw [if_neg hp] at h
        cases hf : feed E.G E.A t FUEL m.pstack with
        | shifted s =>
          rw [hf] at h
          simp only at h
          by_cases hc : m.cf + E.cost t ≤ U16MAX
          · rw [if_pos hc] at h
            cases hr : insertNbrs E m ts with
            | ok l' =>
              rw [hr] at h
              cases h
              rw [List.mem_cons, ih hr x]
              refine or_congr ⟨fun e => ⟨fun e' => he (beq_iff_eq.mpr e'), s, rfl, hc, e⟩, ?_⟩ Iff.rfl
              rintro ⟨_, s', h3, _, h5⟩
              cases h3
              exact h5
            | _ => rw [hr] at h; cases h
          · rw [if_neg hc] at h
            exact skip (fun hW => by obtain ⟨_, _, _, h4, _⟩ := hW; exact hc h4) h
        | crash => rw [hf] at h; cases h
        | fuelOut => rw [hf] at h; cases h
        | _ => rw [hf] at h; exact skip (fun hW => by obtain ⟨_, _, h3, _⟩ := hW; cases h3) h

def insPart (E : Env) (b : Bool) (m : PNode) : Out (List (Nat × PNode)) :=
  if isDelete (lastRepair m.repairs) then .ok []
  else if b then insertAll E m else .ok []

theorem neighbours_eq (b : Bool) (m : PNode) :
    neighbours E b m =
      match insPart E b m with
      | .panic => .panic
      | .fuelOut => .fuelOut
      | .ok i =>
        match shiftNbrs E m with
        | .panic => .panic
        | .fuelOut => .fuelOut
        | .ok s => .ok (i ++ (if b then deleteNbrs E m else []) ++ s) := rfl

theorem neighbours_ok {b : Bool} {m : PNode} {nbrs : List (Nat × PNode)}
    (h : neighbours E b m = .ok nbrs) :
    ∃ ins sh, insPart E b m = .ok ins ∧ shiftNbrs E m = .ok sh ∧
      nbrs = ins ++ (if b then deleteNbrs E m else []) ++ sh := by
  rw [neighbours_eq] at h
  cases hi : insPart E b m with
  | ok ins =>
    rw [hi] at h
    cases hsft : shiftNbrs E m with
    | ok sh =>
      rw [hsft] at h
      exact ⟨ins, sh, rfl, rfl, (Out.ok.inj h).symm⟩
    | _ => rw [hsft] at h; cases h
  | _ => rw [hi] at h; cases h

theorem insPart_ok {b : Bool} {m : PNode} {ins : List (Nat × PNode)} (h : insPart E b m = .ok ins) :
    ((isDelete (lastRepair m.repairs) = true ∨ b = false) ∧ ins = []) ∨
    (isDelete (lastRepair m.repairs) = false ∧ b = true ∧
      ∃ st rest sa, m.pstack = st :: rest ∧ stateActionsOf E.A st = some sa ∧ insertNbrs E m sa = .ok ins) := by
  unfold insPart at h
  by_cases hd : isDelete (lastRepair m.repairs) = true
  · rw [if_pos hd] at h; injection h with h; exact Or.inl ⟨Or.inl hd, h.symm⟩
  · rw [if_neg hd] at h
    by_cases hb : b = true
    · rw [if_pos hb] at h
      unfold insertAll at h
      cases hp : m.pstack with
      | nil => rw [hp] at h; cases h
      | cons st rest =>
        rw [hp] at h
        simp only at h
        cases hsa : stateActionsOf E.A st with
        | none => rw [hsa] at h; cases h
        | some sa =>
          rw [hsa] at h
          simp only at h
          exact Or.inr ⟨by simpa using hd, hb, st, rest, sa, rfl, hsa, h⟩
    · rw [if_neg hb] at h; injection h with h; exact Or.inl ⟨Or.inr (Bool.eq_false_iff.mpr hb), h.symm⟩

/-- the edges the `neighbours` closure follows out of `m`: an Insert for every token of the grammar other
than end-of-input that the stack shifts (unless the last repair is a Delete), the Delete of the next
lexeme — both with `explore_all` only and of representable cost —, the Shift of the next lexeme, and the
node with the reduced stack when the reductions under it lead to Accept -/
inductive Nbr (E : Env) (b : Bool) (m : PNode) : Nat × PNode → Prop
  | insert {t : Nat} {s' : List Nat} : b = true → isDelete (lastRepair m.repairs) = false →
      t < E.G.ntoks → t ≠ E.G.eof → feed E.G E.A t FUEL m.pstack = .shifted s' → m.cf + E.cost t ≤ U16MAX →
      Nbr E b m (insNode E m t s')
  | delete : b = true → m.laidx ≠ E.w.length → m.cf + E.cost (nextTok E.G E.w m.laidx) ≤ U16MAX →
      Nbr E b m (m.cf + E.cost (nextTok E.G E.w m.laidx),
        ⟨m.pstack, m.laidx + 1, .rep m.repairs .delete, m.cf + E.cost (nextTok E.G E.w m.laidx)⟩)
  | shift {s' : List Nat} : feed E.G E.A (nextTok E.G E.w m.laidx) FUEL m.pstack = .shifted s' →
      Nbr E b m (m.cf, ⟨s', m.laidx + 1, .rep m.repairs .shift, m.cf⟩)
  | late {s' : List Nat} : feed E.G E.A (nextTok E.G E.w m.laidx) FUEL m.pstack = .accept s' →
      m.pstack ≠ s' → Nbr E b m (m.cf, ⟨s', m.laidx, m.repairs, m.cf⟩)

theorem mem_deleteNbrs {m : PNode} {x : Nat × PNode} :
    x ∈ deleteNbrs E m ↔ m.laidx ≠ E.w.length ∧ m.cf + E.cost (nextTok E.G E.w m.laidx) ≤ U16MAX ∧
      x = (m.cf + E.cost (nextTok E.G E.w m.laidx),
        ⟨m.pstack, m.laidx + 1, .rep m.repairs .delete, m.cf + E.cost (nextTok E.G E.w m.laidx)⟩) := by
  unfold deleteNbrs
  by_cases hl : m.laidx = E.w.length
  · simp [hl]
  · by_cases hc : m.cf + E.cost (nextTok E.G E.w m.laidx) ≤ U16MAX <;> simp [hl, hc]

theorem mem_shiftNbrs {m : PNode} {sh : List (Nat × PNode)} (h : shiftNbrs E m = .ok sh) {x : Nat × PNode} :
    x ∈ sh ↔ Nbr E false m x := by
  unfold shiftNbrs at h
  constructor
  · intro hx
    cases hf : feed E.G E.A (nextTok E.G E.w m.laidx) FUEL m.pstack with
    | shifted s' => rw [hf] at h; cases h; cases List.mem_singleton.mp hx; exact .shift hf
    | accept s' =>
      rw [hf] at h
      by_cases hne : m.pstack = s'
      · simp [hne] at h; subst h; cases hx
      · simp [hne] at h; subst h; cases List.mem_singleton.mp hx; exact .late hf hne
    | error s' => rw [hf] at h; cases h; cases hx
    | _ => rw [hf] at h; cases h
  · intro hx
    cases hx with
    | insert hb => cases hb
    | delete hb => cases hb
    | shift hf => rw [hf] at h; cases h; exact List.mem_singleton.mpr rfl
    | late hf hne => rw [hf] at h; simp [hne] at h; subst h; exact List.mem_singleton.mpr rfl

/-- `b = false` leaves the two edges the second loop follows; they are edges for either value -/
theorem Nbr.mono {b : Bool} {m : PNode} {x : Nat × PNode} (h : Nbr E false m x) : Nbr E b m x := by
  cases h with
  | insert hb => cases hb
  | delete hb => cases hb
  | shift hf => exact .shift hf
  | late hf hne => exact .late hf hne

theorem mem_neighbours (hsa : StateActionsOK E.G E.A) {b : Bool} {m : PNode} {nbrs : List (Nat × PNode)}
    (h : neighbours E b m = .ok nbrs) {x : Nat × PNode} : x ∈ nbrs ↔ Nbr E b m x := by
  obtain ⟨ins, sh, hi, hsh, rfl⟩ := neighbours_ok h
  rw [List.mem_append, List.mem_append, mem_shiftNbrs hsh]
  constructor
  · rintro ((hx | hx) | hx)
    · rcases insPart_ok hi with ⟨_, rfl⟩ | ⟨hnd, hb, st, rest, sa, hp, hsa', hins⟩
      · cases hx
      · obtain ⟨t, ht, hne, s', hf, hc, rfl⟩ := (insertNbrs_ok hins x).mp hx
        exact .insert hb hnd ((hsa st sa hsa' t).mp ht).1 hne hf hc
    · by_cases hb : b = true
      · rw [if_pos hb] at hx
        obtain ⟨h1, h2, rfl⟩ := mem_deleteNbrs.mp hx
        exact .delete hb h1 h2
      · rw [if_neg hb] at hx; cases hx
    · exact hx.mono
  · intro hx
    cases hx with
    | @insert t s' hb hnd ht hne hf hc =>
      rcases insPart_ok hi with ⟨hd | hbf, _⟩ | ⟨_, _, st, rest, sa, hp, hsa', hins⟩
      · rw [hnd] at hd; cases hd
      · rw [hb] at hbf; cases hbf
      · have hmem : t ∈ sa := (hsa st sa hsa' t).mpr ⟨ht, feed_shifted_top_ne_error (hp ▸ hf)⟩
        exact Or.inl (Or.inl ((insertNbrs_ok hins _).mpr ⟨t, hmem, hne, s', hf, hc, rfl⟩))
    | delete hb h1 h2 => exact Or.inl (Or.inr (by rw [if_pos hb]; exact mem_deleteNbrs.mpr ⟨h1, h2, rfl⟩))
    | shift hf => exact Or.inr (.shift hf)
    | late hf hne => exact Or.inr (.late hf hne)

/-- every edge the implementation follows out of `m` is an edge of the search graph out of every node
`m` stands for (the node with the reduced stack: the same node, seen through `StackRel`) -/
theorem Nbr.nodeInv (H : Hyps E start) {m : PNode} (hm : NodeInv E start m) (hs : success E m = .ok false)
    {b : Bool} {x : Nat × PNode} (hx : Nbr E b m x) : x.1 = x.2.cf ∧ m.cf ≤ x.2.cf ∧ NodeInv E start x.2 := by
  cases hx with
  | @insert t s' _ hnd ht hne hf _ =>
    refine ⟨rfl, Nat.le_add_right _ _, nodeInv_child hm hs (c' := ⟨s', m.laidx⟩) hm.laidx_le
      fun n h2 h4 h6 => ⟨_, Step.insert t _ h6 ?_ ht hne ?_, rfl⟩⟩
    · intro e; rw [h4.mp e] at hnd; cases hnd
    · rw [h2]; exact applyRepair_insert.mpr ⟨s', hf, rfl⟩
  | delete _ hne _ =>
    have hlt : m.laidx < E.w.length := Nat.lt_of_le_of_ne hm.laidx_le hne
    rw [nextTok_of_lt hlt]
    refine ⟨rfl, Nat.le_add_right _ _, nodeInv_child hm hs (c' := ⟨m.pstack, m.laidx + 1⟩) hlt
      fun n h2 _ h6 => ⟨_, Step.delete E.w[m.laidx] h6 (by rw [h2]; exact List.getElem?_eq_getElem hlt), by rw [h2]⟩⟩
  | @shift s' hf =>
    have hlt := pos_lt_of_shifted H.eof hf
    refine ⟨rfl, Nat.le_refl _, nodeInv_child hm hs (c' := ⟨s', m.laidx + 1⟩) (c0 := 0) hlt
      fun n h2 _ h6 => ⟨_, Step.shift _ h6 ?_, rfl⟩⟩
    rw [h2]
    exact applyRepair_shift.mpr ⟨hlt, s', hf, rfl⟩
  | @late s' hf hne =>
    refine ⟨rfl, Nat.le_refl _, fun s hsm => ?_, hm.2⟩
    obtain ⟨n, h1, h2, h3, h4, _⟩ := reach_unfold hs (hm.1 s hsm)
    exact ⟨n, h1, by rw [h2], h3, h4, Or.inr ⟨by rw [h2]; exact hf, by rw [h2]; exact fun e => hne e.symm⟩,
      by rw [h2]; exact hm.laidx_le⟩

theorem neighbours_sound (H : Hyps E start) {m : PNode} (hm : NodeInv E start m)
    (hs : success E m = .ok false) {b : Bool} {nbrs : List (Nat × PNode)}
    (h : neighbours E b m = .ok nbrs) :
    ∀ x ∈ nbrs, x.1 = x.2.cf ∧ m.cf ≤ x.2.cf ∧ NodeInv E start x.2 :=
  fun _ hx => ((mem_neighbours H.sa h).mp hx).nodeInv H hm hs

theorem nbrs_ok (H : Hyps E start) {m : PNode} (hm : NodeInv E start m) (hs : success E m = .ok false)
    {b : Bool} {nbrs : List (Nat × PNode)} (h : neighbours E b m = .ok nbrs) :
    ∀ x ∈ nbrs, x.1 = x.2.cf ∧ NodeInv E start x.2 :=
  fun x hx => ⟨(neighbours_sound H hm hs h x hx).1, (neighbours_sound H hm hs h x hx).2.2⟩

/-- **Every edge of the search graph out of a node is among its neighbours** (with `explore_all =
false`: every Shift edge), unless its cost is not representable -/
theorem neighbours_complete_step (H : Hyps E start) {m : PNode} (hm : NodeInv E start m)
    (hs : success E m = .ok false) {b : Bool} {nbrs : List (Nat × PNode)}
    (h : neighbours E b m = .ok nbrs) {p : List Repair} (hp : p ∈ seqs m.repairs) {n n' : Node}
    (hpath : IPath E.G E.A E.w E.cost E.N (root start) p n m.cf) {r : Repair} {c0 : Nat}
    (hst : Step E.G E.A E.w E.cost E.N n r n' c0) (hb : b = true ∨ r = .shift)
    (hc : m.cf + c0 ≤ U16MAX) :
    ∃ x ∈ nbrs, x.1 = m.cf + c0 ∧ (p ++ [r]) ∈ seqs x.2.repairs := by
  obtain ⟨n0, h1, h2, h3, h4, h6⟩ := reach_unfold hs (hm.1 p hp)
  obtain ⟨rfl, _⟩ := IPath.det hpath h1
  have hrep : ∀ {st : List Nat} {la cf : Nat}, (p ++ [r]) ∈ seqs (PNode.mk st la (.rep m.repairs r) cf).repairs :=
    mem_seqs_rep.mpr ⟨p, hp, rfl⟩
  cases hst with
  | shift c' _ ha =>
    have hf := feed_of_applyShift ha
    rw [h2] at hf
    exact ⟨_, (mem_neighbours H.sa h).mpr (.shift hf), rfl, hrep⟩
  | insert t c' _ hnd ht hne ha =>
    rw [h2] at ha
    obtain ⟨s', hf, _⟩ := applyRepair_insert.mp ha
    exact ⟨_, (mem_neighbours H.sa h).mpr (.insert (hb.resolve_right fun e => Repair.noConfusion e)
      (Bool.eq_false_iff.mpr fun hd => hnd (h4.mpr hd)) ht hne hf hc), rfl, hrep⟩
  | delete t _ hw =>
    rw [h2] at hw
    have hlt : m.laidx < E.w.length := (List.getElem?_eq_some_iff.mp hw).1
    have hn : nextTok E.G E.w m.laidx = t := by rw [nextTok, hw]; rfl
    exact ⟨_, (mem_neighbours H.sa h).mpr (.delete (hb.resolve_right fun e => Repair.noConfusion e)
      (Nat.ne_of_lt hlt) (hn ▸ hc)), by rw [hn], hrep⟩

/-- a node the specification regards as a success but the implementation does not (acceptance after
reductions) has, among its neighbours, a node with the SAME repairs and cost -/
theorem neighbours_complete_late {m : PNode} (hm : NodeInv E start m)
    (hs : success E m = .ok false) {b : Bool} {nbrs : List (Nat × PNode)}
    (h : neighbours E b m = .ok nbrs) {p : List Repair} (hp : p ∈ seqs m.repairs) {n : Node}
    (hpath : IPath E.G E.A E.w E.cost E.N (root start) p n m.cf)
    (hsucc : isSuccess E.G E.A E.w E.N n = true) :
    ∃ x ∈ nbrs, x.1 = m.cf ∧ x.2.repairs = m.repairs := by
  obtain ⟨ins, sh, hi, hsh, rfl⟩ := neighbours_ok h
  obtain ⟨n0, h1, h2, h3, h4, h6⟩ := reach_unfold hs (hm.1 p hp)
  obtain ⟨rfl, _⟩ := IPath.det hpath h1
  simp only [implSucc, Bool.or_eq_false_iff, decide_eq_false_iff_not] at h6
  rcases isSuccess_iff.mp hsucc with hsucc | ⟨s', hf⟩
  · exact absurd hsucc h6.1
  · rw [h2] at hf h6
    obtain ⟨st, rest, e, hacc⟩ := feed_accept_top hf
    have hne : m.pstack ≠ s' := by
      intro e'
      rw [e', e] at h6
      simp only [hacc, beq_self_eq_true] at h6
      exact absurd h6.2 (by simp)
    exact ⟨_, List.mem_append_right _ ((mem_shiftNbrs hsh).mpr (.late hf hne)), rfl, rfl⟩

end GrmVerif.SearchImpl
