import GrmVerif.Lemmas.Term
import GrmVerif.Lemmas.LRSound
/-!
From termination of `feed` to termination of the LR driver, and the certificate over ADJACENT pairs
only (`termCheckAdj`): parse stacks are paths of the automaton from the start state, reductions keep
them paths (a goto target is an edge target), so only pairs `[s, b]` with an edge `b → s` and the single
stack `[start]` can be the top of a stack.

Converse: a local run that comes back to the same top part of its local stack (without having popped
below it) makes `feed` diverge on every stack that ends in that local stack, and for a reachable lower state there is such a stack that is a path.
-/
namespace GrmVerif.Term
open GrmVerif Rec LR Cert

variable {G : Grammar} {A : Automaton}

theorem termCheck_props {N : Nat} (h : termCheck G A N = true)
    (la : Nat) (hla : la < G.ntoks) :
    (∀ s, s < A.nstates → localRun G A la N [s] ≠ .fuelOut) ∧
    (∀ s b, s < A.nstates → b < A.nstates → localRun G A la N [s, b] ≠ .fuelOut) := by
  simp only [termCheck, List.all_eq_true, List.mem_range, Bool.and_eq_true, bne_iff_ne, ne_eq] at h
  exact ⟨fun s hs => (h la hla s hs).1, fun s b hs hb => (h la hla s hs).2 b hb⟩

/-- from termination of `feed` on the stacks that are paths to termination of the driver: an input of
`n` lexemes needs at most `n + 1` runs of `feed`, because a certified table never shifts end-of-input -/
theorem run_total_of_feed (P : Props G A)
    (hfeed : ∀ la, la < G.ntoks → ∀ stack labels, Path A stack labels → ∃ fuel, feed G A la fuel stack ≠ .fuelOut)
    {w : List Nat} (hw : InputOk G w) (c : Cfg) (hinv : Inv G A w c) : ∃ fuel, run G A w fuel c ≠ .fuelOut := by
  have key : ∀ (k : Nat) (c : Cfg), Inv G A w c → w.length + 1 - c.laidx ≤ k →
      ∃ fuel, run G A w fuel c ≠ .fuelOut := by
    intro k
    induction k with
    | zero =>
      intro c hinv hk
      exact absurd (Nat.lt_of_lt_of_le (Nat.sub_pos_of_lt (Nat.lt_succ_of_le hinv.inRange)) hk) (Nat.lt_irrefl 0)
    | succ k ih =>
      intro c hinv hk
      obtain ⟨fuel, hf⟩ := hfeed _ (nextTok_lt hw P.wf c.laidx) c.pstack _ hinv.path
      obtain ⟨ps, b, hr, hb, -, -⟩ := feed_inv hf
      have hs := steps_of_reds hr c.astack
      -- after the reductions the driver shifts (one lexeme less to go) or ends
      cases hstep : LR.step G A w ⟨b, redsT G ps c.astack, c.laidx⟩ with
      | done o =>
        obtain ⟨f', hf'⟩ := run_of_steps hs hstep
        exact ⟨f', by rw [hf']; exact fun he => step_done_ne_fuelOut _ (he ▸ hstep)⟩
      | cont c' =>
        obtain ⟨_, _, s', _, _, rfl⟩ | ⟨_, _, hred, _⟩ := step_cont_inv hstep
        · obtain ⟨f, hf2⟩ := ih _ (steps_inv P hw (hs.trans (Steps.single hstep)) hinv)
            (by simp only [shifted]; rw [Nat.sub_add_eq]; exact Nat.sub_le_of_le_add hk)
          obtain ⟨f', hf'⟩ := run_of_steps' (hs.trans (Steps.single hstep)) f
          exact ⟨f', by rw [hf']; exact hf2⟩
        · exact absurd hred (hb _ _)
  exact key _ c hinv (Nat.le_refl _)

/-- `xs` (top first) is a path of the automaton from the start state -/
def IsPath (A : Automaton) (xs : List Nat) : Prop := ∃ labels, Path A xs labels

theorem IsPath.start (A : Automaton) : IsPath A [A.start] := ⟨[], .base⟩

theorem IsPath.single {A : Automaton} {s : Nat} (h : IsPath A [s]) : s = A.start := by
  obtain ⟨labels, hp⟩ := h
  cases hp with
  | base => rfl

theorem IsPath.tail {A : Automaton} {t s : Nat} {rest : List Nat} (h : IsPath A (t :: s :: rest)) :
    IsPath A (s :: rest) ∧ ∃ X, A.edge s X = some t := by
  obtain ⟨labels, hp⟩ := h
  cases hp with
  | step _ _ _ labels1 X hp1 he => exact ⟨⟨labels1, hp1⟩, X, he⟩

theorem IsPath.push {A : Automaton} {t s : Nat} {rest : List Nat} {X : Sym} (h : IsPath A (s :: rest))
    (he : A.edge s X = some t) : IsPath A (t :: s :: rest) := by
  obtain ⟨labels, hp⟩ := h
  exact ⟨X :: labels, .step s t rest labels X hp he⟩

theorem IsPath.states_lt (P : Props G A) {xs : List Nat} (h : IsPath A xs) :
    ∀ s ∈ xs, s < A.nstates := by
  obtain ⟨labels, hp⟩ := h
  exact hp.states_lt P

/-- everything the certificate says about a reduction on a path stack -/
theorem IsPath.reduce (P : Props G A) {la : Nat} (hla : la < G.ntoks) {a : List Nat} {p s' : Nat}
    (hp : IsPath A a) (h : Red G A la a p s') :
    ∃ st tl prior rest, a = st :: tl ∧ p ≠ G.startProd ∧ p < G.nprods ∧
      HasItem (A.closed st) p (G.rhs p).length ∧ a.drop (G.rhs p).length = prior :: rest ∧
      A.edge prior (.rule (G.lhs p)) = some s' ∧ IsPath A (red G p s' a) := by
  obtain ⟨st, tl, prior, rest, rfl, hact, hd, hg⟩ := id h
  obtain ⟨labels, hpath⟩ := hp
  obtain ⟨hpne, hplt, hitem⟩ := P.actReduce st la p (hpath.states_lt P st (by simp)) hla hact
  obtain ⟨-, -, g, hr, hpath'⟩ := hpath.reduce P hla hact
  obtain ⟨-, rfl⟩ := hr.det h
  refine ⟨st, tl, prior, rest, rfl, hpne, hplt, hitem, hd, ?_, _, hpath'⟩
  rw [red, hd] at hpath'
  cases hpath' with
  | step _ _ _ _ _ _ he => exact he

/-- under the certificate, reductions keep a path a path: the goto target is an edge target -/
theorem stepClosed_isPath {G : Grammar} {A : Automaton} (P : Props G A) (la : Nat) (hla : la < G.ntoks) :
    StepClosed G A la (IsPath A) := by
  intro st tl p prior rest s' hp hact hd hg
  obtain ⟨_, _, _, _, -, -, -, -, -, -, hp'⟩ := hp.reduce P hla ⟨st, tl, prior, rest, rfl, hact, hd, hg⟩
  rwa [red, hd] at hp'

theorem adj_iff (A : Automaton) (b s : Nat) : adj A b s = true ↔ ∃ X, A.edge b X = some s := by
  simp only [adj, List.any_eq_true, beq_iff_eq]
  constructor
  · rintro ⟨e, _, he⟩; exact ⟨e.1, he⟩
  · rintro ⟨X, hX⟩; exact ⟨(X, s), edge_mem hX, hX⟩

theorem termCheckAdj_props {N : Nat} (h : termCheckAdj G A N = true)
    (la : Nat) (hla : la < G.ntoks) :
    localRun G A la N [A.start] ≠ .fuelOut ∧
    (∀ s b, b < A.nstates → (∃ X, A.edge b X = some s) → localRun G A la N [s, b] ≠ .fuelOut) := by
  simp only [termCheckAdj, List.all_eq_true, List.mem_range, Bool.and_eq_true, Bool.or_eq_true,
    bne_iff_ne, ne_eq] at h
  refine ⟨(h la hla).1, ?_⟩
  rintro s b hb ⟨X, hX⟩
  rcases (h la hla).2 b hb (X, s) (edge_mem hX) with h1 | h1
  · exact absurd hX h1
  · exact h1

theorem ite_some_eq_none {α : Type} {c : Prop} [Decidable c] {a : α} {x : Option α} :
    (if c then some a else x) = none ↔ ¬ c ∧ x = none := by
  by_cases h : c <;> simp [h]

theorem failAdj_none_iff (G : Grammar) (A : Automaton) (N : Nat) :
    failAdj G A N = none ↔ termCheckAdj G A N = true := by
  -- both sides unfold to the same statement about every lookahead and edge, up to `(a → b) ↔ (¬ a ∨ b)`
  simp only [failAdj, termCheckAdj, List.findSome?_eq_none_iff, List.all_eq_true, List.mem_range,
    ite_some_eq_none, Bool.and_eq_true, Bool.or_eq_true, bne_iff_ne, ne_eq, beq_iff_eq, not_and, and_true]
  constructor
  · intro h la hla
    exact ⟨(h la hla).1, fun b hb e he => Decidable.imp_iff_not_or.mp ((h la hla).2 b hb e he)⟩
  · intro h la hla
    exact ⟨(h la hla).1, fun b hb e he => Decidable.imp_iff_not_or.mpr ((h la hla).2 b hb e he)⟩

theorem termCheckAdj_of_termCheck {G : Grammar} {A : Automaton} (P : Props G A) {N : Nat}
    (h : termCheck G A N = true) : termCheckAdj G A N = true := by
  simp only [termCheckAdj, List.all_eq_true, List.mem_range, Bool.and_eq_true, Bool.or_eq_true,
    bne_iff_ne, ne_eq]
  intro la hla
  obtain ⟨H1, H2⟩ := termCheck_props h la hla
  refine ⟨H1 _ P.startLt, ?_⟩
  intro b hb e he
  exact Or.inr (H2 e.2 b (P.edgeTarget b hb e he).1 hb)

theorem feed_total_adj {G : Grammar} {A : Automaton} (P : Props G A) {N : Nat}
    (ht : termCheckAdj G A N = true) (la : Nat) (hla : la < G.ntoks) (stack : List Nat)
    (hp : IsPath A stack) : ∃ fuel, feed G A la fuel stack ≠ .fuelOut := by
  obtain ⟨H1, H2⟩ := termCheckAdj_props ht la hla
  refine feed_total_of G A la N (IsPath A) (stepClosed_isPath P la hla) ?_ ?_ stack.length stack
    (Nat.le_refl _) hp
  · intro s hs; rw [hs.single]; exact H1
  · intro s b rest hs
    obtain ⟨hbr, hX⟩ := hs.tail
    exact H2 s b (hbr.states_lt P b (by simp)) hX

theorem run_total_adj (P : Props G A) {N : Nat}
    (ht : termCheckAdj G A N = true) {w : List Nat} (hw : InputOk G w) (c : Cfg) (hinv : Inv G A w c) :
    ∃ fuel, run G A w fuel c ≠ .fuelOut :=
  run_total_of_feed P (fun la hla stack labels hp => feed_total_adj P ht la hla stack ⟨labels, hp⟩) hw c hinv

theorem run_total {G : Grammar} {A : Automaton} (P : Props G A) {N : Nat} (ht : termCheck G A N = true)
    {w : List Nat} (hw : InputOk G w) :
    ∀ (k : Nat) (c : Cfg), Inv G A w c → w.length - c.laidx ≤ k → ∃ fuel, run G A w fuel c ≠ .fuelOut :=
  fun _ c hinv _ => run_total_adj P (termCheckAdj_of_termCheck P ht) hw c hinv

/-- **A local loop is a real divergence.** If `k ≥ 1` local reductions lead from `ts` to `ts ++ vs` (the
same top part again; `vs = []` is a return to the same stack, `vs ≠ []` a stack that grows for ever),
and a stack with top part `ts` is reached from `xs` by local reductions, then `feed` never ends on
any stack `xs ++ ys`. -/
theorem cycle_diverges {G : Grammar} {A : Automaton} {la : Nat} {xs ts bs vs : List Nat} {pre k : Nat}
    (hpre : localIter G A la pre xs = some (ts ++ bs)) (hk : 0 < k)
    (hcyc : localIter G A la k ts = some (ts ++ vs))
    (ys : List Nat) : ∀ fuel, feed G A la fuel (xs ++ ys) = .fuelOut := by
  obtain ⟨ps, -, hps⟩ := localIter_eq_some.mp hpre
  obtain ⟨qs, rfl, hqs⟩ := localIter_eq_some.mp hcyc
  -- `m` turns of the loop can be made from any stack with top part `ts`
  have turns : ∀ (m : Nat) (zs : List Nat), ∃ rs zs', Reds G A la (ts ++ zs) rs (ts ++ zs') ∧ m ≤ rs.length := by
    intro m
    induction m with
    | zero => exact fun zs => ⟨[], zs, .nil _, Nat.le_refl 0⟩
    | succ m ih =>
      intro zs
      obtain ⟨rs, zs', h, hm⟩ := ih zs
      refine ⟨rs ++ qs, vs ++ zs', h.trans ?_, ?_⟩
      · rw [← List.append_assoc]; exact hqs.append zs'
      · rw [List.length_append]; exact Nat.add_le_add hm hk
  -- so a run of reductions from `xs ++ ys` that ends would be longer than any number
  intro fuel
  apply Classical.byContradiction
  intro hne
  obtain ⟨ps0, b0, h0, hb0, hl0, -⟩ := feed_inv hne
  obtain ⟨rs, zs', hr, hm⟩ := turns fuel (bs ++ ys)
  rw [← List.append_assoc] at hr
  obtain ⟨_, rfl, -⟩ := h0.stuck_ext hb0 ((hps.append ys).trans hr)
  rw [List.length_append, List.length_append] at hl0
  exact Nat.lt_irrefl _ (Nat.lt_of_le_of_lt (Nat.le_trans hm (Nat.le_add_left _ _))
    (Nat.lt_of_le_of_lt (Nat.le_add_right _ _) hl0))

theorem returnsTo_sound {la : Nat} {target : List Nat} :
    ∀ (fuel k0 : Nat) (xs : List Nat) (k : Nat), returnsTo G A la target fuel k0 xs = some k →
      ∃ j vs, 0 < j ∧ localIter G A la j xs = some (target ++ vs) := by
  intro fuel
  induction fuel with
  | zero => intro k0 xs k h; cases h
  | succ f ih =>
    intro k0 xs k h
    simp only [returnsTo] at h
    cases hs : localStep G A la xs with
    | none => rw [hs] at h; cases h
    | some xs1 =>
      rw [hs] at h
      simp only at h
      by_cases he : target.isPrefixOf xs1 = true
      · obtain ⟨vs, hvs⟩ := List.isPrefixOf_iff_prefix.mp he
        exact ⟨1, vs, Nat.one_pos, by rw [localIter_succ hs, hvs]; rfl⟩
      · rw [if_neg he] at h
        obtain ⟨j, vs, hj, hit⟩ := ih (k0 + 1) xs1 k h
        exact ⟨j + 1, vs, Nat.succ_pos _, by rw [localIter_succ hs]; exact hit⟩

theorem findCycle_sound {la W : Nat} :
    ∀ (steps pre0 : Nat) (xs : List Nat) (c : Nat × Nat × Nat), findCycle G A la W steps pre0 xs = some c →
      ∃ pre ts bs vs j, localIter G A la pre xs = some (ts ++ bs) ∧ 0 < j ∧
        localIter G A la j ts = some (ts ++ vs) := by
  intro steps
  induction steps with
  | zero => intro pre0 xs c h; cases h
  | succ r ih =>
    intro pre0 zs c h
    simp only [findCycle] at h
    cases hr : [1, 2, zs.length].findSome? (fun m =>
        (returnsTo G A la (zs.take m) W 0 (zs.take m)).map (fun k => (m, k))) with
    | some mk =>
      obtain ⟨m, _, hm⟩ := List.exists_of_findSome?_eq_some hr
      obtain ⟨k, hrt, -⟩ := Option.map_eq_some_iff.mp hm
      obtain ⟨j, vs, hj, hit⟩ := returnsTo_sound _ _ _ _ hrt
      exact ⟨0, zs.take m, zs.drop m, vs, j, by rw [List.take_append_drop]; rfl, hj, hit⟩
    | none =>
      rw [hr] at h
      simp only at h
      cases hs : localStep G A la zs with
      | none => rw [hs] at h; cases h
      | some zs' =>
        rw [hs] at h
        obtain ⟨pre, ts, bs, vs, j, h1, hj, h2⟩ := ih _ zs' c h
        exact ⟨pre + 1, ts, bs, vs, j, by rw [localIter_succ hs]; exact h1, hj, h2⟩

theorem findCycle_diverges {la W : Nat} {xs : List Nat} {steps pre0 : Nat}
    {c : Nat × Nat × Nat} (h : findCycle G A la W steps pre0 xs = some c) (ys : List Nat) :
    ∀ fuel, feed G A la fuel (xs ++ ys) = .fuelOut := by
  obtain ⟨pre, ts, bs, vs, j, h1, hj, h2⟩ := findCycle_sound steps pre0 xs c h
  exact cycle_diverges h1 hj h2 ys

theorem reachFrom_sound {A : Automaton} : ∀ (fuel : Nat) (seen : List Nat),
    (∀ s ∈ seen, ∃ rest, IsPath A (s :: rest)) → ∀ s ∈ reachFrom A fuel seen, ∃ rest, IsPath A (s :: rest) := by
  intro fuel
  induction fuel with
  | zero => intro seen h; simpa [reachFrom] using h
  | succ f ih =>
    intro seen h
    simp only [reachFrom]
    split
    · exact h
    · apply ih
      intro s hs
      rcases List.mem_append.mp hs with hs | hs
      · exact h s hs
      · rw [List.mem_eraseDups] at hs
        have hs := (List.mem_filter.mp hs).1
        obtain ⟨b, hb, hs⟩ := List.mem_flatMap.mp hs
        obtain ⟨e, _, he⟩ := List.mem_filterMap.mp hs
        obtain ⟨rest, hp⟩ := h b hb
        exact ⟨b :: rest, hp.push he⟩

theorem reachable_sound {A : Automaton} {s : Nat} (h : s ∈ reachable A) : ∃ rest, IsPath A (s :: rest) := by
  refine reachFrom_sound A.nstates [A.start] ?_ s h
  intro x hx
  simp only [List.mem_singleton] at hx
  subst hx
  exact ⟨[], IsPath.start A⟩

end GrmVerif.Term
