import GrmVerif.Lemmas.MaxCostsScan
import GrmVerif.Lemmas.RuleGraph
/-! The model of `rule_max_costs`, part 2: what the sum of a right-hand side (`curSum`, `MinCostsImpl.lean`) says of the
sentences it derives, the certificate `maxCert` under which no sum overflows, and the invariant of the sweeps (recursive
rules and the rank that bounds the number of sweeps: `RuleGraph`). -/
namespace GrmVerif.Impl
open GrmVerif Spec

theorem cget_set (costs : List Nat) (i v r : Nat) (hi : i < costs.length) :
    cget (costs.set i v) r = if r = i then v else cget costs r :=
  getD_set costs i v r 0 hi

theorem curSum_attained {G : Grammar} {tc c : Nat → Nat} : ∀ l : List Sym,
    (∀ q, Sym.rule q ∈ l → ∃ w, Derives G (.rule q) w ∧ cost tc w = c q) →
    ∃ w, DerivesSeq G l w ∧ cost tc w = curSum tc c l := by
  intro l
  induction l with
  | nil => intro _; exact ⟨[], .nil, rfl⟩
  | cons s rest ih =>
    intro h
    obtain ⟨w2, hd2, hc2⟩ := ih fun q hq => h q (List.mem_cons_of_mem _ hq)
    cases s with
    | tok t => exact ⟨[t] ++ w2, .cons _ _ [t] w2 (.tok t) hd2, by rw [cost_append, hc2]; simp [curSum, cost]⟩
    | rule q =>
      obtain ⟨w1, hd1, hc1⟩ := h q List.mem_cons_self
      exact ⟨w1 ++ w2, .cons _ _ w1 w2 hd1 hd2, by rw [cost_append, hc1, hc2]; rfl⟩

theorem curSum_bound {G : Grammar} {tc c : Nat → Nat} : ∀ (l : List Sym) (w : List Nat), DerivesSeq G l w →
    (∀ q, Sym.rule q ∈ l → ∀ w', Derives G (.rule q) w' → cost tc w' ≤ c q) → cost tc w ≤ curSum tc c l := by
  intro l
  induction l with
  | nil => intro w h _; cases h; exact Nat.le_refl _
  | cons s rest ih =>
    intro w h hb
    cases h with
    | cons _ _ w1 w2 h1 h2 =>
      have ih' := ih w2 h2 fun q hq => hb q (List.mem_cons_of_mem _ hq)
      rw [cost_append]
      cases s with
      | tok t => cases h1; exact Nat.add_le_add (by simp [cost]) ih'
      | rule q => exact Nat.add_le_add (hb q List.mem_cons_self w1 h1) ih'

/-- every rule has at least one production (true of every `YaccGrammar`: a rule is created by its first
production) -/
def everyRuleHasProd (G : Grammar) : Bool := (List.range G.nrules).all (fun r => !(G.prodsOf r).isEmpty)

theorem everyRuleHasProd_iff (G : Grammar) :
    everyRuleHasProd G = true ↔ ∀ r, r < G.nrules → G.prodsOf r ≠ [] := by
  simp only [everyRuleHasProd, List.all_eq_true, List.mem_range, Bool.not_eq_true', List.isEmpty_eq_false_iff]

/-- **no sum overflows**: `U` bounds the interim and final costs of the rules that are not recursive — for
every production of such a rule, the costs of the symbols before the first recursive rule (tokens with
their cost, rules with `U`) add up to less than `u16::MAX`, and if the production contains no recursive
rule the sum is at most `U` of its rule -/
def maxCert (G : Grammar) (tc : Nat → Nat) (U : Nat → Nat) : Bool :=
  (List.range G.nprods).all (fun p =>
    isCyc G (G.lhs p) ||
    (decide (prefSum tc U (isCyc G) (G.rhs p) < U16MAX) &&
      (hasStop (isCyc G) (G.rhs p) || decide (curSum tc U (G.rhs p) ≤ U (G.lhs p)))))

theorem maxCert_iff {G : Grammar} {tc U : Nat → Nat} :
    maxCert G tc U = true ↔ ∀ p, p < G.nprods → isCyc G (G.lhs p) = false →
      prefSum tc U (isCyc G) (G.rhs p) < U16MAX ∧
      (hasStop (isCyc G) (G.rhs p) = false → curSum tc U (G.rhs p) ≤ U (G.lhs p)) := by
  simp only [maxCert, List.all_eq_true, List.mem_range]
  refine forall_congr' fun p => imp_congr_right fun _ => ?_
  cases isCyc G (G.lhs p) <;> cases hasStop (isCyc G) (G.rhs p) <;> simp

/-- what the loop keeps true of one rule `r` with cost `v` and flag `dn`, the other rules as in `costs`/`done`: a cost
`u16::MAX` is final and means that the rule is, or reaches, a recursive rule; a finished finite cost is the exact
maximum of the rule's sentences, and the rules the rule refers to are finished and finite; an interim cost is at most the
present sum of some production (so the next interim or final cost is not below it: the `debug_assert!`s) -/
structure RuleInv (G : Grammar) (tc : List Nat) (U : Nat → Nat) (costs : List Nat) (done : List Bool)
    (r v : Nat) (dn : Bool) : Prop where
  le : v ≤ U16MAX
  mx : v = U16MAX → dn = true ∧ Inf G r
  cyc : r < G.nrules → Cyc G r → v = U16MAX
  fin : dn = true → v ≠ U16MAX →
    (∀ q, Succ G r q → vget done q = true ∧ cget costs q ≠ U16MAX) ∧
    (∃ w, Derives G (.rule r) w ∧ cost (tcF tc) w = v) ∧ ∀ w, Derives G (.rule r) w → cost (tcF tc) w ≤ v
  ub : v ≠ U16MAX → v ≤ U r
  mono : r < G.nrules → dn = false → ∃ p ∈ G.prodsOf r, v ≤ curSum (tcF tc) (cget costs) (G.rhs p)

/-- a rule that is, or reaches, a recursive rule is finished at `u16::MAX` -/
theorem RuleInv.infinite {G : Grammar} {tc : List Nat} {U : Nat → Nat} {costs : List Nat} {done : List Bool} {r : Nat}
    (hinf : Inf G r) : RuleInv G tc U costs done r U16MAX true :=
  { le := Nat.le_refl _, mx := fun _ => ⟨rfl, hinf⟩, cyc := fun _ _ => rfl, fin := fun _ h => absurd rfl h,
    ub := fun h => absurd rfl h, mono := fun _ h => nomatch h }

/-- the other rules may change as long as finished rules stay as they are and no sum gets smaller -/
theorem RuleInv.ctx {G : Grammar} {tc : List Nat} {U : Nat → Nat} {costs costs' : List Nat} {done done' : List Bool}
    {r v : Nat} {dn : Bool} (h : RuleInv G tc U costs done r v dn)
    (hkeep : ∀ q, vget done q = true → vget done' q = true ∧ cget costs' q = cget costs q)
    (hsum : ∀ p, curSum (tcF tc) (cget costs) (G.rhs p) ≤ curSum (tcF tc) (cget costs') (G.rhs p)) :
    RuleInv G tc U costs' done' r v dn :=
  ⟨h.le, h.mx, h.cyc, fun hd hv => ⟨fun q hq => by
      obtain ⟨h1, h2⟩ := (h.fin hd hv).1 q hq
      obtain ⟨k1, k2⟩ := hkeep q h1
      exact ⟨k1, k2 ▸ h2⟩, (h.fin hd hv).2⟩, h.ub, fun hr hd => by
      obtain ⟨p, hp, hle⟩ := h.mono hr hd
      exact ⟨p, hp, Nat.le_trans hle (hsum p)⟩⟩

structure XInv (G : Grammar) (tc : List Nat) (U : Nat → Nat) (s : MX) : Prop where
  clen : s.costs.length = G.nrules
  dlen : s.done.length = G.nrules
  rule : ∀ r, RuleInv G tc U s.costs s.done r (cget s.costs r) (vget s.done r)

theorem XInv.notCyc {G : Grammar} {tc : List Nat} {U : Nat → Nat} {s : MX} (hI : XInv G tc U s) {i : Nat}
    (hi : i < G.nrules) (hd : vget s.done i = false) : ¬ Cyc G i := by
  intro hc
  have := ((hI.rule i).mx ((hI.rule i).cyc hi hc)).1
  rw [hd] at this; cases this

theorem XInv.stop_of_cyc {G : Grammar} (hwf : G.wf = true) {tc : List Nat} {U : Nat → Nat} {s : MX}
    (hI : XInv G tc U s) (q : Nat) (h : isCyc G q = true) : isMaxB s.costs q = true := by
  have hc := (isCyc_iff G hwf q).mp h
  exact isMaxB_iff.mpr ((hI.rule q).cyc (reach_lt hwf hc) hc)

theorem XInv.isCyc_lhs {G : Grammar} (hwf : G.wf = true) {tc : List Nat} {U : Nat → Nat} {s : MX}
    (hI : XInv G tc U s) {i : Nat} (hi : i < G.nrules) (hd : vget s.done i = false) {p : Nat}
    (hp : p ∈ G.prodsOf i) : isCyc G (G.lhs p) = false :=
  (mem_prodsOf.mp hp).2 ▸ Bool.eq_false_iff.mpr fun h => hI.notCyc hi hd ((isCyc_iff G hwf i).mp h)

/-- the certificate read at the present costs: a recursive rule is at `u16::MAX`, every other cost is below its `U` -/
theorem XInv.cert {G : Grammar} (hwf : G.wf = true) {tc : List Nat} {U : Nat → Nat} {s : MX}
    (hI : XInv G tc U s) (hcert : maxCert G (tcF tc) U = true) {i : Nat} (hi : i < G.nrules)
    (hd : vget s.done i = false) {p : Nat} (hp : p ∈ G.prodsOf i) :
    ProdFits G tc s.costs p ∧
    (hasStop (isMaxB s.costs) (G.rhs p) = false → curSum (tcF tc) (cget s.costs) (G.rhs p) ≤ U i) := by
  obtain ⟨hp1, hp2⟩ := mem_prodsOf.mp hp
  obtain ⟨c1, c2⟩ := maxCert_iff.mp hcert p hp1 (hI.isCyc_lhs hwf hi hd hp)
  have hub : ∀ q, isMaxB s.costs q = false → cget s.costs q ≤ U q :=
    fun q hq => (hI.rule q).ub (isMaxB_eq_false.mp hq)
  refine ⟨⟨hp1, Nat.lt_of_le_of_lt (prefSum_mono (hI.stop_of_cyc hwf) hub _) c1⟩, fun hns => ?_⟩
  have hfin := (hasStop_eq_false _ _).mp hns
  have hns' : hasStop (isCyc G) (G.rhs p) = false := (hasStop_eq_false _ _).mpr fun q hq =>
    Bool.eq_false_iff.mpr fun hc => absurd (hI.stop_of_cyc hwf q hc) (by simp [hfin q hq])
  exact Nat.le_trans (curSum_mono_mem _ fun q hq => hub q (hfin q hq)) (hp2 ▸ c2 hns')

end GrmVerif.Impl
