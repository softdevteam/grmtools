import GrmVerif.Model.RecLive
import GrmVerif.Lemmas.LRIter
/-!
Specification vocabulary of C07 (`Runs`, `RecovererOK`, `Spaced`, `AllButLastRepaired`) and the
lemmas about the recovering driver that need no certificate of the automaton. The three drivers
`recRun`, `recRunF`, `recRunO` make the same iterations; `Seg` is their run as a relation, error by error.
-/
namespace GrmVerif.C07
open Rec LR

/-- from `c` the plain parse shifts `k` further lexemes without an error, or accepts before that -/
inductive Runs (G : Grammar) (A : Automaton) (w : List Nat) : Nat → Pos → Prop
  | zero (c : Pos) : Runs G A w 0 c
  | acc (c : Pos) (k : Nat) (s : List Nat) : feed G A (nextTok G w c.pos) FUEL c.stack = .accept s → Runs G A w k c
  | shift (c : Pos) (k : Nat) (s : List Nat) : feed G A (nextTok G w c.pos) FUEL c.stack = .shifted s →
      Runs G A w k ⟨s, c.pos + 1⟩ → Runs G A w (k + 1) c

/-- what a well-behaved recoverer guarantees: it never moves backwards, and from where it leaves
the parser a plain parse continues over `N` lexemes or to acceptance -/
def RecovererOK (G : Grammar) (A : Automaton) (w : List Nat) (N : Nat)
    (recover : Pos → Option (Pos × List (List Repair))) : Prop :=
  ∀ c c' rs, recover c = some (c', rs) → rs ≠ [] → c.pos ≤ c'.pos ∧ Runs G A w N c'

/-- consecutive errors are at least `N` lexemes apart -/
def Spaced (N : Nat) : List Err → Prop
  | [] => True
  | [_] => True
  | e1 :: e2 :: rest => e1.pos + N ≤ e2.pos ∧ Spaced N (e2 :: rest)

/-- every error except possibly the last has a repair sequence -/
def AllButLastRepaired : List Err → Prop
  | [] => True
  | [_] => True
  | e1 :: e2 :: rest => e1.repairs ≠ [] ∧ AllButLastRepaired (e2 :: rest)

theorem spaced_cons {N : Nat} {e : Err} {l : List Err} (hl : Spaced N l)
    (hh : ∀ e2, l.head? = some e2 → e.pos + N ≤ e2.pos) : Spaced N (e :: l) := by
  cases l with
  | nil => trivial
  | cons e2 rest => exact ⟨hh e2 rfl, hl⟩

theorem allButLast_cons {e : Err} {l : List Err} (hl : AllButLastRepaired l) (he : l ≠ [] → e.repairs ≠ []) :
    AllButLastRepaired (e :: l) := by
  cases l with
  | nil => trivial
  | cons e2 rest => exact ⟨he (by simp), hl⟩

theorem spaced_span {N len : Nat} : ∀ {rest : List Err} {e : Err}, Spaced N (e :: rest) →
    (∀ x ∈ e :: rest, x.pos ≤ len) → e.pos + rest.length * N ≤ len
  | [], e, _, hb => by simpa using hb e (by simp)
  | e2 :: rest, e, hs, hb => by
    have := spaced_span hs.2 (fun x hx => hb x (List.mem_cons_of_mem _ hx))
    have := hs.1
    rw [List.length_cons, Nat.succ_mul]
    omega

theorem Runs.le {G : Grammar} {A : Automaton} {w : List Nat} {k : Nat} {c : Pos} (h : Runs G A w k c) :
    ∀ j, j ≤ k → Runs G A w j c := by
  induction h with
  | zero c => intro j hj; rw [Nat.eq_zero_of_le_zero hj]; exact .zero c
  | acc c k s ha => intro j _; exact .acc c j s ha
  | shift c k s hs _ ih =>
    intro j hj
    cases j with
    | zero => exact .zero c
    | succ j => exact .shift c j s hs (ih j (Nat.le_of_succ_le_succ hj))

theorem Runs.of_continueFrom (G : Grammar) (A : Automaton) (w : List Nat) (N : Nat) :
    ∀ (fuel : Nat) (c : Pos) (m n : Nat) (acc : Bool) (p : Nat),
      continueFrom G A w fuel c m = (n, acc, p) → (acc = true ∨ m + N ≤ n) → Runs G A w N c := by
  -- a count that stopped without accepting has met its bound only if the bound is 0
  have stopped : ∀ (N : Nat) (c : Pos) (m n : Nat) (acc : Bool) (p : Nat),
      (m, false, c.pos) = (n, acc, p) → (acc = true ∨ m + N ≤ n) → Runs G A w N c := by
    intro N c m n acc p h hv
    cases h
    obtain rfl : N = 0 := hv.elim nofun (fun h => by omega)
    exact .zero c
  intro fuel
  induction fuel generalizing N with
  | zero => intro c m n acc p h; exact stopped N c m n acc p h
  | succ f ih =>
    intro c m n acc p h hv
    simp only [continueFrom] at h
    cases hf : feed G A (nextTok G w c.pos) FUEL c.stack with
    | shifted s =>
      rw [hf] at h
      cases N with
      | zero => exact .zero c
      | succ N' => exact .shift c N' s hf (ih N' _ (m + 1) n acc p h (hv.imp id (by omega)))
    | accept s => exact .acc c N s hf
    | _ => rw [hf] at h; exact stopped N c m n acc p h hv

theorem feed_ge {G : Grammar} {A : Automaton} {la f f' : Nat} {stack : List Nat} {r : Fed}
    (h : feed G A la f stack = r) (hr : r ≠ .fuelOut) (hle : f ≤ f') : feed G A la f' stack = r := by
  obtain ⟨ps, b, hps, hb, hl, he⟩ := feed_inv (h ▸ hr)
  rw [feed_eq_stop hps hb (Nat.lt_of_lt_of_le hl hle), ← he, h]

theorem Runs.eq_zero_of_error {G : Grammar} {A : Automaton} {w : List Nat} {k : Nat} {c : Pos}
    (h : Runs G A w k c) {ff : Nat} (hff : FUEL ≤ ff) {s : List Nat}
    (hf : feed G A (nextTok G w c.pos) ff c.stack = .error s) : k = 0 := by
  cases h with
  | zero _ => rfl
  | acc _ _ s' ha => rw [feed_ge ha (by simp) hff] at hf; cases hf
  | shift _ _ s' hs _ => rw [feed_ge hs (by simp) hff] at hf; cases hf

theorem Runs.of_shifted {G : Grammar} {A : Automaton} {w : List Nat} {k : Nat} {c : Pos}
    (h : Runs G A w k c) {ff : Nat} (hff : FUEL ≤ ff) {s : List Nat}
    (hf : feed G A (nextTok G w c.pos) ff c.stack = .shifted s) :
    ∃ k', Runs G A w k' ⟨s, c.pos + 1⟩ ∧ k ≤ k' + 1 := by
  cases h with
  | zero _ => exact ⟨0, .zero _, Nat.zero_le _⟩
  | acc _ _ s' ha => rw [feed_ge ha (by simp) hff] at hf; cases hf
  | shift _ k0 s' hs hr =>
    rw [feed_ge hs (by simp) hff] at hf
    injection hf with hf; subst hf; exact ⟨k0, hr, Nat.le_refl _⟩

theorem recRunF_FUEL (G : Grammar) (A : Automaton) (w : List Nat)
    (recover : Pos → Option (Pos × List (List Repair))) :
    ∀ (fuel : Nat) (c : Pos) (errs : List Err),
      recRunF G A w recover FUEL fuel c errs = recRun G A w recover fuel c errs := by
  intro fuel
  induction fuel with
  | zero => intro c errs; rfl
  | succ n ih =>
    intro c errs
    -- the two bodies differ in the recursive calls only
    simp only [recRunF, recRun, ih]
    rfl

section
variable (G : Grammar) (A : Automaton) (w : List Nat) (recover : Pos → Option (Pos × List (List Repair)))

theorem recRunO_mono' (ff ff' : Nat) (hff : ff ≤ ff') :
    ∀ (fuel : Nat) (c : Pos) (errs : List Err) (r : Bool × List Err),
      recRunO G A w recover ff fuel c errs = some r →
      ∀ fuel', fuel ≤ fuel' → recRunO G A w recover ff' fuel' c errs = some r := by
  intro fuel
  induction fuel with
  | zero => intro c errs r h; simp [recRunO] at h
  | succ n ih =>
    intro c errs r h fuel' hle
    cases fuel' with
    | zero => exact absurd hle (Nat.not_succ_le_zero _)
    | succ m =>
      have hle' : n ≤ m := Nat.le_of_succ_le_succ hle
      simp only [recRunO] at h ⊢
      -- `feed` did not run out of fuel (the answer would be `none`), so it answers the same with more
      rw [feed_ge rfl (fun hfo => by rw [hfo] at h; cases h) hff]
      cases hf : feed G A (nextTok G w c.pos) ff c.stack with
      | shifted s => rw [hf] at h; exact ih _ _ _ h m hle'
      | error s =>
        rw [hf] at h
        simp only [] at h ⊢
        cases hr : recover ⟨s, c.pos⟩ with
        | none => rw [hr] at h; exact h
        | some x =>
          obtain ⟨c', rs⟩ := x
          rw [hr] at h
          simp only [] at h ⊢
          by_cases he : rs.isEmpty = true
          · rw [if_pos he] at h ⊢; exact h
          · rw [if_neg he] at h ⊢; exact ih _ _ _ h m hle'
      | _ => rw [hf] at h; exact h

end

/-- the plain parse shifts the lexemes from `c` up to `c1` -/
inductive Shifts (G : Grammar) (A : Automaton) (w : List Nat) (ff : Nat) : Pos → Pos → Prop
  | refl (c : Pos) : Shifts G A w ff c c
  | step (c : Pos) (s : List Nat) (c1 : Pos) : feed G A (nextTok G w c.pos) ff c.stack = .shifted s →
      Shifts G A w ff ⟨s, c.pos + 1⟩ c1 → Shifts G A w ff c c1

/-- `Seg … total c new v`: a run of the loop from `c`, error by error, reports the errors `new` and returns
a value iff `v`. Up to the next error (or to the end) it is the plain parse (`Shifts`); there the recoverer
is asked, and the run goes on from where it says. `stop` (only when `total`) is the answer without a value
the totalised drivers give when a fuel runs out or the driver would crash. The specifications (`Spaced`,
`C05.Ordered`, `C05.editedItems`, …) take the error list apart the same way, so what holds of every run is
an induction on `Seg` with one case per way a run ends and one for a repaired error. -/
inductive Seg (G : Grammar) (A : Automaton) (w : List Nat)
    (recover : Pos → Option (Pos × List (List Repair))) (ff : Nat) (total : Bool) :
    Pos → List Err → Bool → Prop
  | stop (c c1 : Pos) : total = true → Shifts G A w ff c c1 → Seg G A w recover ff total c [] false
  | accept (c c1 : Pos) (s : List Nat) : Shifts G A w ff c c1 →
      feed G A (nextTok G w c1.pos) ff c1.stack = .accept s → Seg G A w recover ff total c [] true
  | giveUp (c c1 : Pos) (s : List Nat) : Shifts G A w ff c c1 →
      feed G A (nextTok G w c1.pos) ff c1.stack = .error s →
      (∀ c' rs, recover ⟨s, c1.pos⟩ = some (c', rs) → rs = []) →
      Seg G A w recover ff total c [⟨c1.pos, []⟩] false
  | recovered (c c1 : Pos) (s : List Nat) (c' : Pos) (rs : List (List Repair)) (new : List Err) (v : Bool) :
      Shifts G A w ff c c1 → feed G A (nextTok G w c1.pos) ff c1.stack = .error s →
      recover ⟨s, c1.pos⟩ = some (c', rs) → rs ≠ [] → Seg G A w recover ff total c' new v →
      Seg G A w recover ff total c (⟨c1.pos, rs⟩ :: new) v

/-- the one place where an iteration that shifts a lexeme is put in front of a run -/
theorem Seg.shift {G : Grammar} {A : Automaton} {w : List Nat} {recover : Pos → Option (Pos × List (List Repair))}
    {ff : Nat} {total : Bool} {c : Pos} {s : List Nat} {new : List Err} {v : Bool}
    (hf : feed G A (nextTok G w c.pos) ff c.stack = .shifted s)
    (h : Seg G A w recover ff total ⟨s, c.pos + 1⟩ new v) : Seg G A w recover ff total c new v := by
  cases h with
  | stop _ c1 ht hs => exact .stop c c1 ht (.step c s c1 hf hs)
  | accept _ c1 x hs ha => exact .accept c c1 x (.step c s c1 hf hs) ha
  | giveUp _ c1 x hs he hr => exact .giveUp c c1 x (.step c s c1 hf hs) he hr
  | recovered _ c1 x c' rs new v hs he hr hne h => exact .recovered c c1 x c' rs new v (.step c s c1 hf hs) he hr hne h

section
variable (G : Grammar) (A : Automaton) (w : List Nat) (recover : Pos → Option (Pos × List (List Repair)))

/-- **the drivers make the same run**: `recRunF` answers with the errors of a run (`Seg`); `recRunO` gives
the same answer when that run ended by itself (then no `stop` occurs in it: it is a run for either value of
`total`) and none when it was cut off -/
theorem drivers_seg (ff : Nat) :
    ∀ (fuel : Nat) (c : Pos) (errs : List Err), ∃ new v,
      recRunF G A w recover ff fuel c errs = (v, errs ++ new) ∧
      ((recRunO G A w recover ff fuel c errs = some (v, errs ++ new) ∧ ∀ total, Seg G A w recover ff total c new v) ∨
       (recRunO G A w recover ff fuel c errs = none ∧ Seg G A w recover ff true c new v)) := by
  intro fuel
  induction fuel with
  | zero => intro c errs; exact ⟨[], false, congrArg _ (List.append_nil _).symm, Or.inr ⟨rfl, .stop c c rfl (.refl c)⟩⟩
  | succ n ih =>
    intro c errs
    simp only [recRunF, recRunO]
    cases hf : feed G A (nextTok G w c.pos) ff c.stack with
    | shifted s =>
      obtain ⟨new, v, h1, h2⟩ := ih ⟨s, c.pos + 1⟩ errs
      exact ⟨new, v, h1, h2.imp (fun h => ⟨h.1, fun t => (h.2 t).shift hf⟩) (fun h => ⟨h.1, h.2.shift hf⟩)⟩
    | accept s =>
      exact ⟨[], true, congrArg _ (List.append_nil _).symm,
        Or.inl ⟨congrArg _ (congrArg _ (List.append_nil _).symm), fun _ => .accept c c s (.refl c) hf⟩⟩
    | error s =>
      simp only []
      cases hr : recover ⟨s, c.pos⟩ with
      | none =>
        exact ⟨_, false, rfl, Or.inl ⟨rfl, fun _ => .giveUp c c s (.refl c) hf (fun c' rs h => by rw [hr] at h; cases h)⟩⟩
      | some x =>
        obtain ⟨c', rs⟩ := x
        cases rs with
        | nil =>
          exact ⟨_, false, rfl,
            Or.inl ⟨rfl, fun _ => .giveUp c c s (.refl c) hf (fun c'' rs h => by rw [hr] at h; cases h; rfl)⟩⟩
        | cons r0 rest =>
          obtain ⟨new, v, h1, h2⟩ := ih c' (errs ++ [⟨c.pos, r0 :: rest⟩])
          have he : errs ++ [⟨c.pos, r0 :: rest⟩] ++ new = errs ++ ⟨c.pos, r0 :: rest⟩ :: new := by
            rw [List.append_assoc]; rfl
          rw [he] at h1 h2
          exact ⟨_ :: new, v, h1,
            h2.imp (fun h => ⟨h.1, fun t => .recovered c c s c' _ new v (.refl c) hf hr nofun (h.2 t)⟩)
              (fun h => ⟨h.1, .recovered c c s c' _ new v (.refl c) hf hr nofun h.2⟩)⟩
    | _ => exact ⟨[], false, congrArg _ (List.append_nil _).symm, Or.inr ⟨rfl, .stop c c rfl (.refl c)⟩⟩

theorem recRun_seg (fuel : Nat) (c : Pos) (errs : List Err) : ∃ new v,
    recRun G A w recover fuel c errs = (v, errs ++ new) ∧ Seg G A w recover FUEL true c new v := by
  rw [← recRunF_FUEL]
  obtain ⟨new, v, h1, h2⟩ := drivers_seg G A w recover FUEL fuel c errs
  exact ⟨new, v, h1, h2.elim (fun h => h.2 true) (fun h => h.2)⟩

theorem recRunO_seg (ff fuel : Nat) (c : Pos) (errs : List Err) (r : Bool × List Err)
    (h : recRunO G A w recover ff fuel c errs = some r) :
    ∃ new v, r = (v, errs ++ new) ∧ Seg G A w recover ff false c new v := by
  obtain ⟨new, v, -, h2⟩ := drivers_seg G A w recover ff fuel c errs
  rcases h2 with ⟨h2, h3⟩ | ⟨h2, -⟩
  · exact ⟨new, v, Option.some.inj (h.symm.trans h2), h3 false⟩
  · rw [h2] at h; cases h

theorem recRunO_some_recRunF (ff fuel : Nat) (c : Pos) (errs : List Err) (r : Bool × List Err)
    (h : recRunO G A w recover ff fuel c errs = some r) : recRunF G A w recover ff fuel c errs = r := by
  obtain ⟨new, v, h1, h2⟩ := drivers_seg G A w recover ff fuel c errs
  rcases h2 with ⟨h2, -⟩ | ⟨h2, -⟩
  · rw [h1]; exact Option.some.inj (h2.symm.trans h)
  · rw [h2] at h; cases h

/-- up to its first error a run does not depend on the recoverer: either no recoverer is ever asked, or all
report their first error at the same position, where the recoverer that always gives up stops -/
theorem recRun_first_error :
    ∀ (fuel : Nat) (c : Pos) (errs : List Err),
      (∃ v, ∀ recover, recRun G A w recover fuel c errs = (v, errs)) ∨
      (∃ p, recRun G A w (fun _ => none) fuel c errs = (false, errs ++ [⟨p, []⟩]) ∧
        ∀ recover, ∃ rs rest, (recRun G A w recover fuel c errs).2 = errs ++ ⟨p, rs⟩ :: rest) := by
  intro fuel
  induction fuel with
  | zero => intro c errs; exact Or.inl ⟨false, fun _ => rfl⟩
  | succ n ih =>
    intro c errs
    cases hf : feed G A (nextTok G w c.pos) FUEL c.stack with
    | shifted s => simp only [recRun, hf]; exact ih _ _
    | accept s => exact Or.inl ⟨true, fun _ => by simp only [recRun, hf]⟩
    | error s =>
      refine Or.inr ⟨c.pos, by simp only [recRun, hf], fun recover => ?_⟩
      simp only [recRun, hf]
      cases hr : recover ⟨s, c.pos⟩ with
      | none => exact ⟨[], [], rfl⟩
      | some x =>
        obtain ⟨c', rs⟩ := x
        simp only []
        by_cases he : rs.isEmpty = true
        · exact ⟨[], [], by rw [if_pos he]⟩
        · obtain ⟨rest, _, hrest, _⟩ := recRun_seg G A w recover n c' (errs ++ [⟨c.pos, rs⟩])
          exact ⟨rs, rest, by rw [if_neg he, hrest, List.append_assoc]; rfl⟩
    | _ => exact Or.inl ⟨false, fun _ => by simp only [recRun, hf]⟩

end

section
variable {G : Grammar} {A : Automaton} {w : List Nat} {recover : Pos → Option (Pos × List (List Repair))}
  {ff : Nat} {total : Bool} {c : Pos} {new : List Err} {v : Bool}

/-- `ff ≥ FUEL`: `Runs`, and with it `RecovererOK`, speak about `feed` at `FUEL`; a `feed` that
answered at `FUEL` gives the same answer at `ff` -/
theorem Shifts.runs_le {c1 : Pos} (h : Shifts G A w ff c c1) (hff : FUEL ≤ ff) {s : List Nat}
    (he : feed G A (nextTok G w c1.pos) ff c1.stack = .error s) : ∀ k, Runs G A w k c → c.pos + k ≤ c1.pos := by
  induction h with
  | refl c => intro k hr; cases hr.eq_zero_of_error hff he; exact Nat.le_refl _
  | step c x c1 hf _ ih =>
    intro k hr
    obtain ⟨k', hk', hle⟩ := hr.of_shifted hff hf
    have := ih he k' hk'
    simp only at this
    omega

theorem Seg.repaired (h : Seg G A w recover ff total c new v) (hv : v = true) : ∀ e ∈ new, e.repairs ≠ [] := by
  induction h with
  | stop _ _ _ _ => cases hv
  | accept _ _ _ _ _ => nofun
  | giveUp _ _ _ _ _ _ => cases hv
  | recovered _ _ _ _ _ _ _ _ _ _ hne _ ih => exact List.forall_mem_cons.mpr ⟨hne, ih hv⟩

theorem Seg.shape {N : Nat} (hok : RecovererOK G A w N recover) (hff : FUEL ≤ ff)
    (h : Seg G A w recover ff total c new v) :
    ∀ k, Runs G A w k c → Spaced N new ∧ AllButLastRepaired new ∧ ∀ e, new.head? = some e → c.pos + k ≤ e.pos := by
  induction h with
  | stop c c1 _ _ => intro k _; exact ⟨trivial, trivial, nofun⟩
  | accept c c1 s _ _ => intro k _; exact ⟨trivial, trivial, nofun⟩
  | giveUp c c1 s hs hf _ =>
    intro k hr
    exact ⟨trivial, trivial, fun e he => by cases he; exact hs.runs_le hff hf k hr⟩
  | recovered c c1 s c' rs new v hs hf hrec hne _ ih =>
    intro k hr
    obtain ⟨hpos, hrun⟩ := hok ⟨s, c1.pos⟩ c' rs hrec hne
    obtain ⟨h2, h3, h4⟩ := ih N hrun
    exact ⟨spaced_cons h2 (fun e2 he => Nat.le_trans (Nat.add_le_add_right hpos N) (h4 e2 he)),
      allButLast_cons h3 (fun _ => hne), fun e he => by cases he; exact hs.runs_le hff hf k hr⟩

theorem Seg.outcome (h : Seg G A w recover ff false c new v) (hv : v = false) :
    ∃ e, new.getLast? = some e ∧ e.repairs = [] := by
  induction h with
  | stop c c1 ht _ => cases ht
  | accept c c1 s _ _ => cases hv
  | giveUp c c1 s _ _ _ => exact ⟨_, rfl, rfl⟩
  | recovered c c1 s c' rs new v _ _ _ hne _ ih =>
    obtain ⟨e, hl, hrep⟩ := ih hv
    exact ⟨e, by rw [List.getLast?_cons, hl]; rfl, hrep⟩

end

end GrmVerif.C07
