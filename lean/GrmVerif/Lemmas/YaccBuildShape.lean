import GrmVerif.Lemmas.YaccBuildSteps
/-!
C10, stage A: the built grammar as a function of the AST. First the state of the main loop when it has run over
the rules cfgrammar adds, which come first in `rule_names`, and is about to run over the user's rules
(`mainLoop_split`, `AddedShape`); then the whole (`Built`, `build_shape`); then what `Built` says record by record
(`Built.recs_added`, `Built.userRec`, `Built.cases`, with the shape of the added productions).
-/
namespace GrmVerif.YaccBuild

theorem length_of_map_eq_map {α β γ : Type} {l : List α} {m : List β} {f : α → γ} {g : β → γ}
    (h : l.map f = m.map g) : m.length = l.length := by
  have := congrArg List.length h
  rwa [List.length_map, List.length_map, eq_comm] at this

/-- the productions `~: T ~` for the tokens `tis`, then `~: ;`, become the next productions and are
listed under rule `ridx` -/
def St.pushImpl (st : St) (ridx : Nat) (tis : List Nat) : St :=
  { slots := st.slots ++ tis.map (fun ti => some (addedRec [.tok ti, .rule ridx] ridx)) ++ [some (addedRec [] ridx)],
    rulesProds := st.rulesProds.modify ridx (· ++ List.range' st.slots.length (tis.length + 1)),
    actiontypes := st.actiontypes }

theorem implLoop_eq {c : Ctx} {ridx : Nat} : ∀ (ts : List Str) (st st' : St), implLoop c ridx ts st = some st' →
    ∃ tis : List Nat, ts.map c.tmap = tis.map some ∧ st' = st.pushImpl ridx tis := by
  intro ts
  induction ts with
  | nil =>
    intro st st' h
    cases implLoop_nil_some h
    exact ⟨[], rfl, by rw [St.pushImpl, List.map_nil, List.append_nil]; rfl⟩
  | cons t ts ih =>
    intro st st' h
    obtain ⟨ti, ht, h⟩ := implLoop_cons_some h
    obtain ⟨tis, h2, rfl⟩ := ih _ _ h
    refine ⟨ti :: tis, by rw [List.map_cons, ht, h2]; rfl, ?_⟩
    simp only [St.pushImpl, St.push, modify_append_append, List.length_append, List.length_cons, List.length_nil,
      Nat.zero_add, List.append_assoc, List.map_cons, List.singleton_append,
      List.range'_succ (s := st.slots.length)]

/-- the productions of Eco's added rules: `^: ^~;  ~: T1 ~ | … | Tn ~ | ;  ^~: ~ S;` -/
def ecoAdded (tis : List Nat) (tgt : Nat) : List PRec :=
  addedRec [.rule 2] 0 ::
    (tis.map (fun ti => addedRec [.tok ti, .rule 1] 1) ++ [addedRec [] 1, addedRec [.rule 1, .rule tgt] 2])

/-- the productions cfgrammar adds (`added`, numbered from `a.prods.length` on) and the `rule_to_prods`
entries of the added rules (`low`), `tgt` being the rule the user's `%start` names -/
def AddedShape (cfg : Cfg) (a : AST) (k : Kind) (c : Ctx) (tgt : Nat) (added : List PRec) (low : List (List Nat)) :
    Prop :=
  (c.implName = none ∧ c.implStartName = none ∧ addedRules a k = 1 ∧
    added = [addedRec [.rule tgt] 0] ∧ low = [[a.prods.length]]) ∨
  (∃ (its : List Str) (tis : List Nat), k = .eco ∧ a.implicitTokens = some its ∧
    c.implName = some (fresh (userNames a) cfg.implicitRule) ∧
    c.implStartName = some (fresh (userNames a) cfg.implicitStartRule) ∧ addedRules a k = 3 ∧
    its.map c.tmap = tis.map some ∧ added = ecoAdded tis tgt ∧
    low = [[a.prods.length], List.range' (a.prods.length + 1) (its.length + 1), [a.prods.length + its.length + 2]])

theorem addedShape_low_zero {cfg : Cfg} {a : AST} {k : Kind} {c : Ctx} {tgt : Nat} {added : List PRec}
    {low : List (List Nat)} (hs : AddedShape cfg a k c tgt added low) : low[0]? = some [a.prods.length] := by
  rcases hs with ⟨_, _, _, _, hl⟩ | ⟨_, _, _, _, _, _, _, _, _, hl⟩ <;> rw [hl] <;> rfl

theorem mainLoop_plain {c : Ctx} {U : List Str} (ok : CtxOk c [c.startName] U)
    (his : c.implStartName = none) {P n : Nat} {at0 : List (Option Str)} {st : St}
    (h : mainLoop c (c.startName :: U) ⟨List.replicate P none, List.replicate (n + 1) [], at0⟩ = some st) :
    ∃ tgt, c.rmap c.userStart = some tgt ∧
      mainLoop c U ⟨List.replicate P none ++ [some (addedRec [.rule tgt] 0)], [P] :: List.replicate n [], at0⟩ = some st := by
  obtain ⟨st1, hs, hrest⟩ := mainLoop_cons_some h
  rw [stepRule_of_rmap (rmap_special ok (List.pairwise_singleton _ _) (j := 0) rfl), if_pos rfl] at hs
  obtain ⟨tgt, h2, rfl⟩ := stepStart_eq hs
  rw [his] at h2
  rw [St.push, List.length_replicate] at hrest
  exact ⟨tgt, h2, hrest⟩

/-- Eco with `%implicit_tokens`: `^: ^~;`, then the productions of `~`, then `^~: ~ S;` -/
theorem mainLoop_eco {c : Ctx} {U : List Str} {i s : Str} (ok : CtxOk c [c.startName, i, s] U)
    (hnd : [c.startName, i, s].Nodup) (hi : c.implName = some i) (his : c.implStartName = some s)
    {P n : Nat} {at0 : List (Option Str)} {st : St}
    (h : mainLoop c (c.startName :: i :: s :: U) ⟨List.replicate P none, List.replicate (n + 3) [], at0⟩ = some st) :
    ∃ (tis : List Nat) (tgt : Nat),
      (c.ast.implicitTokens.getD []).map c.tmap = tis.map some ∧ c.rmap c.userStart = some tgt ∧
      mainLoop c U ⟨List.replicate P none ++ (ecoAdded tis tgt).map some,
        [P] :: List.range' (P + 1) (tis.length + 1) :: [P + tis.length + 2] :: List.replicate n [], at0⟩ = some st := by
  have r0 : c.rmap c.startName = some 0 := rmap_special ok hnd (j := 0) rfl
  have r1 : c.rmap i = some 1 := rmap_special ok hnd (j := 1) rfl
  have r2 : c.rmap s = some 2 := rmap_special ok hnd (j := 2) rfl
  simp only [List.nodup_cons, List.mem_cons, List.not_mem_nil, or_false, not_or] at hnd
  obtain ⟨⟨n1, n2⟩, n3, _⟩ := hnd
  obtain ⟨st1, hs1, h1⟩ := mainLoop_cons_some h
  rw [stepRule_of_rmap r0, if_pos rfl] at hs1
  obtain ⟨tgt0, a2, rfl⟩ := stepStart_eq hs1
  rw [his, Option.getD_some, r2] at a2
  cases a2
  obtain ⟨st2, hs2, h2⟩ := mainLoop_cons_some h1
  rw [stepRule_of_rmap r1, if_neg (Ne.symm n1), his, if_neg (fun e => n3 (Option.some.inj e).symm), hi, if_pos rfl] at hs2
  obtain ⟨tis, b2, rfl⟩ := implLoop_eq _ _ _ hs2
  obtain ⟨st3, hs3, h3⟩ := mainLoop_cons_some h2
  rw [stepRule_of_rmap r2, if_neg (Ne.symm n2), his, if_pos rfl] at hs3
  obtain ⟨ir, s0, c2, c3, rfl⟩ := stepImplStart_eq hs3
  rw [hi, Option.bind_some, r1] at c2
  cases c2
  refine ⟨tis, s0, b2, c3, ?_⟩
  simpa [St.push, St.pushImpl, List.replicate_succ, ecoAdded, Function.comp_def, Nat.add_assoc] using h3

theorem mainLoop_split {cfg : Cfg} (hc : cfgOk cfg = true) (a : AST) (k : Kind) (us : Str) {st : St}
    (h : mainLoop (mkCtx cfg a k us) ((ruleNamesOf cfg a k).map (·.1)) (st0 cfg a k) = some st) :
    ∃ (tgt : Nat) (added : List PRec) (low : List (List Nat)),
      (mkCtx cfg a k us).rmap us = some tgt ∧ AddedShape cfg a k (mkCtx cfg a k us) tgt added low ∧
      low.length = addedRules a k ∧
      mainLoop (mkCtx cfg a k us) (userNames a)
        { slots := List.replicate a.prods.length none ++ added.map some,
          rulesProds := low ++ List.replicate a.rules.length [],
          actiontypes := List.replicate (a.rules.length + addedRules a k) none } = some st := by
  have ok := mkCtx_ok hc a k us
  have hnd := specialNames_nodup hc a k
  have hlen := specialNames_length cfg a k
  rw [ruleNamesOf_names] at h
  simp only [st0, ruleNamesOf_length] at h
  rcases mkCtx_shape cfg a k us with ⟨hi, his, hsp⟩ | ⟨its, hk, hits, hi, his, hsp⟩
  · rw [hsp] at ok h hlen
    rw [← hlen] at h ⊢
    obtain ⟨tgt, h2, h3⟩ := mainLoop_plain ok his h
    exact ⟨tgt, _, _, h2, Or.inl ⟨hi, his, hlen.symm, rfl, rfl⟩, rfl, h3⟩
  · rw [hsp] at ok h hlen hnd
    rw [← hlen] at h ⊢
    obtain ⟨tis, tgt, h1, h2, h3⟩ := mainLoop_eco ok hnd hi his h
    rw [show (mkCtx cfg a k us).ast.implicitTokens = some its from hits, Option.getD_some] at h1
    have hl : tis.length = its.length := length_of_map_eq_map h1
    rw [hl] at h3
    exact ⟨tgt, _, _, h2, Or.inr ⟨its, tis, hk, hits, hi, his, hlen.symm, h1, rfl, rfl⟩, rfl, h3⟩


/-- everything the proofs of the property theorems use about a successfully built grammar -/
structure Built (cfg : Cfg) (a : AST) (k : Kind) (g : IGrammar) (us : Str) (tgt : Nat) (added : List PRec)
    (low : List (List Nat)) : Prop where
  start : ∃ sp, a.start = some (us, sp)
  names : g.ruleNames.map (·.1) = specialNames cfg a k ++ userNames a
  shape : AddedShape cfg a k (mkCtx cfg a k us) tgt added low
  tgt : (mkCtx cfg a k us).rmap us = some tgt
  implicitRule : g.implicitRule = (mkCtx cfg a k us).implName.bind (mkCtx cfg a k us).rmap
  len : g.recs.length = a.prods.length + added.length
  addedRecs : ∀ i, a.prods.length ≤ i → g.recs[i]? = added[i - a.prods.length]?
  userRecs : ∀ (i : Nat) (p : AProd), a.prods[i]? = some p →
    ∃ ridx r, addedRules a k ≤ ridx ∧ userRec (mkCtx cfg a k us) ridx p = some r ∧ g.recs[i]? = some r
  lowRp : ∀ q, q < addedRules a k → g.rulesProds[q]? = low[q]?
  startProd : g.startProd = a.prods.length
  order : (userNames a).Nodup → ∀ (j : Nat) (r : ARule), a.rules[j]? = some r →
    g.rulesProds[addedRules a k + j]? = some r.pidxs ∧ g.actiontypes[addedRules a k + j]? = some r.actiont

theorem Ran.built {cfg : Cfg} {a : AST} {k : Kind} {g : IGrammar} {us : Str} (hc : cfgOk cfg = true)
    (hr : Ran cfg a k g us) : ∃ tgt added low, Built cfg a k g us tgt added low := by
  -- `mainLoop_split`: the state after the added rules (`shape`, `tgt`); `userPhase_spec` for the user's rules: `hlen`
  -- gives `len`, `hsl` the slots (`addedRecs` above `a.prods.length`, `userRecs` below), `hfr` that the entries of the
  -- added rules are left alone (`lowRp`, and with it `startProd`), `hord` the entries of the user's rules (`order`)
  obtain ⟨tgt, added, low, htgt, hshape, hlow, hm'⟩ := mainLoop_split hc a k us hr.loop
  have ok := mkCtx_ok hc a k us
  have hR0 := specialNames_length cfg a k
  obtain ⟨hlen, hsl, hfr, hord⟩ := userPhase_spec _ _ _ (fun n hn s => hR0 ▸ stepRule_user ok hn s) hm'
  have hP : (List.replicate a.prods.length (none : Option PRec)).length = a.prods.length := List.length_replicate
  have hslots : ∀ i, g.st.slots[i]? = (g.recs[i]?).map some := fun i => List.getElem?_map ..
  have hlowRp : ∀ q, q < addedRules a k → g.rulesProds[q]? = low[q]? := fun q hq =>
    (hfr q fun hm => (List.mem_map.mp hm).elim fun n hn => Nat.not_lt.mpr (Nat.le_add_left _ _) (hn.2 ▸ hq)).1.trans
      (List.getElem?_append_left (hlow ▸ hq))
  refine ⟨tgt, added, low, hr.start, by rw [hr.ruleNames]; exact ruleNamesOf_names cfg a k, hshape, htgt,
    hr.implicitRule, ?_, ?_, ?_, hlowRp, ?_, ?_⟩
  · rwa [IGrammar.st, List.length_map, List.length_append, hP, List.length_map] at hlen
  · intro i hi
    apply (Option.map_inj_right fun _ _ => Option.some.inj).mp
    rw [← hslots]
    rcases hsl i with hs | ⟨p, _, _, _, hp, _⟩
    · exact hs.trans ((List.getElem?_append_right (hP.symm ▸ hi)).trans (by rw [hP, List.getElem?_map]))
    · exact absurd (List.getElem?_eq_some_iff.mp hp).1 (Nat.not_lt.mpr hi)
  · intro i p hp
    have hi : i < a.prods.length := (List.getElem?_eq_some_iff.mp hp).1
    rcases hsl i with hs | ⟨p', n, r, _, hp', hur, hs⟩
    · rw [hslots, List.getElem?_append_left (hP.symm ▸ hi), List.getElem?_replicate, if_pos hi] at hs
      cases hg : g.recs[i]? <;> rw [hg] at hs <;> cases hs
    · cases hp.symm.trans hp'
      rw [hslots] at hs
      exact ⟨_, r, Nat.le_add_left _ _, hur, (Option.map_inj_right fun _ _ => Option.some.inj).mp hs⟩
  · have hsp := hr.startProd
    have hr0 : (mkCtx cfg a k us).rmap (mkCtx cfg a k us).startName = some 0 :=
      rmap_special ok (specialNames_nodup hc a k) (specialNames_head cfg a k us)
    rw [hr0, Option.bind_some, hlowRp 0 (addedRules_pos a k), addedShape_low_zero hshape] at hsp
    exact (Option.some.inj hsp).symm
  · intro hnd j r hj
    have hi : lastIdx (userNames a) r.name = some j := lastIdx_nodup hnd (by rw [userNames, List.getElem?_map, hj]; rfl)
    -- distinct names have distinct numbers
    have hnd' : ((userNames a).map fun n => (lastIdx (userNames a) n).getD 0 + addedRules a k).Nodup := by
      refine List.pairwise_map.mpr (hnd.imp_of_mem fun {x y} hx hy hne he => ?_)
      obtain ⟨i, hx⟩ := lastIdx_of_mem hx
      obtain ⟨i', hy⟩ := lastIdx_of_mem hy
      rw [hx, hy] at he
      cases Nat.add_right_cancel he
      exact hne (Option.some.inj ((lastIdx_lt hx).2.symm.trans (lastIdx_lt hy).2))
    obtain ⟨r', hf, g1, g2⟩ := hord hnd' r.name (List.mem_of_getElem? (lastIdx_lt hi).2)
    cases (findRule_nodup hnd hj).symm.trans hf
    simp only [hi, Option.getD_some, Nat.add_comm j] at g1 g2
    refine ⟨g1.trans ?_, g2⟩
    show ((low ++ List.replicate a.rules.length [])[addedRules a k + j]?).map (· ++ r.pidxs) = some r.pidxs
    rw [← hlow, List.getElem?_append_right (Nat.le_add_right _ _), Nat.add_sub_cancel_left,
      List.getElem?_replicate, if_pos (List.getElem?_eq_some_iff.mp hj).1]
    rfl

theorem build_shape {cfg : Cfg} {a : AST} {k : Kind} {g : IGrammar} (hc : cfgOk cfg = true)
    (h : buildGrammar cfg a k = some g) : ∃ us tgt added low, Built cfg a k g us tgt added low :=
  (build_ran h).elim fun us hr => ⟨us, hr.built hc⟩

/-- number of productions cfgrammar adds: `^: S;` — for Eco with `%implicit_tokens`: `^: ^~;`, one per
implicit token, the empty one, and `^~: ~ S;` -/
def addedProds (a : AST) (k : Kind) : Nat :=
  match k, a.implicitTokens with
  | .eco, some its => its.length + 3
  | _, _ => 1

section
variable {cfg : Cfg} {a : AST} {k : Kind} {g : IGrammar} {c : Ctx} {us : Str} {tgt : Nat} {added : List PRec}

theorem addedShape_length (hs : AddedShape cfg a k c tgt added low) : added.length = addedProds a k := by
  rcases hs with ⟨_, _, h1, h2, _⟩ | ⟨its, tis, hk, hits, _, _, _, hm, h2, _⟩
  · subst h2
    unfold addedRules at h1
    unfold addedProds
    cases k <;> cases hi : a.implicitTokens <;> simp [hi] at h1 ⊢
  · subst h2 hk
    have : tis.length = its.length := length_of_map_eq_map hm
    simp [addedProds, hits, ecoAdded, this]

theorem addedShape_added (hs : AddedShape cfg a k c tgt added low) :
    ∀ r ∈ added, ∃ rhs ridx, r = addedRec rhs ridx ∧ (Sym.rule 0 ∈ rhs → tgt = 0) := by
  intro r hr
  rcases hs with ⟨_, _, _, h2, _⟩ | ⟨its, tis, _, _, _, _, _, _, h2, _⟩
  · subst h2
    simp only [List.mem_singleton] at hr
    subst hr
    exact ⟨_, _, rfl, by simp; exact fun h => h.symm⟩
  · subst h2
    simp only [ecoAdded, List.mem_cons, List.mem_append, List.mem_map, List.not_mem_nil, or_false] at hr
    rcases hr with rfl | ⟨ti, _, rfl⟩ | rfl | rfl
    · exact ⟨_, _, rfl, by simp⟩
    · exact ⟨_, _, rfl, by simp⟩
    · exact ⟨_, _, rfl, by simp⟩
    · exact ⟨_, _, rfl, by simp; exact fun h => h.symm⟩

theorem ecoAdded_tok {tis : List Nat} {j ti : Nat} (tgt : Nat) (h : tis[j]? = some ti) :
    (ecoAdded tis tgt)[j + 1]? = some (addedRec [.tok ti, .rule 1] 1) := by
  unfold ecoAdded
  rw [List.getElem?_cons_succ, List.getElem?_append_left (by rw [List.length_map]; exact (List.getElem?_eq_some_iff.mp h).1),
    List.getElem?_map, h]
  rfl

theorem ecoAdded_empty (tis : List Nat) (tgt : Nat) : (ecoAdded tis tgt)[tis.length + 1]? = some (addedRec [] 1) := by
  unfold ecoAdded
  rw [List.getElem?_cons_succ, List.getElem?_append_right (by rw [List.length_map]; exact Nat.le_refl _), List.length_map,
    Nat.sub_self]
  rfl

theorem ecoAdded_last (tis : List Nat) (tgt : Nat) :
    (ecoAdded tis tgt)[tis.length + 2]? = some (addedRec [.rule 1, .rule tgt] 2) := by
  unfold ecoAdded
  rw [List.getElem?_cons_succ, List.getElem?_append_right (by rw [List.length_map]; exact Nat.le_succ _), List.length_map,
    Nat.add_sub_cancel_left]
  rfl

theorem Built.recs_added (hb : Built cfg a k g us tgt added low) (j : Nat) : g.recs[a.prods.length + j]? = added[j]? := by
  rw [hb.addedRecs _ (Nat.le_add_right _ _), Nat.add_sub_cancel_left]

/-- source production `i` is production `i` of the grammar, built by `userRec` for a user rule -/
theorem Built.userRec (hb : Built cfg a k g us tgt added low) {i : Nat} {p : AProd} (hp : a.prods[i]? = some p) :
    ∃ r, g.recs[i]? = some r ∧ addedRules a k ≤ r.rule ∧
      resolveSyms (mkCtx cfg a k us).rmap (mkCtx cfg a k us).tmap (mkCtx cfg a k us).implName p.syms = some r.rhs ∧
      prodPrecSpec a.precs p = some r.prec ∧
      r.action = p.action.map (·.1) ∧ r.actionSpan = p.action.map (·.2) ∧ r.span = p.span := by
  obtain ⟨ridx, r, hlo, hur, hri⟩ := hb.userRecs i p hp
  obtain ⟨h1, h2, h3, h4⟩ := userRec_rule hur
  exact ⟨r, hri, h1 ▸ hlo, h2, (prodPrec_eq_spec a.precs p).symm.trans h3, h4⟩

/-- the two shapes of a built grammar, read on `g`: without implicit rule the start production is `^: S;`; for
Eco with `%implicit_tokens` the implicit rule is rule 1 and the added productions are `^: ^~;`, `~: T ~;` per
implicit token in iteration order, `~: ;` and `^~: ~ S;` -/
theorem Built.cases (hc : cfgOk cfg = true) (hb : Built cfg a k g us tgt added low) :
    (g.implicitRule = none ∧ addedRules a k = 1 ∧ g.recs[a.prods.length]? = some (addedRec [.rule tgt] 0)) ∨
    (∃ its, k = .eco ∧ a.implicitTokens = some its ∧ g.implicitRule = some 1 ∧
      g.rulesProds[1]? = some (List.range' (a.prods.length + 1) (its.length + 1)) ∧
      g.rulesProds[2]? = some [a.prods.length + its.length + 2] ∧
      g.recs[a.prods.length]? = some (addedRec [.rule 2] 0) ∧
      (∀ (j : Nat) (t : Str), its[j]? = some t → ∃ ti, lastIdx (a.tokens.map (·.1)) t = some ti ∧
        g.recs[a.prods.length + 1 + j]? = some (addedRec [.tok ti, .rule 1] 1)) ∧
      g.recs[a.prods.length + 1 + its.length]? = some (addedRec [] 1) ∧
      g.recs[a.prods.length + its.length + 2]? = some (addedRec [.rule 1, .rule tgt] 2)) := by
  have h0 := hb.recs_added 0
  rcases hb.shape with ⟨hi, _, h1, ha, _⟩ | ⟨its, tis, hk, hits, hi, _, h3, hm, ha, hl⟩
  · subst ha
    exact Or.inl ⟨by rw [hb.implicitRule, hi]; rfl, h1, h0⟩
  · subst ha
    have hlen : tis.length = its.length := length_of_map_eq_map hm
    refine Or.inr ⟨its, hk, hits, ?_, ?_, ?_, h0, ?_, ?_, ?_⟩
    · rw [hb.implicitRule, hi, Option.bind_some, rmap_implName hc a k us hi]
    · rw [hb.lowRp 1 (h3 ▸ by decide), hl]; rfl
    · rw [hb.lowRp 2 (h3 ▸ by decide), hl]; rfl
    · intro j t hj
      have hmj := congrArg (·[j]?) hm
      simp only [List.getElem?_map, hj, Option.map_some] at hmj
      obtain ⟨ti, hti, he⟩ := Option.map_eq_some_iff.mp hmj.symm
      refine ⟨ti, he.symm, ?_⟩
      rw [Nat.add_assoc, hb.recs_added, Nat.add_comm 1 j]
      exact ecoAdded_tok tgt hti
    · rw [Nat.add_assoc, hb.recs_added, ← hlen, Nat.add_comm 1]
      exact ecoAdded_empty _ _
    · rw [Nat.add_assoc, hb.recs_added, ← hlen]
      exact ecoAdded_last _ _

end
end GrmVerif.YaccBuild
