import GrmVerif.Model.Recover
/-! First facts about the model of recovery (`Model/Recover.lean`): what `nextTok` and `applyRepair`
answer case by case, one step of `applySeq` read backwards, and the induction along a sequence that applies
(`applySeq_induction`: one case per kind of repair). Then the vocabulary the recovery properties share:
the declarative search relation `Rec.Search` (C06), what a non-error cell of the table is (`action_eq_some`), and
the end-of-input discipline `RankImpl.EofNeverShifted`. -/
namespace GrmVerif.Rec
open LR

section
variable {G : Grammar} {A : Automaton} {w : List Nat} {c c' : Pos}

theorem nextTok_of_lt {i : Nat} (h : i < w.length) : nextTok G w i = w[i] := by
  simp only [nextTok, List.getElem?_eq_getElem h, Option.getD_some]

theorem nextTok_getD {i : Nat} (h : i < w.length) : nextTok G w i = w.getD i 0 := by
  simp only [nextTok, List.getD, List.getElem?_eq_getElem h, Option.getD_some]

theorem nextTok_of_le {i : Nat} (h : w.length ≤ i) : nextTok G w i = G.eof := by
  simp only [nextTok, List.getElem?_eq_none h, Option.getD_none]

theorem applyRepair_insert {t : Nat} :
    applyRepair G A w c (.insert t) = some c' ↔ ∃ s, feed G A t FUEL c.stack = .shifted s ∧ c' = ⟨s, c.pos⟩ := by
  simp only [applyRepair]
  cases feed G A t FUEL c.stack <;> simp [eq_comm]

theorem applyRepair_delete :
    applyRepair G A w c .delete = some c' ↔ c.pos < w.length ∧ c' = ⟨c.stack, c.pos + 1⟩ := by
  simp only [applyRepair]
  split <;> simp [*, eq_comm]

theorem applyRepair_shift :
    applyRepair G A w c .shift = some c' ↔
      c.pos < w.length ∧ ∃ s, feed G A (nextTok G w c.pos) FUEL c.stack = .shifted s ∧ c' = ⟨s, c.pos + 1⟩ := by
  simp only [applyRepair]
  by_cases hlt : c.pos < w.length
  · rw [List.getElem?_eq_getElem hlt, nextTok_of_lt hlt]
    simp only
    cases feed G A w[c.pos] FUEL c.stack <;> simp [hlt, eq_comm]
  · rw [List.getElem?_eq_none (Nat.le_of_not_lt hlt)]
    simp [hlt]

end

theorem applySeq_cons_inv {G : Grammar} {A : Automaton} {w : List Nat} {c c' : Pos} {r : Repair}
    {rs : List Repair} (h : applySeq G A w c (r :: rs) = some c') :
    ∃ c1, applyRepair G A w c r = some c1 ∧ applySeq G A w c1 rs = some c' := by
  simp only [applySeq] at h
  cases hr : applyRepair G A w c r with
  | none => rw [hr] at h; cases h
  | some c1 => rw [hr] at h; exact ⟨c1, rfl, h⟩

/-- induction along a repair sequence that applies and ends in `c'`: one case per kind of repair, with what
`applyRepair` did -/
theorem applySeq_induction {G : Grammar} {A : Automaton} {w : List Nat} {c' : Pos} {motive : Pos → List Repair → Prop}
    (nil : motive c' [])
    (insert : ∀ (c : Pos) t s rs, feed G A t FUEL c.stack = .shifted s → motive ⟨s, c.pos⟩ rs →
      motive c (.insert t :: rs))
    (delete : ∀ (c : Pos) rs, c.pos < w.length → motive ⟨c.stack, c.pos + 1⟩ rs → motive c (.delete :: rs))
    (shift : ∀ (c : Pos) s rs, c.pos < w.length → feed G A (nextTok G w c.pos) FUEL c.stack = .shifted s →
      motive ⟨s, c.pos + 1⟩ rs → motive c (.shift :: rs)) :
    ∀ (rs : List Repair) (c : Pos), applySeq G A w c rs = some c' → motive c rs := by
  intro rs
  induction rs with
  | nil => intro c h; cases h; exact nil
  | cons r rs ih =>
    intro c h
    obtain ⟨c1, h1, h⟩ := applySeq_cons_inv h
    cases r with
    | insert t => obtain ⟨s, hf, rfl⟩ := applyRepair_insert.mp h1; exact insert c t s rs hf (ih _ h)
    | delete => obtain ⟨hlt, rfl⟩ := applyRepair_delete.mp h1; exact delete c rs hlt (ih _ h)
    | shift => obtain ⟨hlt, s, hf, rfl⟩ := applyRepair_shift.mp h1; exact shift c s rs hlt hf (ih _ h)

theorem applySeq_pos (G : Grammar) (A : Automaton) (w : List Nat) :
    ∀ (rs : List Repair) (c c' : Pos), applySeq G A w c rs = some c' →
      c.pos ≤ c'.pos ∧ (c.pos ≤ w.length → c'.pos ≤ w.length) := by
  intro rs c c'
  refine applySeq_induction (motive := fun c _ => c.pos ≤ c'.pos ∧ (c.pos ≤ w.length → c'.pos ≤ w.length))
    ⟨Nat.le_refl _, id⟩ (fun _ _ _ _ _ ih => ih) (fun _ _ hlt ih => ⟨Nat.le_of_succ_le ih.1, fun _ => ih.2 hlt⟩)
    (fun _ _ _ hlt _ ih => ⟨Nat.le_of_succ_le ih.1, fun _ => ih.2 hlt⟩) rs c

/-- `Search n k seq`: `seq` is the complete repair sequence of a success node reachable from `n`
through non-success nodes at a further cost of exactly `k` (one lexeme shifted per forward move, no
insert directly after a delete, end-of-input never inserted, zero-cost edits not considered) -/
inductive Search (G : Grammar) (A : Automaton) (w : List Nat) (cost : Nat → Nat) (N : Nat) :
    Node → Nat → List Repair → Prop
  | done (n : Node) : isSuccess G A w N n = true → Search G A w cost N n 0 n.rev.reverse
  | shift (n : Node) (c' : Pos) (k : Nat) (seq : List Repair) :
      isSuccess G A w N n = false → applyRepair G A w n.c .shift = some c' →
      Search G A w cost N ⟨c', .shift :: n.rev, n.trail + 1⟩ k seq → Search G A w cost N n k seq
  | insert (n : Node) (t : Nat) (c' : Pos) (k : Nat) (seq : List Repair) :
      isSuccess G A w N n = false → n.rev.head? ≠ some .delete → t < G.ntoks → t ≠ G.eof → cost t ≠ 0 →
      applyRepair G A w n.c (.insert t) = some c' →
      Search G A w cost N ⟨c', .insert t :: n.rev, 0⟩ k seq → Search G A w cost N n (k + cost t) seq
  | delete (n : Node) (t : Nat) (k : Nat) (seq : List Repair) :
      isSuccess G A w N n = false → w[n.c.pos]? = some t → cost t ≠ 0 →
      Search G A w cost N ⟨⟨n.c.stack, n.c.pos + 1⟩, .delete :: n.rev, 0⟩ k seq →
      Search G A w cost N n (k + cost t) seq

theorem action_eq_some {A : Automaton} {st t : Nat} {a : Act} (h : A.action st t = a) (hne : a ≠ .error) :
    ∃ sd, A.states[st]? = some sd ∧ sd.actions[t]? = some a := by
  unfold Automaton.action at h
  cases hs : A.states[st]? with
  | none => rw [hs] at h; simp at h; exact absurd h.symm hne
  | some sd =>
    rw [hs] at h
    simp only [Option.bind_some] at h
    cases ha : sd.actions[t]? with
    | none => rw [ha] at h; simp at h; exact absurd h.symm hne
    | some a' => rw [ha] at h; simp at h; subst h; exact ⟨sd, rfl, ha⟩

end GrmVerif.Rec

namespace GrmVerif.RankImpl

/-- the table never shifts the end-of-input token (true of every table `StateTable::new` builds: the
action on end-of-input after the start rule is Accept) -/
def EofNeverShifted (G : Grammar) (A : Automaton) : Prop :=
  ∀ st s', A.action st G.eof ≠ .shift s'

end GrmVerif.RankImpl
