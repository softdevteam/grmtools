import GrmVerif.Lemmas.RecActEdited
import GrmVerif.Lemmas.KeptCert
import GrmVerif.Lemmas.KeptRun
/-!
The kept reductions and the plain parse. `KeptShiftInvisibleA` carries values: whatever the configuration
left by refused lexemes shifts or accepts, the unreduced one shifts or accepts reaching THE SAME value
configuration, i.e. it redoes exactly the kept reductions (`C05.KeptShiftInvisible` only says the state
stacks coincide, which does not determine the reductions in general: `exA3` in `RecActionsEx.lean`, an
uncertified table; every table with the certificates of C05's whole-run theorems satisfies it:
`keptShiftInvisibleA_of_cert`). Under it
the offers of the run of `recRunA_own` cannot be seen from the plain parse (`runStepsA_eraseK`), so the
recovering run that returns a value is the plain run with values over the lexemes of the edited input
(`recRunA_plainK`).
-/
namespace GrmVerif.RecAct
open LR Act Rec Cert C05 Term RankImpl Spec

/-- `a` is what is left of `b` after some lexemes were offered and refused (the reductions made under
them, with their action calls, kept) -/
inductive KeptA (G : Grammar) (A : Automaton) : VCfg → VCfg → Prop
  | refl (v : VCfg) : KeptA G A v v
  | offer (a b : VCfg) (la : Nat) (s : VCfg) : KeptA G A a b → feedA G A la FUEL a = .error s → KeptA G A s b

/-- **The reductions kept under refused lexemes, and their action calls, are exactly what the plain
parse makes under a token that is shifted or accepted afterwards**: the unreduced configuration `b`
reaches the very configuration the reduced one `a` reaches (for some fuel, hence every larger one). -/
def KeptShiftInvisibleA (G : Grammar) (A : Automaton) : Prop :=
  ∀ a b, KeptA G A a b → IsPath A b.pstack → ∀ t,
    (∀ s' x, feedA G A t FUEL a = .shifted s' x → ∃ f, feedA G A t f b = .shifted s' x) ∧
    (∀ x, feedA G A t FUEL a = .accept x → ∃ f, feedA G A t f b = .accept x)

theorem KeptA.erase {G : Grammar} {A : Automaton} {a b : VCfg} (h : KeptA G A a b) : Kept G A a.pstack b.pstack := by
  induction h with
  | refl v => exact .refl _
  | offer a b la s _ hf ih => exact .offer _ _ la _ ih (feedA_feed hf)

theorem kept_lift {G : Grammar} {A : Automaton} {a b : List Nat} (h : Kept G A a b) :
    ∀ vb : VCfg, vb.pstack = b → ∃ va : VCfg, va.pstack = a ∧ KeptA G A va vb := by
  induction h with
  | refl s => intro vb hb; exact ⟨vb, hb, .refl vb⟩
  | offer a b la s _ hf ih =>
    intro vb hb
    obtain ⟨va, rfl, hk⟩ := ih vb hb
    rw [← feedA_erase] at hf
    obtain ⟨v', hv', rfl⟩ := FedA.erase_error hf
    exact ⟨v', rfl, .offer va vb la v' hk hv'⟩

theorem keptShiftInvisibleA_implies (G : Grammar) (A : Automaton) (hk : KeptShiftInvisibleA G A) :
    KeptShiftInvisible G A := by
  intro a b hab hb t
  obtain ⟨va, rfl, hkA⟩ := kept_lift hab ⟨b, [], [], []⟩ rfl
  refine ⟨?_, ?_⟩
  · intro x hx
    rw [← feedA_erase] at hx
    obtain ⟨s', v', hf, rfl⟩ := FedA.erase_shifted hx
    obtain ⟨f, hfb⟩ := (hk va _ hkA hb t).1 s' v' hf
    exact ⟨f, feedA_feed hfb⟩
  · intro x hx
    rw [← feedA_erase] at hx
    obtain ⟨v', hf, -⟩ := FedA.erase_accept hx
    obtain ⟨f, hfb⟩ := (hk va _ hkA hb t).2 v' hf
    exact ⟨f, v'.pstack, feedA_feed hfb⟩

section
variable {G : Grammar} {A : Automaton} {N : Nat → Bool} {F : Nat × Nat → Bool}

/-- a result of `feedA` with which the parse goes on -/
def goesA : FedA → Prop
  | .shifted _ _ => True
  | .accept _ => True
  | _ => False

theorem goesA_erase {r : FedA} (h : goesA r) : goes r.erase := by
  cases r <;> first | trivial | cases h

/-- **one refused lexeme, with values**: the configuration it leaves is on a path again, and whatever
that configuration shifts or accepts, the configuration before the offer answers the same — same
stacks, spans and log (the fuel for the kept reductions added) -/
theorem offer_invisibleA (P : Props G A) (PL : PropsLA G A N F)
    (hN : ∀ r, N r = true ↔ NullableR G r) (hF : ∀ r t, F (r, t) = true ↔ FirstP G r t)
    (hmin : ∀ s, s < A.nstates → ∀ i ∈ A.closed s, Clo0 G (A.core s) i.p i.dot)
    (hcols : colsOk G A = true) (la : Nat) :
    ∀ (fuel : Nat) (a s : VCfg), IsPath A a.pstack → feedA G A la fuel a = .error s →
      IsPath A s.pstack ∧ ∀ t f, goesA (feedA G A t f s) → ∃ f', feedA G A t f' a = feedA G A t f s := by
  intro fuel a s hp h
  rcases reds_cases G A la fuel a.pstack with ⟨ps, b, hr, hb, hl⟩ | ⟨ps, b, hr, rfl⟩
  · rw [feedA_eq_stopA hr hb hl] at h
    cases stopA_cfg (x := s) (by rw [h]; rfl)
    -- the state stack makes the same reductions under `t` (`reds_same`), so the four stacks are folded alike
    rw [← redsV_pstack hr rfl] at hr
    obtain ⟨hps, hsame⟩ := reds_same P PL hN hF hmin hcols hr hp
    exact ⟨hps, fun t f hgo => ⟨ps.length + f, feedA_reds (hsame t f (feedA_erase .. ▸ goesA_erase hgo)) rfl f⟩⟩
  · rw [feedA_eq_fuelOut hr] at h; cases h

theorem kept_invisibleA (P : Props G A) (PL : PropsLA G A N F)
    (hN : ∀ r, N r = true ↔ NullableR G r) (hF : ∀ r t, F (r, t) = true ↔ FirstP G r t)
    (hmin : ∀ s, s < A.nstates → ∀ i ∈ A.closed s, Clo0 G (A.core s) i.p i.dot)
    (hcols : colsOk G A = true) {a b : VCfg} (h : KeptA G A a b) (hb : IsPath A b.pstack) :
    IsPath A a.pstack ∧ ∀ t f, goesA (feedA G A t f a) → ∃ f', feedA G A t f' b = feedA G A t f a := by
  induction h with
  | refl s => exact ⟨hb, fun t f _ => ⟨f, rfl⟩⟩
  | offer a b la s _ hf ih =>
    obtain ⟨hpa, hab⟩ := ih hb
    obtain ⟨hps, hsa⟩ := offer_invisibleA P PL hN hF hmin hcols la FUEL a s hpa hf
    refine ⟨hps, ?_⟩
    intro t f hgo
    obtain ⟨f1, h1⟩ := hsa t f hgo
    obtain ⟨f2, h2⟩ := hab t f1 (by rw [h1]; exact hgo)
    exact ⟨f2, by rw [h2, h1]⟩

theorem keptShiftInvisibleA_of_cert (hc : check G A = true) (hla : checkLA G A N F = true)
    (hN : ∀ r, N r = true ↔ NullableR G r) (hF : ∀ r t, F (r, t) = true ↔ FirstP G r t)
    (hvp : vpClosed G A = true) (hcols : colsOk G A = true) : KeptShiftInvisibleA G A := by
  have P := check_props G A hc
  have PL := checkLA_props G A N F hla
  have hmin := vpClosed_minimal hvp
  intro a b hab hb t
  obtain ⟨_, h⟩ := kept_invisibleA P PL hN hF hmin hcols hab hb
  exact ⟨fun s' x hx => (h t FUEL (by rw [hx]; trivial)).imp fun f' hf' => hf'.trans hx,
    fun x hx => (h t FUEL (by rw [hx]; trivial)).imp fun f' hf' => hf'.trans hx⟩

end

/-- the plain action automaton shifts the lexemes one after the other (after the reductions the table
prescribes under each, with their action calls), from `b` to `st`; any fuel -/
def FeedsToA (G : Grammar) (A : Automaton) : VCfg → List Lx → VCfg → Prop
  | b, [], st => st = b
  | b, l :: ls, st => ∃ s' x f, feedA G A l.tok f b = .shifted s' x ∧
      FeedsToA G A (pushLex s' l.tok l.id l.span x) ls st

theorem feedsToA_append {G : Grammar} {A : Automaton} :
    ∀ (l1 l2 : List Lx) (b m st : VCfg), FeedsToA G A b l1 m → FeedsToA G A m l2 st →
      FeedsToA G A b (l1 ++ l2) st := by
  intro l1
  induction l1 with
  | nil => intro l2 b m st h1 h2; simp only [FeedsToA] at h1; subst h1; simpa using h2
  | cons t ts ih =>
    intro l2 b m st h1 h2
    obtain ⟨s', x, f, hx, h1'⟩ := h1
    exact ⟨s', x, f, hx, ih l2 _ m st h1' h2⟩

/-- the lexemes a list of steps shifts (offers dropped): `C05.stepToks` with lexemes -/
def stepLxs (steps : List AStepL) : List Lx :=
  steps.filterMap fun | .tok l => some l | .offer _ => none

theorem stepLxs_append (a b : List AStepL) : stepLxs (a ++ b) = stepLxs a ++ stepLxs b :=
  List.filterMap_append

theorem stepLxs_lxSteps (w : List Nat) (lexSpan : Nat → Nat × Nat) (items : List EItem) :
    stepLxs (lxSteps w lexSpan items) = items.map (itemLx w lexSpan) := by
  rw [stepLxs, lxSteps, List.filterMap_map]
  exact congrFun List.filterMap_eq_map items

theorem stepLxs_editedStepsA (G : Grammar) (w : List Nat) (lexSpan : Nat → Nat × Nat) (stop : Nat) :
    ∀ (errs : List Err) (pos : Nat),
      stepLxs (editedStepsA G w lexSpan stop pos errs) = (editedItems stop pos errs).map (itemLx w lexSpan)
  | [], pos => by simp only [editedStepsA, editedItems, stepLxs_lxSteps]
  | e :: es, pos => by
    rw [editedStepsA, editedItems, stepLxs_append, stepLxs_lxSteps]
    show _ ++ stepLxs (_ ++ _) = _   -- the offer is dropped, by computation
    rw [stepLxs_append, stepLxs_lxSteps, stepLxs_editedStepsA G w lexSpan stop es, List.map_append, List.map_append]

/-- `C05.runSteps_erase` with values -/
theorem runStepsA_eraseK {G : Grammar} {A : Automaton} (P : Props G A) (hcols : colsOk G A = true)
    (hk : KeptShiftInvisibleA G A) :
    ∀ (steps : List AStepL) (a b a' : VCfg), KeptA G A a b → IsPath A b.pstack →
      runStepsA G A a steps = some a' →
      ∃ b', FeedsToA G A b (stepLxs steps) b' ∧ KeptA G A a' b' ∧ IsPath A b'.pstack := by
  intro steps
  induction steps with
  | nil =>
    intro a b a' hab hb h
    cases h
    exact ⟨b, rfl, hab, hb⟩
  | cons x xs ih =>
    intro a b a' hab hb h
    cases x with
    | tok l =>
      simp only [runStepsA] at h
      cases hf : feedA G A l.tok FUEL a with
      | shifted s' v' =>
        rw [hf] at h
        obtain ⟨f, hfb⟩ := (hk a b hab hb _).1 s' v' hf
        obtain ⟨b', h1, h2, h3⟩ := ih _ _ a' (.refl _)
          (shifted_isPath P hcols hb (feedA_feed hfb)) h
        exact ⟨b', ⟨s', v', f, hfb, h1⟩, h2, h3⟩
      | _ => rw [hf] at h; cases h
    | offer la =>
      simp only [runStepsA] at h
      cases hf : feedA G A la FUEL a with
      | error s => rw [hf] at h; exact ih s b a' (.offer a b la s hab hf) hb h
      | _ => rw [hf] at h; cases h

/-- `C05.recRun_plainK` with values; `b` is the configuration of the plain run. Only the value clause is
claimed (nothing about where the plain run refuses), so the run theorem `recRunA_own` and the erasure of the
offers `runStepsA_eraseK` suffice. -/
theorem recRunA_plainK (G : Grammar) (A : Automaton) (w : List Nat) (lexSpan : Nat → Nat × Nat)
    (recover : Pos → List (List Repair))
    (P : Props G A) (hcols : colsOk G A = true)
    {N : Nat} (hN1 : 1 ≤ N) (hvalid : FirstValid G A w N (recoverOf G A w recover))
    (hsh : EofNeverShifted G A) (hacc : AcceptOnlyAtEof G A) (hw : G.eof ∉ w)
    (hk : KeptShiftInvisibleA G A) :
    ∀ (fuel : Nat) (c : RACfg) (errs : List Err) (o : Outcome) (log : List Call) (errs' : List Err) (b : VCfg),
      c.laidx ≤ w.length → KeptA G A c.v b → IsPath A b.pstack → (c.v = b ∨ C07.Runs G A w 1 c.pos) →
      recRunA G A w lexSpan recover fuel c errs = (o, log, errs') →
      ∃ new, errs' = errs ++ new ∧ Ordered w.length c.laidx new ∧
        (∀ t, o = .accept t → ∃ st y f,
          FeedsToA G A b ((editedItems w.length c.laidx new).map (itemLx w lexSpan)) st ∧
          feedA G A G.eof f st = .accept y ∧ acceptOut y = .accept t ∧ y.log = log) := by
  intro fuel c errs o log errs' b hc hkept hb _ h
  obtain ⟨new, h1, h2, h3⟩ := recRunA_own G A w lexSpan recover hsh hacc hw fuel c errs o log errs' hc h
  refine ⟨new, h1, h2, fun t ht => ?_⟩
  obtain ⟨st, y, hr, hy, hx⟩ := h3 t ht
  obtain ⟨b', hfb, hkb, hpb⟩ := runStepsA_eraseK P hcols hk _ c.v b st hkept hb hr
  obtain ⟨f, hf⟩ := (hk st b' hkb hpb G.eof).2 y hy
  rw [stepLxs_editedStepsA] at hfb
  exact ⟨b', y, f, hfb, hf, hx⟩

end GrmVerif.RecAct
