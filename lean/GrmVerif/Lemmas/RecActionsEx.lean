import GrmVerif.Lemmas.KeptCertEx
import GrmVerif.Model.RecActions
/-!
Non-vacuity material for the recovery-on theorems of C08: the certified merged 14-state table of
`Lemmas/KeptCertEx.lean` (`S: x A c | y A d | x B f | y B g; A: a; B: a e`), input `x a d`. The table
reduces `A → a` under `d` (the action runs, the reduction is KEPT) and then refuses `d`; the recoverer
reports `[insert c, delete]` first: `c` is inserted INSIDE the production `S → x A c`, as a zero-length
lexeme at the start of the deleted `d`, so the span of `S` ends at that zero-length lexeme.
-/
namespace GrmVerif.RecAct
open Rec C05

/-- lexeme `k` occupies the bytes `3k+1 .. 3k+3` (the layout of the harness: length 2, 1-byte gaps) -/
def exSpan (k : Nat) : Nat × Nat := (3 * k + 1, 3 * k + 3)

/-- the repair sequences reported at the refused `d` (after the kept reduction `A → a`) -/
def exRecoverA : Pos → List (List Repair) := fun c =>
  if c.stack = [4, 2, 0] ∧ c.pos = 2 then [[.insert 3, .delete], [.delete, .insert 3]] else []

theorem exA_valid : FirstValid exG2 exA2 [0, 2, 4] 1 (recoverOf exG2 exA2 [0, 2, 4] exRecoverA) := by
  intro c c' s0 rest h
  obtain ⟨st, p⟩ := c
  by_cases hc : st = [4, 2, 0] ∧ p = 2
  · obtain ⟨h1, h2⟩ := hc
    subst h1 h2
    have happ : applySeq exG2 exA2 [0, 2, 4] ⟨[4, 2, 0], 2⟩ [.insert 3, .delete] = some ⟨[9, 4, 2, 0], 3⟩ := rfl
    simp only [recoverOf, exRecoverA, and_self, ↓reduceIte, happ, Option.some.injEq, Prod.mk.injEq,
      List.cons.injEq] at h
    obtain ⟨_, rfl, _⟩ := h
    rfl
  · simp [recoverOf, exRecoverA, hc] at h

/-! ### equal state stacks do not determine the reductions made

Why the working hypothesis of the recovery-on theorems is the value-carrying `KeptShiftInvisibleA` and
not `C05.KeptShiftInvisible`: a table (not a certified one — it resolves a reduce/reduce choice by the
lookahead) for `S: A 't'; A: 'a' | C; C: 'a'` (tokens a 0, z 1, t 2, end-of-input 3; productions
0 `A → a`, 1 `C → a`, 2 `A → C`, 3 `S → A t`, 4 `^ → S`) whose state after `a` reduces `A → a` under `z`
and `C → a` under `t`. After `z` has been offered to the stack `[1, 0]` and refused (`A → a` kept: `[2, 0]`)
the reduced and the unreduced stack both shift `t` to the SAME state stack `[4, 2, 0]` — the conclusion of
`KeptShiftInvisible` — but the values differ: `A(a)` against `A(C(a))`, one action call against two. -/

def exG3 : Grammar :=
  ⟨4, 4, 3, 4, [(2, [.tok 0]), (3, [.tok 0]), (2, [.rule 3]), (1, [.rule 2, .tok 2]), (0, [.rule 1])], [], []⟩

def exA3 : Automaton :=
  ⟨0,
   [exSt2 [] [] [] [.shift 1, .error, .error, .error] [none, some 5, some 2, some 3],
    exSt2 [] [] [] [.error, .reduce 0, .reduce 1, .error] [none, none, none, none],
    exSt2 [] [] [] [.error, .error, .shift 4, .error] [none, none, none, none],
    exSt2 [] [] [] [.error, .error, .reduce 2, .error] [none, none, none, none],
    exSt2 [] [] [] [.error, .error, .error, .reduce 3] [none, none, none, none],
    exSt2 [] [] [] [.error, .error, .error, .accept] [none, none, none, none]],
   [], []⟩

/-- the configuration after `a` has been shifted -/
def exV3 : VCfg := ⟨[1, 0], [.leaf 0 0], [⟨1, 3, false⟩], []⟩

end GrmVerif.RecAct
