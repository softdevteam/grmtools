import GrmVerif.Lemmas.LexSpecParse
/-!
Helper lemmas for the whole-specification parse: character classes, positions in the source
(`At src i rest`: `i` is the byte offset at which the suffix `rest` of `src` starts), what the
position primitives of the model return at such a position, and how `splitLinesAt` unfolds.
-/
namespace GrmVerif.LexSpecParse
open GrmVerif.LexUnescape GrmVerif.LexParse

theorem lineSep_pws (c : Char) (h : isLineSep c = true) : isPWS c = true := by
  simp only [isLineSep, Bool.or_eq_true, beq_iff_eq] at h
  unfold isPWS
  rcases h with (((h | h) | h) | h) | h <;> rw [h] <;> rfl

theorem spaceSep_pws (c : Char) (h : isSpaceSep c = true) : isPWS c = true := by
  simp only [isSpaceSep, Bool.or_eq_true, beq_iff_eq] at h
  rcases h with rfl | rfl <;> decide

/-- space and tab, the separators `parse_rule` splits at, are one byte long (the `+ 1`s of the code) -/
theorem spaceSep_size (c : Char) (h : isSpaceSep c = true) : c.utf8Size = 1 := by
  simp only [isSpaceSep, Bool.or_eq_true, beq_iff_eq] at h
  rcases h with rfl | rfl <;> decide

theorem spaceSep_not_lineSep (c : Char) (h : isSpaceSep c = true) : isLineSep c = false := by
  simp only [isSpaceSep, Bool.or_eq_true, beq_iff_eq] at h
  rcases h with rfl | rfl <;> decide

theorem not_pws_not_lineSep (c : Char) (h : isPWS c = false) : isLineSep c = false := by
  cases hc : isLineSep c with
  | false => rfl
  | true => rw [lineSep_pws c hc] at h; cases h

abbrev notSep : Char → Bool := fun c => !isLineSep c

/-- the suffix `rest` of `src` starts at byte offset `i` -/
def At (src : List Char) (i : Nat) (rest : List Char) : Prop :=
  ∃ pre, src = pre ++ rest ∧ i = byteLen pre

theorem At.dropB {src : List Char} {i : Nat} {rest : List Char} (h : At src i rest) :
    dropB src i = some rest := by
  obtain ⟨pre, rfl, rfl⟩ := h
  exact dropB_append pre rest

theorem At.adv {src : List Char} {i : Nat} {a b : List Char} (h : At src i (a ++ b)) :
    At src (i + byteLen a) b := by
  obtain ⟨pre, rfl, rfl⟩ := h
  exact ⟨pre ++ a, by simp, by rw [byteLen_append]⟩

theorem At.len {src : List Char} {i : Nat} {rest : List Char} (h : At src i rest) :
    byteLen src = i + byteLen rest := by
  obtain ⟨pre, rfl, rfl⟩ := h
  rw [byteLen_append]

theorem At.slice {src : List Char} {i : Nat} {a b : List Char} (h : At src i (a ++ b)) :
    sliceB src i (i + byteLen a) = some a := by
  obtain ⟨pre, rfl, rfl⟩ := h
  rw [← List.append_assoc]
  exact sliceB_mid pre a b

theorem At.start (pre body : List Char) : At (pre ++ body) (byteLen pre) body := ⟨pre, rfl, rfl⟩

theorem At.tw {src : List Char} {i : Nat} {rest : List Char} (p : Char → Bool) (h : At src i rest) :
    At src (i + byteLen (rest.takeWhile p)) (rest.dropWhile p) := by
  apply At.adv
  rw [List.takeWhile_append_dropWhile]; exact h

theorem skipAt_eq {src : List Char} {i : Nat} {rest : List Char} (p : Char → Bool) (h : At src i rest) :
    skipAt p src i = some (i + byteLen (rest.takeWhile p)) := by
  simp only [skipAt, h.dropB, Option.map_some]

theorem lookaheadIs_eq {src : List Char} {i : Nat} {rest : List Char} (s : List Char) (h : At src i rest) :
    lookaheadIs s src i = some (if s.isPrefixOf rest then some (i + byteLen s) else none) := by
  simp only [lookaheadIs, h.dropB, Option.map_some]

theorem lineLenAt_eq {src : List Char} {i : Nat} {rest : List Char} (h : At src i rest) :
    lineLenAt src i = some (byteLen (rest.takeWhile notSep)) := by
  simp only [lineLenAt, h.dropB, Option.map_some]

theorem commentAt_eq (env : Env) {src : List Char} {i : Nat} {rest : List Char} (h : At src i rest) :
    commentAt env src i = some (env.comments && ['/', '/'].isPrefixOf rest) := by
  unfold commentAt
  cases env.comments with
  | false => simp
  | true =>
    simp only [if_true, lookaheadIs_eq _ h, Option.map_some, Bool.true_and]
    cases ['/', '/'].isPrefixOf rest <;> rfl

theorem prefix_pct {t : List Char} (h : ['%', '%'].isPrefixOf t = true) : ∃ r, t = '%' :: '%' :: r :=
  (List.isPrefixOf_iff_prefix.mp h).imp fun _ h => h.symm

/-- the lines after the separator at the head of `r` (none if the text is over) -/
def tailLines : List Char → Nat → List Line
  | [], _ => []
  | c :: cs, off => splitLinesAt cs (off + c.utf8Size)

/-- `rest.dropWhile notSep` is empty or starts with a line separator -/
def SepHead (r : List Char) : Prop := ∀ c cs, r = c :: cs → isLineSep c = true

theorem sepHead_dropWhile (rest : List Char) : SepHead (rest.dropWhile notSep) := by
  intro c cs h
  have := dropWhile_head notSep rest c cs h
  simpa using this

theorem splitLinesAt_append (a r : List Char) (off : Nat) (ha : ∀ c ∈ a, isLineSep c = false)
    (hr : SepHead r) : splitLinesAt (a ++ r) off = (off, a) :: tailLines r (off + byteLen a) := by
  induction a generalizing off with
  | nil =>
    cases r with
    | nil => rfl
    | cons c cs => simp [splitLinesAt, hr c cs rfl, tailLines, byteLen]
  | cons x xs ih =>
    have hx : isLineSep x = false := ha x List.mem_cons_self
    simp only [List.cons_append, splitLinesAt, hx, Bool.false_eq_true, if_false,
      ih (off + x.utf8Size) (fun c hc => ha c (List.mem_cons_of_mem _ hc)), byteLen, Nat.add_assoc]

theorem splitLinesAt_eq (rest : List Char) (off : Nat) :
    splitLinesAt rest off
      = (off, rest.takeWhile notSep)
          :: tailLines (rest.dropWhile notSep) (off + byteLen (rest.takeWhile notSep)) := by
  conv => lhs; rw [← List.takeWhile_append_dropWhile (p := notSep) (l := rest)]
  exact splitLinesAt_append _ _ off (fun c hc => by simpa [notSep] using mem_takeWhile_sat notSep rest c hc)
    (sepHead_dropWhile rest)

/-- a line separator at the head of `r` does not cut short a pattern that has none (`//`, `%%`) -/
theorem isPrefixOf_line (pat : List Char) (hp : ∀ x ∈ pat, isLineSep x = false) (l r : List Char)
    (hr : SepHead r) : pat.isPrefixOf (l ++ r) = pat.isPrefixOf l := by
  induction pat generalizing l with
  | nil => simp
  | cons x pat ih =>
    cases l with
    | cons y l =>
      simp only [List.cons_append, List.isPrefixOf_cons_cons, ih (fun z hz => hp z (List.mem_cons_of_mem _ hz))]
    | nil =>
      cases r with
      | nil => rfl
      | cons c cs =>
        have hne : x ≠ c := fun e => by
          have hx := hp x List.mem_cons_self
          rw [e, hr c cs rfl] at hx; cases hx
        simp [List.isPrefixOf, hne]

/-- the line that starts at offset `i`, what follows it, what the position primitives return there and
how the specification sees it -/
theorem At.line (env : Env) {src : List Char} {i : Nat} {c : Char} {cs : List Char}
    (h : At src i (c :: cs)) (hc : isLineSep c = false) :
    ∃ l r, cs = l ++ r ∧ (∀ x ∈ c :: l, isLineSep x = false) ∧ SepHead r ∧
      At src (i + byteLen (c :: l)) r ∧
      byteLen (c :: cs) = byteLen (c :: l) + byteLen r ∧ 0 < byteLen (c :: l) ∧
      lineLenAt src i = some (byteLen (c :: l)) ∧
      sliceB src i (i + byteLen (c :: l)) = some (c :: l) ∧
      commentAt env src i = some (env.comments && ['/', '/'].isPrefixOf (c :: l)) ∧
      lookaheadIs ['%', '%'] src i = some (if ['%', '%'].isPrefixOf (c :: l) then some (i + 2) else none) ∧
      splitLinesAt (c :: cs) i = (i, c :: l) :: tailLines r (i + byteLen (c :: l)) := by
  have hn : notSep c = true := by simp [notSep, hc]
  have htw : (c :: cs).takeWhile notSep = c :: cs.takeWhile notSep := by simp [hn]
  have hdw : (c :: cs).dropWhile notSep = cs.dropWhile notSep := by simp [hn]
  have hsep := sepHead_dropWhile cs
  have hcs : c :: cs = c :: cs.takeWhile notSep ++ cs.dropWhile notSep := by
    rw [List.cons_append, List.takeWhile_append_dropWhile]
  refine ⟨cs.takeWhile notSep, cs.dropWhile notSep, List.takeWhile_append_dropWhile.symm, ?_,
    hsep, ?_, ?_, ?_, ?_, ?_, ?_, ?_, ?_⟩
  · intro x hx; simpa [notSep] using mem_takeWhile_sat notSep (c :: cs) x (htw ▸ hx)
  · have := h.tw notSep; rwa [htw, hdw] at this
  · rw [← byteLen_append, ← hcs]
  · have := Char.utf8Size_pos c
    rw [byteLen_cons]; omega
  · rw [lineLenAt_eq h, htw]
  · exact At.slice (b := cs.dropWhile notSep) (hcs ▸ h)
  · rw [commentAt_eq env h, hcs, isPrefixOf_line _ (by decide) _ _ hsep]
  · rw [lookaheadIs_eq _ h, hcs, isPrefixOf_line _ (by decide) _ _ hsep]; rfl
  · rw [splitLinesAt_eq, htw, hdw]

theorem allBlank_split (s : List Char) : ∀ off, allBlank (splitLinesAt s off) = s.all isPWS := by
  induction s with
  | nil => intro off; rfl
  | cons c cs ih =>
    intro off
    by_cases hc : isLineSep c = true
    · have := ih (off + c.utf8Size)
      simp only [allBlank] at this
      simp [splitLinesAt, hc, allBlank, this, lineSep_pws c hc]
    · simp only [Bool.not_eq_true] at hc
      have h1 := ih (off + c.utf8Size)
      rw [splitLinesAt_eq] at h1
      simp only [splitLinesAt, hc, Bool.false_eq_true, if_false]
      rw [splitLinesAt_eq cs]
      simp only [allBlank, List.all_cons] at h1 ⊢
      rw [Bool.and_assoc, h1]

theorem allBlank_tail (r : List Char) (hr : SepHead r) (off : Nat) :
    allBlank (tailLines r off) = r.all isPWS := by
  cases r with
  | nil => rfl
  | cons c cs =>
    have := lineSep_pws c (hr c cs rfl)
    simp [tailLines, allBlank_split, this]

end GrmVerif.LexSpecParse
