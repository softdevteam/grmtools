import GrmVerif.Lemmas.MaxCostsInv
import GrmVerif.Lemmas.HasPathImpl
/-! The model of `rule_max_costs`, part 3: one iteration of `for i in 0..done.len()` keeps the invariant, its
`debug_assert!`s hold, and it completes the rule when every rule the rule refers to is done; the sweeps and the
outer loop (at most `nrules + 1` sweeps); the first loop, which marks the recursive rules through `has_path`;
and the meaning of the vector `ruleMaxCosts` returns. -/
namespace GrmVerif.Impl
open GrmVerif Spec

def newDone (done : List Bool) (i : Nat) (dn : Bool) : List Bool := if dn then vset done i else done

theorem vget_newDone (done : List Bool) (i : Nat) (dn : Bool) (hi : i < done.length) (r : Nat) :
    vget (newDone done i dn) r = ((dn && decide (r = i)) || vget done r) := by
  unfold newDone
  cases dn with
  | false => simp
  | true => simp [vget_vset _ _ _ hi]

theorem newDone_length (done : List Bool) (i : Nat) (dn : Bool) : (newDone done i dn).length = done.length := by
  unfold newDone; cases dn <;> simp [vset_length]

/-- the step of the loop at a rule `i` that is not done: the invariant is kept if the new cost is not below the old one
and, together with the new flag, satisfies what the invariant says of one rule -/
theorem xinv_update {G : Grammar} {tc : List Nat} {U : Nat → Nat} {s : MX} (hI : XInv G tc U s) {i : Nat}
    (hi : i < G.nrules) (hd : vget s.done i = false) (v : Nat) (dn b : Bool) (hv : cget s.costs i ≤ v)
    (hnew : RuleInv G tc U s.costs s.done i v dn) :
    XInv G tc U { costs := s.costs.set i v, done := newDone s.done i dn, allDone := b } := by
  have hic : i < s.costs.length := hI.clen.symm ▸ hi
  have hid : i < s.done.length := hI.dlen.symm ▸ hi
  have ci : cget (s.costs.set i v) i = v := by rw [cget_set _ _ _ _ hic, if_pos rfl]
  have co : ∀ r, r ≠ i → cget (s.costs.set i v) r = cget s.costs r :=
    fun r hr => by rw [cget_set _ _ _ _ hic, if_neg hr]
  have di : vget (newDone s.done i dn) i = dn := by simp [vget_newDone _ _ _ hid, hd]
  have dn' : ∀ r, r ≠ i → vget (newDone s.done i dn) r = vget s.done r :=
    fun r hr => by simp [vget_newDone _ _ _ hid, hr]
  refine ⟨by simp [hI.clen], by simp [newDone_length, hI.dlen], fun r => ?_⟩
  -- the vectors change at `i` only, a rule that was done is not `i`, and the cost of `i` does not get smaller
  have hctx : ∀ {r' v' d'}, RuleInv G tc U s.costs s.done r' v' d' →
      RuleInv G tc U (s.costs.set i v) (newDone s.done i dn) r' v' d' := fun h => h.ctx
    (fun q hq => by
      have hqi : q ≠ i := fun e => by rw [e, hd] at hq; cases hq
      exact ⟨(dn' q hqi).trans hq, co q hqi⟩)
    (fun p => curSum_mono_mem _ fun q _ => by
      by_cases hq : q = i
      · subst hq; rw [ci]; exact hv
      · rw [co q hq]; exact Nat.le_refl _)
  by_cases hri : r = i
  · subst hri; rw [ci, di]; exact hctx hnew
  · rw [co r hri, dn' r hri]; exact hctx (hI.rule r)

/-- what one iteration of the sweep guarantees besides the invariant. (The two `debug_assert!`s inside the iteration, new
cost ≥ old cost, hold by `RuleInv.mono` where the new cost is the largest sum of a production, and by `RuleInv.le` where
it is `u16::MAX`; the third, `done.iter().all(..)` when a sweep ends with `all_done`, by `flagT` over the sweep:
`mxSweep_spec`.) -/
structure XStep (G : Grammar) (s s' : MX) (i : Nat) : Prop where
  dmono : ∀ r, vget s.done r = true → vget s'.done r = true
  flagT : s'.allDone = true → s.allDone = true ∧ vget s.done i = true
  flagF : s'.allDone = false → s.allDone = false ∨ vget s.done i = false
  closes : (∀ q, Succ G i q → vget s.done q = true) → vget s'.done i = true

theorem mxFin_false {hc : Option Nat} {x : Nat} (h : ∀ v, hc = some v → v ≠ U16MAX) :
    mxFin hc (some x) = false := by
  cases hc with
  | none => rfl
  | some v => have := h v rfl; simp [mxFin, this]

theorem dbgAssert_true {α : Type} (dbg : Bool) (k : Option α) : dbgAssert dbg true k = k := by
  simp [dbgAssert]

theorem mxUpdate_fin (dbg : Bool) (s : MX) (i h : Nat) (hn : Option Nat) (hfin : mxFin (some h) hn = true)
    (hge : cget s.costs i ≤ h) :
    mxUpdate dbg s i (some h) hn = some { s with costs := s.costs.set i h, done := newDone s.done i true } := by
  simp [mxUpdate, hfin, dbgAssert, hge, newDone]

theorem mxUpdate_interim (dbg : Bool) (s : MX) (i x : Nat) (hc : Option Nat) (hfin : mxFin hc (some x) = false)
    (hge : cget s.costs i ≤ interimCost hc x) :
    mxUpdate dbg s i hc (some x) =
      some { s with costs := s.costs.set i (interimCost hc x), done := newDone s.done i false } := by
  simp [mxUpdate, hfin, dbgAssert, hge, newDone]

theorem interimCost_ge_right (hc : Option Nat) (x : Nat) : x ≤ interimCost hc x := by
  cases hc with
  | none => exact Nat.le_refl _
  | some h => exact Nat.le_max_right _ _

theorem interimCost_ge_left {hc : Option Nat} {h x : Nat} (hh : hc = some h) : h ≤ interimCost hc x := by
  subst hh; exact Nat.le_max_left _ _

theorem interimCost_eq (hc : Option Nat) (x : Nat) : hc = some (interimCost hc x) ∨ x = interimCost hc x := by
  cases hc with
  | none => exact Or.inr rfl
  | some h =>
    simp only [interimCost]
    rcases Nat.le_total h x with hle | hle
    · exact Or.inr (Nat.max_eq_right hle).symm
    · exact Or.inl (by rw [Nat.max_eq_left hle])

theorem xstep_done {G : Grammar} {s : MX} {i : Nat} (hid : i < s.done.length) (hd : vget s.done i = false)
    (costs : List Nat) : XStep G s { costs := costs, done := newDone s.done i true, allDone := false } i := by
  refine ⟨fun r h => ?_, (fun h => nomatch h), (fun _ => Or.inr hd), fun _ => ?_⟩
  · rw [vget_newDone _ _ _ hid, h, Bool.or_true]
  · rw [vget_newDone _ _ _ hid]; simp

theorem mxRule_spec (G : Grammar) (hwf : G.wf = true) (hprods : ∀ r, r < G.nrules → G.prodsOf r ≠ [])
    (tc : List Nat) (htc : tc.length = G.ntoks) (U : Nat → Nat) (hcert : maxCert G (tcF tc) U = true)
    (dbg : Bool) (s : MX) (hI : XInv G tc U s) (i : Nat) (hi : i < G.nrules) :
    ∃ s', mxRule G tc dbg s i = some s' ∧ XInv G tc U s' ∧ XStep G s s' i := by
  unfold mxRule
  cases hd : vget s.done i with
  | true =>
    simp only [if_true]
    exact ⟨s, rfl, hI, fun _ h => h, fun h => ⟨h, hd⟩, fun h => Or.inl h, fun _ => hd⟩
  | false =>
    simp only [Bool.false_eq_true, if_false]
    have hcp := fun p (hp : p ∈ G.prodsOf i) => hI.cert hwf hcert hi hd hp
    have hfits := fun p hp => (hcp p hp).1
    have hid : i < s.done.length := by rw [hI.dlen]; exact hi
    have hnc : ¬ Cyc G i := hI.notCyc hi hd
    by_cases hM : ∃ p ∈ G.prodsOf i, hasStop (isMaxB s.costs) (G.rhs p) = true
    · -- a rule of infinite cost is referenced
      obtain ⟨hn, hr⟩ := mxProds_eq G hwf tc s.costs s.done htc (G.prodsOf i) none none hfits
      rw [hr, List.any_eq_true.mpr hM, cond_true]
      obtain ⟨p, hp, hs⟩ := hM
      obtain ⟨q, hq, hqm⟩ := (hasStop_iff _ _).mp hs
      have hqm' : cget s.costs q = U16MAX := isMaxB_iff.mp hqm
      have hinf : Inf G i := inf_of_succ (succ_iff.mpr ⟨p, hp, hq⟩) ((hI.rule q).mx hqm').2
      have hnew := xinv_update hI hi hd U16MAX true false (hI.rule i).le (.infinite hinf)
      exact ⟨_, mxUpdate_fin dbg _ i U16MAX hn (by simp [mxFin]) (hI.rule i).le, hnew, xstep_done hid hd _⟩
    · -- no production refers to a rule of infinite cost: all of them are summed
      have hns : ∀ p ∈ G.prodsOf i, hasStop (isMaxB s.costs) (G.rhs p) = false :=
        fun p hp => Bool.eq_false_iff.mpr fun h => hM ⟨p, hp, h⟩
      obtain ⟨hc, hn, hr, res⟩ := mxProds_spec G hwf tc s.costs s.done htc (G.prodsOf i) hfits
        (Bool.eq_false_iff.mpr fun h => hM (List.any_eq_true.mp h))
      rw [hr]
      -- a value that is the largest of the sums is at least the present cost, and within the bounds
      have bounds : ∀ {v}, (∃ p ∈ G.prodsOf i, curSum (tcF tc) (cget s.costs) (G.rhs p) = v) ∧
          (∀ p ∈ G.prodsOf i, curSum (tcF tc) (cget s.costs) (G.rhs p) ≤ v) →
          cget s.costs i ≤ v ∧ v < U16MAX ∧ v ≤ U i := by
        rintro v ⟨⟨ps, hps, rfl⟩, hcov⟩
        obtain ⟨p1, hp1, hle1⟩ := (hI.rule i).mono hi hd
        have hlt := (hfits ps hps).2
        rw [prefSum_eq_curSum _ (hns ps hps)] at hlt
        exact ⟨Nat.le_trans hle1 (hcov p1 hp1), hlt, (hcp ps hps).2 (hns ps hps)⟩
      cases hn with
      | some x =>
        -- some production is incomplete: the rule gets an interim cost
        obtain ⟨pn, hpn, hdn, _⟩ := res.ncmplt.mem x rfl
        have htop := res.top ((interimCost_eq hc x).imp id (congrArg some)) (fun _ hh => interimCost_ge_left hh)
          (fun _ e => Option.some.inj e ▸ interimCost_ge_right hc x)
        obtain ⟨hge, hlt, hub⟩ := bounds htop
        obtain ⟨⟨ps, hps, hpe⟩, _⟩ := htop
        have hnew := xinv_update hI hi hd (interimCost hc x) false false hge
          { le := Nat.le_of_lt hlt, mx := fun e => absurd e (Nat.ne_of_lt hlt), cyc := fun _ hcy => absurd hcy hnc,
            fin := (fun e => nomatch e), ub := fun _ => hub, mono := fun _ _ => ⟨ps, hps, Nat.le_of_eq hpe.symm⟩ }
        have hfin : mxFin hc (some x) = false := mxFin_false fun h hh =>
          Nat.ne_of_lt (Nat.lt_of_le_of_lt (interimCost_ge_left hh) hlt)
        refine ⟨_, mxUpdate_interim dbg _ i x hc hfin hge, hnew, fun r h' => ?_, (fun h' => nomatch h'),
          fun _ => Or.inr hd, fun hcl => ?_⟩
        · simpa [newDone] using h'
        · have := (allDoneSyms_iff s.done (G.rhs pn)).mpr (fun q hq => hcl q (succ_iff.mpr ⟨pn, hpn, hq⟩))
          rw [hdn] at this; cases this
      | none =>
        -- every production is complete
        have hall : ∀ p ∈ G.prodsOf i, allDoneSyms s.done (G.rhs p) = true := fun p hp =>
          Bool.of_not_eq_false fun h => by obtain ⟨_, e, _⟩ := res.ncmplt.cover _ ⟨p, hp, h, rfl⟩; cases e
        obtain ⟨p0, hp0⟩ := List.exists_mem_of_ne_nil _ (hprods i hi)
        obtain ⟨h, rfl, _⟩ := res.cmplt.cover _ ⟨p0, hp0, hall p0 hp0, rfl⟩
        have htop := res.top (Or.inl rfl) (fun _ e => Nat.le_of_eq (Option.some.inj e).symm) (fun _ e => nomatch e)
        obtain ⟨hge, hlt, hub⟩ := bounds htop
        obtain ⟨⟨ps, hps, hpe⟩, hcov⟩ := htop
        -- so every rule the rule refers to has its exact maximum, and the largest sum is the exact maximum of `i`
        have hsub : ∀ p ∈ G.prodsOf i, ∀ q, Sym.rule q ∈ G.rhs p →
            vget s.done q = true ∧ cget s.costs q ≠ U16MAX := fun p hp q hq =>
          ⟨(allDoneSyms_iff _ _).mp (hall p hp) q hq, isMaxB_eq_false.mp ((hasStop_eq_false _ _).mp (hns p hp) q hq)⟩
        have hmax : (∃ w, Derives G (.rule i) w ∧ cost (tcF tc) w = h) ∧
            ∀ w, Derives G (.rule i) w → cost (tcF tc) w ≤ h := by
          constructor
          · obtain ⟨w, hw, hcw⟩ := curSum_attained (c := cget s.costs) (G.rhs ps) fun q hq =>
              ((hI.rule q).fin (hsub ps hps q hq).1 (hsub ps hps q hq).2).2.1
            obtain ⟨hps1, rfl⟩ := mem_prodsOf.mp hps
            exact ⟨w, .rule ps w hps1 hw, hcw.trans hpe⟩
          · intro w hw
            generalize hsy : Sym.rule i = sy at hw
            cases hw with
            | tok t => cases hsy
            | rule p w hp1 hseq =>
              cases hsy
              have hp := mem_prodsOf.mpr ⟨hp1, rfl⟩
              exact Nat.le_trans (curSum_bound (c := cget s.costs) _ w hseq fun q hq =>
                ((hI.rule q).fin (hsub p hp q hq).1 (hsub p hp q hq).2).2.2) (hcov p hp)
        have hnew := xinv_update hI hi hd h true false hge
          { le := Nat.le_of_lt hlt, mx := fun e => absurd e (Nat.ne_of_lt hlt), cyc := fun _ hcy => absurd hcy hnc,
            fin := fun _ _ => ⟨fun q hs => let ⟨p, hp, hq⟩ := succ_iff.mp hs; hsub p hp q hq, hmax⟩,
            ub := fun _ => hub, mono := fun _ e => nomatch e }
        exact ⟨_, mxUpdate_fin dbg _ i h none rfl hge, hnew, xstep_done hid hd _⟩

theorem XInv.flag {G : Grammar} {tc : List Nat} {U : Nat → Nat} {s : MX} (hI : XInv G tc U s) (b : Bool) :
    XInv G tc U { s with allDone := b } :=
  ⟨hI.clen, hI.dlen, hI.rule⟩

/-- after `j` sweeps the rules of rank below `j` are done -/
def Ranked (G : Grammar) (j : Nat) (s : MX) : Prop :=
  ∀ r, r < G.nrules → rho G r < j → vget s.done r = true

theorem mxSweep_spec (G : Grammar) (hwf : G.wf = true) (hprods : ∀ r, r < G.nrules → G.prodsOf r ≠ [])
    (tc : List Nat) (htc : tc.length = G.ntoks) (U : Nat → Nat) (hcert : maxCert G (tcF tc) U = true)
    (dbg : Bool) (j : Nat) (s : MX) (hI : XInv G tc U s) (hR : Ranked G j s) :
    ∃ s', mxSweep G tc dbg s = some s' ∧ XInv G tc U s' ∧
      (s'.allDone = true → ∀ i, i < G.nrules → vget s'.done i = true) ∧
      (s'.allDone = false → ∃ i, i < G.nrules ∧ vget s.done i = false) ∧
      Ranked G (j + 1) s' := by
  unfold mxSweep
  obtain ⟨s', h1, ⟨hI', hdm, hflag, hR'⟩, hall⟩ := iterM_all (mxRule G tc dbg)
    (fun i s' => (s'.allDone = true → vget s'.done i = true) ∧ (rho G i ≤ j → vget s'.done i = true))
    (List.range G.nrules)
    (fun s' => XInv G tc U s' ∧ (∀ r, vget s.done r = true → vget s'.done r = true) ∧
      (s'.allDone = false → ∃ i, i < G.nrules ∧ vget s.done i = false) ∧ Ranked G j s')
    { s with allDone := true }
    ⟨hI.flag true, fun _ h => h, (fun h => by cases h), hR⟩ (by
      intro s1 i hi ⟨hI1, hdm1, hflag1, hR1⟩
      have hi' : i < G.nrules := by simpa using hi
      obtain ⟨s2, h2, hI2, st⟩ := mxRule_spec G hwf hprods tc htc U hcert dbg s1 hI1 i hi'
      refine ⟨s2, h2, ⟨hI2, fun r h => st.dmono r (hdm1 r h), ?_, fun r hr hj => st.dmono r (hR1 r hr hj)⟩,
        ⟨?_, ?_⟩, ?_⟩
      · intro hf
        rcases st.flagF hf with h | h
        · exact hflag1 h
        · exact ⟨i, hi', Bool.eq_false_iff.mpr fun hs => by simp [hdm1 i hs] at h⟩
      · intro ht; exact st.dmono i (st.flagT ht).2
      · intro hrho
        apply st.closes
        intro q hq
        have hqn : q < G.nrules := reach_lt hwf (reach_of_succ hq)
        by_cases hc : Cyc G q
        · exact ((hI1.rule q).mx ((hI1.rule q).cyc hqn hc)).1
        · exact hR1 q hqn (by have := rho_lt G hwf hq hc; omega)
      · intro b ⟨hb1, hb2⟩
        exact ⟨fun ht => st.dmono b (hb1 (st.flagT ht).1), fun hr => st.dmono b (hb2 hr)⟩)
  refine ⟨s', h1, hI', ?_, hflag, ?_⟩
  · intro ht i hi
    exact (hall i (by simpa using hi)).1 ht
  · intro r hr hj
    exact (hall r (by simpa using hr)).2 (by omega)

/-- the outer loop ends within `nrules + 1` sweeps, always with the same vector, and with every rule done:
after `j` sweeps the rules of rank below `j` are done, and every rule that is not recursive has a rank below
`nrules` -/
theorem mxLoop_spec (G : Grammar) (hwf : G.wf = true) (hprods : ∀ r, r < G.nrules → G.prodsOf r ≠ [])
    (tc : List Nat) (htc : tc.length = G.ntoks) (U : Nat → Nat) (hcert : maxCert G (tcF tc) U = true)
    (dbg : Bool) (s : MX) (hI : XInv G tc U s) :
    ∃ s', (XInv G tc U s' ∧ ∀ i, i < G.nrules → vget s'.done i = true) ∧
      ∀ fuel, G.nrules < fuel → mxLoop G tc dbg fuel s = .done s'.costs := by
  obtain ⟨v, ⟨s', rfl, hP⟩, hv⟩ := Fix.loop_done (mxLoop G tc dbg)
    (fun m t => XInv G tc U t ∧ ∃ j, j + m = G.nrules ∧ Ranked G j t)
    (fun v => ∃ s', v = .done s'.costs ∧ XInv G tc U s' ∧ ∀ i, i < G.nrules → vget s'.done i = true)
    (by
      intro m t ⟨hIt, j, hj, hR⟩
      obtain ⟨s', h1, hI', hT, hF, hR'⟩ := mxSweep_spec G hwf hprods tc htc U hcert dbg j t hIt hR
      cases hf : s'.allDone with
      | true =>
        have hall := hT hf
        have : s'.done.all id = true := by
          rw [all_id_iff]; intro i hi; rw [hI'.dlen] at hi; exact hall i hi
        exact Or.inl ⟨_, ⟨s', rfl, hI', hall⟩, fun n => by simp [mxLoop, h1, hf, this]⟩
      | false =>
        obtain ⟨i, hi, hnd⟩ := hF hf
        cases m with
        | zero =>
          have := hR i hi (by have := rho_lt_n G hwf hi (hIt.notCyc hi hnd); omega)
          rw [hnd] at this; cases this
        | succ m =>
          exact Or.inr ⟨s', m, Nat.lt_succ_self m, ⟨hI', j + 1, by omega, hR'⟩,
            fun n => by simp [mxLoop, h1, hf]⟩)
    G.nrules s ⟨hI, 0, Nat.zero_add _, by intro r _ h; omega⟩
  exact ⟨s', hP, hv⟩

theorem mxMark_eq (G : Grammar) (hwf : G.wf = true) (s : List Nat × List Bool) (r : Nat) (hr : r < G.nrules)
    (hd : vget s.2 r = false) : mxMark G s r = .done (setIf (isCyc G) U16MAX s r) := by
  obtain ⟨b, hb, hiff⟩ := hasPath_exact G hwf r r hr
  have h1 := hb (hasPathFuel G) (Nat.le_refl _)
  unfold mxMark setIf
  rw [h1]
  cases b with
  | true =>
    have : isCyc G r = true := (isCyc_iff G hwf r).mpr (hiff.mp rfl)
    simp [this, hd]
  | false =>
    have : isCyc G r = false :=
      Bool.eq_false_iff.mpr fun h => Bool.false_ne_true (hiff.mpr ((isCyc_iff G hwf r).mp h))
    simp [this]

theorem mxMarks_eq (G : Grammar) (hwf : G.wf = true) (cs : List Nat) (dn : List Bool)
    (hc : cs.length = G.nrules) (hd : dn.length = G.nrules) (hfalse : ∀ r, vget dn r = false) :
    ∀ k, k ≤ G.nrules →
      iterO (mxMark G) (List.range k) (cs, dn) = .done ((List.range k).foldl (setIf (isCyc G) U16MAX) (cs, dn)) := by
  intro k
  induction k with
  | zero => intro _; rfl
  | succ k ih =>
    intro hk
    rw [List.range_succ, iterO_append, ih (by omega), List.foldl_append]
    simp only [iterO, List.foldl_cons, List.foldl_nil]
    obtain ⟨cs', dn', hfo, _, _, h3⟩ := setIf_spec (isCyc G) U16MAX G.nrules cs dn hc hd k (by omega)
    have hk3 := (h3 k).1
    simp only [Nat.lt_irrefl, decide_false, Bool.false_and, Bool.or_false, hfalse] at hk3
    rw [hfo, mxMark_eq G hwf _ k (by omega) hk3]

theorem xinv_init (G : Grammar) (hwf : G.wf = true) (hprods : ∀ r, r < G.nrules → G.prodsOf r ≠ [])
    (tc : List Nat) (U : Nat → Nat) :
    ∃ cs dn, iterO (mxMark G) (List.range G.nrules)
        (List.replicate G.nrules 0, List.replicate G.nrules false) = .done (cs, dn) ∧
      XInv G tc U { costs := cs, done := dn, allDone := true } := by
  have hc : (List.replicate G.nrules 0).length = G.nrules := by simp
  have hd : (List.replicate G.nrules false).length = G.nrules := by simp
  have hfalse : ∀ r, vget (List.replicate G.nrules false) r = false := vget_replicate_false G.nrules
  obtain ⟨cs, dn, hfo, l1, l2, l3⟩ := setIf_spec (isCyc G) U16MAX G.nrules _ _ hc hd G.nrules (Nat.le_refl _)
  refine ⟨cs, dn, by rw [mxMarks_eq G hwf _ _ hc hd hfalse G.nrules (Nat.le_refl _), hfo], ?_⟩
  -- after the first loop exactly the recursive rules are done, with cost `u16::MAX`; the other costs are 0
  have hdone : ∀ r, vget dn r = true ↔ r < G.nrules ∧ isCyc G r = true := by
    intro r
    rw [(l3 r).1, hfalse]
    simp
  have hcost : ∀ r, cget cs r = if vget dn r = true then U16MAX else 0 := by
    intro r
    have hz : (List.replicate G.nrules 0).getD r 0 = 0 := by
      rw [List.getD_eq_getElem?_getD, List.getElem?_replicate]
      split <;> rfl
    unfold cget
    rw [(l3 r).2, hz, hfalse]
    simp [hdone]
  refine ⟨l1, l2, fun r => ?_⟩
  rw [hcost]
  by_cases hdr : vget dn r = true
  · rw [if_pos hdr, hdr]
    exact .infinite (Or.inl ((isCyc_iff G hwf r).mp ((hdone r).mp hdr).2))
  · rw [if_neg hdr, Bool.eq_false_iff.mpr hdr]
    exact { le := Nat.zero_le _, mx := (fun e => nomatch e),
            cyc := fun hr hc => absurd ((hdone r).mpr ⟨hr, (isCyc_iff G hwf r).mpr hc⟩) hdr,
            fin := (fun e => nomatch e), ub := fun _ => Nat.zero_le _,
            mono := fun hr _ => (List.exists_mem_of_ne_nil _ (hprods r hr)).imp fun p hp => ⟨hp, Nat.zero_le _⟩ }

/-- **meaning of the vector `rule_max_costs` returns** (for a final state of the model) -/
theorem final_spec {G : Grammar} (hwf : G.wf = true) {tc : List Nat} {U : Nat → Nat} {s : MX}
    (hI : XInv G tc U s) (hall : ∀ i, i < G.nrules → vget s.done i = true) (r : Nat) (hr : r < G.nrules) :
    (cget s.costs r = U16MAX ↔ Inf G r) ∧
    (cget s.costs r ≠ U16MAX →
      (∃ w, Derives G (.rule r) w ∧ cost (tcF tc) w = cget s.costs r) ∧
      ∀ w, Derives G (.rule r) w → cost (tcF tc) w ≤ cget s.costs r) := by
  constructor
  · constructor
    · intro h; exact ((hI.rule r).mx h).2
    · intro hinf
      apply Classical.byContradiction
      intro hfin
      have hreach : ∀ q, Reach G r q → cget s.costs q ≠ U16MAX := by
        intro q hq
        induction hq with
        | edge p B hp hm => exact (((hI.rule _).fin (hall _ hr) hfin).1 B ⟨p, hp, rfl, hm⟩).2
        | step A' p B hprev hp hm ih =>
          exact (((hI.rule _).fin (hall _ (reach_lt hwf hprev)) (ih hr hinf hfin)).1 B ⟨p, hp, rfl, hm⟩).2
      rcases hinf with hc | ⟨q, hq, hc⟩
      · exact hfin ((hI.rule r).cyc hr hc)
      · exact hreach q hq ((hI.rule q).cyc (reach_lt hwf hq) hc)
  · exact fun hfin => ((hI.rule r).fin (hall r hr) hfin).2

/-- **`rule_max_costs` terminates, does not panic under the certificate, and what it returns** (model
level) -/
theorem ruleMaxCosts_spec (G : Grammar) (hwf : G.wf = true) (hprods : ∀ r, r < G.nrules → G.prodsOf r ≠ [])
    (tc : List Nat) (htc : tc.length = G.ntoks) (U : Nat → Nat) (hcert : maxCert G (tcF tc) U = true)
    (dbg : Bool) :
    ∃ v : List Nat, (∀ fuel, G.nrules + 1 ≤ fuel → ruleMaxCosts G tc dbg fuel = .done v) ∧
      v.length = G.nrules ∧
      ∀ r, r < G.nrules →
        (cget v r = U16MAX ↔ Inf G r) ∧
        (cget v r ≠ U16MAX →
          (∃ w, Derives G (.rule r) w ∧ cost (tcF tc) w = cget v r) ∧
          ∀ w, Derives G (.rule r) w → cost (tcF tc) w ≤ cget v r) := by
  obtain ⟨cs, dn, hinit, hI0⟩ := xinv_init G hwf hprods tc U
  obtain ⟨s', ⟨hI', hall⟩, hloop⟩ := mxLoop_spec G hwf hprods tc htc U hcert dbg
    { costs := cs, done := dn, allDone := true } hI0
  refine ⟨s'.costs, ?_, hI'.clen, fun r hr => final_spec hwf hI' hall r hr⟩
  intro fuel hf
  unfold ruleMaxCosts
  rw [hinit]
  exact hloop fuel hf

end GrmVerif.Impl
