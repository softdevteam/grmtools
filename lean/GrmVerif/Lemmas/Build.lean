import GrmVerif.Model.Build
/-! Specification definitions and lemmas for C18 (incremental build = clean build): the invariant of
reachable states, what each builder changes, when the parser builder skips, and the four ways a run
of the build script can go (`buildAll_cases`). -/
namespace GrmVerif.Build

/-- the key (cache string) a generator result carries, if it got as far as computing one -/
def keyOf : PRes → Option Nat
  | .early => none
  | .late k => some k
  | .ok k _ => some k

/-- **Hypothesis on the cache string**: for one grammar text, two worlds whose cache strings are equal
give the same parser-generator result. I.e. the cache string is injective on everything, apart from the
grammar text itself, that the generator's result depends on (builder settings, and *not* the lexer
text). Discharged syntactically by `tools/extract.py` (every builder field is in `rebuild_cache` or in
the audited exclusion list) and behaviourally by the correspondence run. -/
def KeyCovers (G : Gen) : Prop :=
  ∀ w w' : World, w.g = w'.g → ∀ k, keyOf (G.p w) = some k → keyOf (G.p w') = some k → G.p w = G.p w'

/-- what a build into an empty directory leaves as parser output -/
def cleanP (G : Gen) (w : World) : Option Nat :=
  match G.p w with
  | .ok _ out => some out
  | _ => none

/-- Invariant of reachable states: the clock is not behind the grammar file's mtime nor the parser
output's (the lexer side has no mtime test), and a parser output that is newer than the grammar file
was generated from the *current* grammar text (under some settings) with its cache string embedded. -/
def Inv (G : Gen) (st : State) : Prop :=
  st.gmt ≤ st.clock ∧
  ∀ f, st.pout = some f → f.mtime ≤ st.clock ∧
    (st.gmt < f.mtime → ∃ w : World, w.g = st.g ∧ G.p w = .ok f.key f.content)

/-- kind of a parser status, forgetting the `regenerated` flag -/
def pKind : PStatus → Nat
  | .ok _ => 0
  | .err => 1
  | .notInvoked => 2

def lKind : LStatus → Nat
  | .ok _ => 0
  | .err => 1
  | .panic => 2
  | .notInvoked => 3

/-- What is observable after a build: outcome kind of each builder and, for each builder that was
invoked, whether its output exists and its text. -/
def obs (r : State × PStatus × LStatus) : Nat × Nat × Option Nat × Option Nat :=
  (pKind r.2.1, lKind r.2.2,
    if r.2.1 = .notInvoked then none else pContent r.1,
    if r.2.2 = .notInvoked then none else lContent r.1)

theorem upToDate_some {o : Option PFile} {gmt k : Nat} (h : upToDate o gmt k = true) :
    ∃ f, o = some f ∧ gmt < f.mtime ∧ f.key = k := by
  cases o with
  | none => simp [upToDate] at h
  | some f =>
    simp [upToDate] at h
    exact ⟨f, rfl, h.1, h.2⟩

theorem buildParser_frame (G : Gen) (st : State) :
    (buildParser G st).1 = { st with pout := (buildParser G st).1.pout } := by
  unfold buildParser
  split <;> try split
  all_goals rfl

theorem buildParser_world (G : Gen) (st : State) : (buildParser G st).1.world = st.world := by
  rw [buildParser_frame]; rfl

theorem buildParser_skip_iff (G : Gen) (st : State) :
    (buildParser G st).2 = .ok false ↔
      ∃ k, keyOf (G.p st.world) = some k ∧ upToDate st.pout st.gmt k = true := by
  unfold buildParser
  cases G.p st.world <;> simp only [keyOf] <;> try split
  all_goals simp_all

theorem buildParser_skip {G : Gen} {st : State} {k : Nat} (hk : keyOf (G.p st.world) = some k)
    (hu : upToDate st.pout st.gmt k = true) : buildParser G st = (st, .ok false) := by
  unfold buildParser
  cases hp : G.p st.world <;> simp_all [keyOf]

theorem buildParser_of_not_skip {G : Gen} {st : State} (h : (buildParser G st).2 ≠ .ok false) :
    buildParser G st = match G.p st.world with
      | .ok k out => (writeP st k out, .ok true)
      | _ => (removeP st, .err) := by
  unfold buildParser at h ⊢
  split <;> (try split) <;> simp_all

theorem buildParser_invoked (G : Gen) (st : State) : (buildParser G st).2 ≠ .notInvoked := by
  unfold buildParser
  split <;> try split
  all_goals simp

theorem pFailed_iff {p : PStatus} : pFailed p = true ↔ p = .err := by
  cases p <;> simp [pFailed]

theorem pKind_buildParser (G : Gen) (st : State) :
    pKind (buildParser G st).2 = if pFailed (buildParser G st).2 then 1 else 0 := by
  have := buildParser_invoked G st
  cases h : (buildParser G st).2 <;> simp_all [pKind, pFailed]

theorem buildParser_err {G : Gen} {st : State} (h : (buildParser G st).2 = .err) :
    (buildParser G st).1.pout = none := by
  have e := buildParser_of_not_skip (h ▸ nofun : (buildParser G st).2 ≠ .ok false)
  rw [e] at h ⊢
  split at h <;> simp_all [removeP]

theorem buildParser_upToDate {G : Gen} {st : State} (hs : st.gmt < st.clock)
    (h : pFailed (buildParser G st).2 = false) :
    ∃ k, keyOf (G.p st.world) = some k ∧ upToDate (buildParser G st).1.pout st.gmt k = true := by
  by_cases hsk : (buildParser G st).2 = .ok false
  · obtain ⟨k, hk, hu⟩ := (buildParser_skip_iff G st).mp hsk
    exact ⟨k, hk, by rw [buildParser_skip hk hu]; exact hu⟩
  · rw [buildParser_of_not_skip hsk] at h ⊢
    split at h
    · rename_i k out hp
      exact ⟨k, by rw [hp]; rfl, by simp [writeP, upToDate, hs]⟩
    · simp [pFailed] at h

theorem inv_init (G : Gen) (g l : Nat) (s : Settings) : Inv G (init g l s) :=
  ⟨Nat.le_refl _, fun f h => by simp [init] at h⟩

theorem inv_wipe {G : Gen} {st : State} (h : Inv G st) : Inv G (wipe st) :=
  ⟨h.1, fun f hf => by simp [wipe] at hf⟩

theorem inv_tick {G : Gen} {st : State} (h : Inv G st) (dt : Nat) : Inv G (tick st dt) :=
  ⟨Nat.le_trans h.1 (Nat.le_add_right _ _),
    fun f hf => ⟨Nat.le_trans (h.2 f hf).1 (Nat.le_add_right _ _), (h.2 f hf).2⟩⟩

theorem inv_buildParser {G : Gen} {st : State} (h : Inv G st) : Inv G (buildParser G st).1 := by
  by_cases hsk : (buildParser G st).2 = .ok false
  · obtain ⟨k, hk, hu⟩ := (buildParser_skip_iff G st).mp hsk
    rw [buildParser_skip hk hu]; exact h
  · rw [buildParser_of_not_skip hsk]
    split
    · rename_i k out hp
      refine ⟨h.1, fun f hf => ?_⟩
      cases (Option.some.inj hf)
      exact ⟨Nat.le_refl _, fun _ => ⟨st.world, rfl, hp⟩⟩
    · exact ⟨h.1, fun f hf => by cases hf⟩

/-- The skipping case is where the hypotheses are needed: the file that is kept was generated from
the current grammar text under the current key. -/
theorem buildParser_clean {G : Gen} (hk : KeyCovers G) {st : State} (h : Inv G st) :
    pContent (buildParser G st).1 = cleanP G st.world ∧
      pFailed (buildParser G st).2 = (cleanP G st.world).isNone := by
  by_cases hsk : (buildParser G st).2 = .ok false
  · obtain ⟨k, hkey, hu⟩ := (buildParser_skip_iff G st).mp hsk
    obtain ⟨f, hf, hlt, rfl⟩ := upToDate_some hu
    obtain ⟨w, hw, hgen⟩ := (h.2 f hf).2 hlt
    have := hk st.world w hw.symm f.key hkey (by rw [hgen]; rfl)
    rw [buildParser_skip hkey hu, cleanP, this, hgen]
    simp [pContent, hf, pFailed]
  · rw [buildParser_of_not_skip hsk, cleanP]
    split <;> simp_all [pContent, writeP, removeP, pFailed]

theorem sameText_iff {o : Option LFile} {out : Nat} :
    sameText o out = true ↔ o.map (·.content) = some out := by
  cases o <;> simp [sameText]

theorem finishLexer_frame (r : LRes) (st : State) :
    (finishLexer r st).1 = { st with lout := (finishLexer r st).1.lout } := by
  unfold finishLexer
  split <;> try split
  all_goals rfl

theorem finishLexer_invoked (r : LRes) (st : State) : (finishLexer r st).2 ≠ .notInvoked := by
  unfold finishLexer
  split <;> try split
  all_goals simp

/-- there is no cache on the lexer side: the outcome kind and the text left depend on the generator's
result only, not on the state -/
theorem finishLexer_obs (r : LRes) (st : State) :
    lKind (finishLexer r st).2 = (match r with | .ok _ => 0 | .missing => 2 | _ => 1) ∧
      lContent (finishLexer r st).1 = (match r with | .ok out => some out | _ => none) := by
  cases r with
  | ok out =>
    simp only [finishLexer]
    split
    · next hs => exact ⟨rfl, sameText_iff.mp hs⟩
    · simp [lKind, lContent, writeL]
  | _ => simp [finishLexer, lKind, lContent, removeL]

theorem finishLexer_ok {r : LRes} {st : State} (h : lKind (finishLexer r st).2 = 0) :
    ∃ out, r = .ok out ∧ sameText (finishLexer r st).1.lout out = true := by
  cases r with
  | ok out =>
    refine ⟨out, rfl, ?_⟩
    simp only [finishLexer]
    split
    · assumption
    · exact sameText_iff.mpr rfl
  | _ => simp [finishLexer, lKind] at h

theorem finishLexer_same {st : State} {out : Nat} (h : sameText st.lout out = true) :
    finishLexer (.ok out) st = (st, .ok false) := by
  simp [finishLexer, h]

theorem finishLexer_err {r : LRes} {st : State}
    (h : (finishLexer r st).2 = .err ∨ (finishLexer r st).2 = .panic) :
    (finishLexer r st).1.lout = none := by
  cases r with
  | ok out => simp only [finishLexer] at h; split at h <;> simp at h
  | _ => rfl

/-- The four ways a run of the build script can go: the lexer is unparsable and the nested parser
builder is never reached; the parser builder fails (nested: the lexer builder fails with it and removes
its output; separate: the lexer builder is not started); both builders run. -/
theorem buildAll_cases {G : Gen} {st : State} {P : State × PStatus × LStatus → Prop}
    (pre : G.nested st.s = true → isPre (G.l st.world) = true → P (removeL st, .notInvoked, .err))
    (failN : G.nested st.s = true → isPre (G.l st.world) = false → (buildParser G st).2 = .err →
      P (removeL (buildParser G st).1, .err, .err))
    (failS : G.nested st.s = false → (buildParser G st).2 = .err →
      P ((buildParser G st).1, .err, .notInvoked))
    (ok : ¬ (G.nested st.s = true ∧ isPre (G.l st.world) = true) →
      pFailed (buildParser G st).2 = false →
      P ((finishLexer (G.l st.world) (buildParser G st).1).1, (buildParser G st).2,
        (finishLexer (G.l st.world) (buildParser G st).1).2)) :
    P (buildAll G st) := by
  unfold buildAll
  by_cases hn : G.nested st.s = true
  · rw [if_pos hn]
    by_cases hp : isPre (G.l st.world) = true
    · rw [if_pos hp]; exact pre hn hp
    · rw [if_neg hp]
      by_cases hf : pFailed (buildParser G st).2 = true
      · exact (if_pos hf) ▸ failN hn (eq_false_of_ne_true hp) (pFailed_iff.mp hf)
      · exact (if_neg hf) ▸ ok (fun h => hp h.2) (eq_false_of_ne_true hf)
  · rw [if_neg hn]
    by_cases hf : pFailed (buildParser G st).2 = true
    · exact (if_pos hf) ▸ failS (eq_false_of_ne_true hn) (pFailed_iff.mp hf)
    · exact (if_neg hf) ▸ ok (fun h => hn h.1) (eq_false_of_ne_true hf)

theorem inv_buildAll {G : Gen} {st : State} (h : Inv G st) : Inv G (buildAll G st).1 :=
  buildAll_cases (P := fun r => Inv G r.1) (fun _ _ => h) (fun _ _ _ => inv_buildParser h)
    (fun _ _ => inv_buildParser h)
    (fun _ _ => by rw [finishLexer_frame]; exact inv_buildParser h)

theorem buildAll_of_parser_ok {G : Gen} {st : State} (h : pKind (buildAll G st).2.1 = 0) :
    pFailed (buildParser G st).2 = false ∧
    buildAll G st = ((finishLexer (G.l st.world) (buildParser G st).1).1, (buildParser G st).2,
      (finishLexer (G.l st.world) (buildParser G st).1).2) := by
  revert h
  refine buildAll_cases (P := fun r => pKind r.2.1 = 0 → _ ∧ r = _) ?_ ?_ ?_ ?_
  · intro _ _ h; cases h
  · intro _ _ _ h; cases h
  · intro _ _ h; cases h
  · intro _ h _; exact ⟨h, rfl⟩

theorem buildAll_of_skip {G : Gen} {st : State} (h : buildParser G st = (st, .ok false)) :
    buildAll G st = if G.nested st.s = true ∧ isPre (G.l st.world) = true
      then (removeL st, .notInvoked, .err)
      else ((finishLexer (G.l st.world) st).1, .ok false, (finishLexer (G.l st.world) st).2) := by
  refine buildAll_cases (P := fun r => r = ite _ _ _) ?_ ?_ ?_ ?_
  · intro hn hp; rw [if_pos ⟨hn, hp⟩]
  · intro _ _ he; rw [h] at he; cases he
  · intro _ he; rw [h] at he; cases he
  · intro hn _; rw [if_neg hn, h]

theorem obs_buildAll (G : Gen) (st : State) :
    obs (buildAll G st) =
      if G.nested st.s = true ∧ isPre (G.l st.world) = true then (2, 1, none, none)
      else if pFailed (buildParser G st).2 = true then
        (1, if G.nested st.s = true then 1 else 3, pContent (buildParser G st).1, none)
      else (0, (match G.l st.world with | .ok _ => 0 | .missing => 2 | _ => 1),
        pContent (buildParser G st).1, (match G.l st.world with | .ok out => some out | _ => none)) := by
  refine buildAll_cases (P := fun r => obs r = _) ?_ ?_ ?_ ?_
  · intro hn hp; rw [if_pos ⟨hn, hp⟩]; rfl
  · intro hn hp he
    rw [if_neg (fun h => by rw [hp] at h; cases h.2), if_pos (pFailed_iff.mpr he), if_pos hn]; rfl
  · intro hn he
    rw [if_neg (fun h => by rw [hn] at h; cases h.1), if_pos (pFailed_iff.mpr he), if_neg (by rw [hn]; nofun)]
    rfl
  · intro hn hf
    have hk := pKind_buildParser G st
    rw [hf] at hk
    have hpc : pContent (finishLexer (G.l st.world) (buildParser G st).1).1
        = pContent (buildParser G st).1 := by rw [finishLexer_frame]; rfl
    rw [if_neg hn, if_neg (by rw [hf]; nofun)]
    simp only [obs, hk, if_neg (buildParser_invoked G st), if_neg (finishLexer_invoked _ _), hpc,
      finishLexer_obs]
    rfl

/-- **The observable result of a build depends on the sources and settings only**, not on the history
that led to the state. -/
theorem obs_buildAll_of_inv {G : Gen} (hk : KeyCovers G) {st st' : State} (h : Inv G st)
    (h' : Inv G st') (hw : st'.world = st.world) : obs (buildAll G st') = obs (buildAll G st) := by
  have c := buildParser_clean hk h
  have c' := buildParser_clean hk h'
  rw [obs_buildAll, obs_buildAll, show st'.s = st.s from congrArg World.s hw, c'.1, c'.2, hw, c.1, c.2]

theorem inv_step {G : Gen} {st : State} (h : Inv G st) (op : Op) : Inv G (step G st op) := by
  cases op with
  | build dt => exact inv_buildAll (inv_tick h dt)
  | editGrammar g dt =>
    exact ⟨Nat.le_refl _, fun f hf => ⟨Nat.le_trans (h.2 f hf).1 (Nat.le_add_right _ _), fun hlt =>
      absurd (Nat.le_trans (h.2 f hf).1 (Nat.le_add_right _ dt)) (Nat.not_le.mpr hlt)⟩⟩
  -- the other edits move nothing the invariant looks at but the clock
  | editLexer l dt => exact inv_tick h dt
  | changeOption i v dt => exact inv_tick h dt

theorem inv_run {G : Gen} (ops : List Op) {st : State} (h : Inv G st) : Inv G (run G st ops) :=
  List.foldlRecOn ops (step G) h fun _ h op _ => inv_step h op

theorem run_keeps_parser (G : Gen) (mid : List Op) (st : State)
    (hmid : ∀ op ∈ mid, isBuild op = false ∧ isEditGrammar op = false) :
    (run G st mid).pout = st.pout ∧ (run G st mid).gmt = st.gmt ∧ (run G st mid).lout = st.lout := by
  refine List.foldlRecOn (motive := fun s => s.pout = st.pout ∧ s.gmt = st.gmt ∧ s.lout = st.lout) mid
    (step G) ⟨rfl, rfl, rfl⟩ fun s h op ho => ?_
  have hb := hmid op ho
  cases op with
  | build dt => cases hb.1
  | editGrammar g dt => cases hb.2
  | _ => exact h

theorem run_nobuild (G : Gen) (mid : List Op) (st : State) (hi : Inv G st)
    (hmid : ∀ op ∈ mid, isBuild op = false) :
    (run G st mid).pout = st.pout ∧ st.gmt ≤ (run G st mid).gmt := by
  -- an edit of the grammar stamps it with the clock, which the invariant keeps ahead of `gmt`
  refine (List.foldlRecOn (motive := fun s => Inv G s ∧ s.pout = st.pout ∧ st.gmt ≤ s.gmt) mid
    (step G) ⟨hi, rfl, Nat.le_refl _⟩ fun s h op ho => ⟨inv_step h.1 op, ?_⟩).2
  have hb := hmid op ho
  cases op with
  | build dt => cases hb
  | editGrammar g dt => exact ⟨h.2.1, Nat.le_trans h.2.2 (Nat.le_trans h.1.1 (Nat.le_add_right _ _))⟩
  | _ => exact h.2

end GrmVerif.Build
