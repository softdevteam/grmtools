import GrmVerif.Lemmas.Costs
import GrmVerif.Model.Fix
/-!
Knuth's generalisation of Dijkstra's algorithm to grammars, on unbounded naturals (`dijkstra`): the
algorithm `rule_min_costs` implements. It is used through its rounds only: the round function `dijkStep`, the
invariant `DInv`, and the induction `knuth_rounds` over the rounds that remain. Proved here: the rounds end in the
table of minimal costs, which is unique (`MinTable.unique`), and the reference Bellman–Ford iteration `Ref.minCosts`,
dominating Knuth's rounds one by one, reaches the very same table within `nrules + 1` rounds — so `Ref.minCosts` never
runs out of its fuel (`minCosts_total`).
-/
namespace GrmVerif.Spec
open GrmVerif Ref

theorem minO_none_right (a : Option Nat) : minO a none = a := by cases a <;> rfl
theorem minO_none_left (a : Option Nat) : minO none a = a := by cases a <;> rfl

theorem minO_assoc (a b c : Option Nat) : minO (minO a b) c = minO a (minO b c) := by
  cases a <;> cases b <;> cases c <;> simp [minO, Nat.min_assoc]

theorem minOver_append (f : Nat → Option Nat) (l1 l2 : List Nat) :
    minOver f (l1 ++ l2) = minO (minOver f l1) (minOver f l2) := by
  induction l1 with
  | nil => simp [minOver, minO_none_left]
  | cons a l ih => simp [minOver, ih, minO_assoc]

theorem minOver_single (f : Nat → Option Nat) (a : Nat) : minOver f [a] = f a := by
  simp [minOver, minO_none_right]

theorem leO_refl (a : Option Nat) : leO a a := by cases a <;> simp [leO]

theorem minOver_none (f : Nat → Option Nat) (l : List Nat) : minOver f l = none ↔ ∀ p ∈ l, f p = none := by
  induction l with
  | nil => simp [minOver]
  | cons a l ih =>
    simp only [minOver, List.mem_cons, forall_eq_or_imp]
    rw [← ih]
    cases f a <;> cases minOver f l <;> simp [minO]

theorem minOver_eq_some (f : Nat → Option Nat) (l : List Nat) (v : Nat)
    (hat : ∃ p ∈ l, f p = some v) (hle : ∀ p ∈ l, leO (some v) (f p)) : minOver f l = some v := by
  obtain ⟨p, hp, hfp⟩ := hat
  have h1 := minOver_le f l p hp
  rw [hfp] at h1
  obtain ⟨m, hm, h1⟩ := leO_some h1
  obtain ⟨q, hq, hfq⟩ := minOver_attained f l m hm
  have h2 := hle q hq
  rw [hfq] at h2
  rw [hm, Nat.le_antisymm h1 h2]

/-- `c'` agrees with `c` wherever `c` is defined -/
def Ext (c c' : Nat → Option Nat) : Prop := ∀ r v, c r = some v → c' r = some v

theorem Ext.refl (c : Nat → Option Nat) : Ext c c := fun _ _ h => h
theorem Ext.trans {a b c : Nat → Option Nat} (h1 : Ext a b) (h2 : Ext b c) : Ext a c :=
  fun r v h => h2 r v (h1 r v h)

theorem seqCost_ext {tc : Nat → Nat} {c c' : Nat → Option Nat} (he : Ext c c') :
    ∀ (l : List Sym) (v : Nat), seqCost tc c l = some v → seqCost tc c' l = some v := by
  intro l
  induction l with
  | nil => intro v h; exact h
  | cons s rest ih =>
    intro v h
    obtain ⟨a, b, h1, h2, hv⟩ := seqCost_cons_some.mp h
    refine seqCost_cons_some.mpr ⟨a, b, ?_, ih b h2, hv⟩
    cases s with
    | tok t => exact h1
    | rule q => exact he q a h1

theorem seqCost_mem {tc : Nat → Nat} {c : Nat → Option Nat} :
    ∀ (l : List Sym) (v : Nat), seqCost tc c l = some v → ∀ q, Sym.rule q ∈ l → ∃ x, c q = some x ∧ x ≤ v := by
  intro l
  induction l with
  | nil => intro v _ q hq; cases hq
  | cons s rest ih =>
    intro v h q hq
    obtain ⟨a, b, h1, h2, rfl⟩ := seqCost_cons_some.mp h
    rcases List.mem_cons.mp hq with rfl | hq
    · exact ⟨a, h1, Nat.le_add_right _ _⟩
    · obtain ⟨x, hx, hle⟩ := ih b h2 q hq
      exact ⟨x, hx, Nat.le_trans hle (Nat.le_add_left _ _)⟩

theorem seqCost_none {tc : Nat → Nat} {c : Nat → Option Nat} :
    ∀ (l : List Sym), seqCost tc c l = none → ∃ q, Sym.rule q ∈ l ∧ c q = none := by
  intro l
  induction l with
  | nil => intro h; simp [seqCost] at h
  | cons s rest ih =>
    intro h
    simp only [seqCost] at h
    cases h1 : symCost tc c s with
    | none =>
      cases s with
      | tok t => simp [symCost] at h1
      | rule q => exact ⟨q, by simp, h1⟩
    | some a =>
      cases h2 : seqCost tc c rest with
      | none =>
        obtain ⟨q, hq, hc⟩ := ih h2
        exact ⟨q, List.mem_cons_of_mem _ hq, hc⟩
      | some b => simp [h1, h2, addO] at h

theorem ruleCost_attained {G : Grammar} {tc : Nat → Nat} {c : Nat → Option Nat} {r v : Nat}
    (h : ruleCost G tc c r = some v) : ∃ p, p ∈ G.prodsOf r ∧ seqCost tc c (G.rhs p) = some v :=
  minOver_attained _ _ v h

theorem ruleCost_le {G : Grammar} {tc : Nat → Nat} {c : Nat → Option Nat} {r p : Nat}
    (hp : p ∈ G.prodsOf r) : leO (ruleCost G tc c r) (seqCost tc c (G.rhs p)) :=
  minOver_le _ _ p hp

theorem ruleCost_some_lt {G : Grammar} (hwf : G.wf = true) {tc : Nat → Nat} {c : Nat → Option Nat} {r v : Nat}
    (h : ruleCost G tc c r = some v) : r < G.nrules := by
  obtain ⟨p, hp, _⟩ := ruleCost_attained h
  obtain ⟨hp1, rfl⟩ := mem_prodsOf.mp hp
  exact wf_lhs hwf hp1

theorem look_ge {c : List (Option Nat)} {r : Nat} (h : c.length ≤ r) : look c r = none := by
  simp [look, List.getElem?_eq_none h]

theorem look_some_lt {c : List (Option Nat)} {r v : Nat} (h : look c r = some v) : r < c.length := by
  by_cases hr : r < c.length
  · exact hr
  · rw [look_ge (by omega)] at h; cases h

theorem look_ext {c c' : List (Option Nat)} (hl : c.length = c'.length) (h : ∀ r, look c r = look c' r) :
    c = c' := by
  apply List.ext_getElem hl
  intro i h1 h2
  have := h i
  simpa [look, List.getElem?_eq_getElem h1, List.getElem?_eq_getElem h2] using this

theorem stepCosts_length (G : Grammar) (tc : Nat → Nat) (b : List (Option Nat)) :
    (stepCosts G tc b).length = G.nrules := by simp [stepCosts]

/-- a table of minimal costs: a fixed point of `ruleCost` every finite entry of which is the cost of a
derivable string -/
structure MinTable (G : Grammar) (tc : Nat → Nat) (m : List (Option Nat)) : Prop where
  len : m.length = G.nrules
  fix : ∀ r, r < G.nrules → look m r = ruleCost G tc (look m) r
  real : Realised G tc (look m)

theorem MinTable.lower {G : Grammar} {tc : Nat → Nat} {m : List (Option Nat)} (hm : MinTable G tc m)
    (hwf : G.wf = true) {r : Nat} (hr : r < G.nrules) {w : List Nat} (hw : Derives G (.rule r) w) :
    ∃ v, look m r = some v ∧ v ≤ cost tc w := by
  have hok : G.symOk (.rule r) = true := symOk_rule.mpr hr
  obtain ⟨v, hv, hle⟩ := derives_lower hm.fix hwf hw hok
  exact ⟨v, by simpa [symCost] using hv, hle⟩

/-- what a table of minimal costs says: `none` = the rule derives nothing, `some v` = the least cost of a string it
derives -/
theorem MinTable.exact {G : Grammar} {tc : Nat → Nat} {m : List (Option Nat)} (hm : MinTable G tc m)
    (hwf : G.wf = true) {r : Nat} (hr : r < G.nrules) :
    (look m r = none → ¬ ∃ w, Derives G (.rule r) w) ∧
    (∀ v, look m r = some v →
      (∃ w, Derives G (.rule r) w ∧ cost tc w = v) ∧ ∀ w, Derives G (.rule r) w → v ≤ cost tc w) := by
  refine ⟨fun hn ⟨w, hw⟩ => ?_, fun v hv => ⟨hm.real r v hv, fun w hw => ?_⟩⟩
  · obtain ⟨v, hv, _⟩ := hm.lower hwf hr hw
    rw [hn] at hv; cases hv
  · obtain ⟨v', hv', hle⟩ := hm.lower hwf hr hw
    rw [hv] at hv'; cases hv'; exact hle

theorem MinTable.step_eq {G : Grammar} {tc : Nat → Nat} {m : List (Option Nat)} (hm : MinTable G tc m) :
    stepCosts G tc m = m := by
  apply look_ext (by rw [stepCosts_length, hm.len])
  intro r
  rw [look_stepCosts]
  by_cases hr : r < G.nrules
  · simp only [hr, if_true]; exact (hm.fix r hr).symm
  · simp only [hr, if_false]; exact (look_ge (by rw [hm.len]; omega)).symm

/-- a realised table of the right length that extends a table of minimal costs is that table (a rule the
latter gives no cost derives nothing) -/
theorem MinTable.eq_of_ext {G : Grammar} {tc : Nat → Nat} {m b : List (Option Nat)} (hm : MinTable G tc m)
    (hwf : G.wf = true) (hlen : b.length = G.nrules) (hext : Ext (look m) (look b))
    (hreal : Realised G tc (look b)) : b = m := by
  apply look_ext (by rw [hlen, hm.len])
  intro r
  cases hmr : look m r with
  | some v => exact hext r v hmr
  | none =>
    cases hbr : look b r with
    | none => rfl
    | some u =>
      obtain ⟨w, hw, _⟩ := hreal r u hbr
      obtain ⟨v, hv, _⟩ := hm.lower hwf (hlen ▸ look_some_lt hbr) hw
      rw [hmr] at hv; cases hv

theorem MinTable.unique {G : Grammar} {tc : Nat → Nat} {m m' : List (Option Nat)} (hm : MinTable G tc m)
    (hm' : MinTable G tc m') (hwf : G.wf = true) : m' = m := by
  refine hm.eq_of_ext hwf hm'.len (fun r v h => ?_) hm'.real
  have hr : r < G.nrules := hm.len ▸ look_some_lt h
  obtain ⟨w, hw, hc⟩ := hm.real r v h
  obtain ⟨v', hv', hle'⟩ := hm'.lower hwf hr hw
  obtain ⟨w', hw', hc'⟩ := hm'.real r v' hv'
  obtain ⟨v'', hv'', hle''⟩ := hm.lower hwf hr hw'
  rw [h] at hv''; cases hv''
  rw [hv']; congr 1; omega

/-- the table of a cost function -/
def tbl (G : Grammar) (c : Nat → Option Nat) : List (Option Nat) := (List.range G.nrules).map c

theorem look_tbl {G : Grammar} {c : Nat → Option Nat} (h : ∀ r v, c r = some v → r < G.nrules) :
    look (tbl G c) = c := by
  funext r
  rw [tbl, look_map_range]
  split
  · rfl
  · next hr =>
    cases hc : c r with
    | none => rfl
    | some v => exact absurd (h r v hc) hr

/-- `ruleCost` of the rules that have no cost yet (`none` for the others) -/
def openCost (G : Grammar) (tc : Nat → Nat) (c : Nat → Option Nat) (i : Nat) : Option Nat :=
  if (c i).isNone then ruleCost G tc c i else none

/-- the least cost of a complete production of a rule that has no cost yet -/
def dijkLow (G : Grammar) (tc : Nat → Nat) (c : Nat → Option Nat) : Option Nat :=
  minOver (openCost G tc c) (List.range G.nrules)

/-- the rules whose cheapest complete production costs `low` get that cost -/
def dijkStep (G : Grammar) (tc : Nat → Nat) (c : Nat → Option Nat) (low : Nat) : Nat → Option Nat := fun i =>
  match c i with
  | some v => some v
  | none => if ruleCost G tc c i = some low then some low else none

def dijkFrom (G : Grammar) (tc : Nat → Nat) : Nat → (Nat → Option Nat) → Option (Nat → Option Nat)
  | 0, _ => none
  | fuel + 1, c =>
    match dijkLow G tc c with
    | none => some c
    | some low => dijkFrom G tc fuel (dijkStep G tc c low)

def dijkstra (G : Grammar) (tc : Nat → Nat) : Option (List (Option Nat)) :=
  (dijkFrom G tc (G.nrules + 1) (fun _ => none)).map (tbl G)

/-- invariant of the rounds; `L` is the cost fixed in the previous round -/
structure DInv (G : Grammar) (tc : Nat → Nat) (c : Nat → Option Nat) (L : Nat) : Prop where
  real : Realised G tc c
  below : ∀ r v, c r = some v → v ≤ L
  above : ∀ i, c i = none → ∀ v, ruleCost G tc c i = some v → L ≤ v
  fixed : ∀ r v, c r = some v → ruleCost G tc c r = some v

theorem dinv_init (G : Grammar) (tc : Nat → Nat) : DInv G tc (fun _ => none) 0 :=
  ⟨fun _ _ h => (nomatch h), fun _ _ h => (nomatch h), fun _ _ _ _ => Nat.zero_le _, fun _ _ h => (nomatch h)⟩

theorem dijkLow_some {G : Grammar} {tc : Nat → Nat} {c : Nat → Option Nat} {low : Nat}
    (h : dijkLow G tc c = some low) :
    (∃ i, i < G.nrules ∧ c i = none ∧ ruleCost G tc c i = some low) ∧
    ∀ i, i < G.nrules → c i = none → leO (some low) (ruleCost G tc c i) := by
  constructor
  · obtain ⟨i, hi, hv⟩ := minOver_attained _ _ low h
    simp only [openCost] at hv
    split at hv
    · next hn => exact ⟨i, by simpa using hi, by simpa using hn, hv⟩
    · cases hv
  · intro i hi hn
    have := minOver_le (openCost G tc c) (List.range G.nrules) i (by simpa using hi)
    unfold dijkLow at h
    rw [h] at this
    simpa [openCost, hn] using this

theorem dijkLow_none {G : Grammar} {tc : Nat → Nat} {c : Nat → Option Nat}
    (h : dijkLow G tc c = none) : ∀ i, i < G.nrules → c i = none → ruleCost G tc c i = none := by
  intro i hi hn
  have := (minOver_none _ _).mp h i (by simpa using hi)
  simpa [openCost, hn] using this

theorem dijkLow_full {G : Grammar} {tc : Nat → Nat} {c : Nat → Option Nat}
    (h : ∀ i, i < G.nrules → c i ≠ none) : dijkLow G tc c = none := by
  apply (minOver_none _ _).mpr
  intro i hi
  simp only [openCost]
  cases hl : c i with
  | none => exact absurd hl (h i (by simpa using hi))
  | some v => rfl

theorem ext_dijkStep {G : Grammar} {tc : Nat → Nat} {c : Nat → Option Nat} (low : Nat) :
    Ext c (dijkStep G tc c low) := by
  intro r v h
  simp [dijkStep, h]

theorem dijkStep_new {G : Grammar} {tc : Nat → Nat} {c : Nat → Option Nat} {low r x : Nat}
    (h0 : c r = none) (h1 : dijkStep G tc c low r = some x) :
    x = low ∧ ruleCost G tc c r = some low := by
  simp only [dijkStep, h0] at h1
  split at h1
  · next h => exact ⟨by simpa using h1.symm, h⟩
  · cases h1

/-- `low ≤ u`: the production then contains a rule fixed in this round -/
theorem seqCost_after {G : Grammar} {tc : Nat → Nat} {c : Nat → Option Nat} {low : Nat}
    (l : List Sym) (u : Nat) (h : seqCost tc (dijkStep G tc c low) l = some u) :
    seqCost tc c l = some u ∨ low ≤ u := by
  cases h0 : seqCost tc c l with
  | some u' =>
    left
    have := seqCost_ext (ext_dijkStep (G := G) (tc := tc) low) l u' h0
    rw [h] at this
    exact this.symm
  | none =>
    right
    obtain ⟨q, hq, hc⟩ := seqCost_none l h0
    obtain ⟨x, hx, hle⟩ := seqCost_mem l u h q hq
    obtain ⟨e, _⟩ := dijkStep_new hc hx
    omega

theorem dijkStep_val {G : Grammar} {tc : Nat → Nat} {c : Nat → Option Nat} {L low : Nat}
    (hI : DInv G tc c L) (hL : L ≤ low) (r v : Nat) (h : dijkStep G tc c low r = some v) :
    ruleCost G tc c r = some v ∧ v ≤ low := by
  cases h0 : c r with
  | some v' =>
    have := ext_dijkStep (G := G) (tc := tc) low r v' h0
    rw [h] at this
    cases this
    exact ⟨hI.fixed r v h0, by have := hI.below r v h0; omega⟩
  | none =>
    obtain ⟨e, hc⟩ := dijkStep_new h0 h
    subst e
    exact ⟨hc, Nat.le_refl _⟩

theorem dinv_step {G : Grammar} (hwf : G.wf = true) {tc : Nat → Nat} {c : Nat → Option Nat} {L low : Nat}
    (hI : DInv G tc c L) (hlow : dijkLow G tc c = some low) :
    DInv G tc (dijkStep G tc c low) low ∧ L ≤ low := by
  obtain ⟨⟨i0, hi0, hn0, hc0⟩, hmin⟩ := dijkLow_some hlow
  have hL : L ≤ low := hI.above i0 hn0 low hc0
  have hext := ext_dijkStep (G := G) (tc := tc) (c := c) low
  have hval := dijkStep_val hI hL
  refine ⟨⟨?_, ?_, ?_, ?_⟩, hL⟩
  · intro r v h; exact ruleCost_realised hI.real (hval r v h).1
  · intro r v h; exact (hval r v h).2
  · intro i hn v hv
    have hi0' : c i = none := by
      cases h0 : c i with
      | none => rfl
      | some x => have := hext i x h0; rw [hn] at this; cases this
    obtain ⟨p, hp, hsv⟩ := ruleCost_attained hv
    rcases seqCost_after _ v hsv with h | h
    · have hle := ruleCost_le (G := G) (tc := tc) (c := c) hp
      rw [h] at hle
      obtain ⟨u, hrc, hu⟩ := leO_some hle
      have hm := hmin i (ruleCost_some_lt hwf hrc) hi0'
      rw [hrc] at hm
      exact Nat.le_trans hm hu
    · exact h
  · intro r v h
    obtain ⟨hc, hvl⟩ := hval r v h
    obtain ⟨p, hp, hv⟩ := ruleCost_attained hc
    apply minOver_eq_some
    · exact ⟨p, hp, seqCost_ext hext _ v hv⟩
    · intro p' hp'
      cases hs : seqCost tc (dijkStep G tc c low) (G.rhs p') with
      | none => simp [leO]
      | some u =>
        simp only [leO]
        rcases seqCost_after _ u hs with h' | h'
        · have hle := ruleCost_le (G := G) (tc := tc) (c := c) hp'
          rw [h', hc] at hle
          exact hle
        · omega

/-- rules without a cost -/
def openCount (G : Grammar) (c : Nat → Option Nat) : Nat :=
  ((List.range G.nrules).filter (fun i => (c i).isNone)).length

theorem openCount_le (G : Grammar) (c : Nat → Option Nat) : openCount G c ≤ G.nrules := by
  have := List.length_filter_le (fun i => (c i).isNone) (List.range G.nrules)
  simpa [openCount] using this

theorem openCount_step {G : Grammar} {tc : Nat → Nat} {c : Nat → Option Nat} {low : Nat}
    (hlow : dijkLow G tc c = some low) : openCount G (dijkStep G tc c low) < openCount G c := by
  obtain ⟨⟨i0, hi0, hn0, hc0⟩, _⟩ := dijkLow_some hlow
  unfold openCount
  apply Fix.filter_length_lt
  · intro y hy
    cases h0 : c y with
    | none => rfl
    | some x => rw [ext_dijkStep low y x h0] at hy; cases hy
  · exact ⟨i0, by simpa using hi0, by simp [hn0], by simp [dijkStep, hn0, hc0]⟩

theorem DInv.look_tbl {G : Grammar} (hwf : G.wf = true) {tc : Nat → Nat} {c : Nat → Option Nat} {L : Nat}
    (hI : DInv G tc c L) : look (tbl G c) = c :=
  Spec.look_tbl fun r v h => ruleCost_some_lt hwf (hI.fixed r v h)

/-- when no rule without a cost has a complete production the rounds are over: the costs fixed so far are
the table of minimal costs -/
theorem DInv.minTable {G : Grammar} (hwf : G.wf = true) {tc : Nat → Nat} {c : Nat → Option Nat} {L : Nat}
    (hI : DInv G tc c L) (hlow : dijkLow G tc c = none) : MinTable G tc (tbl G c) := by
  have hl := hI.look_tbl hwf
  refine ⟨by simp [tbl], fun r hr => ?_, by rw [hl]; exact hI.real⟩
  rw [hl]
  cases h0 : c r with
  | none => exact (dijkLow_none hlow r hr h0).symm
  | some v => exact (hI.fixed r v h0).symm

/-- the one induction through which Knuth's algorithm is used (`knuth_spec`, and `mcLoop_spec` for the Rust loop): to show
`motive` of every state of the rounds, show it where no open rule has a complete production, and carry it back over a
round; that the rounds end (`openCount` falls) is inside -/
theorem knuth_rounds {G : Grammar} (hwf : G.wf = true) {tc : Nat → Nat} {motive : (Nat → Option Nat) → Prop}
    (stop : ∀ c L, DInv G tc c L → dijkLow G tc c = none → motive c)
    (round : ∀ c L low, DInv G tc c L → dijkLow G tc c = some low →
      openCount G (dijkStep G tc c low) < openCount G c → motive (dijkStep G tc c low) → motive c) :
    ∀ c L, DInv G tc c L → motive c := by
  have h : ∀ n c L, openCount G c < n → DInv G tc c L → motive c := by
    intro n
    induction n with
    | zero => intro c L hn; exact absurd hn (Nat.not_lt_zero _)
    | succ n ih =>
      intro c L hn hI
      cases hlow : dijkLow G tc c with
      | none => exact stop c L hI hlow
      | some low =>
        have hlt := openCount_step hlow
        exact round c L low hI hlow hlt (ih _ low (by omega) (dinv_step hwf hI hlow).1)
  exact fun c L => h _ c L (Nat.lt_succ_self _)

/-- what the rounds from `c` lead to: a table of minimal costs `m` that extends `c`; the fuelled loop computes it,
and so does the reference iteration, started from any realised table that extends `c` -/
structure Reaches (G : Grammar) (tc : Nat → Nat) (c : Nat → Option Nat) (m : List (Option Nat)) : Prop where
  min : MinTable G tc m
  ext : Ext c (look m)
  knuth : ∀ fuel, openCount G c < fuel → (dijkFrom G tc fuel c).map (tbl G) = some m
  ref : ∀ b, b.length = G.nrules → Ext c (look b) → Realised G tc (look b) →
    ∀ fuel, openCount G c < fuel → minCostsFrom G tc fuel b = some m

theorem knuth_spec {G : Grammar} (hwf : G.wf = true) {tc : Nat → Nat} {c : Nat → Option Nat} {L : Nat}
    (hI : DInv G tc c L) : ∃ m, Reaches G tc c m := by
  refine knuth_rounds hwf (motive := fun c => ∃ m, Reaches G tc c m) ?_ ?_ c L hI
  · intro c L hI hlow
    have hmt := hI.minTable hwf hlow
    have hl := hI.look_tbl hwf
    refine ⟨tbl G c, hmt, by rw [hl]; exact Ext.refl _, fun fuel hf => ?_, fun b hlen hext hreal fuel hf => ?_⟩
    · cases fuel with
      | zero => omega
      | succ f => simp [dijkFrom, hlow]
    · cases fuel with
      | zero => omega
      | succ f =>
        obtain rfl := hmt.eq_of_ext hwf hlen (by rw [hl]; exact hext) hreal
        simp [minCostsFrom, hmt.step_eq]
  · intro c L low hI hlow hlt ⟨m, hmt, hcm, hd, hbf⟩
    obtain ⟨hI', hL⟩ := dinv_step hwf hI hlow
    refine ⟨m, hmt, (ext_dijkStep low).trans hcm, fun fuel hf => ?_, fun b hlen hext hreal fuel hf => ?_⟩
    · cases fuel with
      | zero => omega
      | succ f => simp only [dijkFrom, hlow]; exact hd f (by omega)
    · cases fuel with
      | zero => omega
      | succ f =>
        have hreal' : Realised G tc (look (stepCosts G tc b)) := step_realised hreal
        -- what the round fixes, one more step of the iteration fixes too
        have hext1 : Ext (dijkStep G tc c low) (look (stepCosts G tc b)) := by
          intro r v hv
          obtain ⟨hc, _⟩ := dijkStep_val hI hL r v hv
          have hr : r < G.nrules := ruleCost_some_lt hwf hc
          obtain ⟨p, hp, hsv⟩ := ruleCost_attained hc
          have hle := ruleCost_le (G := G) (tc := tc) (c := look b) hp
          rw [seqCost_ext hext _ v hsv] at hle
          obtain ⟨u, hrc, hle⟩ := leO_some hle
          have hlu : look (stepCosts G tc b) r = some u := by rw [look_stepCosts]; simp [hr, hrc]
          obtain ⟨w, hw, hcw⟩ := hreal' r u hlu
          obtain ⟨v', hv', hle'⟩ := hmt.lower hwf hr hw
          rw [hcm r v hv] at hv'
          cases hv'
          rw [hlu, Nat.le_antisymm hle (hcw ▸ hle')]
        have ih := hbf _ (stepCosts_length G tc b) hext1 hreal' f (by omega)
        simp only [minCostsFrom]
        split
        · next he =>
          -- `b` is a fixed point already: the iteration returns it at once, so it is `m`
          rw [he] at ih
          cases f with
          | zero => omega
          | succ g => simpa [minCostsFrom, he] using ih
        · exact ih

theorem dijkFrom_spec {G : Grammar} (hwf : G.wf = true) {tc : Nat → Nat} :
    ∀ (fuel : Nat) (c : Nat → Option Nat) (L : Nat), DInv G tc c L → openCount G c < fuel →
      ∃ m, (dijkFrom G tc fuel c).map (tbl G) = some m ∧ MinTable G tc m ∧ Ext c (look m) := by
  intro fuel c L hI hlt
  obtain ⟨m, h⟩ := knuth_spec hwf hI
  exact ⟨m, h.knuth fuel hlt, h.min, h.ext⟩

theorem dijkFrom_unique {G : Grammar} (hwf : G.wf = true) {tc : Nat → Nat} {c : Nat → Option Nat} {L : Nat}
    (hI : DInv G tc c L) {f1 f2 : Nat} (h1 : openCount G c < f1) (h2 : openCount G c < f2) :
    (dijkFrom G tc f1 c).map (tbl G) = (dijkFrom G tc f2 c).map (tbl G) := by
  obtain ⟨m, h⟩ := knuth_spec hwf hI
  rw [h.knuth f1 h1, h.knuth f2 h2]

/-- what the rounds have fixed is final -/
theorem DInv.ext_min {G : Grammar} (hwf : G.wf = true) {tc : Nat → Nat} {c : Nat → Option Nat} {L : Nat}
    {m : List (Option Nat)} (hI : DInv G tc c L) (hm : MinTable G tc m) : Ext c (look m) := by
  obtain ⟨m', hm', hext, _⟩ := knuth_spec hwf hI
  rwa [hm.unique hm' hwf] at hext

/-- **the reference cost iteration converges**: for every well-formed grammar and every token-cost
function `Ref.minCosts` (which runs `nrules + 2` rounds at most) returns a table, the one Knuth's algorithm
computes -/
theorem minCosts_total (G : Grammar) (hwf : G.wf = true) (tc : Nat → Nat) :
    ∃ m, dijkstra G tc = some m ∧ minCosts G tc = some m ∧ MinTable G tc m := by
  have hle := openCount_le G (fun _ => none)
  obtain ⟨m, hmt, _, hd, hbf⟩ := knuth_spec hwf (dinv_init G tc)
  refine ⟨m, hd _ (by omega), hbf _ (by simp) (fun _ _ h => (nomatch h)) (realised_init G tc G.nrules) _ (by omega), hmt⟩

theorem minCosts_minTable {G : Grammar} (hwf : G.wf = true) {tc : Nat → Nat} {c : List (Option Nat)}
    (h : minCosts G tc = some c) : MinTable G tc c := by
  obtain ⟨m, _, hm, hmt⟩ := minCosts_total G hwf tc
  obtain rfl : m = c := Option.some.inj (hm.symm.trans h)
  exact hmt

end GrmVerif.Spec
