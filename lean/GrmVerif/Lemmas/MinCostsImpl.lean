import GrmVerif.Model.CostsImpl
import GrmVerif.Lemmas.CostsDijkstra
import GrmVerif.Lemmas.ImplLoop
/-! The model of `rule_min_costs` (`Impl.ruleMinCosts`) runs Knuth's algorithm (`Spec.dijkstra`) round for
round as long as no sum leaves the `u16` range; `sumsFit` is a decidable condition on the grammar, the
token costs and the table of minimal costs under which none does. -/
namespace GrmVerif.Impl
open GrmVerif Spec Ref

/-- `token_costs` as a function -/
def tcF (tc : List Nat) : Nat → Nat := fun t => tc.getD t 0

/-- the sum of a production over costs that are defined for every rule: what `rule_max_costs` adds up as long as it meets no
rule of cost `u16::MAX` -/
def curSum (tc : Nat → Nat) (c : Nat → Nat) : List Sym → Nat
  | [] => 0
  | .tok t :: rest => tc t + curSum tc c rest
  | .rule q :: rest => c q + curSum tc c rest

/-- what `rule_min_costs` adds up when it scans a production: the costs of the symbols up to the first
rule without a cost -/
def prefCost (tc : Nat → Nat) (c : Nat → Option Nat) : List Sym → Nat
  | [] => 0
  | .tok t :: rest => tc t + prefCost tc c rest
  | .rule q :: rest =>
    match c q with
    | none => 0
    | some v => v + prefCost tc c rest

/-- **no sum overflows**: in every production the costs of the symbols before the first rule that derives
no sentence (all symbols if there is none), rules counted with their minimal cost `m`, add up to at most
`u16::MAX` -/
def sumsFit (G : Grammar) (tc : Nat → Nat) (m : List (Option Nat)) : Bool :=
  (List.range G.nprods).all (fun p => prefCost tc (look m) (G.rhs p) ≤ U16MAX)

/-- the vector `rule_min_costs` returns for the table `m`: `u16::MAX` for rules that derive nothing -/
def concr (m : List (Option Nat)) : List Nat := m.map (fun o => o.getD U16MAX)

theorem prefCost_ext {tc : Nat → Nat} {c m : Nat → Option Nat} (he : Ext c m) :
    ∀ l : List Sym, prefCost tc c l ≤ prefCost tc m l := by
  intro l
  induction l with
  | nil => exact Nat.le_refl _
  | cons s rest ih =>
    cases s with
    | tok t => simp only [prefCost]; omega
    | rule q =>
      simp only [prefCost]
      cases hc : c q with
      | none => simp
      | some v => rw [he q v hc]; simp only; omega

theorem prefCost_of_seqCost {tc : Nat → Nat} {c : Nat → Option Nat} :
    ∀ (l : List Sym) (v : Nat), seqCost tc c l = some v → prefCost tc c l = v := by
  intro l
  induction l with
  | nil => intro v h; simpa [seqCost, prefCost] using h
  | cons s rest ih =>
    intro v h
    obtain ⟨a, b, h1, h2, rfl⟩ := seqCost_cons_some.mp h
    cases s with
    | tok t =>
      simp only [symCost, Option.some.injEq] at h1
      simp only [prefCost, ih b h2, h1]
    | rule q =>
      simp only [symCost] at h1
      simp only [prefCost, h1, ih b h2]

/-- `costs[r]` if `done[r]` -/
def absF (costs : List Nat) (done : List Bool) : Nat → Option Nat :=
  fun r => if vget done r then some (costs.getD r 0) else none

theorem absF_done {costs : List Nat} {done : List Bool} {r : Nat} (h : vget done r = true) :
    absF costs done r = some (costs.getD r 0) := by simp [absF, h]

theorem absF_open {costs : List Nat} {done : List Bool} {r : Nat} (h : vget done r = false) :
    absF costs done r = none := by simp [absF, h]

theorem concr_tbl_eq {G : Grammar} {c : Nat → Option Nat} {cs : List Nat} (hc : cs.length = G.nrules)
    (h : ∀ r, r < G.nrules → cs.getD r 0 = (c r).getD U16MAX) : concr (tbl G c) = cs := by
  apply List.ext_getElem (by simp [concr, tbl, hc])
  intro i h1 h2
  have := h i (by omega)
  rw [List.getD_eq_getElem?_getD, List.getElem?_eq_getElem h2] at this
  simpa [concr, tbl] using this.symm

theorem checkedAdd_some {a b : Nat} (h : a + b ≤ U16MAX) : checkedAdd a b = some (a + b) := by
  simp [checkedAdd, h]

theorem tc_get {tc : List Nat} {t : Nat} (ht : t < tc.length) : tc[t]? = some (tcF tc t) := by
  simp [tcF, List.getD_eq_getElem?_getD, List.getElem?_eq_getElem ht]

theorem isSome_addO_some (a : Nat) (o : Option Nat) : (addO (some a) o).isSome = o.isSome := by
  cases o <;> rfl

theorem mcSyms_spec (G : Grammar) (tc costs : List Nat) (done : List Bool) (htc : tc.length = G.ntoks) :
    ∀ (l : List Sym) (acc : Nat), (∀ s ∈ l, G.symOk s = true) →
      acc + prefCost (tcF tc) (absF costs done) l ≤ U16MAX →
      mcSyms G tc costs done l acc =
        some (acc + prefCost (tcF tc) (absF costs done) l, (seqCost (tcF tc) (absF costs done) l).isSome) := by
  intro l
  induction l with
  | nil => intro acc _ _; simp [mcSyms, prefCost, seqCost]
  | cons s rest ih =>
    intro acc hok hfit
    have hok' : ∀ s ∈ rest, G.symOk s = true := fun x hx => hok x (List.mem_cons_of_mem _ hx)
    cases s with
    | tok t =>
      have ht : t < tc.length := htc ▸ symOk_tok.mp (hok (.tok t) (by simp))
      simp only [prefCost] at hfit ⊢
      simp only [mcSyms, tc_get ht]
      rw [checkedAdd_some (by omega)]
      simp only []
      rw [ih (acc + tcF tc t) hok' (by omega)]
      simp only [seqCost, symCost, isSome_addO_some, Nat.add_assoc]
    | rule q =>
      have hq : q < G.nrules := symOk_rule.mp (hok (.rule q) (by simp))
      simp only [mcSyms, hq, if_true]
      cases hd : vget done q with
      | false => simp [prefCost, seqCost, symCost, absF_open hd, addO]
      | true =>
        have hq' := absF_done (costs := costs) hd
        simp only [prefCost, hq'] at hfit ⊢
        simp only [if_true]
        rw [checkedAdd_some (by omega)]
        simp only []
        rw [ih (acc + costs.getD q 0) hok' (by omega)]
        simp only [seqCost, symCost, hq', isSome_addO_some, Nat.add_assoc]

theorem newLowest_eq (ls lowest : Option Nat) : newLowest ls lowest = minO lowest ls := by
  cases ls with
  | none => simp [newLowest, minO_none_right]
  | some v =>
    cases lowest with
    | none => simp [newLowest, ltO, minO]
    | some l =>
      simp only [newLowest, ltO, decide_eq_true_eq, minO]
      split
      · congr 1; omega
      · congr 1; omega

theorem mcProd_spec (G : Grammar) (hwf : G.wf = true) (tc costs : List Nat) (done : List Bool)
    (htc : tc.length = G.ntoks) (ls : Option Nat) (p : Nat) (hp : p < G.nprods)
    (hfit : prefCost (tcF tc) (absF costs done) (G.rhs p) ≤ U16MAX) :
    mcProd G tc costs done ls p = some (minO ls (seqCost (tcF tc) (absF costs done) (G.rhs p))) := by
  unfold mcProd
  rw [mcSyms_spec G tc costs done htc (G.rhs p) 0 (fun s hs => wf_sym hwf hp hs) (by omega)]
  simp only [Nat.zero_add]
  cases hs : seqCost (tcF tc) (absF costs done) (G.rhs p) with
  | none => simp [minO_none_right]
  | some v =>
    rw [prefCost_of_seqCost _ v hs, ← newLowest_eq]
    cases h : ltO v ls <;> simp [newLowest, h]

theorem mcProds_spec (G : Grammar) (hwf : G.wf = true) (tc costs : List Nat) (done : List Bool)
    (htc : tc.length = G.ntoks) :
    ∀ (ps : List Nat) (ls : Option Nat), (∀ p ∈ ps, p < G.nprods ∧
        prefCost (tcF tc) (absF costs done) (G.rhs p) ≤ U16MAX) →
      iterM (mcProd G tc costs done) ps ls =
        some (minO ls (minOver (fun p => seqCost (tcF tc) (absF costs done) (G.rhs p)) ps)) := by
  intro ps
  induction ps with
  | nil => intro ls _; simp [iterM, minOver, minO_none_right]
  | cons p ps ih =>
    intro ls h
    obtain ⟨hp, hfit⟩ := h p (by simp)
    simp only [iterM, mcProd_spec G hwf tc costs done htc ls p hp hfit]
    rw [ih _ (fun q hq => h q (List.mem_cons_of_mem _ hq))]
    simp [minOver, minO_assoc]

/-- the productions of the rules that are not done can be summed without overflow -/
def ScanOk (G : Grammar) (tc costs : List Nat) (done : List Bool) : Prop :=
  ∀ p, p < G.nprods → vget done (G.lhs p) = false → prefCost (tcF tc) (absF costs done) (G.rhs p) ≤ U16MAX

theorem mcRule_spec (G : Grammar) (hwf : G.wf = true) (tc costs : List Nat) (done : List Bool)
    (htc : tc.length = G.ntoks) (hscan : ScanOk G tc costs done) (s : List (Option Nat) × Option Nat) (i : Nat) :
    mcRule G tc costs done s i =
      some (if vget done i then s.1 else s.1.set i (openCost G (tcF tc) (absF costs done) i),
        minO s.2 (openCost G (tcF tc) (absF costs done) i)) := by
  unfold mcRule
  cases hd : vget done i with
  | true => simp [openCost, absF_done hd, minO_none_right]
  | false =>
    simp only [openCost, absF_open hd, Option.isNone_none, if_true, Bool.false_eq_true, if_false]
    rw [mcProds_spec G hwf tc costs done htc (G.prodsOf i) none (by
      intro p hp
      obtain ⟨hp1, hp2⟩ := mem_prodsOf.mp hp
      exact ⟨hp1, hscan p hp1 (by rw [hp2]; exact hd)⟩)]
    simp only [minO_none_left, newLowest_eq]
    rfl

theorem mcRules_spec (G : Grammar) (hwf : G.wf = true) (tc costs : List Nat) (done : List Bool)
    (htc : tc.length = G.ntoks) (hscan : ScanOk G tc costs done) (lss0 : List (Option Nat))
    (hl0 : lss0.length = G.nrules) :
    ∀ k, k ≤ G.nrules →
      ∃ lss, iterM (mcRule G tc costs done) (List.range k) (lss0, none) =
          some (lss, minOver (openCost G (tcF tc) (absF costs done)) (List.range k)) ∧
        lss.length = G.nrules ∧
        ∀ i, lss.getD i none =
          if i < k ∧ vget done i = false then openCost G (tcF tc) (absF costs done) i else lss0.getD i none := by
  intro k
  induction k with
  | zero =>
    intro _
    exact ⟨lss0, by simp [iterM, minOver], hl0, by intro i; simp⟩
  | succ k ih =>
    intro hk
    obtain ⟨lss, h1, h2, h3⟩ := ih (by omega)
    rw [List.range_succ, iterM_append, h1]
    simp only [Option.bind_some, iterM, mcRule_spec G hwf tc costs done htc hscan]
    refine ⟨_, by rw [minOver_append, minOver_single], ?_, ?_⟩
    · split
      · exact h2
      · simp [h2]
    · intro i
      have hlt : ∀ j, j ≠ k → (j < k + 1 ↔ j < k) := fun j hj => by omega
      cases hd : vget done k with
      | true =>
        simp only [if_true]
        rw [h3 i]
        by_cases hik : i = k
        · subst hik; simp [hd]
        · simp only [hlt i hik]
      | false =>
        simp only [Bool.false_eq_true, if_false]
        rw [getD_set _ _ _ _ _ (by omega), h3 i]
        by_cases hik : i = k
        · subst hik; simp [hd]
        · simp only [hik, if_false, hlt i hik]

/-- `if !done[i] && P(i) { costs[i] = val; done[i] = true; }` -/
def setIf (P : Nat → Bool) (val : Nat) (s : List Nat × List Bool) (i : Nat) : List Nat × List Bool :=
  if !vget s.2 i && P i then (s.1.set i val, vset s.2 i) else s

theorem mcSetLow_eq (lss : List (Option Nat)) (low : Nat) :
    mcSetLow lss low = setIf (fun i => lss.getD i none == some low) low := by
  funext s i; rfl

theorem mcSetMax_eq : mcSetMax = setIf (fun _ => true) U16MAX := by
  funext s i; simp [mcSetMax, setIf]

theorem setIf_spec (P : Nat → Bool) (val n : Nat) (cs : List Nat) (dn : List Bool)
    (hc : cs.length = n) (hd : dn.length = n) :
    ∀ k, k ≤ n → ∃ cs' dn', (List.range k).foldl (setIf P val) (cs, dn) = (cs', dn') ∧
      cs'.length = n ∧ dn'.length = n ∧
      ∀ i, vget dn' i = (vget dn i || (decide (i < k) && P i)) ∧
          cs'.getD i 0 = if i < k ∧ vget dn i = false ∧ P i = true then val else cs.getD i 0 := by
  intro k
  induction k with
  | zero => intro _; exact ⟨cs, dn, rfl, hc, hd, by simp⟩
  | succ k ih =>
    intro hk
    obtain ⟨cs1, dn1, hfo, h1, h2, h3⟩ := ih (by omega)
    rw [List.range_succ, List.foldl_append, hfo]
    -- iteration `k` reads `done[k]` as it was at the start
    have hk3 : vget dn1 k = vget dn k := by simpa using (h3 k).1
    have hlt : ∀ i, i ≠ k → (i < k + 1 ↔ i < k) := fun i hi => by omega
    simp only [List.foldl_cons, List.foldl_nil, setIf, hk3]
    by_cases hset : (!vget dn k && P k) = true
    · rw [if_pos hset]
      simp only [Bool.and_eq_true, Bool.not_eq_true'] at hset
      refine ⟨_, _, rfl, by simp [h1], (vset_length _ _).trans h2, fun i => ?_⟩
      rw [vget_vset _ _ _ (by omega), getD_set _ _ _ _ _ (by omega), (h3 i).1, (h3 i).2]
      by_cases hik : i = k
      · subst hik; simp [hset]
      · simp [hik, hlt i hik]
    · rw [if_neg hset]
      refine ⟨cs1, dn1, rfl, h1, h2, fun i => ?_⟩
      rw [(h3 i).1, (h3 i).2]
      by_cases hik : i = k
      · subst hik
        cases hdk : vget dn i <;> cases hp : P i <;> simp [hdk, hp] at hset ⊢
      · simp [hlt i hik]

/-- a round that finds a lowest cost is a round of Knuth's algorithm -/
theorem mcRound_some (G : Grammar) (hwf : G.wf = true) (tc costs : List Nat) (done : List Bool)
    (htc : tc.length = G.ntoks) (hc : costs.length = G.nrules) (hd : done.length = G.nrules)
    (hscan : ScanOk G tc costs done) (low : Nat)
    (hlow : dijkLow G (tcF tc) (absF costs done) = some low) :
    ∃ cs dn, mcRound G tc (costs, done) = some (cs, dn) ∧ cs.length = G.nrules ∧ dn.length = G.nrules ∧
      absF cs dn = dijkStep G (tcF tc) (absF costs done) low := by
  obtain ⟨lss, h1, h2, h3⟩ := mcRules_spec G hwf tc costs done htc hscan (List.replicate G.nrules none)
    (by simp) G.nrules (Nat.le_refl _)
  unfold dijkLow at hlow
  rw [hlow] at h1
  obtain ⟨cs, dn, hfo, l1, l2, l3⟩ := setIf_spec (fun i => lss.getD i none == some low) low G.nrules costs done hc hd
    G.nrules (Nat.le_refl _)
  refine ⟨cs, dn, by simp only [mcRound, h1, mcSetLow_eq, hfo], l1, l2, ?_⟩
  funext r
  obtain ⟨a, b⟩ := l3 r
  have hlr := h3 r
  simp only [absF, dijkStep, a, b]
  cases hdr : vget done r with
  | true => simp
  | false =>
    by_cases hr : r < G.nrules
    · have hlr' : lss.getD r none = ruleCost G (tcF tc) (absF costs done) r := by
        rw [hlr]; simp [hr, hdr, openCost, absF_open hdr]
      rw [hlr']
      by_cases hrc : ruleCost G (tcF tc) (absF costs done) r = some low <;> simp [hr, hrc]
    · have : ruleCost G (tcF tc) (absF costs done) r ≠ some low := fun h => hr (ruleCost_some_lt hwf h)
      simp [hr, this]

/-- a round that finds no lowest cost gives every rule left `u16::MAX` -/
theorem mcRound_none (G : Grammar) (hwf : G.wf = true) (tc costs : List Nat) (done : List Bool)
    (htc : tc.length = G.ntoks) (hc : costs.length = G.nrules) (hd : done.length = G.nrules)
    (hscan : ScanOk G tc costs done)
    (hlow : dijkLow G (tcF tc) (absF costs done) = none) :
    ∃ dn, mcRound G tc (costs, done) = some (concr (tbl G (absF costs done)), dn) ∧ dn.all id = true := by
  obtain ⟨lss, h1, h2, h3⟩ := mcRules_spec G hwf tc costs done htc hscan (List.replicate G.nrules none)
    (by simp) G.nrules (Nat.le_refl _)
  unfold dijkLow at hlow
  rw [hlow] at h1
  obtain ⟨cs, dn, hfo, l1, l2, l3⟩ := setIf_spec (fun _ => true) U16MAX G.nrules costs done hc hd
    G.nrules (Nat.le_refl _)
  have hcs : concr (tbl G (absF costs done)) = cs := concr_tbl_eq l1 fun i hi => by
    rw [(l3 i).2]
    cases hdi : vget done i with
    | true => simp [absF_done hdi]
    | false => simp [hi, absF_open hdi]
  refine ⟨dn, by simp only [mcRound, h1, mcSetMax_eq, hfo, hcs], ?_⟩
  · rw [all_id_iff]
    intro i hi
    rw [l2] at hi
    rw [(l3 i).1]
    simp [hi]

/-- the loop follows Knuth's rounds: in a state that stands for `c` it returns the table of minimal costs, given
more fuel than rules are left -/
theorem mcLoop_spec (G : Grammar) (hwf : G.wf = true) (tc : List Nat) (htc : tc.length = G.ntoks)
    (m : List (Option Nat)) (hm : MinTable G (tcF tc) m) (hfit : sumsFit G (tcF tc) m = true)
    (c : Nat → Option Nat) (L : Nat) (hI : DInv G (tcF tc) c L) :
    ∀ costs done, costs.length = G.nrules → done.length = G.nrules → absF costs done = c →
      ∀ fuel, openCount G c < fuel → mcLoop G tc fuel (costs, done) = .done (concr m) := by
  -- what is fixed is final, so the sums the scan forms are among those `sumsFit` bounds
  have hscan : ∀ {costs done L}, DInv G (tcF tc) (absF costs done) L → ScanOk G tc costs done := by
    intro costs done L hI p hp _
    simp only [sumsFit, List.all_eq_true, List.mem_range, decide_eq_true_eq] at hfit
    exact Nat.le_trans (prefCost_ext (hI.ext_min hwf hm) _) (hfit p hp)
  refine knuth_rounds hwf (motive := fun c => ∀ costs done, costs.length = G.nrules → done.length = G.nrules →
      absF costs done = c → ∀ fuel, openCount G c < fuel → mcLoop G tc fuel (costs, done) = .done (concr m))
    ?_ ?_ c L hI
  · intro c L hI hlow costs done hc hd habs fuel hf
    cases fuel with
    | zero => omega
    | succ f =>
      subst habs
      obtain ⟨dn, hr, hall⟩ := mcRound_none G hwf tc costs done htc hc hd (hscan hI) hlow
      simp only [mcLoop, hr, hall, if_true, hm.unique (hI.minTable hwf hlow) hwf]
  · intro c L low hI hlow hlt ih costs done hc hd habs fuel hf
    cases fuel with
    | zero => omega
    | succ f =>
      subst habs
      obtain ⟨cs, dn, hr, hcs, hdn, habs'⟩ := mcRound_some G hwf tc costs done htc hc hd (hscan hI) low hlow
      simp only [mcLoop, hr]
      split
      · next hall =>
        -- every rule is done: Knuth's next round would find nothing, so this is the final table
        rw [all_id_iff] at hall
        have hdone : ∀ i, i < G.nrules → absF cs dn i = some (cs.getD i 0) := fun i hi => absF_done (hall i (hdn ▸ hi))
        have hI' := (dinv_step hwf hI hlow).1
        rw [← habs'] at hI'
        have hfull : dijkLow G (tcF tc) (absF cs dn) = none := dijkLow_full fun i hi => by simp [hdone i hi]
        rw [← hm.unique (hI'.minTable hwf hfull) hwf,
          concr_tbl_eq (c := absF cs dn) hcs fun i hi => by rw [hdone i hi]; rfl]
      · exact ih cs dn hcs hdn habs' f (by omega)

/-- **`rule_min_costs` is exact and terminates** (model level) -/
theorem ruleMinCosts_exact (G : Grammar) (hwf : G.wf = true) (tc : List Nat) (htc : tc.length = G.ntoks) :
    ∃ m, minCosts G (tcF tc) = some m ∧ MinTable G (tcF tc) m ∧
      (sumsFit G (tcF tc) m = true →
        ∀ fuel, G.nrules + 1 ≤ fuel → ruleMinCosts G tc fuel = .done (concr m)) := by
  obtain ⟨m, _, hm, hmt⟩ := minCosts_total G hwf (tcF tc)
  refine ⟨m, hm, hmt, fun hfit fuel hfuel => ?_⟩
  have := openCount_le G (fun _ => none)
  exact mcLoop_spec G hwf tc htc m hmt hfit _ 0 (dinv_init G (tcF tc)) _ _ (by simp) (by simp)
    (funext fun r => absF_open (vget_replicate_false _ r)) fuel (by omega)

end GrmVerif.Impl
