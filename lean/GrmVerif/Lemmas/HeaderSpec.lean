import GrmVerif.Model.Header
/-!
Specification side of C12: what it means for a span to be renderable in a text, and the executable
checker (`spanWFb`, `outcomeOKb`) the driver evaluates on the *implementation's* spans. The checker is
proved equivalent to the declarative definition in `Props/C12.lean` (`span_checker_correct`,
`outcome_checker_correct`).
-/
namespace GrmVerif.Header

/-- `b` is a character boundary of `src` (including 0 and the end) -/
def IsBoundary (src : List Char) (b : Nat) : Prop :=
  ∃ pre post, src = pre ++ post ∧ byteLen pre = b

/-- the property's span condition: start ≤ end ≤ length of the text, both on character boundaries -/
def SpanWF (src : List Char) (sp : Span) : Prop :=
  sp.1 ≤ sp.2 ∧ sp.2 ≤ byteLen src ∧ IsBoundary src sp.1 ∧ IsBoundary src sp.2

def isBoundaryB (src : List Char) (b : Nat) : Bool := (dropBytes src b).isSome

def spanWFb (src : List Char) (sp : Span) : Bool :=
  decide (sp.1 ≤ sp.2) && decide (sp.2 ≤ byteLen src) && isBoundaryB src sp.1 && isBoundaryB src sp.2

/-- what a specification parser may return, as the harness dumps it: a value (with its end position,
and every span it or the warnings carry) or a list of errors (each a list of spans); `crashed` = the
call did not return (panic or hang) -/
inductive Outcome where
  | crashed
  | value (pos : Nat) (spans : List Span)
  | errors (errs : List (List Span))

/-- the property for one outcome -/
def OutcomeOK (src : List Char) : Outcome → Prop
  | .crashed => False
  | .value pos spans => IsBoundary src pos ∧ ∀ sp ∈ spans, SpanWF src sp
  | .errors errs => errs ≠ [] ∧ ∀ e ∈ errs, ∀ sp ∈ e, SpanWF src sp

def outcomeOKb (src : List Char) : Outcome → Bool
  | .crashed => false
  | .value pos spans => isBoundaryB src pos && spans.all (spanWFb src)
  | .errors errs => !errs.isEmpty && errs.all (fun e => e.all (spanWFb src))

def outcomesOKb (src : List Char) (os : List Outcome) : Bool := os.all (outcomeOKb src)

end GrmVerif.Header
