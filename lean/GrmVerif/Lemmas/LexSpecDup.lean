import GrmVerif.Lemmas.LexSpecRules
import GrmVerif.Lemmas.LexSpecDecls
import GrmVerif.Model.LexTables
/-!
What the line specification (`specParse`) says about accepted and rejected specifications: the two
sections (`Lemmas/LexSpecDecls.lean`, `Lemmas/LexSpecRules.lean`) put together.
-/
namespace GrmVerif.LexSpecParse
open GrmVerif.LexUnescape GrmVerif.LexParse

/-- the occurrences of start-state names in a text: the implicit `INITIAL`, then the names of the
declaration lines in order -/
def stateOccs (comments : Bool) (lines : List Line) : List Occ :=
  (initialName, (0, 0), false) :: (declLinesOf comments lines).flatMap declaredOn

/-- the environment of the real parser: the escape tables extracted from the sources, the two flags
the parse consults, the regex engine -/
def lexEnv (posix comments : Bool) (compiles : List Char → Bool) : Env :=
  ⟨GrmVerif.LexTables.realCfg posix, comments, compiles⟩

/-- the rule a rule line denotes, the line read by the line-level model `parseRuleLine` -/
def ruleOfLineM (env : Env) (sts : List StartState) (ln : Line) (k : Nat) : Option Rule :=
  match parseRuleLine env.cfg isPWS isSpaceSep ln.2 with
  | some (.ok rl) => resolveRule sts ln.1 k rl
  | _ => none

theorem ruleOfLineM_eq (env : Env) (hb : env.cfg.BOk) (sts : List StartState) (ln : Line) (k : Nat) :
    ruleOfLineM env sts ln k = ruleOfLine env sts ln k := by
  unfold ruleOfLineM ruleOfLine
  rw [parseRuleLine_eq env.cfg hb isPWS isSpaceSep spaceSep_size]
  cases ruleLineSpec env.cfg isPWS isSpaceSep ln.2 <;> rfl

theorem specParse_ok_run (env : Env) (pre body : List Char) (sts : List StartState) (rules : List Rule)
    (h : specParse env pre body = .ok (sts, rules)) :
    ∃ sec st2, rulesSectionOf env.comments (splitLinesAt body (byteLen pre)) = some sec ∧
      (∀ ln ∈ declLinesOf env.comments (splitLinesAt body (byteLen pre)),
        ∃ d, parseDeclLine isPWS ln.2 = .ok d) ∧
      ruleSpec env sec ((occsOf env.comments (splitLinesAt body (byteLen pre))).foldl declOne initState)
        = .ok st2 ∧ st2.errs = [] ∧ st2.states = sts ∧ st2.rules = rules := by
  unfold specParse specRules at h
  rcases declSpec_cases env (byteLen pre + byteLen body) (splitLinesAt body (byteLen pre)) initState with
    ⟨sec, hsec, hall, hd⟩ | ⟨_, hd⟩ | ⟨_, _, _, _, _, _, _, hd, _⟩ <;> rw [hd] at h
  · simp only [specEnd] at h
    split at h
    · cases h
    · next st2 hr =>
      simp only [finish] at h
      split at h
      · next he =>
        obtain ⟨rfl, rfl⟩ := Prod.mk.inj (Except.ok.inj h)
        exact ⟨sec, st2, hsec, hall, hr, by simpa using he, rfl, rfl⟩
      · cases h
  · cases h
  · cases h

theorem specParse_ok (env : Env) (pre body : List Char) (sts : List StartState) (rules : List Rule)
    (h : specParse env pre body = .ok (sts, rules)) :
    ∃ sec, rulesSectionOf env.comments (splitLinesAt body (byteLen pre)) = some sec ∧
      (∀ ln ∈ declLinesOf env.comments (splitLinesAt body (byteLen pre)),
        ∃ d, parseDeclLine isPWS ln.2 = .ok d) ∧
      sts = numberFrom 0 (stateOccs env.comments (splitLinesAt body (byteLen pre))) ∧
      ((ruleLinesOf env.comments sec).zipIdx).map (fun p => ruleOfLine env sts p.1 p.2)
        = rules.map some := by
  obtain ⟨sec, st2, hsec, hall, hr, he2, rfl, rfl⟩ := specParse_ok_run env pre body sts rules h
  obtain ⟨he1, hs2, new, hnew, hmap⟩ := (ruleSpec_ok hr).clean he2
  obtain ⟨_, hst1⟩ := fold_clean _ initState he1
  rw [fold_rules] at hnew hmap
  refine ⟨sec, hsec, hall, ?_, ?_⟩
  · rw [hs2, hst1]; rfl
  · rw [hs2]; rw [hnew]; exact hmap

theorem zipIdx_map_some {α β} (f : α × Nat → Option β) (l : List α) (new : List β)
    (h : l.zipIdx.map f = new.map some) : ∀ a ∈ l, ∃ k b, f (a, k) = some b := by
  intro a ha
  obtain ⟨k, hk⟩ := List.getElem?_of_mem ha
  have hm : f (a, k) ∈ new.map some := h ▸ List.mem_map_of_mem (List.mem_zipIdx_iff_getElem?.mpr hk)
  obtain ⟨b, _, hb⟩ := List.mem_map.mp hm
  exact ⟨k, b, hb.symm⟩

theorem specParse_ok_names (env : Env) (pre body : List Char) (sts : List StartState) (rules : List Rule)
    (h : specParse env pre body = .ok (sts, rules)) (sec : List Line)
    (hsec : rulesSectionOf env.comments (splitLinesAt body (byteLen pre)) = some sec) :
    ∀ ln ∈ ruleLinesOf env.comments sec, ∃ rl, ruleLineSpec env.cfg isPWS isSpaceSep ln.2 = .ok rl ∧
      (∀ n ∈ rl.states, ∃ s ∈ sts, s.name = n) ∧
      (∀ op n, rl.target = some (op, n) → ∃ s ∈ sts, s.name = n) := by
  obtain ⟨sec', hsec', _, _, hmap⟩ := specParse_ok env pre body sts rules h
  rw [hsec] at hsec'
  obtain rfl := Option.some.inj hsec'
  intro ln hln
  obtain ⟨k, r, hr⟩ := zipIdx_map_some _ _ rules hmap ln hln
  simp only [ruleOfLine] at hr
  cases hrl : ruleLineSpec env.cfg isPWS isSpaceSep ln.2 with
  | error e => simp [hrl] at hr
  | ok rl =>
    simp only [hrl] at hr
    obtain ⟨tgt, ids, hrt, hra, _⟩ := resolveRule_some hr
    refine ⟨rl, rfl, ?_, ?_⟩
    · intro n hn
      cases hf : findState sts n with
      | some s => exact ⟨s, findState_some sts n s hf⟩
      | none => rw [(resolveAll_none_iff sts rl.states).mpr ⟨n, hn, hf⟩] at hra; cases hra
    · intro op n ht
      cases hf : findState sts n with
      | some s => exact ⟨s, findState_some sts n s hf⟩
      | none => simp [ht, resolveTarget, hf] at hrt

theorem specEnd_of_rec {k : EKind} {s1 s2 : Nat × Nat} (r : Except (List Err) PState)
    (h : Rec k [s1, s2] (errsOf r)) : ∃ es, specEnd r = .error es ∧ HasDup k s1 s2 es := by
  have hd := h.hasDup
  cases r with
  | error es => exact ⟨es, rfl, hd⟩
  | ok st2 =>
    refine ⟨st2.errs, ?_, hd⟩
    obtain ⟨e, he, _⟩ := hd
    show finish st2 = _
    unfold finish
    cases hes : st2.errs with
    | nil => rw [show errsOf (.ok st2) = st2.errs from rfl, hes] at he; cases he
    | cons e es => rfl

/-- the occurrences are read off the name sides of the two lines: the lines need not be accepted by
the line-level model -/
theorem specParse_dup_rules_at (env : Env) (pre body : List Char) (sec : List Line) (ln1 ln2 : Line)
    (n : List Char) (s1 s2 : Nat × Nat)
    (hsec : rulesSectionOf env.comments (splitLinesAt body (byteLen pre)) = some sec)
    (hsub : [ln1, ln2].Sublist (ruleLinesOf env.comments sec))
    (h1 : nameOcc ln1 = some (n, s1)) (h2 : nameOcc ln2 = some (n, s2)) :
    ∃ es, specParse env pre body = .error es ∧
      (HasDup .duplicateName s1 s2 es ∨ ∃ errs, StoppedAt (· ≤ ln2.1 + byteLen ln2.2) errs es) := by
  have hlay := (text_layout env.comments pre body).1
  rw [itemsOf, hsec] at hlay
  have hmem2 : ln2 ∈ sec := (hsub.trans (ruleLinesOf_sublist env sec)).subset (by simp)
  unfold specParse specRules
  rcases declSpec_cases env (byteLen pre + byteLen body) (splitLinesAt body (byteLen pre)) initState with
    ⟨sec', hsec', _, hd⟩ | ⟨hnone, _⟩ | ⟨A, y, B, _, es, hA, _, hd, hst⟩
  · rw [hd]; dsimp only
    obtain rfl := Option.some.inj (hsec.symm.trans hsec')
    rcases ruleSpec_dup env n ln1 ln2 s1 s2 h1 h2 sec _ hsub (List.pairwise_append.mp hlay).2.1
      with hrec | ⟨es, errs, he, hst⟩
    · obtain ⟨es, hes, hdup⟩ := specEnd_of_rec _ hrec
      exact ⟨es, hes, Or.inl hdup⟩
    · exact ⟨es, by rw [he]; rfl, Or.inr ⟨errs, hst⟩⟩
  · rw [hsec] at hnone; cases hnone
  · -- a declaration line stops the parse: the rules section begins after it
    rw [hd]
    refine ⟨es, rfl, Or.inr ⟨_, hst.mono fun p hp => ?_⟩⟩
    have := (List.pairwise_append.mp hlay).2.2 y (by rw [hA]; simp) ln2 hmem2
    omega

theorem specParse_dup_states_at (env : Env) (pre body : List Char) (oc1 oc2 : Occ)
    (hsub : [oc1, oc2].Sublist (stateOccs env.comments (splitLinesAt body (byteLen pre)))) (hn : oc1.1 = oc2.1) :
    ∃ es, specParse env pre body = .error es ∧
      (HasDup .duplicateStartState oc1.2.1 oc2.2.1 es ∨
        ∃ errs, StoppedAt (· ≤ oc2.2.1.1) errs es) := by
  have hlay := (text_layout env.comments pre body).1
  -- the parser starts from `INITIAL` declared in the empty state
  have hfold : ∀ l, [oc1, oc2].Sublist ((initialName, (0, 0), false) :: l) →
      Rec .duplicateStartState [oc1.2.1, oc2.2.1] (l.foldl declOne initState).errs :=
    fun l hs => fold_pair oc1 oc2 hn _ ⟨[], [], []⟩ hs
  unfold specParse specRules
  rcases declSpec_cases env (byteLen pre + byteLen body) (splitLinesAt body (byteLen pre)) initState with
    ⟨sec, _, _, hd⟩ | ⟨_, hd⟩ | ⟨L, y, R, extra, es, hL, hy, hd, hst⟩ <;> rw [hd] <;> dsimp only
  · obtain ⟨es, hes, hdup⟩ := specEnd_of_rec _ (ruleSpec_keeps_rec env _ _ sec _ (hfold _ hsub))
    exact ⟨es, hes, Or.inl hdup⟩
  · exact ⟨_, rfl, Or.inl ((hfold _ hsub).append _).hasDup⟩
  · refine ⟨es, rfl, ?_⟩
    rw [stateOccs, hL, List.flatMap_append, List.flatMap_cons, hy, List.nil_append, ← List.cons_append] at hsub
    rw [itemsOf, hL] at hlay
    -- both occurrences are on lines in front of the one that stopped the parse, or the second comes after it
    have hpos : oc2 ∈ R.flatMap declaredOn → StoppedAt (· ≤ oc2.2.1.1) _ es := fun hin =>
      hst.mono fun p hp => by
        obtain ⟨ln, hln, hoc⟩ := List.mem_flatMap.mp hin
        obtain ⟨_, _, t, _, _, rfl⟩ := mem_declaredOn hoc
        have := (List.pairwise_cons.mp (List.pairwise_append.mp (List.pairwise_append.mp hlay).1).2.1).1 ln hln
        simp only at this ⊢; omega
    rcases pair_cut hsub with hs | ⟨_, hin⟩ | hs
    · refine Or.inl (hst.rec ?_).hasDup
      rw [List.foldl_append]
      exact fold_keeps_rec extra _ (hfold _ hs)
    · exact Or.inr ⟨_, hpos hin⟩
    · exact Or.inr ⟨_, hpos (hs.subset (by simp))⟩

/-- **no accepted text carries a name twice**: two rules (two start states) of one name would be two rule
lines (two occurrences) of that name, in order, and such a text is rejected -/
theorem specParse_distinct (env : Env) (pre body : List Char) (sts : List StartState) (rules : List Rule)
    (h : specParse env pre body = .ok (sts, rules)) :
    (rules.filterMap (·.name)).Nodup ∧ (sts.map (·.name)).Nodup := by
  obtain ⟨sec, hsec, _, hsts, hmap⟩ := specParse_ok env pre body sts rules h
  constructor
  · rw [List.nodup_iff_pairwise_ne, List.pairwise_filterMap, List.pairwise_iff_forall_sublist]
    intro r1 r2 hsub n hn1 n' hn2 hnn
    subst hnn
    -- the two rules are read off two rule lines, in the same order
    obtain ⟨l', hl', hl⟩ := List.sublist_map_iff.mp (hmap ▸ hsub.map some)
    match l', hl with
    | [p1, p2], hl =>
      simp only [List.map_cons, List.map_nil, List.cons.injEq, and_true] at hl
      have hlines : [p1.1, p2.1].Sublist (ruleLinesOf env.comments sec) := by
        simpa [List.zipIdx_map_fst] using hl'.map Prod.fst
      obtain ⟨es, hes, _⟩ := specParse_dup_rules_at env pre body sec p1.1 p2.1 n _ _ hsec hlines
        (by rw [nameOcc_of_rule hl.1.symm, hn1]; rfl) (by rw [nameOcc_of_rule hl.2.symm, hn2]; rfl)
      rw [h] at hes; cases hes
    | [], hl | [_], hl | _ :: _ :: _ :: _, hl => simp at hl
  · rw [hsts, numberFrom_names, List.nodup_iff_pairwise_ne, List.pairwise_map, List.pairwise_iff_forall_sublist]
    intro oc1 oc2 hsub hn
    obtain ⟨es, hes, _⟩ := specParse_dup_states_at env pre body oc1 oc2 hsub hn
    rw [h] at hes; cases hes

end GrmVerif.LexSpecParse
