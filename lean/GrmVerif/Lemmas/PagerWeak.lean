import GrmVerif.Model.PagerImpl
import GrmVerif.Lemmas.CloseData
/-!
Specification of Pager's weak-compatibility test, of the merge and of `goto` on item sets seen as sets
of facts (`HasItem`, `HasLa`), and the lemmas relating the models of `Model/PagerImpl.lean` to them.
-/
namespace GrmVerif.PagerImpl
open CloseImpl

/-- the contexts of item `ka` of `a` and item `kb` of `b` share a token -/
def CtxInter (a : List Item) (ka : Nat × Nat) (b : List Item) (kb : Nat × Nat) : Prop :=
  ∃ t, HasLa a ka.1 ka.2 t ∧ HasLa b kb.1 kb.2 t

/-- Pager's condition on one pair of core items -/
def PairP (self other : List Item) (ki kj : Nat × Nat) : Prop :=
  (¬ CtxInter self ki other kj ∧ ¬ CtxInter self kj other ki) ∨ CtxInter self ki self kj ∨ CtxInter other ki other kj

def SameCores (self other : List Item) : Prop := ∀ p d, HasItem self p d ↔ HasItem other p d

/-- **Pager's weak compatibility** (p. 255 of the paper), declaratively: same cores, and for every pair
`i ≠ j` of core items: the contexts (self i, other j) and (self j, other i) are both disjoint, or
self i ∩ self j ≠ ∅, or other i ∩ other j ≠ ∅ -/
def WeaklyCompatibleSpec (self other : List Item) : Prop :=
  SameCores self other ∧
  ∀ ki kj : Nat × Nat, HasItem self ki.1 ki.2 → HasItem self kj.1 kj.2 → ki ≠ kj → PairP self other ki kj

theorem ctxInter_symm {a b : List Item} {ka kb : Nat × Nat} : CtxInter a ka b kb ↔ CtxInter b kb a ka := by
  constructor <;> (rintro ⟨t, h1, h2⟩; exact ⟨t, h2, h1⟩)

theorem pairP_symm {self other : List Item} {ki kj : Nat × Nat} : PairP self other ki kj ↔ PairP self other kj ki := by
  unfold PairP
  rw [@ctxInter_symm self self ki kj, @ctxInter_symm other other ki kj]
  constructor <;> (rintro (⟨h1, h2⟩ | h | h); exact Or.inl ⟨h2, h1⟩; exact Or.inr (Or.inl h); exact Or.inr (Or.inr h))

theorem pairP_swap {self other : List Item} {ki kj : Nat × Nat} : PairP self other ki kj ↔ PairP other self ki kj := by
  unfold PairP
  rw [@ctxInter_symm self other ki kj, @ctxInter_symm self other kj ki]
  constructor <;> (rintro (⟨h1, h2⟩ | h | h); exact Or.inl ⟨h2, h1⟩; exact Or.inr (Or.inr h); exact Or.inr (Or.inl h))

theorem weaklyCompatibleSpec_symm {self other : List Item} :
    WeaklyCompatibleSpec self other ↔ WeaklyCompatibleSpec other self := by
  have key : ∀ {a b : List Item}, WeaklyCompatibleSpec a b → WeaklyCompatibleSpec b a := fun ⟨h1, h2⟩ =>
    ⟨fun p d => (h1 p d).symm, fun ki kj hi hj hne => pairP_swap.mp (h2 ki kj ((h1 _ _).mpr hi) ((h1 _ _).mpr hj) hne)⟩
  exact ⟨key, key⟩

theorem subset_of_length_le {α : Type} [DecidableEq α] (A B : List α) (hnd : A.Nodup) (hsub : ∀ x ∈ A, x ∈ B)
    (hlen : B.length ≤ A.length) : ∀ x ∈ B, x ∈ A := by
  intro b hb
  apply Classical.byContradiction
  intro hnb
  have h1 := hnd.length_le_of_subset (l₂ := B.erase b) (fun x hx => by
    have hne : x ≠ b := fun e => hnb (e ▸ hx)
    exact (List.mem_erase_of_ne hne).mpr (hsub x hx))
  rw [List.length_erase_of_mem hb] at h1
  exact absurd (Nat.le_trans hlen h1) (Nat.not_le.mpr (Nat.pred_lt (Nat.ne_of_gt (List.length_pos_of_mem hb))))

theorem mem_keysOf {is : List Item} {k : Nat × Nat} : k ∈ keysOf is ↔ HasItem is k.1 k.2 := by
  simp only [keysOf, List.mem_map, HasItem]
  constructor
  · rintro ⟨i, hi, rfl⟩; exact ⟨i, hi, rfl, rfl⟩
  · rintro ⟨i, hi, h1, h2⟩; exact ⟨i, hi, Prod.ext h1 h2⟩

theorem hasKey_iff {is : List Item} {k : Nat × Nat} : hasKey is k = true ↔ HasItem is k.1 k.2 := by
  simp only [hasKey, List.any_eq_true, isKey_iff, HasItem]

theorem length_keysOf (is : List Item) : (keysOf is).length = is.length := by simp [keysOf]

theorem sameCores_iff {self other : List Item} (hs : KeysNodup self) (ho : KeysNodup other) :
    (self.length = other.length ∧ ∀ p d, HasItem self p d → HasItem other p d) ↔ SameCores self other := by
  constructor
  · rintro ⟨hlen, hsub⟩ p d
    refine ⟨hsub p d, fun h => ?_⟩
    have := subset_of_length_le (keysOf self) (keysOf other) hs
      (fun k hk => mem_keysOf.mpr (hsub _ _ (mem_keysOf.mp hk))) (by rw [length_keysOf, length_keysOf, hlen]; exact Nat.le_refl _)
      (p, d) (mem_keysOf.mpr h)
    exact mem_keysOf.mp this
  · intro h
    refine ⟨?_, fun p d => (h p d).mp⟩
    have hp : (keysOf self).Perm (keysOf other) :=
      (List.perm_ext_iff_of_nodup hs ho).mpr (fun k => by rw [mem_keysOf, mem_keysOf]; exact h _ _)
    have := hp.length_eq
    rwa [length_keysOf, length_keysOf] at this

theorem vobIntersect_iff {a b : Ctx} : vobIntersect a b = true ↔ ∃ t, t ∈ a ∧ t ∈ b := by
  simp [vobIntersect, List.any_eq_true]

theorem inter_spec {a b : List Item} (ha : KeysNodup a) (hb : KeysNodup b) {ka kb : Nat × Nat}
    (hka : HasItem a ka.1 ka.2) (hkb : HasItem b kb.1 kb.2) :
    ∃ c, inter a b ka kb = some c ∧ (c = true ↔ CtxInter a ka b kb) := by
  obtain ⟨x, hx, hxm⟩ := lookup_spec ha hka
  obtain ⟨y, hy, hym⟩ := lookup_spec hb hkb
  refine ⟨vobIntersect x y, by simp [inter, hx, hy], ?_⟩
  rw [vobIntersect_iff]
  constructor
  · rintro ⟨t, h1, h2⟩; exact ⟨t, (hxm t).mp h1, (hym t).mp h2⟩
  · rintro ⟨t, h1, h2⟩; exact ⟨t, (hxm t).mpr h1, (hym t).mpr h2⟩

theorem pairOk_spec {self other : List Item} (hs : KeysNodup self) (ho : KeysNodup other) {ki kj : Nat × Nat}
    (hsi : HasItem self ki.1 ki.2) (hsj : HasItem self kj.1 kj.2)
    (hoi : HasItem other ki.1 ki.2) (hoj : HasItem other kj.1 kj.2) :
    ∃ c, pairOk self other ki kj = some c ∧ (c = true ↔ PairP self other ki kj) := by
  obtain ⟨c1, e1, p1⟩ := inter_spec hs ho hsi hoj
  obtain ⟨c2, e2, p2⟩ := inter_spec hs ho hsj hoi
  obtain ⟨c3, e3, p3⟩ := inter_spec hs hs hsi hsj
  obtain ⟨c4, e4, p4⟩ := inter_spec ho ho hoi hoj
  unfold PairP
  rw [← p1, ← p2, ← p3, ← p4]
  -- the lazy `||`s evaluate to the plain ones: the model answers `!(c1 || c2) || c3 || c4`
  refine ⟨!(c1 || c2) || (c3 || c4), ?_, ?_⟩
  · simp only [pairOk, cond1, cond23, e1, e2, e3, e4, Option.bind_some]
    cases c1 <;> cases c2 <;> cases c3 <;> rfl
  · cases c1 <;> cases c2 <;> cases c3 <;> cases c4 <;> decide

/-- one round of a loop that answers `false` at the first failing test: this test, and the rest of the loop -/
theorem andLoop {c c' : Bool} {rest : Option Bool} {A B : Prop} (hp : c = true ↔ A) (hc' : rest = some c')
    (hp' : c' = true ↔ B) : ∃ r, (if c = true then rest else some false) = some r ∧ (r = true ↔ A ∧ B) := by
  cases c with
  | true => exact ⟨c', hc', hp'.trans ⟨fun h => ⟨hp.mp rfl, h⟩, fun h => h.2⟩⟩
  | false => exact ⟨false, rfl, nofun, fun h => nomatch hp.mpr h.1⟩

theorem innerLoop_spec {self other : List Item} (hs : KeysNodup self) (ho : KeysNodup other) {ki : Nat × Nat}
    (hsi : HasItem self ki.1 ki.2) (hoi : HasItem other ki.1 ki.2) (rest : List (Nat × Nat))
    (hrs : ∀ k ∈ rest, HasItem self k.1 k.2) (hro : ∀ k ∈ rest, HasItem other k.1 k.2) :
    ∃ c, innerLoop self other ki rest = some c ∧ (c = true ↔ ∀ kj ∈ rest, PairP self other ki kj) := by
  induction rest with
  | nil => exact ⟨true, rfl, fun _ _ h => (nomatch h), fun _ => rfl⟩
  | cons kj rest ih =>
    obtain ⟨c, hc, hp⟩ := pairOk_spec hs ho hsi (hrs kj (List.mem_cons_self ..)) hoi (hro kj (List.mem_cons_self ..))
    obtain ⟨c', hc', hp'⟩ := ih (fun k hk => hrs k (List.mem_cons_of_mem _ hk)) (fun k hk => hro k (List.mem_cons_of_mem _ hk))
    simp only [innerLoop, hc, Option.bind_some, List.forall_mem_cons]
    exact andLoop hp hc' hp'

theorem outerLoop_spec {self other : List Item} (hs : KeysNodup self) (ho : KeysNodup other) (keys : List (Nat × Nat))
    (hks : ∀ k ∈ keys, HasItem self k.1 k.2) (hko : ∀ k ∈ keys, HasItem other k.1 k.2) :
    ∃ c, outerLoop self other keys = some c ∧ (c = true ↔ keys.Pairwise (PairP self other)) := by
  induction keys with
  | nil => exact ⟨true, rfl, fun _ => List.Pairwise.nil, fun _ => rfl⟩
  | cons ki rest ih =>
    obtain ⟨c, hc, hp⟩ := innerLoop_spec hs ho (hks ki (List.mem_cons_self ..)) (hko ki (List.mem_cons_self ..)) rest
      (fun k hk => hks k (List.mem_cons_of_mem _ hk)) (fun k hk => hko k (List.mem_cons_of_mem _ hk))
    obtain ⟨c', hc', hp'⟩ := ih (fun k hk => hks k (List.mem_cons_of_mem _ hk)) (fun k hk => hko k (List.mem_cons_of_mem _ hk))
    simp only [outerLoop, hc, Option.bind_some, List.pairwise_cons]
    exact andLoop hp hc' hp'

theorem pairwise_iff_of_symm {α : Type} (R : α → α → Prop) (hsym : ∀ a b, R a b → R b a) (l : List α) (hnd : l.Nodup) :
    l.Pairwise R ↔ ∀ a ∈ l, ∀ b ∈ l, a ≠ b → R a b := by
  refine ⟨fun h _ ha _ hb => ?_, fun h => List.Pairwise.imp_of_mem (fun ha hb hne => h _ ha _ hb hne) hnd⟩
  -- `x ≠ y → R x y` holds of `x, x` and, by symmetry, of every pair of `l` in either order
  exact List.Pairwise.forall_of_forall_of_flip (R := fun x y => x ≠ y → R x y) (fun _ _ hx => absurd rfl hx)
    (h.imp (S := fun x y => x ≠ y → R x y) fun hxy _ => hxy)
    (h.imp (S := fun x y => y ≠ x → R y x) fun hxy _ => hsym _ _ hxy) ha hb

theorem weaklyCompatible_spec {self other : List Item} (hs : KeysNodup self) (ho : KeysNodup other)
    (keys : List (Nat × Nat)) (hknd : keys.Nodup) (hkeys : ∀ k, k ∈ keys ↔ HasItem self k.1 k.2) (hne : self ≠ []) :
    ∃ b, weaklyCompatible self other keys = some b ∧ (b = true ↔ WeaklyCompatibleSpec self other) := by
  unfold weaklyCompatible
  by_cases hlen : self.length = other.length
  case neg =>
    refine ⟨false, by rw [if_pos (bne_iff_ne.mpr hlen)], nofun, ?_⟩
    rintro ⟨h, _⟩; exact absurd ((sameCores_iff hs ho).mpr h).1 hlen
  rw [if_neg (by rw [bne_iff_ne]; exact not_not_intro hlen)]
  by_cases hall : keys.all (hasKey other) = true
  case neg =>
    refine ⟨false, by rw [if_pos (by rw [Bool.not_eq_true', Bool.eq_false_iff]; exact hall)], nofun, ?_⟩
    rintro ⟨h, _⟩
    exact absurd (List.all_eq_true.mpr fun k hk => hasKey_iff.mpr ((h _ _).mp ((hkeys k).mp hk))) hall
  have hsub : ∀ p d, HasItem self p d → HasItem other p d := by
    intro p d h
    have := (List.all_eq_true.mp hall) (p, d) ((hkeys (p, d)).mpr h)
    exact hasKey_iff.mp this
  have hsame : SameCores self other := (sameCores_iff hs ho).mp ⟨hlen, hsub⟩
  rw [if_neg (by rw [hall]; decide)]
  by_cases h1 : self.length = 1
  · refine ⟨true, by rw [if_pos (beq_iff_eq.mpr h1)], ?_⟩
    refine ⟨fun _ => ⟨hsame, ?_⟩, fun _ => rfl⟩
    intro ki kj hi hj hne'
    exfalso; apply hne'
    match self, h1 with
    | [x], _ =>
      obtain ⟨i, hi', e1, e2⟩ := hi
      obtain ⟨j, hj', f1, f2⟩ := hj
      rw [List.mem_singleton] at hi' hj'
      subst hi' hj'
      exact Prod.ext (by rw [← e1, ← f1]) (by rw [← e2, ← f2])
  · have h0 : ¬ self.length = 0 := fun h => hne (List.length_eq_zero_iff.mp h)
    rw [if_neg (fun h => h1 (beq_iff_eq.mp h)), if_neg (fun h => h0 (beq_iff_eq.mp h))]
    obtain ⟨c, hc, hp⟩ := outerLoop_spec hs ho keys (fun k hk => (hkeys k).mp hk)
      (fun k hk => hsub _ _ ((hkeys k).mp hk))
    refine ⟨c, hc, ?_⟩
    rw [hp, pairwise_iff_of_symm _ (fun a b h => pairP_symm.mp h) keys hknd]
    constructor
    · intro h
      exact ⟨hsame, fun ki kj hi hj hne' => h ki ((hkeys ki).mpr hi) kj ((hkeys kj).mpr hj) hne'⟩
    · rintro ⟨_, h⟩ a ha b hb hne'
      exact h a b ((hkeys a).mp ha) ((hkeys b).mp hb) hne'

/-- `weakly_merge` item by item, when `other` has every key of `self` -/
theorem weaklyMerge_eq {self other : List Item} {o : Item → Ctx} (h : ∀ i ∈ self, lookup other i.p i.dot = some (o i)) :
    weaklyMerge self other =
      some (self.map (fun i => ⟨i.p, i.dot, (vobOr i.la (o i)).1⟩), self.any (fun i => (vobOr i.la (o i)).2)) := by
  induction self with
  | nil => rfl
  | cons i rest ih =>
    simp only [weaklyMerge, h i (List.mem_cons_self ..), Option.bind_some,
      ih (fun j hj => h j (List.mem_cons_of_mem _ hj)), Option.map_some, List.map_cons, List.any_cons]

theorem weaklyMerge_spec (self other : List Item) (hs : KeysNodup self) (ho : KeysNodup other)
    (hsub : ∀ p d, HasItem self p d → HasItem other p d) :
    ∃ R ch, weaklyMerge self other = some (R, ch) ∧ keysOf R = keysOf self ∧
      (∀ p d t, HasLa R p d t ↔ HasLa self p d t ∨ (HasItem self p d ∧ HasLa other p d t)) ∧
      (ch = true ↔ ∃ p d t, HasItem self p d ∧ HasLa other p d t ∧ ¬ HasLa self p d t) ∧
      (ch = false → R = self) := by
  have hlook : ∀ i ∈ self, lookup other i.p i.dot = some ((lookup other i.p i.dot).getD []) ∧
      ∀ t, t ∈ (lookup other i.p i.dot).getD [] ↔ HasLa other i.p i.dot t := by
    intro i hi
    obtain ⟨l, e, hm⟩ := lookup_spec ho (hsub _ _ ⟨i, hi, rfl, rfl⟩)
    rw [e]; exact ⟨rfl, hm⟩
  refine ⟨_, _, weaklyMerge_eq (fun i hi => (hlook i hi).1), ?_, ?_, ?_, ?_⟩
  · rw [keysOf, List.map_map]; rfl
  · intro p d t
    constructor
    · rintro ⟨j, hj, rfl, rfl, ht⟩
      obtain ⟨i, hi, rfl⟩ := List.mem_map.mp hj
      rcases mem_vobOr.mp ht with h | h
      · exact Or.inl ⟨i, hi, rfl, rfl, h⟩
      · exact Or.inr ⟨⟨i, hi, rfl, rfl⟩, ((hlook i hi).2 t).mp h⟩
    · rintro (⟨i, hi, rfl, rfl, ht⟩ | ⟨⟨i, hi, rfl, rfl⟩, ht⟩)
      · exact ⟨_, List.mem_map_of_mem hi, rfl, rfl, mem_vobOr.mpr (Or.inl ht)⟩
      · exact ⟨_, List.mem_map_of_mem hi, rfl, rfl, mem_vobOr.mpr (Or.inr (((hlook i hi).2 t).mpr ht))⟩
  · rw [List.any_eq_true]
    constructor
    · rintro ⟨i, hi, hch⟩
      obtain ⟨t, ht, hnt⟩ := vobOr_changed hch
      exact ⟨i.p, i.dot, t, ⟨i, hi, rfl, rfl⟩, ((hlook i hi).2 t).mp ht, fun h => hnt ((hasLa_iff_mem hs hi).mp h)⟩
    · rintro ⟨p, d, t, ⟨i, hi, rfl, rfl⟩, h2, h3⟩
      refine ⟨i, hi, ?_⟩
      cases hc : (vobOr i.la ((lookup other i.p i.dot).getD [])).2 with
      | true => rfl
      | false => exact absurd ⟨i, hi, rfl, rfl, (vobOr_unchanged hc).2 t (((hlook i hi).2 t).mpr h2)⟩ h3
  · intro hch
    rw [List.any_eq_false] at hch
    conv => rhs; rw [← List.map_id self]
    exact List.map_congr_left fun i hi => by
      rw [(vobOr_unchanged (Bool.eq_false_iff.mpr (hch i hi))).1]; rfl

theorem gotoStep_spec (G : Grammar) (sym : Sym) (acc : List Item) (i : Item) (hp : i.p < G.nprods)
    (hd : i.dot ≤ (G.rhs i.p).length) :
    ∃ acc', gotoStep G sym acc i = some acc' ∧
      (∀ p d, HasItem acc' p d ↔ HasItem acc p d ∨ (p = i.p ∧ d = i.dot + 1 ∧ (G.rhs i.p)[i.dot]? = some sym)) ∧
      (∀ p d t, HasLa acc' p d t ↔
        HasLa acc p d t ∨ (p = i.p ∧ d = i.dot + 1 ∧ t ∈ i.la ∧ (G.rhs i.p)[i.dot]? = some sym)) ∧
      (KeysNodup acc → KeysNodup acc') := by
  unfold gotoStep
  rw [if_pos hp]
  by_cases hlen : i.dot = (G.rhs i.p).length
  · rw [if_pos hlen]
    have hn : (G.rhs i.p)[i.dot]? = none := List.getElem?_eq_none (Nat.le_of_eq hlen.symm)
    rw [hn]
    exact ⟨acc, rfl, fun p d => (or_iff_left (fun h => nomatch h.2.2)).symm,
      fun p d t => (or_iff_left (fun h => nomatch h.2.2.2)).symm, id⟩
  · rw [if_neg hlen]
    have hlt : i.dot < (G.rhs i.p).length := Nat.lt_of_le_of_ne hd hlen
    have hsome : (G.rhs i.p)[i.dot]? = some ((G.rhs i.p)[i.dot]) := List.getElem?_eq_getElem hlt
    rw [hsome]
    simp only [gotoSym]
    by_cases hx : (G.rhs i.p)[i.dot] = sym
    · rw [if_pos hx, hx]
      refine ⟨_, rfl, ?_, ?_, add_nodup acc _ _ _⟩
      · intro p d; rw [add_hasItem]
        exact or_congr_right ⟨fun h => ⟨h.1, h.2, rfl⟩, fun h => ⟨h.1, h.2.1⟩⟩
      · intro p d t; rw [add_hasLa]
        exact or_congr_right ⟨fun h => ⟨h.1, h.2.1, h.2.2, rfl⟩, fun h => ⟨h.1, h.2.1, h.2.2.1⟩⟩
    · rw [if_neg hx]
      exact ⟨acc, rfl, fun p d => (or_iff_left (fun h => hx (Option.some.inj h.2.2))).symm,
        fun p d t => (or_iff_left (fun h => hx (Option.some.inj h.2.2.2))).symm, id⟩

theorem gotoLoop_spec (G : Grammar) (sym : Sym) (l : List Item)
    (hok : ∀ i ∈ l, i.p < G.nprods ∧ i.dot ≤ (G.rhs i.p).length) :
    ∀ acc, ∃ R, gotoLoop G sym l acc = some R ∧
      (∀ p d, HasItem R p d ↔ HasItem acc p d ∨ ∃ d0, d = d0 + 1 ∧ HasItem l p d0 ∧ (G.rhs p)[d0]? = some sym) ∧
      (∀ p d t, HasLa R p d t ↔ HasLa acc p d t ∨ ∃ d0, d = d0 + 1 ∧ HasLa l p d0 t ∧ (G.rhs p)[d0]? = some sym) ∧
      (KeysNodup acc → KeysNodup R) := by
  induction l with
  | nil =>
    intro acc
    refine ⟨acc, rfl, ?_, ?_, id⟩
    · intro p d; simp [HasItem]
    · intro p d t; simp [HasLa]
  | cons i rest ih =>
    intro acc
    obtain ⟨hp, hd⟩ := hok i (List.mem_cons_self ..)
    obtain ⟨acc', e1, a1, a2, a3⟩ := gotoStep_spec G sym acc i hp hd
    obtain ⟨R, e2, b1, b2, b3⟩ := ih (fun x hx => hok x (List.mem_cons_of_mem _ hx)) acc'
    refine ⟨R, by simp [gotoLoop, e1, e2], ?_, ?_, fun h => b3 (a3 h)⟩
    -- the accumulated part is the same on both sides; split the `cons` and distribute: the head's part is the step's
    · intro p d
      rw [b1, a1, or_assoc]
      refine or_congr_right ?_
      simp only [hasItem_cons, or_and_right, and_or_left, exists_or]
      refine or_congr_left ⟨?_, ?_⟩
      · rintro ⟨rfl, rfl, h⟩; exact ⟨_, rfl, ⟨rfl, rfl⟩, h⟩
      · rintro ⟨d0, rfl, ⟨rfl, rfl⟩, h⟩; exact ⟨rfl, rfl, h⟩
    · intro p d t
      rw [b2, a2, or_assoc]
      refine or_congr_right ?_
      simp only [hasLa_cons, or_and_right, and_or_left, exists_or]
      refine or_congr_left ⟨?_, ?_⟩
      · rintro ⟨rfl, rfl, ht, h⟩; exact ⟨_, rfl, ⟨rfl, rfl, ht⟩, h⟩
      · rintro ⟨d0, rfl, ⟨rfl, rfl, ht⟩, h⟩; exact ⟨rfl, rfl, ht, h⟩

theorem goto_spec (G : Grammar) (sym : Sym) (cl : List Item)
    (hok : ∀ i ∈ cl, i.p < G.nprods ∧ i.dot ≤ (G.rhs i.p).length) :
    ∃ R, goto G sym cl = some R ∧ KeysNodup R ∧
      (∀ p d, HasItem R p d ↔ ∃ d0, d = d0 + 1 ∧ HasItem cl p d0 ∧ (G.rhs p)[d0]? = some sym) ∧
      (∀ p d t, HasLa R p d t ↔ ∃ d0, d = d0 + 1 ∧ HasLa cl p d0 t ∧ (G.rhs p)[d0]? = some sym) := by
  obtain ⟨R, e, h1, h2, h3⟩ := gotoLoop_spec G sym cl hok []
  refine ⟨R, e, h3 List.nodup_nil, ?_, ?_⟩
  · intro p d; rw [h1]; exact or_iff_right (fun ⟨_, h, _⟩ => nomatch h)
  · intro p d t; rw [h2]; exact or_iff_right (fun ⟨_, h, _⟩ => nomatch h)

end GrmVerif.PagerImpl
