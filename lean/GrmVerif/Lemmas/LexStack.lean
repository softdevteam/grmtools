import GrmVerif.Lemmas.Lex
/-! Helper lemmas for C09: the run-length encoded start-state stack refines the plain stack. -/
namespace GrmVerif.Lex

/-- invariant of the encoded stack: counts are positive and every stored state is the one
`get_start_state_by_id` returns for its id (they are references into `start_states`) -/
def StackOK (ss : List St) (stk : Stack) : Prop :=
  ∀ e ∈ stk, 1 ≤ e.1 ∧ getState ss e.2.id = some e.2

theorem getState_id {ss : List St} {tid : Nat} {s : St} (h : getState ss tid = some s) :
    getState ss s.id = some s := by
  have := List.find?_some h
  rw [beq_iff_eq] at this
  rw [this]; exact h

theorem stackOK_cons {ss : List St} {c : Nat} {t : St} {rest : Stack} :
    StackOK ss ((c, t) :: rest) ↔ (1 ≤ c ∧ getState ss t.id = some t) ∧ StackOK ss rest :=
  List.forall_mem_cons

theorem stackOK_init {ss : List St} {init : St} (hi : getState ss init.id = some init) : StackOK ss [(1, init)] :=
  stackOK_cons.mpr ⟨⟨Nat.le_refl 1, hi⟩, nofun⟩

theorem decode_cons_ok {ss : List St} {c : Nat} {t : St} {rest : Stack} (h : StackOK ss ((c, t) :: rest)) :
    decode ((c, t) :: rest) = t :: (List.replicate (c - 1) t ++ decode rest) := by
  obtain ⟨c, rfl⟩ := Nat.exists_eq_add_one.mpr (stackOK_cons.mp h).1.1
  rfl

theorem applyOp_refines (ss : List St) (init : St) (stk : Stack) (s : St) (op : Op)
    (hok : StackOK ss stk) (hne : stk ≠ [])
    (hs : getState ss s.id = some s) (hi : getState ss init.id = some init) :
    ∃ stk', applyOp init stk s op = some stk' ∧ decode stk' = plainOp init (decode stk) s op ∧
      StackOK ss stk' ∧ stk' ≠ [] := by
  cases stk with
  | nil => exact absurd rfl hne
  | cons e rest =>
    obtain ⟨c, t⟩ := e
    obtain ⟨⟨hc, ht⟩, hrest⟩ := stackOK_cons.mp hok
    cases op with
    | replace => exact ⟨_, rfl, rfl, stackOK_init hs, nofun⟩
    | push =>
      rw [applyOp, rlePush]
      by_cases hid : t.id = s.id
      · -- the states on the stack are those of the definition, so equal ids mean equal states
        obtain rfl : t = s := Option.some.inj (ht.symm.trans (hid ▸ hs))
        rw [if_pos hid]
        exact ⟨_, rfl, rfl, stackOK_cons.mpr ⟨⟨Nat.le_add_left 1 c, ht⟩, hrest⟩, nofun⟩
      · rw [if_neg hid]
        exact ⟨_, rfl, rfl, stackOK_cons.mpr ⟨⟨Nat.le_refl 1, hs⟩, hok⟩, nofun⟩
    | pop =>
      rw [applyOp, rlePop]
      obtain ⟨c, rfl⟩ := Nat.exists_eq_add_one.mpr hc
      cases c with
      | succ c =>
        rw [if_pos (Nat.succ_lt_succ (Nat.succ_pos c))]
        exact ⟨_, rfl, rfl, stackOK_cons.mpr ⟨⟨Nat.le_add_left 1 c, ht⟩, hrest⟩, nofun⟩
      | zero =>
        rw [if_neg (Nat.lt_irrefl 1)]
        cases rest with
        | nil => exact ⟨_, rfl, rfl, stackOK_init hi, nofun⟩
        | cons e2 rest2 =>
          -- the entry below has a positive count, so the decoded tail is not empty
          obtain ⟨c2, t2⟩ := e2
          obtain ⟨c2, rfl⟩ := Nat.exists_eq_add_one.mpr (stackOK_cons.mp hrest).1.1
          exact ⟨_, rfl, rfl, hrest, nofun⟩

/-- a sequence of (target state, operation) pairs on the encoded stack -/
def rleRun (init : St) : Stack → List (St × Op) → Option Stack
  | stk, [] => some stk
  | stk, (s, op) :: ops =>
    match applyOp init stk s op with
    | none => none
    | some stk' => rleRun init stk' ops

/-- the same sequence on the plain stack -/
def plainRun (init : St) : List St → List (St × Op) → List St
  | ps, [] => ps
  | ps, (s, op) :: ops => plainRun init (plainOp init ps s op) ops

theorem rleRun_refines (ss : List St) (init : St) (hi : getState ss init.id = some init) :
    ∀ (ops : List (St × Op)) (stk : Stack), StackOK ss stk → stk ≠ [] →
      (∀ p ∈ ops, getState ss p.1.id = some p.1) →
      ∃ stk', rleRun init stk ops = some stk' ∧ decode stk' = plainRun init (decode stk) ops ∧
        StackOK ss stk' ∧ stk' ≠ [] := by
  intro ops
  induction ops with
  | nil => intro stk hok hne _; exact ⟨stk, rfl, rfl, hok, hne⟩
  | cons p ops ih =>
    intro stk hok hne hops
    obtain ⟨s, op⟩ := p
    obtain ⟨stk1, h1, h2, h3, h4⟩ := applyOp_refines ss init stk s op hok hne (hops _ List.mem_cons_self) hi
    obtain ⟨stk2, g1, g2, g3, g4⟩ := ih stk1 h3 h4 (fun p hp => hops p (List.mem_cons_of_mem _ hp))
    exact ⟨stk2, by rw [rleRun, h1]; exact g1, by rw [g2, h2]; rfl, g3, g4⟩

end GrmVerif.Lex
