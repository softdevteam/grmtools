import GrmVerif.Lemmas.YaccDeclParse
/-!
C10, text → AST stage: the whole file `declarations %% rules [%% programs]` — the `%grmtools` header
parser finds no header, the three sections are read one after the other, no error is recorded. At the end, what the
declarations leave for the rules section (`runFile_productions`, from `runDecls_spec`).
-/
namespace GrmVerif.YaccRender
open GrmVerif.YaccParse
open GrmVerif.Header (Res byteLen byteLen_append slice_ok ok_bind)

theorem header_none {src : List Char} {fuel : Nat} {c : Char} {t : List Char} (h : src = c :: t)
    (hc : Header.isPWS c = false) (hm : Header.MAGIC.isPrefixOf src = false) :
    Header.parseWith src false fuel = .ok ([], 0) := by
  subst h
  have hws : (Header.parseWs (c :: t) 0 : Res (List Header.HErr) Nat) = .ok 0 := by
    show Res.ok (0 + byteLen ((c :: t).takeWhile Header.isPWS)) = _
    rw [List.takeWhile_cons, hc]; rfl
  have hla : (Header.lookahead (c :: t) Header.MAGIC 0 : Res (List Header.HErr) _) = .ok none := by
    show Res.ok (if Header.MAGIC.isPrefixOf (c :: t) then _ else none) = _
    rw [hm]; rfl
  rw [Header.parseWith, hws, ok_bind, hla, ok_bind]
  rfl

theorem magic_eq : Header.MAGIC = ['%', 'g', 'r', 'm', 't', 'o', 'o', 'l', 's'] :=
  String.toList_ofList

theorem magic_no {c : Char} (t : List Char) (hc : c ≠ 'g') : Header.MAGIC.isPrefixOf ('%' :: c :: t) = false := by
  rw [magic_eq]
  simp [List.isPrefixOf, Ne.symm hc]

theorem magic_decls (ds : List RDecl) (x : List Char) :
    ∃ t, renderDecls ds ++ '%' :: '%' :: x = '%' :: t ∧
      Header.MAGIC.isPrefixOf (renderDecls ds ++ '%' :: '%' :: x) = false := by
  cases ds with
  | nil => exact ⟨_, rfl, magic_no _ (by decide)⟩
  | cons d ds =>
    obtain ⟨c, t, e, hc⟩ := kwOf_head d
    rw [renderDecls, List.append_assoc, renderDecl_append, e]
    exact ⟨_, rfl, magic_no _ hc⟩

/-- what follows the rules: nothing, or `%%\n` and a programs text that does not begin with white
space or a comment (`parse_ws` would skip that and not count it as part of the programs) -/
inductive PostOK : List Char → Prop
  | none : PostOK []
  | programs {prog : List Char} : Stops prog → PostOK ('%' :: '%' :: '\n' :: prog)

theorem PostOK.rulesEnd {post : List Char} (h : PostOK post) : RulesEnd post := by
  cases h with
  | none => exact .inl rfl
  | programs _ => exact .inr ⟨_, rfl⟩

theorem parsePrograms_at {src : List Char} {i : Nat} {post : List Char} (st : St) (h : At src i post)
    (hp : PostOK post) :
    parsePrograms src i st = .ok (i + byteLen post,
      match postPrograms post with
      | some n => St.incNl 1 (St.mapAst (fun a => { a with programs := some n }) st)
      | none => st) := by
  cases hp with
  | none =>
    unfold parsePrograms
    change M.Ret _ st _ _
    refine M.Ret.bind (la_at h "%%" st) ?_
    simp [byteLen, postPrograms]
    exact M.Ret.pure
  | @programs prog hs =>
    have h2 : At src (i + 2) ('\n' :: prog) := (h.adv1 (by decide)).adv1 (by decide)
    have h3 : At src (i + 2 + 1) prog := h2.adv1 (by decide)
    unfold parsePrograms
    change M.Ret _ st _ _
    refine M.Ret.bind (la_lit (l := ['%', '%']) String.toList_ofList h st rfl) ?_
    dsimp only
    refine M.Ret.bind (ws_nl h2 hs st) ?_
    refine M.Ret.bind (liftR_ret (slice_ok h3)) ?_
    refine M.Ret.bind (modifyAst_ret _ _) ?_
    simp only [postPrograms]
    rw [show i + byteLen ('%' :: '%' :: '\n' :: prog) = i + 2 + 1 + byteLen prog by
      rw [show ('%' :: '%' :: '\n' :: prog) = ['%', '%', '\n'] ++ prog from rfl, byteLen_append,
        show byteLen ['%', '%', '\n'] = 3 by decide]; omega]
    exact M.Ret.pure

theorem parse_file {kind : Kind} {g : Bool} (hk : kindIs g kind) (ds : List RDecl) (rs : List RRule)
    (post : List Char) (st' : St) (hwd : wfDecls kind ds = true) (hwr : wfRules g rs = true)
    (hp : PostOK post) (hr : runFile g ds rs post = some st') :
    YaccParse.parse (renderFile g ds rs post) kind = .ok (byteLen (renderFile g ds rs post), st'.ast) := by
  simp only [runFile, Option.map_eq_some_iff] at hr
  obtain ⟨r, hr, rfl⟩ := hr
  obtain ⟨t, ht, hm⟩ : ∃ t, renderFile g ds rs post = '%' :: t ∧
      Header.MAGIC.isPrefixOf (renderFile g ds rs post) = false := magic_decls ds _
  have hat : At (renderFile g ds rs post) 0 (renderDecls ds ++ '%' :: '%' :: '\n' :: (renderRules g rs ++ post)) :=
    Header.dropBytes_append [] _
  generalize renderFile g ds rs post = src at ht hm hat ⊢
  have hh : Header.parseWith src false (byteLen src + 1) = .ok ([], 0) := header_none (c := '%') ht (by decide) hm
  obtain ⟨d1, d2, d3⟩ := parseDeclarations_at ds {} _ r hat hwd (Nat.lt_succ_self (byteLen src)) hr
  have hat2 := hat.adv
  rw [Nat.zero_add] at d2 hat2
  rw [← d2] at hat2
  have hpr := parseRules_at hk rs r.2.2 post hat2 hwr hp.rulesEnd (Nat.lt_succ_self (byteLen src))
  have hat3 : At src (runRules g (r.1 + 3) rs (St.incNl 1 r.2.2)).1 post := by
    have h3 : At src (r.1 + 3) (renderRules g rs ++ post) :=
      (show byteLen ['%', '%', '\n'] = 3 by decide) ▸ At.adv (a := ['%', '%', '\n']) hat2
    exact runRules_pos g rs (r.1 + 3) (St.incNl 1 r.2.2) ▸ h3.adv
  have hpp := parsePrograms_at (runRules g (r.1 + 3) rs (St.incNl 1 r.2.2)).2 hat3 hp
  have hend := Header.dropBytes_len hat3
  have herrs : (runRules g (r.1 + 3) rs (St.incNl 1 r.2.2)).2.errs = [] :=
    (runRules_adds (dirs := []) g rs _ _).errs.trans d3
  unfold YaccParse.parse parseWith
  rw [hh]
  simp only [sections, M.bind_def, d1, hpr, hpp, hend]
  cases hpo : postPrograms post with
  | none => simp [herrs]
  | some n =>
    have e1 : ∀ (k : Nat) (s : St), (St.incNl k s).errs = s.errs := fun _ _ => rfl
    have e2 : ∀ (f : Ast → Ast) (s : St), (St.mapAst f s).errs = s.errs := fun _ _ => rfl
    simp [herrs, e1, e2]

/-- The rules of a whole file are classified with the `%token` names of its declarations: after the declarations,
`token_directives` is the list of those names in order of first declaration and each of them is in the token set —
the hypothesis `DirsOK` under which the rules section classifies a bare name (`C10.image_productions`). -/
theorem runFile_productions {g : Bool} {ds : List RDecl} {rs : List RRule} {post : List Char} {st' : St}
    (h : runFile g ds rs post = some st') :
    st'.ast.prods.map prodView = descProds ((declsDirs ds).foldl addName []) rs := by
  simp only [runFile, Option.map_eq_some_iff] at h
  obtain ⟨r, hr, rfl⟩ := h
  have h0 : DirsOK [] ({} : St) := ⟨rfl, fun n hn => by simp at hn⟩
  have hdec := (runDecls_spec (D := []) ds 0 0 {} r hr).2
  have hd' : DirsOK ((declsDirs ds).foldl addName []) (St.incNl 1 r.2.2) := hdec.dirs h0
  have hv := (runRules_adds g rs (r.1 + 3) _).prods hd'
  have hp : (St.incNl 1 r.2.2).ast.prods = [] := hdec.prods
  rw [hp] at hv
  cases postPrograms post with
  | none => simpa using hv
  | some n => simpa [St.incNl, St.mapAst] using hv

end GrmVerif.YaccRender
