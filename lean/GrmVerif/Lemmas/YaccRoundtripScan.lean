import GrmVerif.Lemmas.YaccRender
import GrmVerif.Lemmas.YaccSafe
/-!
C10, text → AST stage: each scanner of the yacc text parser (`lookahead_is`, `parse_ws`, `parse_name`,
`parse_token`, `parse_action`) consumes exactly its rendered item.
-/
namespace GrmVerif.YaccRender
open GrmVerif.YaccParse
open GrmVerif.Header (Res byteLen dropBytes sliceRange
  dropBytes_len dropBytes_advance byteLen_append slice_ok sliceRange_ok)

/-- `&src[i..]` is `rest` -/
def At (src : List Char) (i : Nat) (rest : List Char) : Prop := dropBytes src i = some rest

theorem At.adv {src : List Char} {i : Nat} {a rest : List Char} (h : At src i (a ++ rest)) :
    At src (i + byteLen a) rest := by
  have := dropBytes_advance h (pre := a) ⟨rest, rfl⟩
  simpa [At] using this

/-- the cursor behind `a`, at a position known to be its end (`j` is usually the image's: `(run… i …).1`) -/
theorem At.adv_to {src : List Char} {i j : Nat} {a rest : List Char} (h : At src i (a ++ rest))
    (hj : j = i + byteLen a) : At src j rest :=
  hj ▸ h.adv

theorem At.adv1 {src : List Char} {i : Nat} {c : Char} {rest : List Char} (h : At src i (c :: rest))
    (hc : c.utf8Size = 1) : At src (i + 1) rest :=
  hc ▸ At.adv (a := [c]) h

theorem At.next {src : List Char} {i : Nat} {c : Char} {rest : List Char} (h : At src i (c :: rest)) :
    At src (i + c.utf8Size) rest :=
  At.adv (a := [c]) h

theorem At.range {ε : Type} {src : List Char} {i : Nat} {a rest : List Char} (h : At src i (a ++ rest)) :
    (sliceRange src i (i + byteLen a) : Res ε _) = .ok a :=
  sliceRange_ok h ⟨rest, rfl⟩

theorem At.lt {src : List Char} {i : Nat} {c : Char} {rest : List Char} (h : At src i (c :: rest)) :
    i < byteLen src :=
  dropBytes_len h ▸ Nat.lt_add_of_pos_right (Nat.add_pos_left (Char.utf8Size_pos c) _)

theorem At.eq_len {src : List Char} {i : Nat} (h : At src i []) : i = byteLen src := dropBytes_len h

/-- the exact-result triple: run in `st`, `m` returns `a` in `st'`. The parser has a second triple,
`YaccParse.M.Safe` (Lemmas/YaccSafe.lean): a postcondition for EVERY input (no panic, fuel suffices, spans in range),
which is what C12 needs; `M.Ret` says what the result IS on one text, a rendered description, which is what C10's
round trip needs. Neither follows from the other, so every function of Model/YaccParse.lean has a lemma in each. -/
def M.Ret {α : Type} (m : M α) (st : St) (a : α) (st' : St) : Prop := m st = .ok (a, st')

theorem M.Ret.bind_eq {α β : Type} {m : M α} {f : α → M β} {st st1 : St} {a : α} (h : M.Ret m st a st1) :
    (m >>= f) st = f a st1 := by
  rw [M.bind_def, show m st = _ from h]

theorem M.Ret.bind {α β : Type} {m : M α} {f : α → M β} {st st1 st2 : St} {a : α} {b : β}
    (h : M.Ret m st a st1) (hf : M.Ret (f a) st1 b st2) : M.Ret (m >>= f) st b st2 :=
  h.bind_eq.trans hf

theorem M.Ret.pure {α : Type} {a : α} {st : St} : M.Ret (Pure.pure a : M α) st a st := rfl

theorem liftR_ret {α : Type} {r : Res YErr α} {a : α} {st : St} (h : r = .ok a) :
    M.Ret (liftR r) st a st := by
  subst h; rfl

theorem modifyAst_ret (f : Ast → Ast) (st : St) : M.Ret (modifyAst f) st () (St.mapAst f st) := rfl

theorem getSt_ret (st : St) : M.Ret getSt st st st := rfl

theorem la_at {src : List Char} {i : Nat} {rest : List Char} (h : At src i rest) (s : String) (st : St) :
    M.Ret (la src s i) st (if s.toList.isPrefixOf rest then some (i + byteLen s.toList) else none) st :=
  congrFun (la_eq h) st

theorem la_no {src : List Char} {i : Nat} {rest : List Char} (h : At src i rest) (s : String) (st : St)
    (hn : s.toList.isPrefixOf rest = false) : M.Ret (la src s i) st none st := by
  have := la_at h s st; rwa [hn] at this

theorem la_yes {src : List Char} {i : Nat} {rest : List Char} (s : String)
    (h : At src i (s.toList ++ rest)) (st : St) :
    M.Ret (la src s i) st (some (i + byteLen s.toList)) st :=
  congrFun (MatchAt.la ⟨rest, h, rfl⟩) st

/-- A keyword given by its characters. For a string literal `hs` is `String.toList_ofList`: unifying
the literal with `String.ofList l` costs nothing, whereas evaluating `toList` on it is dear. -/
theorem la_lit {src : List Char} {i j : Nat} {s : String} {l rest : List Char} (hs : s.toList = l)
    (h : At src i (l ++ rest)) (st : St) (hj : i + byteLen l = j) : M.Ret (la src s i) st (some j) st := by
  subst hs hj; exact la_yes s h st

theorem la_ne {src : List Char} {i : Nat} {c : Char} {t : List Char} (h : At src i (c :: t)) {s : String}
    {d : Char} {ds : List Char} (hs : s.toList = d :: ds) (hc : c ≠ d) (st : St) :
    M.Ret (la src s i) st none st :=
  la_no h s st (by rw [hs, List.isPrefixOf, beq_false_of_ne (Ne.symm hc), Bool.false_and])

/-- the text does not begin with white space or a comment -/
abbrev Stops := YaccLex.StopsLayout

theorem ws_layout {src : List Char} {i : Nat} {inc : Bool} {l rest : List Char} (h : At src i (l ++ rest))
    (hl : YaccLex.Layout inc rest l) (hs : Stops rest) (st : St) :
    M.Ret (ws src inc i) st (i + byteLen l) (St.incNl (YaccLex.countEol l) st) := by
  rw [← byteLen_eq l]
  unfold ws
  split
  · refine M.Ret.bind (liftR_ret (slice_ok h)) ?_
    rw [YaccLex.ws_spec_complete_inc inc hl hs]
    exact M.Ret.bind (m := addNl _) (st1 := St.incNl _ st) rfl rfl
  · next hlt =>
    cases l with
    | nil => rfl
    | cons c t => exact absurd (At.lt h) hlt

theorem ws_none {src : List Char} {i : Nat} {rest : List Char} (h : At src i rest) (hs : Stops rest)
    (st : St) : M.Ret (ws src true i) st i st :=
  ws_layout (l := []) h .nil hs st

theorem ws_one {src : List Char} {i : Nat} {c : Char} {rest : List Char} (h : At src i (c :: rest))
    (hs : Stops rest) (hc : c = ' ' ∨ c = '\n') (st : St) :
    M.Ret (ws src true i) st (i + 1) (St.incNl (if c = '\n' then 1 else 0) st) := by
  rcases hc with rfl | rfl
  · exact ws_layout (l := [' ']) h (.cons (.blank (by decide)) .nil) hs st
  · exact ws_layout (l := ['\n']) h (.cons (.eol (by decide) rfl) .nil) hs st

theorem ws_space {src : List Char} {i : Nat} {rest : List Char} (h : At src i (' ' :: rest))
    (hs : Stops rest) (st : St) : M.Ret (ws src true i) st (i + 1) st :=
  ws_one h hs (.inl rfl) st

theorem ws_nl {src : List Char} {i : Nat} {rest : List Char} (h : At src i ('\n' :: rest))
    (hs : Stops rest) (st : St) : M.Ret (ws src true i) st (i + 1) (St.incNl 1 st) :=
  ws_one h hs (.inr rfl) st

theorem takeWhile_all_stop {p : Char → Bool} {cs rest : List Char} (h : cs.all p = true)
    (hr : ∀ c t, rest = c :: t → p c = false) : (cs ++ rest).takeWhile p = cs := by
  rw [List.takeWhile_append_of_pos (List.all_eq_true.1 h)]
  cases rest with
  | nil => exact List.append_nil cs
  | cons c t => rw [List.takeWhile_cons_of_neg (Bool.eq_false_iff.1 (hr c t rfl)), List.append_nil]

def NameEnd (rest : List Char) : Prop := ∀ c t, rest = c :: t → isNameCont c = false

theorem wfName_cons {n : List Char} (hn : wfName n = true) :
    ∃ c cs, n = c :: cs ∧ isNameStart c = true ∧ cs.all isNameCont = true := by
  cases n with
  | nil => cases hn
  | cons c cs => exact ⟨c, cs, rfl, Bool.and_eq_true_iff.1 hn⟩

theorem ne_of_test {p : Char → Bool} {c d : Char} (hc : p c = true) (hd : p d = false) : c ≠ d :=
  fun e => by rw [e, hd] at hc; cases hc

theorem reName_wf {n rest : List Char} (hn : wfName n = true) (hr : NameEnd rest) :
    reName (n ++ rest) = some n := by
  obtain ⟨c, cs, rfl, hc, hcs⟩ := wfName_cons hn
  simp [reName, hc, takeWhile_all_stop hcs hr]

theorem reToken_bare {n rest : List Char} (hn : wfName n = true) (hr : NameEnd rest) :
    reToken (n ++ rest) = some n := by
  obtain ⟨c, cs, rfl, hc, hcs⟩ := wfName_cons hn
  have h1 : c ≠ '"' := ne_of_test hc (by decide)
  have h2 : c ≠ '\'' := ne_of_test hc (by decide)
  simp [reToken, hc, h1, h2, takeWhile_all_stop hcs hr]

theorem parseName_at {src : List Char} {i : Nat} {n rest : List Char} (h : At src i (n ++ rest))
    (hn : wfName n = true) (hr : NameEnd rest) :
    parseName src i = .ok (i + byteLen n, n) := by
  simp [parseName, slice_ok h, reName_wf hn hr, h.range, bind, Res.bind, pure]

theorem mkSpan_le {ε : Type} (a b : Nat) : (mkSpan a (a + b) : Res ε _) = .ok (a, a + b) := by
  simp [mkSpan]

theorem parseToken_bare {src : List Char} {i : Nat} {n rest : List Char} (h : At src i (n ++ rest))
    (hn : wfName n = true) (hr : NameEnd rest) :
    parseToken src i = .ok (i + byteLen n, n, (i, i + byteLen n), false) := by
  have hrg : (sliceRange src i (i + byteLen n) : Res YErr _) = .ok n := h.range
  obtain ⟨c, cs, rfl, hc, -⟩ := wfName_cons hn
  have hre : reToken (c :: (cs ++ rest)) = some (c :: cs) := reToken_bare hn hr
  have hnc : (nextChar src i : Res YErr _) = .ok c := nextChar_ok h
  have h1 : c ≠ '"' := ne_of_test hc (by decide)
  have h2 : c ≠ '\'' := ne_of_test hc (by decide)
  simp [parseToken, slice_ok h, hre, hnc, hrg, mkSpan_le, h1, h2, bind, Res.bind, pure]

theorem wfTok_quoted {q : Char} {t : Name} (h : wfTok (.quoted q t) = true) :
    (q = '\'' ∨ q = '"') ∧ wfQuotedText q t = true := by
  simpa only [wfTok, Bool.and_eq_true, Bool.or_eq_true, beq_iff_eq] using h

theorem quotedTail_wf {q : Char} {cs rest : List Char}
    (h : cs.all (fun d => d != q && d != '\n') = true) :
    quotedTail q (cs ++ q :: rest) = some (cs ++ [q]) := by
  induction cs with
  | nil => simp [quotedTail]
  | cons c cs ih =>
    simp only [List.all_cons, Bool.and_eq_true, bne_iff_ne] at h
    simp [quotedTail, h.1.1, h.1.2, ih h.2]

theorem reToken_quoted {q : Char} {t rest : List Char} (hq : q = '\'' ∨ q = '"')
    (ht : wfQuotedText q t = true) : reToken (q :: (t ++ q :: rest)) = some (q :: (t ++ [q])) := by
  cases t with
  | nil => simp [wfQuotedText] at ht
  | cons c cs =>
    simp only [wfQuotedText, Bool.and_eq_true, bne_iff_ne] at ht
    have hq' : q = '"' ∨ q = '\'' := hq.symm
    simp [reToken, hq', quotedBody, ht.1, quotedTail_wf ht.2]

theorem parseToken_quoted {src : List Char} {i : Nat} {q : Char} {t rest : List Char}
    (h : At src i (q :: (t ++ q :: rest))) (hq : q = '\'' ∨ q = '"') (ht : wfQuotedText q t = true) :
    parseToken src i = .ok (i + byteLen (q :: (t ++ [q])), t, (i + 1, i + 1 + byteLen t), true) := by
  have hs := quote_size hq
  have hq' : q = '"' ∨ q = '\'' := hq.symm
  have hnc : (nextChar src i : Res YErr _) = .ok q := nextChar_ok h
  have h1 : At src (i + 1) (t ++ q :: rest) := h.adv1 hs
  have hlen : i + byteLen (q :: (t ++ [q])) - 1 = i + 1 + byteLen t := by
    simp [byteLen, byteLen_append, hs]; omega
  have hr : (sliceRange src (i + 1) (i + 1 + byteLen t) : Res YErr _) = .ok t := h1.range
  simp only [parseToken, slice_ok h, reToken_quoted hq ht, hnc, hlen, hr, mkSpan_le, bind, Res.bind, pure]
  simp [hq']

theorem incNl_incNl (a b : Nat) (st : St) : St.incNl a (St.incNl b st) = St.incNl (b + a) st := by
  simp [St.incNl, Nat.add_assoc]

theorem incNl_zero (st : St) : St.incNl 0 st = st := rfl

theorem byteLen_eq' (s : List Char) : byteLen s = YaccLex.byteLen s := (byteLen_eq s).symm

theorem incNl_countEol_cons (ch : Char) (t : List Char) (st : St) :
    St.incNl (YaccLex.countEol (ch :: t)) st
      = St.incNl (YaccLex.countEol t) (St.incNl (if YaccLex.isEol ch then 1 else 0) st) :=
  (incNl_incNl _ _ st).symm

theorem actionLoop_scan {src : List Char} : ∀ (t : List Char) (f j c d : Nat) (st : St) (rest : List Char),
    At src j (t ++ rest) → braceScan c t = some d → t.length < f →
    actionLoop src f j (c : Int) st
      = actionLoop src (f - t.length) (j + byteLen t) (d : Int) (St.incNl (YaccLex.countEol t) st) := by
  intro t
  induction t with
  | nil =>
    intro f j c d st rest _ hb _
    obtain rfl : c = d := Option.some.inj hb
    rfl
  | cons ch t ih =>
    intro f j c d st rest h hb hf
    obtain ⟨f, rfl⟩ := Nat.exists_eq_add_one.2 (Nat.zero_lt_of_lt hf)
    have h' : At src j (ch :: (t ++ rest)) := h
    have ih := fun c' st' => ih f (j + ch.utf8Size) c' d st' rest h'.next
    have hf' : t.length < f := Nat.lt_of_succ_lt_succ hf
    rw [actionLoop, if_pos h'.lt, M.Ret.bind_eq (liftR_ret (nextChar_ok h')), incNl_countEol_cons,
      show f + 1 - (ch :: t).length = f - t.length from Nat.add_sub_add_right f 1 t.length,
      show j + byteLen (ch :: t) = j + ch.utf8Size + byteLen t from (Nat.add_assoc _ _ _).symm]
    rw [braceScan] at hb
    by_cases ho : ch = '{'
    · rw [if_pos ho] at hb
      rw [if_pos ho, if_neg (show ¬ YaccLex.isEol ch = true by rw [ho]; decide)]
      exact ih (c + 1) st hb hf'
    · rw [if_neg ho] at hb ⊢
      by_cases hcl : ch = '}'
      · rw [if_pos hcl] at hb
        rw [if_pos hcl, if_neg (show ¬ YaccLex.isEol ch = true by rw [hcl]; decide)]
        by_cases hc1 : c ≤ 1
        · rw [if_pos hc1] at hb; cases hb
        · rw [if_neg hc1] at hb
          rw [if_neg (show ¬ (c : Int) = 1 by omega), show ((c : Int) - 1) = ((c - 1 : Nat) : Int) by omega]
          exact ih (c - 1) st hb hf'
      · rw [if_neg hcl] at hb ⊢
        by_cases heol : YaccLex.isEol ch = true
        · rw [if_pos heol, if_pos heol]
          exact ih c (St.incNl 1 st) hb hf'
        · rw [if_neg heol, if_neg heol]
          exact ih c st hb hf'

theorem actionLoop_body {src : List Char} : ∀ (t : List Char) (f j c d : Nat) (st : St) (rest : List Char),
    At src j (t ++ rest) → braceScan c t = some d → 1 ≤ c → t.length < f →
    actionLoop src f j (c : Int) st
      = actionLoop src (f - t.length) (j + byteLen t) (d : Int) (St.incNl (YaccLex.countEol t) st) :=
  fun t f j c d st rest h hb _ hf => actionLoop_scan t f j c d st rest h hb hf

theorem parseAction_at {src : List Char} {fuel i : Nat} {a rest : List Char} (st : St)
    (h : At src i ('{' :: (a ++ '}' :: rest))) (ha : wfAction a = true) (hf : a.length + 2 ≤ fuel) :
    M.Ret (parseAction src fuel i) st (i + byteLen a + 2) (St.incNl (YaccLex.countEol a) st) := by
  have h1 : At src (i + 1) (a ++ '}' :: rest) := h.adv1 (by decide)
  have h2 : At src (i + 1 + byteLen a) ('}' :: rest) := h1.adv
  obtain ⟨f, rfl⟩ := Nat.exists_eq_add_of_lt (show a.length + 1 < fuel from hf)
  have hloop : M.Ret (actionLoop src (a.length + 1 + f + 1) i 0) st (i + 1 + byteLen a, 0)
      (St.incNl (YaccLex.countEol a) st) := by
    unfold M.Ret
    rw [actionLoop, if_pos h.lt, M.Ret.bind_eq (liftR_ret (nextChar_ok h)), if_pos rfl,
      show Char.utf8Size '{' = 1 by decide, show ((0 : Int) + 1) = ((1 : Nat) : Int) from rfl,
      actionLoop_scan a _ (i + 1) 1 1 st _ h1 (beq_iff_eq.1 ha) (by omega),
      show a.length + 1 + f - a.length = f + 1 by omega,
      actionLoop, if_pos h2.lt, M.Ret.bind_eq (liftR_ret (nextChar_ok h2)), if_neg (by decide), if_pos rfl, if_pos (show ((1 : Nat) : Int) = 1 from rfl)]
    rfl
  unfold parseAction
  refine M.Ret.bind (la_lit (l := ['{']) String.toList_ofList h st rfl) ?_
  dsimp only
  refine M.Ret.bind hloop ?_
  dsimp only
  rw [if_neg (by decide)]
  refine M.Ret.bind (la_lit (l := ['}']) String.toList_ofList h2 _ rfl) ?_
  dsimp only
  refine M.Ret.bind (liftR_ret h1.range) ?_
  rw [show i + byteLen a + 2 = i + 1 + byteLen a + 1 by omega]
  exact M.Ret.pure

end GrmVerif.YaccRender
