import GrmVerif.Model.CostsImpl
import GrmVerif.Lemmas.ImplLoop
import GrmVerif.Lemmas.RuleGraph
/-! The model of `YaccGrammar::has_path` (`Impl.hasPath`): invariant of the work-list sweeps, termination
within `nrules + 1` sweeps, and exactness w.r.t. `Spec.Reach`. -/
namespace GrmVerif.Impl
open GrmVerif Spec

/-- the outcome of a loop body satisfies: `I` of the next state, `R` of a returned value, no panic -/
def Flow.Sat {σ : Type} (I : σ → Prop) (R : Bool → Prop) : Flow σ → Prop
  | .next s => I s
  | .ret b => R b
  | .panic => False

theorem Flow.Sat.imp {σ : Type} {I I' : σ → Prop} {R : Bool → Prop} {x : Flow σ}
    (h : Flow.Sat I R x) (hi : ∀ s, I s → I' s) : Flow.Sat I' R x := by
  cases x with
  | next s => exact hi s h
  | ret b => exact h
  | panic => exact h

/-- the loop rule: every pass of the body keeps `I`, moves the state along the preorder `R` and establishes `Q a`,
which stays true along `R` -/
theorem iterF_rel {σ α : Type} (f : σ → α → Flow σ) (R : σ → σ → Prop) (I : σ → Prop) (Q : α → σ → Prop)
    (Ret : Bool → Prop) (hrefl : ∀ s, R s s) (htrans : ∀ {a b c}, R a b → R b c → R a c)
    (hQ : ∀ a {s s'}, R s s' → Q a s → Q a s') :
    ∀ (l : List α) (s : σ), I s →
      (∀ s a, a ∈ l → I s → Flow.Sat (fun s' => I s' ∧ R s s' ∧ Q a s') Ret (f s a)) →
      Flow.Sat (fun s' => I s' ∧ R s s' ∧ ∀ a ∈ l, Q a s') Ret (iterF f l s) := by
  intro l
  induction l with
  | nil => intro s hI _; exact ⟨hI, hrefl s, by simp⟩
  | cons a l ih =>
    intro s hI hf
    have h1 := hf s a (by simp) hI
    simp only [iterF]
    cases hfa : f s a with
    | next s1 =>
      rw [hfa] at h1
      obtain ⟨hI1, hR1, hQ1⟩ := h1
      exact (ih s1 hI1 fun s2 b hb => hf s2 b (by simp [hb])).imp fun s' ⟨hI', hR', hall⟩ =>
        ⟨hI', htrans hR1 hR', List.forall_mem_cons.mpr ⟨hQ a hR' hQ1, hall⟩⟩
    | ret b => rw [hfa] at h1; exact h1
    | panic => rw [hfa] at h1; exact h1

/-- `q` has been looked at: it is not the target and is seen or queued -/
def Looked (T : Nat) (s : HP) (q : Nat) : Prop := q ≠ T ∧ (vget s.seen q = true ∨ vget s.todo q = true)

/-- every successor of `r` has been looked at -/
def Closed (G : Grammar) (T : Nat) (s : HP) (r : Nat) : Prop := ∀ q, Succ G r q → Looked T s q

structure HInv (G : Grammar) (A : Nat) (s : HP) : Prop where
  slen : s.seen.length = G.nrules
  tlen : s.todo.length = G.nrules
  /-- whatever is seen or queued is the source or reachable from it -/
  snd : ∀ r, vget s.seen r = true ∨ vget s.todo r = true → r = A ∨ Reach G A r
  /-- queued rules are not yet seen -/
  disj : ∀ r, vget s.todo r = true → vget s.seen r = false
  /-- the source is seen or queued -/
  src : vget s.seen A = true ∨ vget s.todo A = true

/-- `s'` has the same `seen` and at least the `todo` bits of `s` -/
def TodoLe (s s' : HP) : Prop := s'.seen = s.seen ∧ ∀ x, vget s.todo x = true → vget s'.todo x = true

theorem TodoLe.refl (s : HP) : TodoLe s s := ⟨rfl, fun _ h => h⟩
theorem TodoLe.trans {a b c : HP} (h1 : TodoLe a b) (h2 : TodoLe b c) : TodoLe a c :=
  ⟨h2.1.trans h1.1, fun x h => h2.2 x (h1.2 x h)⟩

theorem Looked.mono {T : Nat} {s s' : HP} {q : Nat} (hl : TodoLe s s') (h : Looked T s q) : Looked T s' q := by
  refine ⟨h.1, ?_⟩
  rcases h.2 with h | h
  · left; rw [hl.1]; exact h
  · right; exact hl.2 q h

/-- state inside the processing of rule `r` (`seen[r]` already set, `todo[r]` cleared) -/
structure HMid (G : Grammar) (A T r : Nat) (s : HP) : Prop where
  inv : HInv G A s
  seenr : vget s.seen r = true
  reachr : r = A ∨ Reach G A r
  notEmpty : s.empty = false
  others : ∀ r', r' ≠ r → vget s.seen r' = true → Closed G T s r'

/-- taking `r` from the queue and marking it seen changes nothing in what is seen or queued -/
theorem marked_pop {s : HP} {r : Nat} (hrs : r < s.seen.length) (ht : vget s.todo r = true) (x : Nat) :
    (vget (vset s.seen r) x = true ∨ vget (vclear s.todo r) x = true) ↔
      (vget s.seen x = true ∨ vget s.todo x = true) := by
  by_cases hx : x = r
  · subst hx; simp [vget_vset _ _ _ hrs, ht]
  · simp [vget_vset _ _ _ hrs, vget_vclear, hx]

theorem hpSym_sat (G : Grammar) (hwf : G.wf = true) (A T r : Nat) (s : HP) (sym : Sym)
    (hsym : ∃ p, p < G.nprods ∧ G.lhs p = r ∧ sym ∈ G.rhs p) (hM : HMid G A T r s) :
    Flow.Sat (fun s' => HMid G A T r s' ∧ TodoLe s s' ∧ ∀ q, sym = .rule q → Looked T s' q)
      (fun b => b = true ∧ Reach G A T) (hpSym G T s sym) := by
  obtain ⟨p, hp, hl, hmem⟩ := hsym
  cases sym with
  | tok t =>
    simp only [hpSym, Flow.Sat]
    exact ⟨hM, TodoLe.refl s, fun q hq => nomatch hq⟩
  | rule q =>
    have hq : q < G.nrules := wf_rule hwf hp hmem
    have hsucc : Succ G r q := ⟨p, hp, hl, hmem⟩
    have hreach : Reach G A q := reach_succ hM.reachr hsucc
    simp only [hpSym]
    by_cases hT : q = T
    · simp only [hT, if_true, Flow.Sat]
      exact ⟨trivial, hT ▸ hreach⟩
    · simp only [hT, if_false, hq, if_true]
      by_cases hs : vget s.seen q = true
      · simp only [hs, if_true, Flow.Sat]
        refine ⟨hM, TodoLe.refl s, ?_⟩
        intro q' hq'
        cases hq'
        exact ⟨hT, Or.inl hs⟩
      · have hs' : vget s.seen q = false := by simpa using hs
        simp only [hs', Bool.false_eq_true, if_false, Flow.Sat]
        have hqt : q < s.todo.length := by rw [hM.inv.tlen]; exact hq
        have hle1 : TodoLe s { s with todo := vset s.todo q } :=
          ⟨rfl, fun x hx => vget_vset_mono hqt hx⟩
        refine ⟨?_, hle1, ?_⟩
        · refine ⟨⟨hM.inv.slen, (vset_length _ _).trans hM.inv.tlen, ?_, ?_, ?_⟩, hM.seenr, hM.reachr, hM.notEmpty, ?_⟩
          · intro x hx
            simp only [vget_vset _ _ _ hqt, Bool.or_eq_true, decide_eq_true_eq] at hx
            rcases hx with hx | rfl | hx
            · exact hM.inv.snd x (Or.inl hx)
            · exact Or.inr hreach
            · exact hM.inv.snd x (Or.inr hx)
          · intro x hx
            simp only [vget_vset _ _ _ hqt, Bool.or_eq_true, decide_eq_true_eq] at hx
            rcases hx with rfl | hx
            · exact hs'
            · exact hM.inv.disj x hx
          · rcases hM.inv.src with h | h
            · exact Or.inl h
            · exact Or.inr (vget_vset_mono hqt h)
          · intro r' hne hseen q' hq'
            exact (hM.others r' hne hseen q' hq').mono hle1
        · intro q' hq'
          cases hq'
          refine ⟨hT, Or.inr ?_⟩
          simp [vget_vset _ _ _ hqt]

theorem hpProds_sat (G : Grammar) (hwf : G.wf = true) (A T r : Nat) (s : HP) (hM : HMid G A T r s) :
    Flow.Sat (fun s' => HMid G A T r s' ∧ TodoLe s s' ∧ Closed G T s' r)
      (fun b => b = true ∧ Reach G A T) (iterF (hpProd G T) (G.prodsOf r) s) := by
  refine (iterF_rel (hpProd G T) TodoLe (HMid G A T r)
    (fun p s' => ∀ sym ∈ G.rhs p, ∀ q, sym = .rule q → Looked T s' q) _ TodoLe.refl TodoLe.trans
    (fun _ _ _ hle h sym hs q hq => (h sym hs q hq).mono hle) (G.prodsOf r) s hM ?_).imp ?_
  · intro s1 p hp hM1
    obtain ⟨hp1, hp2⟩ := mem_prodsOf.mp hp
    exact iterF_rel (hpSym G T) TodoLe (HMid G A T r) (fun sym s' => ∀ q, sym = .rule q → Looked T s' q) _
      TodoLe.refl TodoLe.trans (fun _ _ _ hle h q hq => (h q hq).mono hle) (G.rhs p) s1 hM1
      fun s2 sym hsym hM2 => hpSym_sat G hwf A T r s2 sym ⟨p, hp1, hp2, hsym⟩ hM2
  · intro s' ⟨hM', hle, hall⟩
    exact ⟨hM', hle, fun q ⟨p, hp, hl, hm⟩ => hall p (mem_prodsOf.mpr ⟨hp, hl⟩) _ hm q rfl⟩

/-- the invariant between two iterations of `for ridx in self.iter_rules()` -/
structure HGood (G : Grammar) (A T : Nat) (s : HP) : Prop where
  inv : HInv G A s
  closed : ∀ r, vget s.seen r = true → Closed G T s r

/-- `seen[x]`, as the bit function that `Mono`, `Grew` and `mu` of `ImplLoop.lean` take -/
abbrev seenBit (s : HP) (x : Nat) : Bool := vget s.seen x

/-- relation between the state before and after one rule of a sweep: `seen` only grows, `empty` is cleared only together with
a newly seen rule, and (`same`) as long as `empty` is still set nothing has been queued — the flag is set at the start of a
sweep and only ever cleared inside it, so it was set before too. The `Step` of `ImplLoop.lean` with `empty` for `!changed`,
except that a quiet pass keeps only `todo`, not the whole state -/
structure HRel (G : Grammar) (s s' : HP) : Prop where
  mono : Mono seenBit s s'
  grew : s'.empty = false → s.empty = false ∨ Grew seenBit (List.range G.nrules) s s'
  same : s'.empty = true → s'.todo = s.todo ∧ s.empty = true

theorem HRel.refl (G : Grammar) (s : HP) : HRel G s s :=
  ⟨fun _ h => h, fun h => Or.inl h, fun h => ⟨rfl, h⟩⟩

theorem HRel.trans {G : Grammar} {a b c : HP} (h1 : HRel G a b) (h2 : HRel G b c) : HRel G a c := by
  refine ⟨fun x h => h2.mono x (h1.mono x h), ?_, ?_⟩
  · intro hc
    rcases h2.grew hc with hb | hg
    · exact (h1.grew hb).imp_right (·.then h2.mono)
    · exact Or.inr (hg.after h1.mono)
  · intro hc
    obtain ⟨e2, hb⟩ := h2.same hc
    obtain ⟨e1, ha⟩ := h1.same hb
    exact ⟨e2.trans e1, ha⟩

theorem hpRule_sat (G : Grammar) (hwf : G.wf = true) (A T : Nat) (s : HP) (r : Nat) (hr : r < G.nrules)
    (hG : HGood G A T s) :
    Flow.Sat (fun s' => HGood G A T s' ∧ HRel G s s' ∧ (s'.empty = true → vget s'.todo r = false))
      (fun b => b = true ∧ Reach G A T) (hpRule G T s r) := by
  unfold hpRule
  by_cases ht : vget s.todo r = true
  · simp only [ht, if_true]
    have hns : vget s.seen r = false := hG.inv.disj r ht
    have hrs : r < s.seen.length := by rw [hG.inv.slen]; exact hr
    let s1 : HP := { seen := vset s.seen r, todo := vclear s.todo r, empty := false }
    have hM : HMid G A T r s1 := by
      refine ⟨⟨(vset_length _ _).trans hG.inv.slen, (vclear_length _ _).trans hG.inv.tlen, ?_, ?_, ?_⟩, ?_, ?_, rfl, ?_⟩
      · exact fun x hx => hG.inv.snd x ((marked_pop hrs ht x).mp hx)
      · intro x hx
        simp only [s1, vget_vset _ _ _ hrs, vget_vclear, Bool.and_eq_true, Bool.not_eq_true',
          decide_eq_false_iff_not] at hx ⊢
        have := hG.inv.disj x hx.2
        simp [hx.1, this]
      · exact (marked_pop hrs ht A).mpr hG.inv.src
      · simp [s1, vget_vset _ _ _ hrs]
      · exact hG.inv.snd r (Or.inr ht)
      · intro r' hne hseen q hq
        simp only [s1, vget_vset _ _ _ hrs, Bool.or_eq_true, decide_eq_true_eq] at hseen
        rcases hseen with rfl | hseen
        · exact absurd rfl hne
        · obtain ⟨h1, h2⟩ := hG.closed r' hseen q hq
          exact ⟨h1, (marked_pop hrs ht q).mpr h2⟩
    refine (hpProds_sat G hwf A T r s1 hM).imp ?_
    intro s' ⟨hM', hle, hcl⟩
    refine ⟨⟨hM'.inv, ?_⟩, ⟨?_, ?_, ?_⟩, ?_⟩
    · intro r' hseen
      by_cases hne : r' = r
      · subst hne; exact hcl
      · exact hM'.others r' hne hseen
    · intro x hx
      show vget s'.seen x = true
      rw [hle.1]
      exact vget_vset_mono hrs hx
    · intro _
      refine Or.inr ⟨r, List.mem_range.mpr hr, hns, ?_⟩
      simp [seenBit, hle.1, s1, vget_vset _ _ _ hrs]
    · intro he; rw [hM'.notEmpty] at he; cases he
    · intro he; rw [hM'.notEmpty] at he; cases he
  · have ht' : vget s.todo r = false := by simpa using ht
    simp only [ht', Bool.false_eq_true, if_false, Flow.Sat]
    exact ⟨hG, HRel.refl G s, fun _ => trivial⟩

theorem hpSweep_sat (G : Grammar) (hwf : G.wf = true) (A T : Nat) (s : HP) (hG : HGood G A T s) :
    Flow.Sat (fun s' => HGood G A T s' ∧ Mono seenBit s s' ∧
        (s'.empty = false → Grew seenBit (List.range G.nrules) s s') ∧
        (s'.empty = true → ∀ r, vget s'.todo r = false))
      (fun b => b = true ∧ Reach G A T) (hpSweep G T s) := by
  unfold hpSweep
  let s0 : HP := { s with empty := true }
  have hG0 : HGood G A T s0 := ⟨⟨hG.inv.slen, hG.inv.tlen, hG.inv.snd, hG.inv.disj, hG.inv.src⟩, hG.closed⟩
  refine (iterF_rel (hpRule G T) (HRel G) (HGood G A T) (fun r s' => s'.empty = true → vget s'.todo r = false) _
    (HRel.refl G) HRel.trans
    (fun r _ _ hrel h he => by obtain ⟨e, he1⟩ := hrel.same he; rw [e]; exact h he1)
    (List.range G.nrules) s0 hG0
    fun s1 r hr hG1 => hpRule_sat G hwf A T s1 r (List.mem_range.mp hr) hG1).imp ?_
  intro s' ⟨hG', hrel, hall⟩
  refine ⟨hG', hrel.mono, fun he => (hrel.grew he).resolve_left (fun h => nomatch h), fun he r => ?_⟩
  by_cases hr : r < G.nrules
  · exact hall r (List.mem_range.mpr hr) he
  · exact vget_ge (by rw [hG'.inv.tlen]; omega)

/-- rules not yet seen -/
def hpMu (G : Grammar) (s : HP) : Nat := mu seenBit (List.range G.nrules) s

theorem not_reach_of_closed {G : Grammar} {A T : Nat} {s : HP} (hG : HGood G A T s)
    (hno : ∀ r, vget s.todo r = false) : ∀ B, Reach G A B → B ≠ T ∧ vget s.seen B = true := by
  have hA : vget s.seen A = true := by
    rcases hG.inv.src with h | h
    · exact h
    · rw [hno A] at h; cases h
  have key : ∀ r q, vget s.seen r = true → Succ G r q → q ≠ T ∧ vget s.seen q = true := by
    intro r q hr hs
    obtain ⟨h1, h2⟩ := hG.closed r hr q hs
    refine ⟨h1, ?_⟩
    rcases h2 with h2 | h2
    · exact h2
    · rw [hno q] at h2; cases h2
  intro B hB
  induction hB with
  | edge p B hp hm => exact key _ B hA ⟨p, hp, rfl, hm⟩
  | step A' p B _ hp hm ih => exact key _ B (ih hG hA).2 ⟨p, hp, rfl, hm⟩

theorem hpLoop_spec (G : Grammar) (hwf : G.wf = true) (A T : Nat) (s : HP) (hG : HGood G A T s) :
    ∃ b, (b = true ↔ Reach G A T) ∧ ∀ fuel, G.nrules < fuel → hpLoop G T fuel s = .done b := by
  obtain ⟨v, ⟨b, rfl, hb⟩, hv⟩ := Fix.loop_done (hpLoop G T) (fun m t => HGood G A T t ∧ hpMu G t ≤ m)
    (fun v => ∃ b, v = .done b ∧ (b = true ↔ Reach G A T))
    (by
      intro m t ⟨hG, hmu⟩
      have hs := hpSweep_sat G hwf A T t hG
      cases hx : hpSweep G T t with
      | panic => rw [hx] at hs; exact hs.elim
      | ret b =>
        rw [hx] at hs
        exact Or.inl ⟨_, ⟨b, rfl, fun _ => hs.2, fun _ => hs.1⟩, fun n => by simp only [hpLoop, hx]⟩
      | next s' =>
        rw [hx] at hs
        obtain ⟨hG', hmono, hgrew, hempty⟩ := hs
        cases he : s'.empty with
        | true =>
          -- the sweep found nothing to do: everything reachable is seen and is not the target
          exact Or.inl ⟨_, ⟨false, rfl, ⟨fun h => Bool.noConfusion h,
              fun hr => absurd rfl (not_reach_of_closed hG' (hempty he) T hr).1⟩⟩,
            fun n => by simp only [hpLoop, hx, he, if_true]⟩
        | false =>
          have : hpMu G s' < hpMu G t := mu_lt _ _ hmono (hgrew he)
          exact Or.inr ⟨s', hpMu G s', by omega, ⟨hG', Nat.le_refl _⟩, fun n => by simp [hpLoop, hx, he]⟩)
    (hpMu G s) s ⟨hG, Nat.le_refl _⟩
  refine ⟨b, hb, fun fuel hf => hv fuel (Nat.lt_of_le_of_lt ?_ hf)⟩
  simpa [hpMu] using mu_le_length seenBit (List.range G.nrules) s

theorem hpInit_good (G : Grammar) (A T : Nat) (hA : A < G.nrules) : HGood G A T (hpInit G A) := by
  have hlen : A < (List.replicate G.nrules false).length := by simpa using hA
  refine ⟨⟨by simp [hpInit], by simp [hpInit, vset_length], ?_, ?_, ?_⟩, ?_⟩
  · intro r hr
    simp only [hpInit, vget_replicate_false, vget_vset _ _ _ hlen, Bool.or_false, decide_eq_true_eq,
      Bool.false_eq_true, false_or] at hr
    exact Or.inl hr
  · intro r _; simp [hpInit, vget_replicate_false]
  · right; simp [hpInit, vget_vset _ _ _ hlen]
  · intro r hr
    simp [hpInit, vget_replicate_false] at hr

/-- **`has_path` is exact and terminates** (model level): no panic, at most `nrules + 1` sweeps, and
the answer is `Reach` -/
theorem hasPath_exact (G : Grammar) (hwf : G.wf = true) (A T : Nat) (hA : A < G.nrules) :
    ∃ b, (∀ fuel, G.nrules + 1 ≤ fuel → hasPath G A T fuel = .done b) ∧ (b = true ↔ Reach G A T) := by
  obtain ⟨b, hiff, hb⟩ := hpLoop_spec G hwf A T (hpInit G A) (hpInit_good G A T hA)
  refine ⟨b, fun fuel hf => ?_, hiff⟩
  simp only [hasPath, hA, if_true]
  exact hb fuel hf

end GrmVerif.Impl
