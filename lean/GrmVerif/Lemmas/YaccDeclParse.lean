import GrmVerif.Lemmas.YaccDeclScan
/-!
C10, text → AST stage, declarations: the loop of `parse_declarations` on rendered declarations — which
keyword's code is run (`declStep_kw`), what that code does on the rendered body, then the loop. The image of the
declarations is read apart from the parser: where it ends and what it `Declares` (`runDecl_spec`, `runDecls_spec`).
-/
namespace GrmVerif.YaccRender
open GrmVerif.YaccParse
open GrmVerif.Header (Res Span byteLen byteLen_append)

/-- an `if let Some(j) = self.lookahead_is(s, i) { … } else if let … else { dflt }` chain as a table:
guard (`laWhen`), keyword, and what is run with the end of the keyword -/
def laChain (src : List Char) (i : Nat) : List (Bool × String × (Nat → M Step)) → M Step → M Step
  | [], dflt => dflt
  | (c, s, f) :: cs, dflt => do
    match ← laWhen c src s i with
    | some j => f j
    | none => laChain src i cs dflt

/-- the chain of `declStep`, `declStep2`, `declPrecOrUnknown`, in the order of the tests -/
def declTable (src : List Char) (kind : Kind) (fuel i level : Nat) : List (Bool × String × (Nat → M Step)) :=
  [ (true, "%%", fun _ => pure (.done i)),
    (true, "%token", fun j => do let i ← declToken src fuel j; pure (.cont i level)),
    (kind = .original, "%actiontype", fun j => do let i ← declActiontype src fuel j; pure (.cont i level)),
    (true, "%start", fun j => do let i ← declStart src j; pure (.cont i level)),
    (true, "%epp", fun j => do let i ← declEpp src fuel j; pure (.cont i level)),
    (true, "%expect-rr", fun j => do let i ← declExpectRR src fuel j; pure (.cont i level)),
    (true, "%expect-unused", fun j => do let i ← declExpectUnused src fuel j; pure (.cont i level)),
    (true, "%expect", fun j => do let i ← declExpect src fuel j; pure (.cont i level)),
    (true, "%avoid_insert", fun j => do let i ← declAvoidInsert src fuel j; pure (.cont i level)),
    (true, "%parse-param", fun j => do let i ← declParseParam src fuel j; pure (.cont i level)),
    (true, "%parse-generics", fun j => do let i ← declParseGenerics src fuel j; pure (.cont i level)),
    (kind = .eco, "%implicit_tokens", fun j => do let i ← declImplicit src fuel j; pure (.cont i level)),
    (true, "%left", fun k => do let i ← declPrec src fuel k level .left; pure (.cont i (level + 1))),
    (true, "%right", fun k => do let i ← declPrec src fuel k level .right; pure (.cont i (level + 1))),
    (true, "%nonassoc", fun k => do let i ← declPrec src fuel k level .nonassoc; pure (.cont i (level + 1))) ]

/-- the two texts differ at a position both have: neither is a prefix of the other, whatever follows -/
def clash : List Char → List Char → Bool
  | c :: cs, d :: ds => c != d || clash cs ds
  | _, _ => false

theorem isPrefixOf_clash : ∀ {s a : List Char} (k : List Char), clash s a = true → s.isPrefixOf (a ++ k) = false
  | [], _, _, h => by simp [clash] at h
  | _ :: _, [], _, h => by simp [clash] at h
  | c :: cs, d :: ds, k, h => by
    simp only [clash, Bool.or_eq_true, bne_iff_ne] at h
    simp only [List.cons_append, List.isPrefixOf, Bool.and_eq_false_iff, beq_eq_false_iff_ne]
    exact h.imp id (isPrefixOf_clash k)

def declKws : List String :=
  ["%%", "%token", "%actiontype", "%start", "%epp", "%expect-rr", "%expect-unused", "%expect", "%avoid_insert",
   "%parse-param", "%parse-generics", "%implicit_tokens", "%left", "%right", "%nonassoc"]

/-- no keyword of the chain is taken for a later one followed by a space (`%expect-rr` is tested before
`%expect`), so on rendered declarations the order of the tests does not matter -/
theorem declKws_clash : declKws.Pairwise (fun s t => clash s.toList (t.toList ++ [' ']) = true) := by
  rw [← List.pairwise_map (f := String.toList) (R := fun a b => clash a (b ++ [' ']) = true)]
  simp only [declKws, List.map_cons, List.map_nil]
  repeat rw [String.toList_ofList]
  decide +kernel

theorem laWhen_no {src : List Char} {i : Nat} {rest : List Char} (cond : Bool) (h : At src i rest)
    (s : String) (st : St) (hn : s.toList.isPrefixOf rest = false) :
    M.Ret (laWhen cond src s i) st none st := by
  unfold laWhen
  cases cond with
  | false => exact M.Ret.pure
  | true => exact la_no h s st hn

theorem laChain_at {src : List Char} {i : Nat} {s : String} {k : List Char} (h : At src i (s.toList ++ ' ' :: k))
    (f : Nat → M Step) (dflt : M Step) : ∀ (T : List (Bool × String × (Nat → M Step))) (n : Nat),
    (T.map (·.2.1)).Pairwise (fun a b => clash a.toList (b.toList ++ [' ']) = true) →
    T[n]? = some (true, s, f) → laChain src i T dflt = f (i + byteLen s.toList)
  | [], _, _, he => nomatch he
  | e :: T, 0, _, he => by
    obtain rfl : e = (true, s, f) := Option.some.inj he
    funext st
    exact M.Ret.bind_eq (la_yes s h st)
  | (c, a, g) :: T, n + 1, hp, he => by
    have he' : T[n]? = some (true, s, f) := he
    rw [List.map_cons, List.pairwise_cons] at hp
    have hno : a.toList.isPrefixOf (s.toList ++ ' ' :: k) = false := by
      have := isPrefixOf_clash k (hp.1 s (List.mem_map.2 ⟨_, List.mem_of_getElem? he', rfl⟩))
      rwa [List.append_assoc] at this
    rw [← laChain_at h f dflt T n hp.2 he']
    funext st
    exact M.Ret.bind_eq (laWhen_no c h a st hno)

/-- The idea of the table: `declStep src kind fuel i level` IS `laChain src i (declTable src kind fuel i level) (throwAt …)`
and `(declTable …).map (·.2.1)` IS `declKws`, both by unfolding (which is why `laChain_at` and `declKws_clash` apply
below without a rewrite); so the keyword at position `n` of the table runs its entry. -/
theorem declStep_kw {src : List Char} {kind : Kind} {fuel i level : Nat} {s : String} {k : List Char}
    (h : At src i (s.toList ++ ' ' :: k)) (n : Nat) (f : Nat → M Step)
    (he : (declTable src kind fuel i level)[n]? = some (true, s, f)) :
    declStep src kind fuel i level = f (i + byteLen s.toList) :=
  laChain_at h f _ (declTable src kind fuel i level) n declKws_clash he

/-- The declarations `keyword item\n` (`%start`, `%expect`, `%expect-rr`, `%actiontype`) share their code:
skip the space, scan the item, record it with its span, skip the newline. -/
theorem itemDecl_at {α : Type} {src : List Char} {j : Nat} {x k : List Char} {scan : Nat → Res YErr (Nat × α)}
    {record : α → Span → M Unit} {a : α} {st st' : St} (h : At src j (' ' :: (x ++ '\n' :: k)))
    (hx : Starts (x ++ '\n' :: k)) (hk : DeclNext k) (hscan : scan (j + 1) = .ok (j + 1 + byteLen x, a))
    (hrec : M.Ret (record a (j + 1, j + 1 + byteLen x)) st () st') :
    M.Ret (do
      let i ← ws src false j
      let (j', a) ← liftR (scan i)
      let span ← liftR (mkSpan i j')
      record a span
      ws src true j') st (j + 1 + byteLen x + 1) (St.incNl 1 st') := by
  refine M.Ret.bind (ws_false_space h hx.stops st) ?_
  refine M.Ret.bind (liftR_ret hscan) ?_
  dsimp only
  refine M.Ret.bind (liftR_ret (mkSpan_le _ _)) ?_
  refine M.Ret.bind hrec ?_
  exact ws_nl (h.adv1 sz_sp).adv hk.starts.stops _

theorem declStart_at {src : List Char} {j : Nat} {n k : List Char} (st : St)
    (h : At src j (' ' :: (n ++ '\n' :: k))) (hw : wfName n = true) (hk : DeclNext k)
    (hs : st.ast.start = none) :
    M.Ret (declStart src j) st (j + 1 + byteLen n + 1)
      (St.incNl 1 (St.mapAst (fun a => { a with start := some (n, (j + 1, j + 1 + byteLen n)) }) st)) := by
  exact itemDecl_at (scan := parseName src) h (wfName_starts hw _) hk
    (parseName_at (h.adv1 sz_sp) hw (nameEnd_cons (by decide) k))
    (M.Ret.bind (getSt_ret st) (by rw [hs]; exact modifyAst_ret _ st) : M.Ret (recordStart _ _) st () _)

theorem declToken_at {src : List Char} {fuel j : Nat} {t : RTok} {ts : List RTok} {k : List Char} (st : St)
    (h : At src j (' ' :: (renderToks t ts ++ k))) (hw : (t :: ts).all wfTok = true) (hk : DeclNext k)
    (hf : byteLen src < fuel) :
    M.Ret (declToken src fuel j) st (runTokens (j + 1) t ts st).1 (runTokens (j + 1) t ts st).2 :=
  M.Ret.bind (ws_false_space h (renderToks_starts hw k).stops st)
    (tokenLoop_at ts t fuel (j + 1) st k (h.adv1 sz_sp) hw hk (Nat.lt_add_left _ hf))

theorem declPrec_at {src : List Char} {fuel j level : Nat} {kind : Assoc} {t : RTok} {ts : List RTok}
    {k : List Char} (st : St) (r : Nat × St) (h : At src j (' ' :: (renderToks t ts ++ k)))
    (hw : (t :: ts).all wfTok = true) (hk : DeclNext k) (hf : byteLen src < fuel)
    (hr : runPrecToks level kind (j + 1) t ts st = some r) :
    M.Ret (declPrec src fuel j level kind) st r.1 r.2 :=
  M.Ret.bind (ws_false_space h (renderToks_starts hw k).stops st) (M.Ret.bind (getSt_ret st)
    (precLoop_at ts t fuel (j + 1) st k r (h.adv1 sz_sp) hw hk rfl hr (Nat.lt_add_left _ hf)))

theorem declAvoidInsert_at {src : List Char} {fuel j : Nat} {t : RTok} {ts : List RTok} {k : List Char}
    (st : St) (r : Nat × St) (h : At src j (' ' :: (renderToks t ts ++ k)))
    (hw : (t :: ts).all wfTok = true) (hk : DeclNext k) (hf : byteLen src < fuel)
    (hr : runAvoid (j + 1) t ts
      (St.mapAst (fun a => { a with avoidInsert := some (a.avoidInsert.getD []) }) st) = some r) :
    M.Ret (declAvoidInsert src fuel j) st r.1 r.2 :=
  M.Ret.bind (ws_false_space h (renderToks_starts hw k).stops st) (M.Ret.bind (getSt_ret st)
    (M.Ret.bind (modifyAst_ret _ st)
      (avoidLoop_at h.lt ts t fuel (j + 1) _ k r (h.adv1 sz_sp) hw hk rfl hr (Nat.lt_add_left _ hf))))

theorem declImplicit_at {src : List Char} {fuel j : Nat} {t : RTok} {ts : List RTok} {k : List Char}
    (st : St) (r : Nat × St) (h : At src j (' ' :: (renderToks t ts ++ k)))
    (hw : (t :: ts).all wfTok = true) (hk : DeclNext k) (hf : byteLen src < fuel)
    (hr : runImplicit (j + 1) t ts
      (St.mapAst (fun a => { a with implicitTokens := some (a.implicitTokens.getD []) }) st) = some r) :
    M.Ret (declImplicit src fuel j) st r.1 r.2 :=
  M.Ret.bind (ws_false_space h (renderToks_starts hw k).stops st) (M.Ret.bind (getSt_ret st)
    (M.Ret.bind (modifyAst_ret _ st)
      (implicitLoop_at h.lt ts t fuel (j + 1) _ k r (h.adv1 sz_sp) hw hk rfl hr (Nat.lt_add_left _ hf))))

theorem parseU64_starts {ds : List Char} {v : Nat} (hv : Header.parseU64 ds = some v) (k : List Char) :
    Starts (ds ++ k) := by
  obtain ⟨hne, hd, -⟩ := parseU64_spec hv
  cases ds with
  | nil => exact absurd rfl hne
  | cons d ds =>
    simp only [List.all_cons, Bool.and_eq_true] at hd
    exact starts_cons _ (solid_of_test hd.1 (by decide))

theorem declExpect_at {src : List Char} {fuel j : Nat} {ds k : List Char} {v : Nat} (st : St)
    (h : At src j (' ' :: (ds ++ '\n' :: k))) (hv : Header.parseU64 ds = some v) (hk : DeclNext k)
    (hf : byteLen src < fuel) (hs : st.ast.expect = none) :
    M.Ret (declExpect src fuel j) st (j + 1 + byteLen ds + 1)
      (St.incNl 1 (St.mapAst (fun a => { a with expect := some (v, (j + 1, j + 1 + byteLen ds)) }) st)) := by
  exact itemDecl_at (scan := parseInt src fuel) h (parseU64_starts hv _) hk (parseInt_at (h.adv1 sz_sp) hv ((h.adv1 sz_sp).fuel (Nat.lt_add_left _ hf)))
    (M.Ret.bind (getSt_ret st) (by rw [hs]; exact modifyAst_ret _ st) : M.Ret (recordExpect _ _) st () _)

theorem declExpectRR_at {src : List Char} {fuel j : Nat} {ds k : List Char} {v : Nat} (st : St)
    (h : At src j (' ' :: (ds ++ '\n' :: k))) (hv : Header.parseU64 ds = some v) (hk : DeclNext k)
    (hf : byteLen src < fuel) (hs : st.ast.expectrr = none) :
    M.Ret (declExpectRR src fuel j) st (j + 1 + byteLen ds + 1)
      (St.incNl 1 (St.mapAst (fun a => { a with expectrr := some (v, (j + 1, j + 1 + byteLen ds)) }) st)) := by
  exact itemDecl_at (scan := parseInt src fuel) h (parseU64_starts hv _) hk (parseInt_at (h.adv1 sz_sp) hv ((h.adv1 sz_sp).fuel (Nat.lt_add_left _ hf)))
    (M.Ret.bind (getSt_ret st) (by rw [hs]; exact modifyAst_ret _ st) : M.Ret (recordExpectRR _ _) st () _)

theorem wfLine_spec {ty : List Char} (h : wfLine ty = true) (k : List Char) :
    Starts (ty ++ k) ∧ ty.all (fun d => !YaccLex.isEol d) = true := by
  cases ty with
  | nil => simp [wfLine] at h
  | cons c cs =>
    simp only [wfLine, Bool.and_eq_true, Bool.not_eq_true', bne_iff_ne, ne_eq] at h
    refine ⟨starts_cons _ ⟨h.1.1.1, h.1.1.2, h.1.2⟩, ?_⟩
    simp only [List.all_cons, Bool.and_eq_true, Bool.not_eq_true']
    exact ⟨h.1.1.2, h.2⟩

theorem declActiontype_at {src : List Char} {fuel j : Nat} {ty k : List Char} (st : St)
    (h : At src j (' ' :: (ty ++ '\n' :: k))) (hw : wfLine ty = true) (hk : DeclNext k)
    (hf : byteLen src < fuel) (hs : st.actiontype = none) :
    M.Ret (declActiontype src fuel j) st (j + 1 + byteLen ty + 1)
      (St.incNl 1 { st with actiontype := some (j + 1, j + 1 + byteLen ty) }) := by
  obtain ⟨hst, hne⟩ := wfLine_spec hw ('\n' :: k)
  exact itemDecl_at (scan := parseToEol src fuel) (record := fun _ sp => recordActiontype sp) h hst hk
    (parseToEol_at (h.adv1 sz_sp) hne ((h.adv1 sz_sp).fuel (Nat.lt_add_left _ hf)))
    (M.Ret.bind (getSt_ret st) (by rw [hs]; rfl) : M.Ret (recordActiontype _) st ()
      { st with actiontype := some (j + 1, j + 1 + byteLen ty) })

theorem declParseParam_at {src : List Char} {fuel j : Nat} {n ty k : List Char} (st : St)
    (h : At src j (' ' :: (n ++ ':' :: ' ' :: (ty ++ '\n' :: k)))) (hn : wfType n = true)
    (hne : n.all (fun d => !YaccLex.isEol d) = true) (hw : wfLine ty = true)
    (hk : DeclNext k) (hf : byteLen src < fuel) :
    M.Ret (declParseParam src fuel j) st (j + 1 + byteLen n + 2 + byteLen ty + 1)
      (St.incNl 1 (St.mapAst (fun a => { a with parseParam := some ty }) st)) := by
  have h1 : At src (j + 1) (n ++ ':' :: ' ' :: (ty ++ '\n' :: k)) := h.adv1 sz_sp
  have hc : At src (j + 1 + byteLen n) (':' :: ' ' :: (ty ++ '\n' :: k)) := h1.adv
  have hc1 : At src (j + 1 + byteLen n + 1) (' ' :: (ty ++ '\n' :: k)) := hc.adv1 (by decide)
  have hc2 : At src (j + 1 + byteLen n + 1 + 1) (ty ++ '\n' :: k) := hc1.adv1 sz_sp
  obtain ⟨hst, hte⟩ := wfLine_spec hw ('\n' :: k)
  obtain ⟨hsn, hscan⟩ := wfType_starts hn (':' :: ' ' :: (ty ++ '\n' :: k))
  have hnl : YaccLex.countEol n = 0 :=
    YaccLex.countEol_noEol fun c hc' => by simpa using List.all_eq_true.1 hne c hc'
  have hpc := parseToSingleColon_at st h1 hscan (h1.fuel (Nat.lt_add_left _ hf))
  rw [hnl, incNl_zero] at hpc
  unfold declParseParam
  refine M.Ret.bind (ws_false_space h hsn.stops st) ?_
  refine M.Ret.bind hpc ?_
  refine M.Ret.bind (la_lit (l := [':']) String.toList_ofList hc st rfl) ?_
  dsimp only
  refine M.Ret.bind (ws_false_space hc1 hst.stops st) ?_
  refine M.Ret.bind (liftR_ret (parseToEol_at hc2 hte (hc2.fuel (Nat.lt_add_left _ hf)))) ?_
  dsimp only
  refine M.Ret.bind (modifyAst_ret _ st) ?_
  exact ws_nl hc2.adv hk.starts.stops _

theorem declEpp_at {src : List Char} {fuel j : Nat} {t : RTok} {v k : List Char} (st : St)
    (h : At src j (' ' :: (t.text ++ ' ' :: '"' :: (escQ v ++ '"' :: '\n' :: k)))) (hw : wfTok t = true)
    (hv : v.all (fun d => !YaccLex.isEol d && d != '\\') = true) (hk : DeclNext k)
    (hf : byteLen src < fuel) (hs : st.ast.epp.find? (fun e => e.1 == t.name) = none) :
    M.Ret (declEpp src fuel j) st (j + 1 + byteLen t.text + 1 + byteLen (escQ v) + 2 + 1)
      (St.incNl 1 (St.mapAst (fun a => { a with epp := a.epp ++ [(t.name, (j + 1, j + 1 + byteLen t.text), v,
        (j + 1 + byteLen t.text + 1, j + 1 + byteLen t.text + 1 + byteLen (escQ v) + 2))] }) st)) := by
  have h1 : At src (j + 1) (t.text ++ ' ' :: '"' :: (escQ v ++ '"' :: '\n' :: k)) := h.adv1 sz_sp
  have ht1 : At src (j + 1 + byteLen t.text) (' ' :: '"' :: (escQ v ++ '"' :: '\n' :: k)) := h1.adv
  have ht2 : At src (j + 1 + byteLen t.text + 1) ('"' :: (escQ v ++ '"' :: '\n' :: k)) := ht1.adv1 sz_sp
  have e : j + 1 + byteLen t.text + 1 + 1 + byteLen (escQ v) + 1
      = j + 1 + byteLen t.text + 1 + (byteLen (escQ v) + 2) := by omega
  have ht5 : At src (j + 1 + byteLen t.text + 1 + (byteLen (escQ v) + 2)) ('\n' :: k) :=
    e ▸ ((ht2.adv1 (by decide)).adv).adv1 (c := '"') (by decide)
  unfold declEpp
  refine M.Ret.bind (ws_false_space h (wfTok_starts hw _).stops st) ?_
  refine M.Ret.bind (liftR_ret (parseToken_sep h1 hw (.inl rfl))) ?_
  dsimp only
  refine M.Ret.bind (liftR_ret (mkSpan_le _ _)) ?_
  refine M.Ret.bind (ws_false_space ht1 (starts_cons _ (by decide)).stops st) ?_
  refine M.Ret.bind (liftR_ret (parseString_at ht2 hv ((ht2.adv1 (by decide)).fuel (Nat.lt_add_left _ hf)))) ?_
  dsimp only
  rw [e]
  refine M.Ret.bind (liftR_ret (mkSpan_le _ _)) ?_
  refine M.Ret.bind (M.Ret.bind (getSt_ret st) (by
    rw [hs]; exact modifyAst_ret _ st) : M.Ret (recordEpp _ _ _ _) st () _) ?_
  exact ws_nl ht5 hk.starts.stops _

theorem renderDecl_append (d : RDecl) (k : List Char) :
    renderDecl d ++ k = (kwOf d).toList ++ ' ' :: (bodyOf d ++ k) := by
  simp only [renderDecl, List.append_assoc, List.cons_append]

theorem declStep_at {src : List Char} {kind : Kind} {fuel i level : Nat} (d : RDecl) (st : St) (k : List Char)
    (r : Nat × Nat × St) (h : At src i (renderDecl d ++ k)) (hw : wfDecl kind d = true) (hk : DeclNext k)
    (hf : byteLen src < fuel) (hr : runDecl i level d st = some r) :
    M.Ret (declStep src kind fuel i level) st (.cont r.1 r.2.1) r.2.2 := by
  rw [renderDecl_append] at h
  have hj := h.adv
  cases d
  all_goals simp only [runDecl, kwLen, ← Nat.add_assoc, Option.ite_none_left_eq_some, Option.map_eq_some_iff, Option.some.injEq] at hr
  all_goals simp only [bodyOf, List.append_assoc, List.cons_append, List.nil_append] at hj
  -- the numerals given to `declStep_kw` are the positions of the keywords in `declTable`
  case start n =>
    obtain ⟨hs, rfl⟩ := hr
    rw [declStep_kw h 3 _ rfl]
    exact M.Ret.bind (declStart_at st hj hw hk (Option.not_isSome_iff_eq_none.1 hs)) M.Ret.pure
  case token t ts =>
    subst hr
    rw [declStep_kw h 1 _ rfl]
    exact M.Ret.bind (declToken_at st hj hw hk hf) M.Ret.pure
  case prec a t ts =>
    obtain ⟨q, hq, rfl⟩ := hr
    cases a with
    | left =>
      rw [declStep_kw h 12 _ rfl]
      exact M.Ret.bind (declPrec_at st q hj hw hk hf hq) M.Ret.pure
    | right =>
      rw [declStep_kw h 13 _ rfl]
      exact M.Ret.bind (declPrec_at st q hj hw hk hf hq) M.Ret.pure
    | nonassoc =>
      rw [declStep_kw h 14 _ rfl]
      exact M.Ret.bind (declPrec_at st q hj hw hk hf hq) M.Ret.pure
  case avoidInsert t ts =>
    obtain ⟨q, hq, rfl⟩ := hr
    rw [declStep_kw h 8 _ rfl]
    exact M.Ret.bind (declAvoidInsert_at st q hj hw hk hf hq) M.Ret.pure
  case implicitTokens t ts =>
    obtain ⟨q, hq, rfl⟩ := hr
    simp only [wfDecl, Bool.and_eq_true, decide_eq_true_eq] at hw
    obtain ⟨rfl, hw⟩ := hw
    rw [declStep_kw h 11 _ rfl]
    exact M.Ret.bind (declImplicit_at st q hj hw hk hf hq) M.Ret.pure
  case expect ds =>
    obtain ⟨hs, rfl⟩ := hr
    obtain ⟨v, hv⟩ := Option.isSome_iff_exists.1 hw
    rw [declStep_kw h 7 _ rfl, ← (parseU64_spec hv).2.2]
    exact M.Ret.bind (declExpect_at st hj hv hk hf (Option.not_isSome_iff_eq_none.1 hs)) M.Ret.pure
  case expectRR ds =>
    obtain ⟨hs, rfl⟩ := hr
    obtain ⟨v, hv⟩ := Option.isSome_iff_exists.1 hw
    rw [declStep_kw h 5 _ rfl, ← (parseU64_spec hv).2.2]
    exact M.Ret.bind (declExpectRR_at st hj hv hk hf (Option.not_isSome_iff_eq_none.1 hs)) M.Ret.pure
  case actiontype ty =>
    obtain ⟨hs, rfl⟩ := hr
    simp only [wfDecl, Bool.and_eq_true, decide_eq_true_eq] at hw
    obtain ⟨rfl, hw⟩ := hw
    rw [declStep_kw h 2 _ rfl]
    exact M.Ret.bind (declActiontype_at st hj hw hk hf (Option.not_isSome_iff_eq_none.1 hs)) M.Ret.pure
  case parseParam n ty =>
    subst hr
    simp only [wfDecl, Bool.and_eq_true] at hw
    rw [declStep_kw h 9 _ rfl]
    exact M.Ret.bind (declParseParam_at st hj hw.1.1 hw.1.2 hw.2 hk hf) M.Ret.pure
  case epp t v =>
    obtain ⟨hs, rfl⟩ := hr
    simp only [wfDecl, Bool.and_eq_true] at hw
    rw [declStep_kw h 4 _ rfl]
    exact M.Ret.bind (declEpp_at st hj hw.1 hw.2 hk hf (Option.not_isSome_iff_eq_none.1 hs)) M.Ret.pure

theorem byteLen_renderDecl (d : RDecl) : byteLen (renderDecl d) = kwLen d + byteLen (bodyOf d) := by
  rw [show renderDecl d = (kwOf d).toList ++ ([' '] ++ bodyOf d) from rfl, byteLen_append, byteLen_append,
    show byteLen [' '] = 1 by decide, kwLen]
  omega

theorem byteLen_line (x : List Char) : byteLen (x ++ ['\n']) = byteLen x + 1 := by
  rw [byteLen_append]; rfl

/-- the names a declaration puts into `token_directives` -/
def declDirs : RDecl → List Name
  | .token t ts => (t :: ts).map RTok.name
  | _ => []

def declsDirs : List RDecl → List Name
  | [] => []
  | d :: ds => declDirs d ++ declsDirs ds

theorem runDecl_spec {i level : Nat} {d : RDecl} {st : St} {r : Nat × Nat × St} {D : List Name}
    (h : runDecl i level d st = some r) :
    r.1 = i + byteLen (renderDecl d) ∧ Declares D st r.2.2 (declDirs d) := by
  rw [byteLen_renderDecl, ← Nat.add_assoc]
  cases d
  all_goals simp only [runDecl, Option.ite_none_left_eq_some, Option.map_eq_some_iff, Option.some.injEq,
    runPrecToks_eq, runAvoid_eq, runImplicit_eq] at h
  case start | expect | expectRR | actiontype =>
    obtain ⟨-, rfl⟩ := h
    exact ⟨congrArg (i + kwLen _ + ·) (byteLen_line _).symm, declares_of_eq rfl rfl rfl rfl⟩
  case token t ts =>
    subst h
    exact runTokens_spec ts t _ st
  case prec a t ts =>
    obtain ⟨q, hq, rfl⟩ := h
    exact runSteps_spec (fun _ _ _ _ => precStep_declares) ts t _ st q hq
  case avoidInsert t ts =>
    obtain ⟨q, hq, rfl⟩ := h
    obtain ⟨hp, hd⟩ := runSteps_spec (D := D) (fun _ _ _ _ => avoidStep_declares) ts t _ _ q hq
    exact ⟨hp, hd.errs, hd.prods, hd.dirs⟩
  case implicitTokens t ts =>
    obtain ⟨q, hq, rfl⟩ := h
    obtain ⟨hp, hd⟩ := runSteps_spec (D := D) (fun _ _ _ _ => implicitStep_declares) ts t _ _ q hq
    exact ⟨hp, hd.errs, hd.prods, hd.dirs⟩
  case parseParam n ty =>
    subst h
    refine ⟨?_, declares_of_eq rfl rfl rfl rfl⟩
    rw [show bodyOf (.parseParam n ty) = n ++ ([':', ' '] ++ (ty ++ ['\n'])) from rfl, byteLen_append,
      byteLen_append, byteLen_append, show byteLen [':', ' '] = 2 by decide, show byteLen ['\n'] = 1 by decide]
    omega
  case epp t v =>
    obtain ⟨-, rfl⟩ := h
    refine ⟨?_, declares_of_eq rfl rfl rfl rfl⟩
    rw [show bodyOf (.epp t v) = t.text ++ ([' ', '"'] ++ (escQ v ++ ['"', '\n'])) from rfl, byteLen_append,
      byteLen_append, byteLen_append, show byteLen [' ', '"'] = 2 by decide, show byteLen ['"', '\n'] = 2 by decide]
    omega

/-- every keyword begins with `%`, and none with `%g` (so none is taken for the `%grmtools` header) -/
theorem kwOf_head (d : RDecl) : ∃ c t, (kwOf d).toList = '%' :: c :: t ∧ c ≠ 'g' := by
  cases d with
  | prec a _ _ => cases a <;> exact ⟨_, _, String.toList_ofList, by decide⟩
  | _ => exact ⟨_, _, String.toList_ofList, by decide⟩

theorem renderDecl_next (d : RDecl) (x : List Char) : DeclNext (renderDecl d ++ x) := by
  obtain ⟨c, t, e, -⟩ := kwOf_head d
  exact ⟨c :: (t ++ ' ' :: (bodyOf d ++ x)), by rw [renderDecl_append, e]; rfl⟩

theorem renderDecls_next (ds : List RDecl) (x : List Char) : DeclNext (renderDecls ds ++ '%' :: '%' :: x) := by
  cases ds with
  | nil => exact ⟨_, rfl⟩
  | cons d ds => simp only [renderDecls, List.append_assoc]; exact renderDecl_next d _

theorem runDecls_spec {D : List Name} : ∀ (ds : List RDecl) (i level : Nat) (st : St) (r : Nat × Nat × St),
    runDecls i level ds st = some r → r.1 = i + byteLen (renderDecls ds) ∧ Declares D st r.2.2 (declsDirs ds)
  | [], _, _, st, r, h => by
    obtain rfl := Option.some.inj h
    exact ⟨rfl, Declares.refl st⟩
  | d :: ds, i, level, st, r, h => by
    simp only [runDecls, Option.bind_eq_some_iff] at h
    obtain ⟨q, hq, h⟩ := h
    obtain ⟨hp, hd⟩ := runDecl_spec hq
    obtain ⟨hp', hd'⟩ := runDecls_spec ds _ _ _ r h
    exact ⟨by rw [hp', hp, renderDecls, byteLen_append, Nat.add_assoc], hd.trans hd'⟩

theorem declLoop_at {src : List Char} {kind : Kind} {fuel : Nat} (hfuel : byteLen src < fuel) :
    ∀ (ds : List RDecl) (f i level : Nat) (st : St) (x : List Char) (r : Nat × Nat × St),
    At src i (renderDecls ds ++ '%' :: '%' :: x) → (∀ d ∈ ds, wfDecl kind d = true) →
    runDecls i level ds st = some r → byteLen src < i + f →
    declLoop src kind fuel f i level st = .ok (r.1, r.2.2)
  | [], f, i, level, st, x, r, h, _, hr, hf => by
    obtain rfl := Option.some.inj hr
    have h0 : At src i ('%' :: '%' :: x) := h
    obtain ⟨f, rfl⟩ := fuel_succ h0.lt hf
    rw [declLoop, if_pos h0.lt]
    change M.Ret _ st i st
    refine M.Ret.bind (show M.Ret (declStep src kind fuel i level) st (.done i) st from by
      unfold declStep
      refine M.Ret.bind (la_lit (l := ['%', '%']) String.toList_ofList h0 st rfl) ?_
      exact M.Ret.pure) ?_
    exact M.Ret.pure
  | d :: ds, f, i, level, st, x, r, h, hw, hr, hf => by
    simp only [runDecls, Option.bind_eq_some_iff] at hr
    obtain ⟨q, hq, hr⟩ := hr
    have h0 : At src i (renderDecl d ++ (renderDecls ds ++ '%' :: '%' :: x)) := by simpa [renderDecls] using h
    have hp := (runDecl_spec (D := []) hq).1
    have hlt := h0.lt_of_starts (renderDecl_next d _).starts
    have hadv : i < q.1 := by rw [hp, byteLen_renderDecl, kwLen]; omega
    obtain ⟨f, rfl⟩ := fuel_succ hlt hf
    rw [declLoop, if_pos hlt]
    change M.Ret _ st r.1 r.2.2
    exact M.Ret.bind (declStep_at d st _ q h0 (hw d (by simp)) (renderDecls_next ds x) hfuel hq)
      (declLoop_at hfuel ds f q.1 q.2.1 q.2.2 x r (h0.adv_to hp) (fun d' hd' => hw d' (List.mem_cons_of_mem _ hd')) hr
        (Header.fuel_step hf hadv))

theorem parseDeclarations_at {src : List Char} {kind : Kind} {fuel i : Nat} (ds : List RDecl) (st : St)
    (x : List Char) (r : Nat × Nat × St) (h : At src i (renderDecls ds ++ '%' :: '%' :: x))
    (hw : wfDecls kind ds = true) (hf : byteLen src < fuel) (hr : runDecls i 0 ds st = some r) :
    parseDeclarations src kind fuel i st = .ok (r.1, r.2.2) ∧ r.1 = i + byteLen (renderDecls ds) ∧
      r.2.2.errs = st.errs := by
  obtain ⟨hp, hd⟩ := runDecls_spec (D := []) ds i 0 st r hr
  refine ⟨?_, hp, hd.errs⟩
  unfold parseDeclarations
  change M.Ret _ st r.1 r.2.2
  refine M.Ret.bind (ws_none h (renderDecls_next ds x).starts.stops st) ?_
  exact declLoop_at hf ds fuel i 0 st x r h (List.all_eq_true.1 hw) hr (Nat.lt_add_left _ hf)

end GrmVerif.YaccRender
