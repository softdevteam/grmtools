import GrmVerif.Lemmas.MinSentenceImpl
import GrmVerif.Lemmas.Odometer
/-! The model of `SentenceGenerator::min_sentences` (`Impl.minSentencesWith`), one level of the recursion: if each
recursive call returns its vector exactly when some condition holds and runs out of fuel otherwise, so do the loops
around the calls — `msGather`, the body `mssProd` with its odometer, the loop over the cheapest productions —, with
the vectors combined by `gatherP`, `combos` and concatenation. Then the derivations that expand every rule by a cheapest
production (`TightDerives`): they are the derivations of minimal cost. -/
namespace GrmVerif.Impl
open GrmVerif Spec Ref

/-- the answer of a call that returned (`d` otherwise) -/
def Outcome.val {α : Type} (d : α) : Outcome α → α
  | .done a => a
  | _ => d

/-- `ms` for a production: one vector of sentences per symbol -/
def gatherP (f : Nat → List (List Nat)) : List Sym → List (List (List Nat))
  | [] => []
  | .tok t :: rest => [[t]] :: gatherP f rest
  | .rule q :: rest => f q :: gatherP f rest

/-- the vector of sentences of one symbol -/
def symSents (f : Nat → List (List Nat)) : Sym → List (List Nat)
  | .tok t => [[t]]
  | .rule q => f q

theorem gatherP_eq_map (f : Nat → List (List Nat)) (l : List Sym) : gatherP f l = l.map (symSents f) := by
  induction l with
  | nil => rfl
  | cons s rest ih => cases s <;> exact congrArg (_ :: ·) ih

theorem gatherP_length (f : Nat → List (List Nat)) (l : List Sym) : (gatherP f l).length = l.length := by
  rw [gatherP_eq_map, List.length_map]

theorem gatherP_congr {f f' : Nat → List (List Nat)} (l : List Sym) (h : ∀ q, Sym.rule q ∈ l → f q = f' q) :
    gatherP f l = gatherP f' l := by
  rw [gatherP_eq_map, gatherP_eq_map]
  exact List.map_congr_left fun s hs => by
    cases s with
    | tok t => rfl
    | rule q => exact h q hs

theorem flatMap_congr' {α β : Type} {f g : α → List β} (l : List α) (h : ∀ a ∈ l, f a = g a) :
    l.flatMap f = l.flatMap g :=
  congrArg List.flatten (List.map_congr_left h)

/-- the outcome is the answer `a` if `D` holds and "out of fuel" otherwise; never a panic -/
def Outcome.DoneWhen {α : Type} (D : Prop) (a : α) (o : Outcome α) : Prop :=
  (D → o = .done a) ∧ (¬ D → o = .fuelOut)

theorem Outcome.DoneWhen.cases {α : Type} {D : Prop} {a : α} {o : Outcome α} (h : o.DoneWhen D a) :
    D ∧ o = .done a ∨ ¬ D ∧ o = .fuelOut :=
  Classical.byCases (fun hD : D => .inl ⟨hD, h.1 hD⟩) (fun hD => .inr ⟨hD, h.2 hD⟩)

theorem Outcome.DoneWhen.of_done {α : Type} {D : Prop} {a b : α} {o : Outcome α} (h : o.DoneWhen D a)
    (e : o = .done b) : D ∧ b = a := by
  rcases h.cases with ⟨hD, e'⟩ | ⟨_, e'⟩
  · exact ⟨hD, Outcome.done.inj (e.symm.trans e')⟩
  · rw [e'] at e; cases e

theorem Outcome.DoneWhen.ne_panic {α : Type} {D : Prop} {a : α} {o : Outcome α} (h : o.DoneWhen D a) :
    o ≠ .panic := by
  rcases h.cases with ⟨_, e⟩ | ⟨_, e⟩ <;> rw [e] <;> exact fun e' => nomatch e'

theorem msGather_doneWhen {rec : Nat → Outcome (List (List Nat))} {Dq : Nat → Prop} {f : Nat → List (List Nat)} :
    ∀ (l : List Sym) (acc : List (List (List Nat))), (∀ q, Sym.rule q ∈ l → (rec q).DoneWhen (Dq q) (f q)) →
      (msGather rec l acc).DoneWhen (∀ q, Sym.rule q ∈ l → Dq q) (acc ++ gatherP f l) := by
  intro l
  induction l with
  | nil => intro acc _; exact ⟨fun _ => by simp [msGather, gatherP], fun h => absurd (fun _ hq => nomatch hq) h⟩
  | cons s rest ih =>
    intro acc h
    have ih' := fun acc => ih acc fun q hq => h q (List.mem_cons_of_mem _ hq)
    cases s with
    | tok t =>
      simp only [msGather, gatherP, List.mem_cons, reduceCtorEq, false_or]
      simpa using ih' (acc ++ [[[t]]])
    | rule q =>
      -- the call for `q` is the first conjunct of "every call returns"
      simp only [msGather, gatherP, List.mem_cons, Sym.rule.injEq, forall_eq_or_imp]
      rcases (h q (by simp)).cases with ⟨hD, e⟩ | ⟨hD, e⟩ <;> rw [e]
      · simpa [hD] using ih' (acc ++ [f q])
      · exact ⟨fun hh => absurd hh.1 hD, fun _ => rfl⟩

/-- what production `p` contributes -/
def prodSents (G : Grammar) (f : Nat → List (List Nat)) (p : Nat) : List (List Nat) :=
  combos (gatherP f (G.rhs p))

theorem gatherP_ne_nil (f : Nat → List (List Nat)) (l : List Sym) (h : ∀ q, Sym.rule q ∈ l → f q ≠ []) :
    ∀ x ∈ gatherP f l, x ≠ [] := by
  rw [gatherP_eq_map]
  intro x hx
  obtain ⟨s, hs, rfl⟩ := List.mem_map.mp hx
  cases s with
  | tok t => exact List.cons_ne_nil _ _
  | rule q => exact h q hs

/-- the body of the loop over the cheapest productions; the odometer gets columns none of which is empty, so it
neither indexes out of range nor runs out of its fuel -/
theorem mssProd_doneWhen (G : Grammar) {rec : Nat → Outcome (List (List Nat))} {Dq : Nat → Prop}
    {f : Nat → List (List Nat)} (sts : List (List Nat)) (p : Nat)
    (h : ∀ q, Sym.rule q ∈ G.rhs p → (rec q).DoneWhen (Dq q) (f q) ∧ (Dq q → f q ≠ [])) :
    (mssProd G rec sts p).DoneWhen (∀ q, Sym.rule q ∈ G.rhs p → Dq q) (sts ++ prodSents G f p) := by
  unfold mssProd prodSents
  simp only []
  cases hrhs : G.rhs p with
  | nil => exact ⟨fun _ => by simp [gatherP, combos], fun h => absurd (fun _ hq => nomatch hq) h⟩
  | cons s rest =>
    simp only [List.isEmpty_cons, Bool.false_eq_true, if_false]
    rw [← hrhs]
    have hg := msGather_doneWhen (G.rhs p) [] fun q hq => (h q hq).1
    refine ⟨fun hD => ?_, fun hD => by rw [hg.2 hD]⟩
    rw [hg.1 hD, List.nil_append]
    have hne : gatherP f (G.rhs p) ≠ [] := by
      intro e
      have := gatherP_length f (G.rhs p)
      rw [e, hrhs] at this
      simp at this
    have := odoLoop_spec _ hne (gatherP_ne_nil f (G.rhs p) fun q hq => (h q hq).2 (hD q hq))
    rw [gatherP_length] at this
    simp only [this]

theorem iterO_mssProd_doneWhen (G : Grammar) {rec : Nat → Outcome (List (List Nat))} {Dq : Nat → Prop}
    {f : Nat → List (List Nat)} : ∀ (ps : List Nat) (sts : List (List Nat)),
    (∀ p ∈ ps, ∀ q, Sym.rule q ∈ G.rhs p → (rec q).DoneWhen (Dq q) (f q) ∧ (Dq q → f q ≠ [])) →
    (iterO (mssProd G rec) ps sts).DoneWhen (∀ p ∈ ps, ∀ q, Sym.rule q ∈ G.rhs p → Dq q)
      (sts ++ ps.flatMap (prodSents G f)) := by
  intro ps
  induction ps with
  | nil => intro sts _; exact ⟨fun _ => by simp [iterO], fun h => absurd (fun _ hp => nomatch hp) h⟩
  | cons p ps ih =>
    intro sts h
    have hp := mssProd_doneWhen G sts p (h p List.mem_cons_self)
    simp only [iterO, List.forall_mem_cons, List.flatMap_cons]
    rcases hp.cases with ⟨hD, e⟩ | ⟨hD, e⟩ <;> rw [e]
    · simpa only [and_iff_right hD, List.append_assoc] using
        ih (sts ++ prodSents G f p) fun p' hp' => h p' (List.mem_cons_of_mem _ hp')
    · exact ⟨fun hh => absurd hh.1 hD, fun _ => rfl⟩

theorem mem_combos_cons {l : List (List Nat)} {ms : List (List (List Nat))} {w : List Nat} :
    w ∈ combos (l :: ms) ↔ ∃ s ∈ l, ∃ w' ∈ combos ms, w = s ++ w' := by
  simp only [combos, List.mem_flatMap, List.mem_map]
  constructor
  · rintro ⟨s, hs, w', hw', e⟩; exact ⟨s, hs, w', hw', e.symm⟩
  · rintro ⟨s, hs, w', hw', e⟩; exact ⟨s, hs, w', hw', e.symm⟩

theorem combos_ne_nil (ms : List (List (List Nat))) (h : ∀ x ∈ ms, x ≠ []) : combos ms ≠ [] := by
  induction ms with
  | nil => simp [combos]
  | cons l ms ih =>
    obtain ⟨a, ha⟩ := List.exists_mem_of_ne_nil l (h l List.mem_cons_self)
    obtain ⟨c, hc⟩ := List.exists_mem_of_ne_nil _ (ih fun x hx => h x (List.mem_cons_of_mem _ hx))
    exact List.ne_nil_of_mem (mem_combos_cons.mpr ⟨a, ha, c, hc, rfl⟩)

/-- in a derivation of minimal cost the production at the root is a cheapest one … -/
theorem seqCost_rhs_of_min {G : Grammar} {tc : Nat → Nat} {c : Nat → Option Nat}
    (hfix : ∀ r, r < G.nrules → c r = ruleCost G tc c r) (hwf : G.wf = true) {p : Nat} {w : List Nat}
    (hp : p < G.nprods) (hseq : DerivesSeq G (G.rhs p) w) (hc : c (G.lhs p) = some (cost tc w)) :
    seqCost tc c (G.rhs p) = some (cost tc w) := by
  obtain ⟨v, hv, hle⟩ := derivesSeq_lower hfix hwf hseq (fun s hs => wf_sym hwf hp hs)
  have hge := ruleCost_le (G := G) (tc := tc) (c := c) (mem_prodsOf.mpr ⟨hp, rfl⟩)
  rw [← hfix _ (wf_lhs hwf hp), hc, hv] at hge
  rw [hv, Nat.le_antisymm hle hge]

/-- … and every part of the derivation has minimal cost -/
theorem seqCost_cons_of_min {G : Grammar} {tc : Nat → Nat} {c : Nat → Option Nat}
    (hfix : ∀ r, r < G.nrules → c r = ruleCost G tc c r) (hwf : G.wf = true) {s : Sym} {rest : List Sym}
    {w1 w2 : List Nat} (h1 : Derives G s w1) (h2 : DerivesSeq G rest w2) (hok : ∀ x ∈ s :: rest, G.symOk x = true)
    (hc : seqCost tc c (s :: rest) = some (cost tc w1 + cost tc w2)) :
    symCost tc c s = some (cost tc w1) ∧ seqCost tc c rest = some (cost tc w2) := by
  obtain ⟨v1, hv1, hle1⟩ := derives_lower hfix hwf h1 (hok s List.mem_cons_self)
  obtain ⟨v2, hv2, hle2⟩ := derivesSeq_lower hfix hwf h2 (fun x hx => hok x (List.mem_cons_of_mem _ hx))
  simp only [seqCost, hv1, hv2, addO, Option.some.injEq] at hc
  have e1 : v1 = cost tc w1 := by omega
  have e2 : v2 = cost tc w2 := by omega
  rw [hv1, hv2, e1, e2]
  exact ⟨rfl, rfl⟩

mutual
/-- `s` derives `w` by a derivation that expands every rule by one of its cheapest productions (a
production whose cost, every rule at its minimal cost `c`, is the minimal cost of its rule) -/
inductive TightDerives (G : Grammar) (tc : Nat → Nat) (c : Nat → Option Nat) : Sym → List Nat → Prop
  | tok (t : Nat) : TightDerives G tc c (.tok t) [t]
  | rule (p : Nat) (w : List Nat) (x : Nat) : p < G.nprods → c (G.lhs p) = some x →
      seqCost tc c (G.rhs p) = some x → TightDerivesSeq G tc c (G.rhs p) w →
      TightDerives G tc c (.rule (G.lhs p)) w
inductive TightDerivesSeq (G : Grammar) (tc : Nat → Nat) (c : Nat → Option Nat) : List Sym → List Nat → Prop
  | nil : TightDerivesSeq G tc c [] []
  | cons (s : Sym) (rest : List Sym) (w1 w2 : List Nat) :
      TightDerives G tc c s w1 → TightDerivesSeq G tc c rest w2 → TightDerivesSeq G tc c (s :: rest) (w1 ++ w2)
end

mutual
theorem tightDerives_sound {G : Grammar} {tc : Nat → Nat} {c : Nat → Option Nat} :
    ∀ {s : Sym} {w : List Nat}, TightDerives G tc c s w → Derives G s w ∧ symCost tc c s = some (cost tc w)
  | _, _, .tok t => ⟨.tok t, by simp [symCost, cost]⟩
  | _, _, .rule p w x hp hx hsc hseq => by
    obtain ⟨hd, hc⟩ := tightDerivesSeq_sound hseq
    rw [hsc] at hc
    exact ⟨.rule p w hp hd, by simp only [symCost]; rw [hx, hc]⟩
theorem tightDerivesSeq_sound {G : Grammar} {tc : Nat → Nat} {c : Nat → Option Nat} :
    ∀ {l : List Sym} {w : List Nat}, TightDerivesSeq G tc c l w →
      DerivesSeq G l w ∧ seqCost tc c l = some (cost tc w)
  | _, _, .nil => ⟨.nil, by simp [seqCost, cost]⟩
  | _, _, .cons s rest w1 w2 h1 h2 => by
    obtain ⟨hd1, hc1⟩ := tightDerives_sound h1
    obtain ⟨hd2, hc2⟩ := tightDerivesSeq_sound h2
    exact ⟨.cons s rest w1 w2 hd1 hd2, by simp [seqCost, hc1, hc2, addO, cost_append]⟩
end

mutual
theorem tightDerives_of_min {G : Grammar} {tc : Nat → Nat} {c : Nat → Option Nat}
    (hfix : ∀ r, r < G.nrules → c r = ruleCost G tc c r) (hwf : G.wf = true) :
    ∀ {s : Sym} {w : List Nat}, Derives G s w → G.symOk s = true → symCost tc c s = some (cost tc w) →
      TightDerives G tc c s w
  | _, _, .tok t, _, _ => .tok t
  | _, _, .rule p w hp hseq, _, hc => by
    have hv := seqCost_rhs_of_min hfix hwf hp hseq hc
    exact .rule p w _ hp hc hv (tightDerivesSeq_of_min hfix hwf hseq (fun s hs => wf_sym hwf hp hs) hv)
theorem tightDerivesSeq_of_min {G : Grammar} {tc : Nat → Nat} {c : Nat → Option Nat}
    (hfix : ∀ r, r < G.nrules → c r = ruleCost G tc c r) (hwf : G.wf = true) :
    ∀ {l : List Sym} {w : List Nat}, DerivesSeq G l w → (∀ s ∈ l, G.symOk s = true) →
      seqCost tc c l = some (cost tc w) → TightDerivesSeq G tc c l w
  | _, _, .nil, _, _ => .nil
  | _, _, .cons s rest w1 w2 h1 h2, hok, hc => by
    rw [cost_append] at hc
    obtain ⟨hv1, hv2⟩ := seqCost_cons_of_min hfix hwf h1 h2 hok hc
    exact .cons s rest w1 w2 (tightDerives_of_min hfix hwf h1 (hok s List.mem_cons_self) hv1)
      (tightDerivesSeq_of_min hfix hwf h2 (fun x hx => hok x (List.mem_cons_of_mem _ hx)) hv2)
end

end GrmVerif.Impl
