import GrmVerif.Model.ActionsSpec
import GrmVerif.Model.RecActions
import GrmVerif.Lemmas.LRStep
import GrmVerif.Lemmas.Tree
/-! C08 without recovery: the span stack describes the trees on the value stack and the action log is the
specification's call list of those trees (`InvA`); the action model refines the LR driver and keeps that invariant
(`stepA_proj`, `stepA_inv`). The arms of `stepA` are stated over the names `Model/RecActions.lean` gives them
(`stepA_red`, `stepA_shift`, …), so that the recovering driver reads the same lemmas. -/
namespace GrmVerif.Act
open LR

/-- the (first start, last end) of an entry, `none` if it derived no lexeme -/
def eo (e : SpanE) : Option (Nat × Nat) := if e.empty then none else some (e.start, e.stop)

/-- the span of two adjacent stretches of lexemes, either of which may be empty (`none`) -/
def combine : Option (Nat × Nat) → Option (Nat × Nat) → Option (Nat × Nat)
  | none, x => x
  | x, none => x
  | some (a, _), some (_, d) => some (a, d)

theorem find_none_iff_reverse (es : List SpanE) (p : SpanE → Bool) :
    es.find? p = none ↔ es.reverse.find? p = none := by
  simp [List.find?_eq_none]

theorem firstLast_snoc (es : List SpanE) (e : SpanE) : firstLast (es ++ [e]) = combine (firstLast es) (eo e) := by
  unfold firstLast eo
  simp only [List.reverse_append, List.reverse_cons, List.reverse_nil, List.nil_append, List.singleton_append,
    List.find?_append, List.find?_cons, List.find?_nil]
  cases he : e.empty with
  | true =>
    simp only [Bool.not_true, ↓reduceIte, Option.or_none]
    cases h1 : es.find? (fun e => !e.empty) <;> cases h2 : es.reverse.find? (fun e => !e.empty) <;> simp [combine]
  | false =>
    simp only [Bool.not_false]
    cases h1 : es.find? (fun e => !e.empty) with
    | none => simp [combine]
    | some f =>
      cases h2 : es.reverse.find? (fun e => !e.empty) with
      | none => have := (find_none_iff_reverse es _).mpr h2; rw [h1] at this; cases this
      | some l => simp [combine]

theorem firstLast_nil : firstLast [] = none := rfl

/-- span option of a list of lexeme spans -/
def spanOfList : List (Nat × Nat) → Option (Nat × Nat)
  | [] => none
  | f :: rest => some (f.1, ((f :: rest).getLast?.getD f).2)

theorem spanOfList_append (a b : List (Nat × Nat)) :
    spanOfList (a ++ b) = combine (spanOfList a) (spanOfList b) := by
  cases a with
  | nil => cases b <;> simp [spanOfList, combine]
  | cons x xs =>
    cases b with
    | nil => simp [spanOfList, combine]
    | cons y ys =>
      simp only [spanOfList, List.cons_append, combine]
      have h1 : (x :: (xs ++ y :: ys)) = (x :: xs) ++ (y :: ys) := by simp
      rw [h1, List.getLast?_append]
      cases h : (y :: ys).getLast? with
      | none => simp at h
      | some v => simp

theorem spanSpec_eq (lexSpan : Nat → Nat × Nat) (t : Tree) : spanSpec lexSpan t = spanOfList (leafSpans lexSpan t) := by
  unfold spanSpec spanOfList
  cases leafSpans lexSpan t <;> rfl

theorem spanSpec_node_snoc (lexSpan : Nat → Nat × Nat) (p : Nat) (ks : List Tree) (k : Tree) :
    spanSpec lexSpan (.node p (ks ++ [k])) = combine (spanSpec lexSpan (.node p ks)) (spanSpec lexSpan k) := by
  simp [spanSpec_eq, leafSpans, Tree.leafIdxs, Cert.leafIdxsList_eq, List.map_append, spanOfList_append]

/-- stack entries describe the trees they belong to (both lists in the same order) -/
def EntriesFor (lexSpan : Nat → Nat × Nat) : List SpanE → List Tree → Prop
  | [], [] => True
  | e :: es, t :: ts => eo e = spanSpec lexSpan t ∧ (e.empty = true → e.start = e.stop) ∧ EntriesFor lexSpan es ts
  | _, _ => False

theorem entriesFor_length {lexSpan : Nat → Nat × Nat} : ∀ {es : List SpanE} {ts : List Tree},
    EntriesFor lexSpan es ts → es.length = ts.length
  | [], [], _ => rfl
  | _ :: es, _ :: ts, h => congrArg Nat.succ (entriesFor_length h.2.2)
  | [], _ :: _, h => h.elim
  | _ :: _, [], h => h.elim

theorem entriesFor_take_drop {lexSpan : Nat → Nat × Nat} : ∀ (n : Nat) {es : List SpanE} {ts : List Tree},
    EntriesFor lexSpan es ts → EntriesFor lexSpan (es.take n) (ts.take n) ∧ EntriesFor lexSpan (es.drop n) (ts.drop n)
  | 0, _, _, h => ⟨trivial, h⟩
  | _ + 1, [], [], _ => ⟨trivial, trivial⟩
  | n + 1, _ :: _, _ :: _, h =>
    ⟨⟨h.1, h.2.1, (entriesFor_take_drop n h.2.2).1⟩, (entriesFor_take_drop n h.2.2).2⟩
  | _ + 1, [], _ :: _, h => h.elim
  | _ + 1, _ :: _, [], h => h.elim

theorem firstLast_entries {lexSpan : Nat → Nat × Nat} (p : Nat) : ∀ {es : List SpanE} {ts : List Tree},
    EntriesFor lexSpan es ts → firstLast es.reverse = spanSpec lexSpan (.node p ts.reverse)
  | [], [], _ => rfl
  | e :: es, t :: ts, h => by
    rw [List.reverse_cons, List.reverse_cons, firstLast_snoc, spanSpec_node_snoc, h.1, firstLast_entries p h.2.2]
  | [], _ :: _, h => h.elim
  | _ :: _, [], h => h.elim

mutual
theorem treeEq_refl : ∀ t : Tree, treeEq t t = true
  | .leaf t i => by simp [treeEq]
  | .node p ks => by simp [treeEq, treeEqList_refl ks]
theorem treeEqList_refl : ∀ ts : List Tree, treeEqList ts ts = true
  | [] => rfl
  | t :: ts => by simp [treeEqList, treeEq_refl t, treeEqList_refl ts]
end

theorem argsEq_refl : ∀ as : List Arg, argsEq as as = true
  | [] => rfl
  | a :: as => by
    cases a with
    | lexeme t i => simp [argsEq, argEq, argsEq_refl as]
    | value t => simp [argsEq, argEq, treeEq_refl t, argsEq_refl as]

theorem specCallsList_eq (G : Grammar) (lexSpan : Nat → Nat × Nat) :
    ∀ ts : List Tree, specCallsList G lexSpan ts = ts.flatMap (specCalls G lexSpan)
  | [] => rfl
  | k :: ks => by rw [specCallsList, specCallsList_eq G lexSpan ks, List.flatMap_cons]

theorem logOk_snoc (l : List Call) (s : List SCall) (c : Call) (sc : SCall) :
    logOk (l ++ [c]) (s ++ [sc]) = (logOk l s && callOk c sc) := by
  induction l generalizing s with
  | nil =>
    cases s with
    | nil => simp [logOk]
    | cons x xs => cases xs <;> simp [logOk]
  | cons y ys ih =>
    cases s with
    | nil => cases ys <;> simp [logOk]
    | cons x xs => simp [logOk, ih, Bool.and_assoc]

variable {G : Grammar} {A : Automaton}

/-- the span stack describes the tree stack, and the log is the specification's call list of the
trees on the stack (bottom to top) -/
structure InvA (G : Grammar) (lexSpan : Nat → Nat × Nat) (a : ACfg) : Prop where
  entries : EntriesFor lexSpan a.spans a.c.astack
  log : logOk a.log (specCallsList G lexSpan a.c.astack.reverse) = true

theorem invA_init (G : Grammar) (A : Automaton) (lexSpan : Nat → Nat × Nat) : InvA G lexSpan (initA A) :=
  ⟨by simp [initA, init, EntriesFor], by simp [initA, init, specCallsList, logOk]⟩

theorem reduceSpan_spec {lexSpan : Nat → Nat × Nat} {spans : List SpanE} {astack : List Tree} (n : Nat)
    (h : EntriesFor lexSpan spans astack) (p : Nat) :
    eo (reduceSpan spans n) = spanSpec lexSpan (.node p (astack.take n).reverse) ∧
    ((reduceSpan spans n).empty = true → (reduceSpan spans n).start = (reduceSpan spans n).stop) := by
  rw [← firstLast_entries p (entriesFor_take_drop n h).1]
  unfold reduceSpan
  cases hf : firstLast (spans.take n).reverse with
  | none => simp [eo]
  | some v => obtain ⟨a, b⟩ := v; simp [eo]

theorem stepA_proj (G : Grammar) (A : Automaton) (w : List Nat) (lexSpan : Nat → Nat × Nat) (a : ACfg) :
    (match stepA G A w lexSpan a with
     | .cont a' => step G A w a.c = .cont a'.c
     | .done o log => step G A w a.c = .done o ∧ log = a.log) := by
  obtain ⟨⟨ps, as, la⟩, spans, log⟩ := a
  cases ps with
  | nil => exact ⟨rfl, rfl⟩
  | cons st rest =>
    cases hact : A.action st (nextTok G w la) with
    | error => simp only [stepA, step, hact, and_self]
    | shift s' => simp only [stepA, step, hact]
    | accept =>
      simp only [stepA, step, hact]
      cases hl : as.getLast? with
      | none => exact ⟨rfl, rfl⟩
      | some t => cases t <;> exact ⟨rfl, rfl⟩
    | reduce p =>
      rcases Rec.red_or_stuck G A (nextTok G w la) (st :: rest) with ⟨q, s', hr⟩ | hst
      · obtain ⟨_, _, prior, tl, he, hact', hd, hg⟩ := hr
        cases he
        obtain rfl := Act.reduce.inj (hact.symm.trans hact')
        simp only [stepA, step, hact, Term.length_of_drop_cons hd, ↓reduceIte, hd, hg]
      · rcases hst.of_reduce hact with hle | ⟨prior, tl, hd, hg⟩
        · simp only [stepA, step, hact, hle, ↓reduceIte, and_self]
        · simp only [stepA, step, hact, Term.length_of_drop_cons hd, ↓reduceIte, hd, hg, and_self]

section
open RecAct
variable {w : List Nat} {ls : Nat → Nat × Nat} {i : Nat} {v : VCfg}

theorem stepA_red {p s' : Nat} (h : Rec.Red G A (nextTok G w i) v.pstack p s') :
    stepA G A w ls (v.toA i) = .cont ((reduceV G p s' v).toA i) := by
  obtain ⟨st, tl, prior, rest, hps, hact, hd, hg⟩ := h
  obtain ⟨ps, as, sp, lg⟩ := v
  simp only at hps
  subst hps
  simp only [stepA, VCfg.toA, hact, Term.length_of_drop_cons hd, ↓reduceIte, hd, hg, reduceV]

theorem stepA_shift {st s' : Nat} {tl : List Nat} (hps : v.pstack = st :: tl)
    (hact : A.action st (nextTok G w i) = .shift s') :
    stepA G A w ls (v.toA i) = .cont ((pushLex s' (nextTok G w i) i (ls i) v).toA (i + 1)) := by
  obtain ⟨ps, as, sp, lg⟩ := v
  simp only at hps
  subst hps
  simp only [stepA, VCfg.toA, hact, pushLex]

theorem stepA_accept {st : Nat} {tl : List Nat} (hps : v.pstack = st :: tl)
    (hact : A.action st (nextTok G w i) = .accept) :
    stepA G A w ls (v.toA i) = .done (acceptOut v) v.log := by
  obtain ⟨ps, as, sp, lg⟩ := v
  simp only at hps
  subst hps
  simp only [stepA, VCfg.toA, hact, acceptOut]
  cases as.getLast? with
  | none => rfl
  | some t => cases t <;> rfl

theorem stepA_error {st : Nat} {tl : List Nat} (hps : v.pstack = st :: tl)
    (hact : A.action st (nextTok G w i) = .error) :
    stepA G A w ls (v.toA i) = .done (.error i st) v.log := by
  obtain ⟨ps, as, sp, lg⟩ := v
  simp only at hps
  subst hps
  simp only [stepA, VCfg.toA, hact]

/-- the invariant does not look at the state stack: pushing a lexeme with its span keeps it … -/
theorem invA_pushed {lexSpan : Nat → Nat × Nat} {j : Nat} (hinv : InvA G lexSpan (v.toA j)) (s' tok id i : Nat)
    {sp : Nat × Nat} (hsp : lexSpan id = sp) : InvA G lexSpan ((pushLex s' tok id sp v).toA i) := by
  obtain ⟨hent, hlog⟩ := hinv
  refine ⟨⟨?_, by simp, hent⟩, ?_⟩
  · simp [eo, spanSpec, leafSpans, Tree.leafIdxs, hsp]
  · simpa [VCfg.toA, pushLex, specCallsList_eq, specCalls] using hlog

/-- … and so does a reduction with the span `reduceSpan` computes and its call logged -/
theorem invA_reduced {lexSpan : Nat → Nat × Nat} {j : Nat} (hinv : InvA G lexSpan (v.toA j)) (p s' i : Nat) :
    InvA G lexSpan ((reduceV G p s' v).toA i) := by
  obtain ⟨hent, hlog⟩ := hinv
  simp only [VCfg.toA] at hent hlog
  obtain ⟨hs1, hs2⟩ := reduceSpan_spec (G.rhs p).length hent p
  refine ⟨⟨hs1, hs2, (entriesFor_take_drop _ hent).2⟩, ?_⟩
  -- the calls of the popped trees are the last ones logged; the new call follows them
  rw [← List.take_append_drop (G.rhs p).length v.astack, List.reverse_append, specCallsList_eq,
    List.flatMap_append] at hlog
  simp only [VCfg.toA, reduceV, List.reverse_cons, specCallsList_eq, List.flatMap_append, List.flatMap_cons,
    List.flatMap_nil, specCalls, List.append_nil]
  rw [← List.append_assoc, logOk_snoc, hlog]
  simp only [Bool.true_and, callOk, beq_self_eq_true, argsEq_refl]
  rw [← hs1]
  unfold eo
  cases he : (reduceSpan v.spans (G.rhs p).length).empty with
  | true => simp [hs2 he]
  | false => simp

end

theorem stepA_inv (G : Grammar) (A : Automaton) (w : List Nat) (lexSpan : Nat → Nat × Nat) (a a' : ACfg)
    (hinv : InvA G lexSpan a) (h : stepA G A w lexSpan a = .cont a') : InvA G lexSpan a' := by
  have hp := stepA_proj G A w lexSpan a
  rw [h] at hp
  -- `a` is `(VCfg.ofA a).toA a.c.laidx`; which arm was taken is read off the LR driver
  obtain ⟨st, tl, s', hps, hact, -⟩ | ⟨p, s', hr, -⟩ := step_cont_inv hp
  · cases h.symm.trans (stepA_shift (v := .ofA a) (i := a.c.laidx) hps hact)
    exact invA_pushed (v := .ofA a) (j := a.c.laidx) hinv _ _ _ _ rfl
  · cases h.symm.trans (stepA_red (v := .ofA a) (i := a.c.laidx) hr)
    exact invA_reduced (v := .ofA a) (j := a.c.laidx) hinv _ _ _

end GrmVerif.Act
