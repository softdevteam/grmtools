import GrmVerif.Model.LexTables
/-! The extracted tables never classify `\\b` as an escape to keep (side condition `Cfg.BOk`). -/
namespace GrmVerif.LexTables

/-- no alternative of the table can start with `c` -/
def firstClassExcludes (c : Char) (tbl : List (List (List (Nat × Nat)))) : Bool :=
  tbl.all (fun seq => match seq with
    | [] => false
    | cls :: _ => !inClass cls c)

theorem no_match_of_firstClassExcludes (c : Char) (tbl : List (List (List (Nat × Nat))))
    (h : firstClassExcludes c tbl = true) (s : List Char) :
    tbl.any (fun seq => matchSeq seq (c :: s)) = false := by
  rw [List.any_eq_false]
  intro seq hseq
  have h1 := List.all_eq_true.mp h seq hseq
  cases seq with
  | nil => cases h1
  | cons cls more =>
    simp only [Bool.not_eq_true'] at h1
    simp [matchSeq, h1]

end GrmVerif.LexTables
