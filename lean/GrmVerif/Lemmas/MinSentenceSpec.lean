import GrmVerif.Model.AnalysesRef
import GrmVerif.Model.CostsImpl
import GrmVerif.Model.MinSentencesImpl
/-!
The executable side of the termination statements of `min_sentence` / `min_sentences` (C17): what `Drive/C17.lean`
evaluates before it runs the models. Definitions only, over the model files: the decision procedures for
reachability in the rule graph (`reachB`, `isCyc`), the graph of the cost-tight productions and "reaches a
recursive rule in it" (`tightG`, `tightInf`; for the plural `inCheapest`, `allTightG`, `tightInfAll`), and the
fuel that suffices otherwise (`maxRhs`, `msBound`, `minSentenceFuel`). The theorems about them are in
`Lemmas/RuleGraph.lean`, `MinSentenceTerm.lean`, `MinSentencesTerm.lean`.
-/

namespace GrmVerif.Impl
open GrmVerif Ref

/-- decision procedure for `Reach` (the verified reference reachability) -/
def reachB (G : Grammar) (r q : Nat) : Bool :=
  match reach G r with
  | some R => R.contains q
  | none => false

def isCyc (G : Grammar) (r : Nat) : Bool := reachB G r r

/-- the grammar in which every rule keeps only the production `cheapest_prod` returns for it (the other
productions become empty) -/
def tightG (G : Grammar) (tc : List Nat) (mc : Option (List Nat)) : Grammar :=
  { G with prods := (List.range G.nprods).map (fun p =>
      (G.lhs p, if cheapestProd G tc mc (G.lhs p) = some p then G.rhs p else [])) }

/-- **`min_sentence(r)` follows a cycle**: in the graph of cheapest productions `r` is, or reaches, a rule
that reaches itself (decided with the verified reference reachability on `tightG`) -/
def tightInf (G : Grammar) (tc : List Nat) (mc : Option (List Nat)) (r : Nat) : Bool :=
  isCyc (tightG G tc mc) r ||
  (List.range G.nrules).any (fun q => reachB (tightG G tc mc) r q && isCyc (tightG G tc mc) q)

def maxRhs (G : Grammar) : Nat := (List.range G.nprods).foldl (fun acc p => max acc (G.rhs p).length) 0

/-- iterations that suffice for a rule below which the graph of cheapest productions is `d + 1` deep: a frame with `n` rule
symbols, each worked off within `K` iterations, takes at most `1 + n·(K + 1)` (`runs_of_list`), and `n ≤ L`, the longest
production; so one level costs `K ↦ 1 + L·(K + 1)`, from `1 + L` for a production of tokens only -/
def msBound (L : Nat) : Nat → Nat
  | 0 => 1 + L
  | d + 1 => 1 + L * (msBound L d + 1)

/-- iterations of the `while` loop of `min_sentence` that always suffice when it returns at all -/
def minSentenceFuel (G : Grammar) : Nat := msBound (maxRhs G) G.nrules + 1

/-- production `p` is one of the productions `cheapest_prods` returns for its rule -/
def inCheapest (G : Grammar) (tc : List Nat) (mc : Option (List Nat)) (p : Nat) : Bool :=
  ((cheapestProds G tc mc (G.lhs p)).getD []).contains p

/-- the grammar in which every rule keeps exactly the productions `cheapest_prods` returns for it (the
other productions become empty) -/
def allTightG (G : Grammar) (tc : List Nat) (mc : Option (List Nat)) : Grammar :=
  { G with prods := (List.range G.nprods).map (fun p =>
      (G.lhs p, if inCheapest G tc mc p then G.rhs p else [])) }

/-- **`min_sentences(r)` follows a cycle**: in the graph that joins every rule to the rules of ALL the
productions `cheapest_prods` returns for it, `r` is or reaches a rule that reaches itself (decided with the
verified reference reachability on `allTightG`) -/
def tightInfAll (G : Grammar) (tc : List Nat) (mc : Option (List Nat)) (r : Nat) : Bool :=
  isCyc (allTightG G tc mc) r ||
  (List.range G.nrules).any (fun q => reachB (allTightG G tc mc) r q && isCyc (allTightG G tc mc) q)

end GrmVerif.Impl
