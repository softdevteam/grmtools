import GrmVerif.Model.Recover
import GrmVerif.Model.CertLA
import GrmVerif.Model.CertVP
import GrmVerif.Model.RecActions
/-!
The executable side of the whole-run statements of C05 and C08: what `Drive/C05.lean` and `Drive/C08.lean`
evaluate on every dumped automaton and every reported run. Definitions only, over the model files.
* the edited input of a recovering run (`editedItems`, `editedToks`; with spans and identities `editedLex`,
  `editedSpan`, `editedId`), i.e. the input with the first repair sequence of every reported error applied;
* the table conditions `eofOk`, `colsOk` and the certificate `wholeRunCert`;
* renaming the lexeme identities of a tree and of the action log (`treeMapIdx`, `callMapIdx`).
-/

namespace GrmVerif.C05
open Rec Cert

/-- feed a list of tokens, each of which must be shifted -/
def feedToks (G : Grammar) (A : Automaton) : List Nat → List Nat → Option (List Nat)
  | stack, [] => some stack
  | stack, t :: ts =>
    match feed G A t FUEL stack with
    | .shifted s => feedToks G A s ts
    | _ => none

def itemTok (w : List Nat) : EItem → Nat
  | .real i => w.getD i 0
  | .ins t _ => t

/-- the real lexemes `a, a+1, …, b-1` -/
def reals (a b : Nat) : List EItem := (List.range' a (b - a)).map EItem.real

/-- the first repair sequence of an error (no sequence = nothing is edited) -/
def firstSeq (e : Err) : List Repair := e.repairs.headD []

/-- **The edited input of a run**, as items: from real lexeme `pos` up to (not including) real
lexeme `stop`, the real lexemes between the errors are kept and, at each error, what its FIRST repair
sequence says replaces the lexemes it consumes (`editSeq`: deleted lexemes dropped, inserted tokens
added as `EItem.ins t before` — before the next real lexeme —, shifted lexemes kept). -/
def editedItems (stop : Nat) : Nat → List Err → List EItem
  | pos, [] => reals pos stop
  | pos, e :: es =>
    reals pos e.pos ++ ((editSeq e.pos (firstSeq e)).1 ++ editedItems stop (editSeq e.pos (firstSeq e)).2 es)

/-- the edited input as tokens -/
def editedToks (w : List Nat) (stop pos : Nat) (errs : List Err) : List Nat :=
  (editedItems stop pos errs).map (itemTok w)

/-- the table shifts no end-of-input token and accepts only under it (decidable; true of every table
`StateTable::new` builds: end-of-input occurs in no production, and Accept is entered in the
end-of-input column only) -/
def eofOk (G : Grammar) (A : Automaton) : Bool :=
  A.states.all (fun sd => (List.range sd.actions.length).all (fun t =>
    match sd.actions[t]? with
    | some .accept => t == G.eof
    | some (.shift _) => t != G.eof
    | _ => true))

/-- no action cell beyond the grammar's tokens (true of every parsed automaton dump: a state carries
exactly `ntoks` action cells) -/
def colsOk (G : Grammar) (A : Automaton) : Bool :=
  A.states.all (fun sd => decide (sd.actions.length ≤ G.ntoks))

/-- **The certificates of the whole-run theorems of C05 as one decidable predicate**: `Cert.check`
(K1–K6), `Cert.vpClosed` (closed sets hold only closure items of their kernels; the first half of
`Cert.checkVP`), `colsOk` (no action cell beyond the grammar's tokens) and `Cert.checkLA` (L1–L4: LR(1)
lookahead propagation and a table that holds every candidate action, i.e. is conflict-free) w.r.t. the
reference nullable/FIRST sets `Ref.analyses G` (proved exact in C17). The end-of-input discipline
(`eofOk`) follows (`eof_discipline_of_cert`). The driver evaluates it on every dumped automaton. -/
def wholeRunCert (G : Grammar) (A : Automaton) : Bool :=
  check G A && vpClosed G A && colsOk G A &&
  (match Ref.analyses G with
   | some An => checkLA G A (An.nullable.contains ·) (An.first.contains ·)
   | none => false)

end GrmVerif.C05

namespace GrmVerif.RecAct
open Act Rec C05

/-- **the edited lexeme sequence with spans**: (token, span) of every item of the edited input — a real
lexeme keeps its span, `EItem.ins t before` is the token `t` with the zero-length span at the start of
real lexeme `before` (at the end of the last lexeme if `before = |w|`) -/
def editedLex (w : List Nat) (lexSpan : Nat → Nat × Nat) (errs : List Err) : List (Nat × (Nat × Nat)) :=
  (editedItems w.length 0 errs).map (fun it => (itemTok w it, itemSpan lexSpan w.length it))

/-- the span of the `k`-th lexeme of the edited input -/
def editedSpan (w : List Nat) (lexSpan : Nat → Nat × Nat) (errs : List Err) (k : Nat) : Nat × Nat :=
  ((editedLex w lexSpan errs).getD k (0, (0, 0))).2

/-- the identity, on the value stack of the recovering driver, of the `k`-th lexeme of the edited input -/
def editedId (w : List Nat) (errs : List Err) (k : Nat) : Nat :=
  lexId w.length ((editedItems w.length 0 errs).getD k (.real 0))

mutual
/-- rename the lexeme identities at the leaves -/
def treeMapIdx (f : Nat → Nat) : Tree → Tree
  | .leaf t i => .leaf t (f i)
  | .node p kids => .node p (treesMapIdx f kids)
def treesMapIdx (f : Nat → Nat) : List Tree → List Tree
  | [] => []
  | k :: ks => treeMapIdx f k :: treesMapIdx f ks
end

def argMapIdx (f : Nat → Nat) : Arg → Arg
  | .lexeme t i => .lexeme t (f i)
  | .value t => .value (treeMapIdx f t)

/-- rename the lexeme identities in the arguments of a call (production, rule and span unchanged) -/
def callMapIdx (f : Nat → Nat) (c : Call) : Call := ⟨c.p, c.r, c.start, c.stop, c.args.map (argMapIdx f)⟩

end GrmVerif.RecAct
