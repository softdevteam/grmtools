import GrmVerif.Model.CertLA
import GrmVerif.Lemmas.CertProps
/-! What an accepted lookahead half of the certificate (`checkLA`: LR(1) lookaheads, a table that holds every candidate
action) means, as propositions; and the item that follows an item across an edge (`advance`). -/
namespace GrmVerif.Cert
open GrmVerif

variable {G : Grammar} {A : Automaton}

structure PropsLA (G : Grammar) (A : Automaton) (N : Nat → Bool) (F : Nat × Nat → Bool) : Prop where
  closeLA : ∀ s, s < A.nstates → ∀ i ∈ A.closed s, ∀ B, symAt G i.p i.dot = some (.rule B) →
    ∀ q, q ∈ G.prodsOf B → ∃ j ∈ A.closed s, j.p = q ∧ j.dot = 0 ∧
      ∀ t, t < G.ntoks → firstSeqL N F ((G.rhs i.p).drop (i.dot + 1)) i.la t = true → t ∈ j.la
  edgeLA : ∀ s, s < A.nstates → ∀ i ∈ A.closed s, ∀ X, symAt G i.p i.dot = some X →
    ∃ t j, A.edge s X = some t ∧ j ∈ A.core t ∧ j.p = i.p ∧ j.dot = i.dot + 1 ∧ ∀ a ∈ i.la, a ∈ j.la
  coreLA : ∀ s, s < A.nstates → ∀ i ∈ A.core s, ∃ j ∈ A.closed s, j.p = i.p ∧ j.dot = i.dot ∧ ∀ a ∈ i.la, a ∈ j.la
  startLA : ∀ i ∈ A.core A.start, G.eof ∈ i.la
  actShiftC : ∀ s, s < A.nstates → ∀ i ∈ A.closed s, ∀ t, symAt G i.p i.dot = some (.tok t) →
    ∃ s', A.edge s (.tok t) = some s' ∧ A.action s t = .shift s'
  actReduceC : ∀ s, s < A.nstates → ∀ i ∈ A.closed s, symAt G i.p i.dot = none → i.p ≠ G.startProd →
    ∀ t ∈ i.la, A.action s t = .reduce i.p
  actAcceptC : ∀ s, s < A.nstates → ∀ i ∈ A.closed s, symAt G i.p i.dot = none → i.p = G.startProd →
    ∀ t ∈ i.la, A.action s t = .accept

section
variable {N : Nat → Bool} {F : Nat × Nat → Bool}

theorem firstSeqL_eq_true {β : List Sym} {L : List Nat} {t : Nat} :
    firstSeqL N F β L t = true ↔ Ref.firstSeq N F β t = true ∨ Ref.seqNullable N β = true ∧ t ∈ L := by
  simp only [firstSeqL, Bool.or_eq_true, Bool.and_eq_true, List.contains_eq_mem, decide_eq_true_eq]

theorem firstSeqL_rule {r : Nat} {β : List Sym} {L : List Nat} {t : Nat} :
    firstSeqL N F (.rule r :: β) L t = (F (r, t) || N r && firstSeqL N F β L t) := by
  simp only [firstSeqL, Ref.firstSeq, Spec.seqNullable_rule, Bool.and_or_distrib_left, Bool.or_assoc, Bool.and_assoc]

theorem firstSeqL_mono {β : List Sym} {L L' : List Nat} {t : Nat} (hsub : ∀ a ∈ L, a ∈ L')
    (h : firstSeqL N F β L t = true) : firstSeqL N F β L' t = true :=
  firstSeqL_eq_true.mpr ((firstSeqL_eq_true.mp h).imp_right (.imp_right (hsub t)))

end

theorem findItem_some {items : List Item} {p d : Nat} {j : Item} (h : findItem items p d = some j) :
    j ∈ items ∧ j.p = p ∧ j.dot = d := by
  unfold findItem at h
  have h1 := List.mem_of_find?_eq_some h
  have h2 := List.find?_some h
  simp only [Bool.and_eq_true, beq_iff_eq] at h2
  exact ⟨h1, h2.1, h2.2⟩

theorem checkLA_props (G : Grammar) (A : Automaton) (N : Nat → Bool) (F : Nat × Nat → Bool)
    (h : checkLA G A N F = true) : PropsLA G A N F := by
  simp only [checkLA, Bool.and_eq_true] at h
  obtain ⟨⟨⟨h1, h2⟩, h3⟩, h4⟩ := h
  rw [l1, allStates_all] at h1
  simp only [l2, allStates_iff, Bool.and_eq_true, List.all_eq_true] at h2
  simp only [l3, List.all_eq_true, List.contains_eq_mem, decide_eq_true_eq] at h3
  rw [l4, allStates_all] at h4
  refine ⟨?_, ?_, ?_, h3, ?_, ?_, ?_⟩
  · intro s hs i hi B hB q hq
    have h' := h1 s hs i hi
    rw [hB] at h'
    simp only [List.all_eq_true] at h'
    have h'' := h' q hq
    split at h''
    · cases h''
    · rename_i j hf
      simp only [List.all_eq_true, List.mem_range, Bool.or_eq_true, Bool.not_eq_true',
        List.contains_eq_mem, decide_eq_true_eq] at h''
      obtain ⟨hj1, hj2, hj3⟩ := findItem_some hf
      exact ⟨j, hj1, hj2, hj3, fun t ht hfl => (h'' t ht).resolve_left (by rw [hfl]; nofun)⟩
  · intro s hs i hi X hX
    have h' := (h2 s hs).1 i hi
    rw [hX] at h'
    simp only at h'
    split at h'
    · cases h'
    · rename_i t he
      split at h'
      · cases h'
      · rename_i j hf
        simp only [List.all_eq_true, List.contains_eq_mem, decide_eq_true_eq] at h'
        obtain ⟨hj1, hj2, hj3⟩ := findItem_some hf
        exact ⟨t, j, he, hj1, hj2, hj3, h'⟩
  · intro s hs i hi
    have h' := (h2 s hs).2 i hi
    split at h'
    · cases h'
    · rename_i j hf
      simp only [List.all_eq_true, List.contains_eq_mem, decide_eq_true_eq] at h'
      obtain ⟨hj1, hj2, hj3⟩ := findItem_some hf
      exact ⟨j, hj1, hj2, hj3, h'⟩
  · intro s hs i hi t ht
    have h' := h4 s hs i hi
    rw [ht] at h'
    simp only at h'
    split at h'
    · exact ⟨_, ‹_›, by simpa using h'⟩
    · cases h'
  · intro s hs i hi hn hne t ht
    have h' := h4 s hs i hi
    rw [hn] at h'
    simp only [List.all_eq_true] at h'
    simpa [hne] using h' t ht
  · intro s hs i hi hn he t ht
    have h' := h4 s hs i hi
    rw [hn] at h'
    simp only [List.all_eq_true] at h'
    simpa [he] using h' t ht

/-- the verified nullable and FIRST sets of C17, in the form `checkLA` is run with -/
theorem analyses_contains {G : Grammar} (hwf : G.wf = true) {An : Ref.Analyses} (hAn : Ref.analyses G = some An) :
    (∀ r, (An.nullable.contains ·) r = true ↔ Spec.NullableR G r) ∧
    (∀ r t, (An.first.contains ·) (r, t) = true ↔ Spec.FirstP G r t) := by
  obtain ⟨hn, hf, -⟩ := Spec.analyses_exact G hwf An hAn
  exact ⟨fun r => by simpa using hn r, fun r t => by simpa using hf r t⟩

/-- the item after the dot has moved over `X`, in the closure of the state `X` leads to -/
theorem advance {N : Nat → Bool} {F : Nat × Nat → Bool} (P : Props G A) (PL : PropsLA G A N F) {s : Nat}
    (hs : s < A.nstates) {i : Item} (hi : i ∈ A.closed s) {X : Sym} (hsym : symAt G i.p i.dot = some X)
    {s' : Nat} (he : A.edge s X = some s') :
    s' < A.nstates ∧ ∃ j ∈ A.closed s', j.p = i.p ∧ j.dot = i.dot + 1 ∧ ∀ a ∈ i.la, a ∈ j.la := by
  obtain ⟨t, j0, he0, hj0, hj0p, hj0d, hj0la⟩ := PL.edgeLA s hs i hi _ hsym
  cases he.symm.trans he0
  have hs' : s' < A.nstates := (P.edgeTarget s hs _ (edge_mem he)).1
  obtain ⟨j, hj, hjp, hjd, hjla⟩ := PL.coreLA s' hs' j0 hj0
  exact ⟨hs', j, hj, hjp.trans hj0p, hjd.trans hj0d, fun a ha => hjla a (hj0la a ha)⟩

end GrmVerif.Cert
