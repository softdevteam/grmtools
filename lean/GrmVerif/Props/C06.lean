import GrmVerif.Lemmas.SearchRef
import GrmVerif.Lemmas.RankDistance
import GrmVerif.Lemmas.RecoverImpl
import GrmVerif.Lemmas.CpctRun
import GrmVerif.Lemmas.CpctEx
import GrmVerif.Lemmas.NoPanicRecover
import GrmVerif.Lemmas.KeptCert
/-!
# C06 — repair sequences are the complete minimum-cost set, ranked as documented

Specification: `Rec.Search` (`Lemmas/RecBasics.lean`; declarative: which complete repair sequences a
cost-`k` search from a configuration yields) and the executable reference `Rec.enumerate` /
`Rec.minCostRepairs` / `Rec.refRepairs` (`Model/Recover.lean`). The theorems say the reference IS the declarative
search, at the minimum cost, complete at that cost. The real recoverer's reported set must equal
`refRepairs` (as a set) for every error within the cost cap, and its order is checked against the
documented ranking.

Post-processing (`Model/RankImpl.lean`, a transcription of `rank_cnds`, `apply_repairs` and
`simplify_repairs` of `lrpar/src/lib/cpctplus.rs` and of `lr_upto` of `lrpar/src/lib/parser.rs`): the second part of this file proves, for
EVERY output of `collect_repairs` (a list of groups of sequences), every table, every hasher order
and every `%avoid_insert` set, what the reported list looks like: `rank_keeps_furthest`,
`simplify_no_trailing_shift`, `simplify_nodup`, `simplify_preserves`, `simplify_ranked`.

The search itself (`Model/SearchImpl.lean`, a transcription of `dijkstra.rs` and of `recover` /
`insert` / `delete` / `shift` / `collect_repairs` of `cpctplus.rs`: cost buckets, `IndexMap` buckets
with `PathFNode::eq` as key equality, node merging, the two loops, `u16` costs): the third part of this
file proves, for EVERY table, stack, input, cost function (costs ≥ 1) and cost — no cap —, that when
the modelled search ends properly its expansion is sound (`search_sound`), of minimum cost
(`search_minimal`), complete at that cost although compatible nodes are merged and the second loop
follows Shifts only (`search_complete`), finds nothing only if nothing of representable cost exists
(`search_none`), and equals the reference enumeration (`search_eq_reference`); search and
post-processing together report the reference answer (`recover_eq_reference`).

The fourth part puts the modelled recoverer into the recovering parser of C05/C07: at every error of a
run what is reported is the reference answer for the configuration the run is in. The fifth: on a
certified table the model of `recover` never panics, at every error of a run.
-/
namespace GrmVerif.C06
open Rec

/-- **The reference enumeration is the search relation** (with the fuel the reference uses). -/
theorem enumerate_iff_search (G : Grammar) (A : Automaton) (w : List Nat) (cost : Nat → Nat) (N : Nat)
    (start : Pos) (c : Nat) (seq : List Repair) :
    seq ∈ enumerate G A w cost N (2 * (c + w.length) + 6) c ⟨start, [], 0⟩ ↔
      Search G A w cost N ⟨start, [], 0⟩ c seq :=
  mem_enumerate_iff G A w cost N start c seq

theorem minCostFrom_spec (G : Grammar) (A : Automaton) (w : List Nat) (cost : Nat → Nat) (N : Nat)
    (start : Pos) :
    ∀ (remaining c0 c : Nat) (rs : List (List Repair)),
      minCostFrom G A w cost N start remaining c0 = some (c, rs) →
      c0 ≤ c ∧ rs ≠ [] ∧ (∀ seq, seq ∈ rs ↔ Search G A w cost N ⟨start, [], 0⟩ c seq) ∧
      ∀ c', c0 ≤ c' → c' < c → ∀ seq, ¬ Search G A w cost N ⟨start, [], 0⟩ c' seq :=
  minCostFrom_some G A w cost N start

/-- **Minimum cost, complete at that cost.** If the reference finds cost `c` with the set `rs`:
`rs` is exactly the set of complete repair sequences of cost `c` (every one of them is found), it
is not empty, and no repair of lower cost exists. -/
theorem min_cost_complete (G : Grammar) (A : Automaton) (w : List Nat) (cost : Nat → Nat) (N : Nat)
    (start : Pos) (cap c : Nat) (rs : List (List Repair))
    (h : minCostRepairs G A w cost N start cap = some (c, rs)) :
    rs ≠ [] ∧ (∀ seq, seq ∈ rs ↔ Search G A w cost N ⟨start, [], 0⟩ c seq) ∧
    ∀ c', c' < c → ∀ seq, ¬ Search G A w cost N ⟨start, [], 0⟩ c' seq := by
  obtain ⟨_, h2, h3, h4⟩ := minCostFrom_spec G A w cost N start _ 0 c rs h
  exact ⟨h2, h3, fun c' hc => h4 c' (Nat.zero_le _) hc⟩

/-- **What a reported sequence is.** Every sequence of the search applies from the error
configuration with plain LR semantics, costs exactly the search cost (sum of the costs of inserted
and deleted tokens), never inserts the end-of-input token, and ends in a success configuration
(`N` trailing shifts or acceptance). -/
theorem search_sequence_valid (G : Grammar) (A : Automaton) (w : List Nat) (cost : Nat → Nat) (N : Nat)
    (start : Pos) (c : Nat) (seq : List Repair) (h : Search G A w cost N ⟨start, [], 0⟩ c seq) :
    ∃ cf, applySeq G A w start seq = some cf ∧ seqCost w cost start.pos seq = c ∧
      Repair.insert G.eof ∉ seq ∧ ∃ m : Node, m.c = cf ∧ isSuccess G A w N m = true := by
  obtain ⟨suf, m, hp, hsucc, rfl⟩ := SearchImpl.ipath_of_search h
  rw [hp.seq_of_root]
  exact ⟨m.c, hp.apply, hp.seqCost, fun hm => (hp.inserts_ok _ hm).2 rfl, m, rfl, hsucc⟩

/-- **No sequence ends in a shift** -/
theorem stripShifts_no_trailing (rs : List Repair) : (stripShifts rs).getLast? ≠ some .shift :=
  fun h => Bool.noConfusion (RankImpl.getLast?_reverse_dropWhile (· == Repair.shift) rs h)

/-- a minimum-cost sequence after which parsing continues at least as far as after any other: these,
trailing Shifts stripped, are what the reference reports and what the modelled recoverer reports -/
private def Furthest (G : Grammar) (A : Automaton) (w : List Nat) (cost : Nat → Nat) (N win : Nat) (start : Pos)
    (c : Nat) (seq : List Repair) : Prop :=
  Search G A w cost N ⟨start, [], 0⟩ c seq ∧ ∀ seq', Search G A w cost N ⟨start, [], 0⟩ c seq' →
    distance G A w win start seq' ≤ distance G A w win start seq

private theorem mem_refRepairs {G : Grammar} {A : Automaton} {w : List Nat} {cost : Nat → Nat} {N win : Nat}
    {start : Pos} {cap c : Nat} {out : List (List Repair)}
    (h : refRepairs G A w cost N win start cap = some (c, out)) :
    out.Nodup ∧ ∀ r, r ∈ out ↔ ∃ seq, Furthest G A w cost N win start c seq ∧ r = stripShifts seq := by
  unfold refRepairs at h
  cases hm : minCostRepairs G A w cost N start cap with
  | none => rw [hm] at h; cases h
  | some v =>
    obtain ⟨c0, rs⟩ := v
    rw [hm] at h
    simp only [Option.some.injEq, Prod.mk.injEq] at h
    obtain ⟨rfl, rfl⟩ := h
    obtain ⟨_, hiff, _⟩ := min_cost_complete G A w cost N start cap c0 rs hm
    refine ⟨nodup_dedup _, fun r => ?_⟩
    rw [mem_dedup]
    simp only [List.mem_map, List.mem_filter, beq_iff_eq]
    constructor
    · rintro ⟨seq, ⟨hseq, hfar⟩, rfl⟩
      exact ⟨seq, ⟨(hiff seq).mp hseq, fun seq' hs' =>
        (RankImpl.eq_foldl_max_map_iff hseq).mp hfar seq' ((hiff seq').mpr hs')⟩, rfl⟩
    · rintro ⟨seq, ⟨hs, hmax⟩, rfl⟩
      have hseq := (hiff seq).mpr hs
      exact ⟨seq, ⟨hseq, (RankImpl.eq_foldl_max_map_iff hseq).mpr fun y hy => hmax y ((hiff y).mp hy)⟩, rfl⟩

/-- **The reference answer**: every reported sequence is a minimum-cost search sequence with its
trailing shifts removed, that lets parsing continue as far as the best; none ends in a shift; none
is reported twice. -/
theorem refRepairs_spec (G : Grammar) (A : Automaton) (w : List Nat) (cost : Nat → Nat) (N win : Nat)
    (start : Pos) (cap c : Nat) (out : List (List Repair))
    (h : refRepairs G A w cost N win start cap = some (c, out)) :
    out.Nodup ∧ (∀ r ∈ out, r.getLast? ≠ some .shift) ∧
    ∀ r ∈ out, ∃ seq, Search G A w cost N ⟨start, [], 0⟩ c seq ∧ r = stripShifts seq ∧
      ∀ seq', Search G A w cost N ⟨start, [], 0⟩ c seq' →
        distance G A w win start seq' ≤ distance G A w win start seq := by
  obtain ⟨hnd, hmem⟩ := mem_refRepairs h
  refine ⟨hnd, fun r hr => ?_, fun r hr => ?_⟩
  · obtain ⟨seq, _, rfl⟩ := (hmem r).mp hr
    exact stripShifts_no_trailing seq
  · obtain ⟨seq, ⟨hs, hmax⟩, rfl⟩ := (hmem r).mp hr
    exact ⟨seq, hs, rfl, hmax⟩

open RankImpl

/-- **`rank_cnds` keeps exactly the groups whose first sequence gets furthest.** If `rank_cnds`
returns (no panic): every group was non-empty and its first sequence was replayed and parsed on
without a panic; the result is the concatenation, in the order of the search, of exactly those
groups `g` whose distance (`reachD`: `apply_repairs` on the first sequence, then `lr_upto` up to
`in_laidx + TRY_PARSE_AT_MOST`) is not exceeded by any group's. -/
theorem rank_keeps_furthest (G : Grammar) (A : Automaton) (w : List Nat) (win : Nat) (start : Pos)
    (cnds : List (List Seq)) (out : List Seq) (h : rankCnds G A w win start cnds = some out) :
    (∀ g ∈ cnds, ∃ d, groupReach G A w win start g = some d) ∧
    out = (cnds.filter (fun g => cnds.all (fun g' =>
      decide (reachD G A w win start g' ≤ reachD G A w win start g)))).flatten ∧
    ∀ s, s ∈ out ↔ ∃ g ∈ cnds, s ∈ g ∧
      ∀ g' ∈ cnds, reachD G A w win start g' ≤ reachD G A w win start g := by
  obtain ⟨hall, rfl⟩ := rankCnds_some h
  have hcongr : ∀ g ∈ cnds,
      ((fun p : Nat × List Seq => p.1 == furthest (cnds.map (fun g => (reachD G A w win start g, g)))) ∘
        (fun g => (reachD G A w win start g, g))) g =
      cnds.all (fun g' => decide (reachD G A w win start g' ≤ reachD G A w win start g)) := by
    intro g hg
    rw [Bool.eq_iff_iff]
    simp only [Function.comp, beq_iff_eq, List.all_eq_true, decide_eq_true_eq, furthest_eq, List.map_map]
    exact eq_foldl_max_map_iff hg
  rw [List.filter_map, List.flatMap_map, List.filter_congr hcongr, List.flatMap_id']
  refine ⟨hall, rfl, fun s => ?_⟩
  simp only [List.mem_flatten, List.mem_filter, List.all_eq_true, decide_eq_true_eq]
  constructor
  · rintro ⟨g, ⟨hg, hmax⟩, hs⟩; exact ⟨g, hg, hs, hmax⟩
  · rintro ⟨g, hg, hs, hmax⟩; exact ⟨g, ⟨hg, hmax⟩, hs⟩

/-- `rank_cnds` panics exactly when some group is empty (`rpr_seqs[0]`) or the replay of a first
sequence runs into a missing goto / an empty stack (or the model's fuel) -/
theorem rank_panics_iff (G : Grammar) (A : Automaton) (w : List Nat) (win : Nat) (start : Pos)
    (cnds : List (List Seq)) :
    rankCnds G A w win start cnds = none ↔ ∃ g ∈ cnds, groupReach G A w win start g = none := by
  have hall : cnds.all (fun g => (groupReach G A w win start g).isSome) = false ↔
      ∃ g ∈ cnds, groupReach G A w win start g = none := by
    simp only [List.all_eq_false, Option.not_isSome_iff_eq_none]
  rw [← hall, rankCnds, scoreCnds_eq]
  cases cnds.all (fun g => (groupReach G A w win start g).isSome) <;> simp

/-- **The distance `rank_cnds` measures is the specification's `distance`** (the one
`refRepairs_spec` speaks of), for a first sequence that applies with plain LR semantics — as every
sequence of the search does, `search_sequence_valid` — and ends within the window, under a table
that never shifts end-of-input. -/
theorem rank_distance_is_spec (G : Grammar) (A : Automaton) (w : List Nat) (hEof : EofNeverShifted G A)
    (win : Nat) (start c' : Pos) (s : Seq) (rest : List Seq) (hpos : start.pos ≤ w.length)
    (happ : applySeq G A w start (s.map PRepair.erase) = some c') (hwin : c'.pos ≤ start.pos + win)
    (d : Nat) (hr : groupReach G A w win start (s :: rest) = some d) :
    reachD G A w win start (s :: rest) = distance G A w win start (s.map PRepair.erase) := by
  have := reach_eq_distance hEof hpos happ hwin hr
  simp only [reachD, hr, Option.getD_some, this]

/-- **No reported sequence ends in a Shift.** -/
theorem simplify_no_trailing_shift (hs : List Seq → List Seq) (h : HashSetLike hs) (avoid : Nat → Bool)
    (start : Nat → Nat) (l : List Seq) :
    ∀ r ∈ simplify hs avoid start l, ∀ k, r.getLast? ≠ some (.shift k) := by
  intro r hr k
  obtain ⟨s, _, rfl⟩ := (mem_simplify h avoid start l r).mp hr
  exact stripTrailing_no_trailing s k

/-- **No sequence is reported twice.** -/
theorem simplify_nodup (hs : List Seq → List Seq) (h : HashSetLike hs) (avoid : Nat → Bool)
    (start : Nat → Nat) (l : List Seq) : (simplify hs avoid start l).Nodup :=
  (simplify_perm hs avoid start l).nodup_iff.mpr (h _).1

/-- **Nothing lost, nothing invented**: the reported sequences are exactly the input sequences with
their trailing Shifts removed. -/
theorem simplify_preserves (hs : List Seq → List Seq) (h : HashSetLike hs) (avoid : Nat → Bool)
    (start : Nat → Nat) (l : List Seq) (r : Seq) :
    r ∈ simplify hs avoid start l ↔ ∃ s ∈ l, stripTrailing s = r :=
  mem_simplify h avoid start l r

/-- **Ranked as documented, and the order is a function of the SET of input sequences.**
(1) Whatever the hasher and the input order: a sequence inserting an `%avoid_insert` token is never
followed by one that does not, and among sequences of the same kind lengths never decrease (indeed
the whole list is sorted by the comparison closure `seqLe`).
(2) When distinct lexemes start at distinct offsets — or all sequences name the lexemes of the input
from one position on, in order, as `repair_to_parse_repair` makes them — any other hasher order and
any other list with the same set of stripped sequences (in particular any permutation of the input)
give the same list in the same order; and whichever algorithm `sort_unstable_by` uses, a sorted
arrangement of the deduplicated sequences is this list. -/
theorem simplify_ranked (hs : List Seq → List Seq) (h : HashSetLike hs) (avoid : Nat → Bool)
    (start : Nat → Nat) (l : List Seq) :
    (simplify hs avoid start l).Pairwise (fun x y =>
      (containsAvoidInsert avoid x = true → containsAvoidInsert avoid y = true) ∧
      (containsAvoidInsert avoid x = containsAvoidInsert avoid y → x.length ≤ y.length) ∧
      seqLe avoid start x y = true) ∧
    ((∀ i j, start i = start j → i = j) ∨ (∃ la, ∀ s ∈ l, WellLexed la s = true) →
      (∀ (hs' : List Seq → List Seq) (l' : List Seq), HashSetLike hs' →
        (∀ x, x ∈ l'.map stripTrailing ↔ x ∈ l.map stripTrailing) →
        simplify hs' avoid start l' = simplify hs avoid start l) ∧
      (∀ (hs' : List Seq → List Seq) (l' : List Seq), HashSetLike hs' → l'.Perm l →
        simplify hs' avoid start l' = simplify hs avoid start l) ∧
      (∀ out : List Seq, out.Perm (hs (l.map stripTrailing)) →
        out.Pairwise (fun x y => seqLe avoid start x y = true) → out = simplify hs avoid start l)) := by
  refine ⟨?_, ?_⟩
  · refine (simplify_sorted hs avoid start l).imp ?_
    intro x y hxy
    exact ⟨(seqLe_documented hxy).1, (seqLe_documented hxy).2, hxy⟩
  · intro hyp
    have hanti : ∀ a b, a ∈ l.map stripTrailing → b ∈ l.map stripTrailing →
        cmpSeq avoid start a b = .eq → a = b := by
      intro a b ha hb hab
      rcases hyp with hinj | ⟨la, hwl⟩
      · exact cmpSeq_eq_eq hinj hab
      · obtain ⟨sa, hsa, rfl⟩ := List.mem_map.mp ha
        obtain ⟨sb, hsb, rfl⟩ := List.mem_map.mp hb
        exact cmpSeq_eq_eq_of_wellLexed (wellLexed_stripTrailing (hwl sa hsa))
          (wellLexed_stripTrailing (hwl sb hsb)) hab
    have hset : ∀ (hs' : List Seq → List Seq) (l' : List Seq), HashSetLike hs' →
        (∀ x, x ∈ l'.map stripTrailing ↔ x ∈ l.map stripTrailing) →
        simplify hs' avoid start l' = simplify hs avoid start l :=
      fun hs' l' h' hset => eq_simplify_of_sorted h hanti
        ((simplify_perm hs' avoid start l').trans (hashSetLike_perm h' h hset)) (simplify_sorted hs' avoid start l')
    exact ⟨hset, fun hs' l' h' hp => hset hs' l' h' (fun x => (hp.map stripTrailing).mem_iff),
      fun out hp hsorted => eq_simplify_of_sorted h hanti hp hsorted⟩

/-- **A reported list is a fixed point** (the per-error tie of the check): stripping, deduplicating
and sorting a list that `simplify_repairs` produced gives the list back, in the same order. -/
theorem simplify_fixed_point (hs : List Seq → List Seq) (h : HashSetLike hs) (avoid : Nat → Bool)
    (start : Nat → Nat) (l : List Seq) :
    simplify dedup avoid start (simplify hs avoid start l) = simplify hs avoid start l := by
  have h1 : (simplify hs avoid start l).map stripTrailing = simplify hs avoid start l :=
    (List.map_congr_left fun r hr =>
      stripTrailing_of_no_trailing (simplify_no_trailing_shift hs h avoid start l r hr)).trans (List.map_id _)
  have h2 : dedup (simplify hs avoid start l) = simplify hs avoid start l :=
    dedup_of_nodup (simplify_nodup hs h avoid start l)
  show sortSeqs avoid start (dedup ((simplify hs avoid start l).map stripTrailing)) = _
  rw [h1, h2]
  exact sortSeqs_of_pairwise (simplify_sorted hs avoid start l)

/-- the whole tail of `CPCTPlus::recover`: what is reported is `simplify_repairs` of what
`rank_cnds` kept -/
theorem postProcess_eq (hs : List Seq → List Seq) (h : HashSetLike hs) (avoid : Nat → Bool)
    (lexStart : Nat → Nat) (G : Grammar) (A : Automaton) (w : List Nat) (win : Nat) (start : Pos)
    (cnds : List (List Seq)) (out : List Seq)
    (hp : postProcess hs avoid lexStart G A w win start cnds = some out) :
    ∃ kept, rankCnds G A w win start cnds = some kept ∧ out = simplify hs avoid lexStart kept := by
  unfold postProcess at hp
  cases hr : rankCnds G A w win start cnds with
  | none => rw [hr] at hp; cases hp
  | some kept =>
    rw [hr] at hp
    simp only at hp
    refine ⟨kept, rfl, ?_⟩
    by_cases he : kept.isEmpty = true
    · rw [if_pos he] at hp
      simp only [Option.some.injEq] at hp
      rw [List.isEmpty_iff] at he
      subst he
      have : hs [] = [] := List.eq_nil_iff_forall_not_mem.mpr fun a ha => nomatch ((h []).2 a).mp ha
      rw [← hp]
      simp [simplify, sortSeqs, this]
    · rw [if_neg he] at hp
      simp only [Option.some.injEq] at hp
      exact hp.symm

open SearchImpl

/-- **Soundness of the modelled search.** Hypotheses (`Hyps`): every token costs at least 1
(`parse_actions` asserts `token_cost(tidx) > 0`); the table never shifts the end-of-input token (true
of every table `StateTable::new` builds); the error position is inside the input; `state_actions(st)`
lists exactly the tokens whose action in `st` is not Error (`C16.state_actions_spec`); the error
configuration is not itself a success (`recover` is called when the action on the next token is
Error). No hypothesis on `u16` overflow is needed: a neighbour whose cost is not representable is
dropped, and every statement below is about costs the search did represent. If the model of
`dijkstra` ends properly (`.ok res`: enough fuel, no panic) then ALL returned nodes have the same cost
`c` — the bucket at which the search stopped —, and every sequence `collect_repairs` expands from
them (`traverse`) is a sequence of the declarative search relation `Rec.Search` of cost exactly `c`:
by `search_sequence_valid` it applies from the error configuration with plain LR semantics, costs
`c`, never inserts end-of-input and ends in a success configuration. -/
theorem search_sound (E : Env) (start : Pos) (H : Hyps E start) (fuel : Nat) (res : List PNode)
    (h : dijkstra E fuel start = .ok res) :
    ∃ c, c ≤ U16MAX ∧ (∀ m ∈ res, m.cf = c) ∧
      ∀ m ∈ res, ∀ s ∈ traverse m.repairs, Search E.G E.A E.w E.cost E.N ⟨start, [], 0⟩ c s := by
  by_cases hne : res = []
  · subst hne
    exact ⟨0, Nat.zero_le _, fun m hm => (by cases hm), fun m hm => (by cases hm)⟩
  · obtain ⟨c, hf⟩ := found_of_dijkstra H h hne
    exact ⟨c, hf.bound, hf.cost, hf.sound⟩

/-- **Minimality.** Under the hypotheses of `search_sound`: no repair sequence of the declarative
search has a cost below the cost of a returned node. -/
theorem search_minimal (E : Env) (start : Pos) (H : Hyps E start) (fuel : Nat) (res : List PNode)
    (h : dijkstra E fuel start = .ok res) :
    ∀ m ∈ res, ∀ c', c' < m.cf → ∀ seq, ¬ Search E.G E.A E.w E.cost E.N ⟨start, [], 0⟩ c' seq := by
  intro m hm c' hc' seq
  obtain ⟨c, hf⟩ := found_of_dijkstra H h (List.ne_nil_of_mem hm)
  rw [hf.cost m hm] at hc'
  exact hf.minimal c' hc' seq

/-- **Completeness: merging loses nothing.** Under the hypotheses of `search_sound`: every repair
sequence of the declarative search whose cost is the cost of the returned nodes occurs in the
expansion of some returned node. The proof (`Lemmas/SearchNodes.lean`, `SearchBuckets.lean`, `SearchLoops.lean`) rests on: nodes that
`PathFNode::eq` identifies have the same stack, position, number of trailing shifts and "last repair
is a Delete" flag, so every edge of the search graph out of one plain sequence of a (merged) node is
an edge out of all of them and appears among the node's neighbours (`neighbours_complete_step`); the
merge closure makes the kept chain stand for the union of both sets of sequences
(`mergeRepairs_spec`, `merge_total`); a node pushed after a compatible one was popped simply becomes a
new entry and is explored again; and the second loop, which follows Shifts of the same cost only,
misses nothing because Inserts and Deletes cost at least 1 (`expand_tracks`). -/
theorem search_complete (E : Env) (start : Pos) (H : Hyps E start) (fuel : Nat) (res : List PNode)
    (h : dijkstra E fuel start = .ok res) :
    ∀ m ∈ res, ∀ seq, Search E.G E.A E.w E.cost E.N ⟨start, [], 0⟩ m.cf seq →
      ∃ m' ∈ res, seq ∈ traverse m'.repairs := by
  intro m hm seq hs
  obtain ⟨c, hf⟩ := found_of_dijkstra H h (List.ne_nil_of_mem hm)
  rw [hf.cost m hm] at hs
  exact hf.complete seq hs

/-- **Nodes that `PathFNode::eq` identifies have the same continuations** (the fact that makes merging
sound). For any two search nodes that `PathFNode::eq` regards as equal (same stack, same position,
both-or-neither last repair a Delete, the same number of trailing Shifts) and that cost the same (as
two nodes of one bucket do): the `success` closure answers the same for both, and the `neighbours`
closure produces for both — in the same order, with either value of `explore_all` — neighbours with
the same cost, stack and position, made by appending the same repair to the node's own chain (or
keeping the chain, for the accept-after-reductions node); it panics or runs out of fuel for both or
for neither. Hence whatever suffix leads one of them to a success node at some extra cost leads the
other there too. -/
theorem compatible_same_continuations (E : Env) (a b : PNode) (hc : compat a b = true)
    (hcf : a.cf = b.cf) (exploreAll : Bool) :
    success E a = success E b ∧
      outShape a.repairs (neighbours E exploreAll a) = outShape b.repairs (neighbours E exploreAll b) :=
  compat_same_continuations hc hcf exploreAll

/-- **Merging makes the kept node stand for both nodes.** When the merge closure of `recover` merges
the chain `new` into the chain `old` (neither containing the bare `Terminator` as an alternative, `new`
not being it), `collect_repairs` expands from the result exactly the sequences it would have expanded
from `old` together with those from `new`; the result is again free of bare `Terminator`
alternatives. (The search only ever merges such chains: `merge_total`, `term_of_compat`.) -/
theorem merge_is_union (old new r : RTree) (h : mergeRepairs old new = some r)
    (ho : okT old = true) (hn : okT new = true) (hnt : isTerm new = false) :
    okT r = true ∧ isTerm r = false ∧
      ∀ s, s ∈ traverse r ↔ s ∈ traverse old ∨ s ∈ traverse new := by
  obtain ⟨_, _, m3, m4, m5⟩ := mergeRepairs_spec h
  have hot : isTerm old = false := by
    cases old with
    | term =>
      unfold mergeRepairs at h
      by_cases hb : RTree.beq .term new = true
      · have := beq_eq _ _ hb
        subst this
        simp [isTerm] at hnt
      · rw [if_neg hb] at h; cases h
    | _ => rfl
  have hr : okT r = true := m4 ho hn (fun e => by rw [hnt] at e; cases e)
  refine ⟨hr, by rw [m5, hot], ?_⟩
  intro s
  rw [traverse_eq r hr, traverse_eq old ho, traverse_eq new hn, m5, hot, hnt]
  simp only [Bool.false_eq_true, ↓reduceIte]
  exact m3 s

/-- **No nodes only if no repair of representable cost exists.** Under the hypotheses of
`search_sound`: if the search returns no node (`return Vec::new()`: it ran out of buckets or of
representable costs) then no repair sequence of cost `≤ u16::MAX` exists. -/
theorem search_none (E : Env) (start : Pos) (H : Hyps E start) (fuel : Nat)
    (h : dijkstra E fuel start = .ok []) :
    ∀ c, c ≤ U16MAX → ∀ seq, ¬ Search E.G E.A E.w E.cost E.N ⟨start, [], 0⟩ c seq :=
  none_of_dijkstra H h

/-- **The modelled search computes the reference set — for every cost.** Under the hypotheses of
`search_sound`: if the search returns nodes, their common cost `c` and the union of their expansions
are exactly what the verified reference enumeration `minCostRepairs` answers for ANY cap `≥ c`; every
returned node contributes at least one sequence. -/
theorem search_eq_reference (E : Env) (start : Pos) (H : Hyps E start) (fuel : Nat) (res : List PNode)
    (h : dijkstra E fuel start = .ok res) (hne : res ≠ []) :
    ∃ c, (∀ m ∈ res, m.cf = c ∧ traverse m.repairs ≠ []) ∧ ∀ cap, c ≤ cap →
      ∃ rs, minCostRepairs E.G E.A E.w E.cost E.N start cap = some (c, rs) ∧
        ∀ seq, seq ∈ rs ↔ ∃ m ∈ res, seq ∈ traverse m.repairs := by
  obtain ⟨c, hf⟩ := found_of_dijkstra H h hne
  exact ⟨c, fun m hm => ⟨hf.cost m hm, hf.nonempty m hm⟩, fun cap hcap => reference_of_found hf hne cap hcap⟩

/-- **what the modelled recoverer reports**, when every candidate ends inside the window: the furthest
minimum-cost sequences, lexemes named, trailing Shifts stripped. `rank_cnds` replays the first sequence
of a group only; all sequences of a returned node get equally far (`distance_eq_reachD_group`), so a
group gets furthest iff each of its sequences does. -/
private theorem mem_reported {E : Env} {start : Pos} (H : Hyps E start) {hs : List Seq → List Seq}
    (hhs : HashSetLike hs) {avoid : Nat → Bool} {lexStart : Nat → Nat} {win : Nat}
    (hwin : WithinWindow E start win) {fuel : Nat} {c' : Pos} {out : List Seq}
    (h : recoverImpl E hs avoid lexStart win fuel start = .ok (c', out)) (hout : out ≠ []) :
    ∃ res c, res ≠ [] ∧ Found E start res c ∧ ∀ s, s ∈ out ↔
      ∃ seq, Furthest E.G E.A E.w E.cost E.N win start c seq ∧ s = stripTrailing (attach start.pos seq) := by
  obtain ⟨res, c, kept, s0, rest, hne, hf, hrk, hsim, hout, _⟩ :=
    (Cpct.recoverImpl_unpack H hhs h).resolve_left fun h0 => hout h0.2
  obtain ⟨hall, _, hmem⟩ := rank_keeps_furthest E.G E.A E.w win start _ kept hrk
  simp only [collectRepairs_eq, List.forall_mem_map] at hall hmem
  have hdist : ∀ m ∈ res, ∀ seq ∈ traverse m.repairs, distance E.G E.A E.w win start seq =
      reachD E.G E.A E.w win start (groupOf start m) :=
    fun m hm _ hseq => (hall m hm).elim fun _ hd' => distance_eq_reachD_group H hwin hf hm hd' hseq
  have hfar : ∀ m ∈ res, ∀ seq ∈ traverse m.repairs,
      ((∀ m' ∈ res, reachD E.G E.A E.w win start (groupOf start m') ≤
          reachD E.G E.A E.w win start (groupOf start m)) ↔
        ∀ seq', Search E.G E.A E.w E.cost E.N ⟨start, [], 0⟩ c seq' →
          distance E.G E.A E.w win start seq' ≤ distance E.G E.A E.w win start seq) := by
    intro m hm seq hseq
    rw [hdist m hm seq hseq]
    constructor
    · intro hmax seq' hs'
      obtain ⟨m', hm', hs''⟩ := hf.complete seq' hs'
      rw [hdist m' hm' seq' hs'']
      exact hmax m' hm'
    · intro hmax m' hm'
      obtain ⟨s', hs'⟩ := List.exists_mem_of_ne_nil _ (hf.nonempty m' hm')
      rw [← hdist m' hm' s' hs']
      exact hmax s' (hf.sound m' hm' s' hs')
  refine ⟨res, c, hne, hf, fun s => ?_⟩
  rw [hout, ← hsim, mem_simplify hhs]
  constructor
  · rintro ⟨s1, hs1, rfl⟩
    obtain ⟨_, hg, hs1g, hmax⟩ := (hmem s1).mp hs1
    obtain ⟨m, hm, rfl⟩ := List.mem_map.mp hg
    obtain ⟨seq, hseq, rfl⟩ := List.mem_map.mp hs1g
    exact ⟨seq, ⟨hf.sound m hm seq hseq, (hfar m hm seq hseq).mp hmax⟩, rfl⟩
  · rintro ⟨seq, ⟨hs, hmax⟩, rfl⟩
    obtain ⟨m, hm, hseq⟩ := hf.complete seq hs
    exact ⟨_, (hmem _).mpr ⟨_, List.mem_map_of_mem hm, List.mem_map_of_mem hseq,
      (hfar m hm seq hseq).mpr hmax⟩, rfl⟩

/-- **The whole modelled `recover` reports the reference answer — for every cost, no cap.**
Under the hypotheses of `search_sound`, for any `HashSet` order `hs`, and when every candidate sequence
ends inside the window `rank_cnds` parses on in (`WithinWindow`; e.g. `withinWindow_of_short`: the input
ends inside it): if `recoverImpl` (search with node merging, `collect_repairs`, `rank_cnds`,
`simplify_repairs`) ends properly with the list `out`, then
* `out` is empty only if no repair sequence of representable cost exists;
* otherwise, for the cost `c` of the search and ANY cap `≥ c`, the reference `refRepairs` answers `c`
  with a set `rs` that is exactly the set of the reported sequences (lexemes forgotten), and every
  reported sequence names the input's lexemes from the error position on, in order — so it is
  determined by its image in `rs`.
`rank_cnds` replays only the first sequence of every group: that is enough because all sequences of a
returned (possibly merged) node let parsing continue equally far (`distance_of_resOK`). The order of
`out` is described by `simplify_ranked`, its lack of duplicates by `simplify_nodup`. -/
theorem recover_eq_reference (E : Env) (start : Pos) (H : Hyps E start) (hs : List Seq → List Seq)
    (hhs : HashSetLike hs) (avoid : Nat → Bool) (lexStart : Nat → Nat) (win : Nat)
    (hwin : WithinWindow E start win) (fuel : Nat) (c' : Pos) (out : List Seq)
    (h : recoverImpl E hs avoid lexStart win fuel start = .ok (c', out)) :
    (out = [] → ∀ c, c ≤ U16MAX → ∀ seq, ¬ Search E.G E.A E.w E.cost E.N ⟨start, [], 0⟩ c seq) ∧
    (out ≠ [] → ∃ c, ∀ cap, c ≤ cap →
      ∃ rs, refRepairs E.G E.A E.w E.cost E.N win start cap = some (c, rs) ∧
        (∀ r, r ∈ rs ↔ ∃ s ∈ out, s.map PRepair.erase = r) ∧
        ∀ s ∈ out, WellLexed start.pos s = true) := by
  by_cases hout : out = []
  · subst hout
    exact ⟨fun _ => search_none E start H fuel (Cpct.noRepair_dijkstra_nil hhs H h), fun hne => absurd rfl hne⟩
  · refine ⟨fun e => absurd e hout, fun _ => ?_⟩
    obtain ⟨res, c, hne, hf, hrep⟩ := mem_reported H hhs hwin h hout
    refine ⟨c, fun cap hcap => ?_⟩
    obtain ⟨rs0, hmc, _⟩ := reference_of_found hf hne cap hcap
    obtain ⟨rs, href⟩ : ∃ rs, refRepairs E.G E.A E.w E.cost E.N win start cap = some (c, rs) :=
      ⟨_, by rw [refRepairs, hmc]⟩
    refine ⟨rs, href, fun r => ?_, fun s hs' => ?_⟩
    · rw [(mem_refRepairs href).2 r]
      constructor
      · rintro ⟨seq, hF, rfl⟩
        exact ⟨_, (hrep _).mpr ⟨seq, hF, rfl⟩, by rw [map_erase_stripTrailing, erase_map_attach]⟩
      · rintro ⟨s, hs', rfl⟩
        obtain ⟨seq, hF, rfl⟩ := (hrep s).mp hs'
        exact ⟨seq, hF, by rw [map_erase_stripTrailing, erase_map_attach]⟩
    · obtain ⟨seq, _, rfl⟩ := (hrep s).mp hs'
      exact wellLexed_stripTrailing (wellLexed_attach _ _)

/-- **The hypotheses of the search theorems follow from a Boolean check** (which the driver evaluates for
every reported error): if every token costs at least 1 and the Boolean `checkHyps` holds — no state shifts
end-of-input, `state_actions` of every state lists exactly the tokens with a non-Error action, the
error position is inside the input, the error configuration is not a success — then `Hyps` holds. -/
theorem hyps_decidable (E : Env) (start : Pos) (hcost : ∀ t, 1 ≤ E.cost t)
    (h : checkHyps E start = true) : Hyps E start :=
  hyps_of_check hcost h

/-! ## Capstone: the modelled recoverer inside the recovering parser

`Cpct.cpctRecover` (`Model/Cpct.lean`) is `recoverImpl` seen through the interface of the recovering
driver `Rec.recRun`; `Cpct.recCalls` lists the configurations at which the driver consults it during a
run. -/

open Cpct

/-- **A minimum-cost search sequence still repairs after its trailing Shifts are stripped**
(`Cpct.validSeq_stripped`). For every table, input, cost function, `N` and configuration `c`: if `seq` is
a sequence of the declarative search from `c` (any cost), then `stripShifts seq` — what
`simplify_repairs` reports for it — applies from `c` with plain LR semantics, satisfies
`validSeq … N` (the plain parse that follows performs the stripped Shifts itself and then has made `N`
Shifts or accepts), and inserts only tokens of the grammar other than end-of-input. No hypothesis. -/
theorem stripped_search_sequence_repairs (G : Grammar) (A : Automaton) (w : List Nat) (cost : Nat → Nat)
    (N : Nat) (c : Pos) (k : Nat) (seq : List Repair) (h : Search G A w cost N ⟨c, [], 0⟩ k seq) :
    validSeq G A w N c (stripShifts seq) = true ∧
    (∃ c1, applySeq G A w c (stripShifts seq) = some c1) ∧
    (∀ t, Repair.insert t ∈ stripShifts seq → t < G.ntoks ∧ t ≠ G.eof) :=
  search_stripped_valid h

/-- **Capstone: at every error of a run of the modelled recovering parser, what is reported is the
reference answer for the configuration the run is in.** On a table with `Cpct.TableOK` (costs ≥ 1, no
shift of end-of-input, `state_actions` exact, `PARSE_AT_LEAST ≥ 1`), for every `HashSet` order,
`%avoid_insert` set, lexeme offsets, window, search budget, driver fuel and start within the input:
(1) the errors the run appends are, in order, the calls of the recoverer: position of the call, and
    what `cpctRecover` reported there (`recCalls`, `errOf`);
(2) every call is made at a configuration whose top state refuses the next lexeme, inside the input
    (`errCfg`), so the hypotheses `Hyps` of the search theorems hold there — they are not assumed;
(3) if the search of a call ended properly with nothing to report (`cpctOutcome = noRepair`) then no
    repair sequence of representable cost exists at that configuration (no window hypothesis:
    `rank_cnds` always keeps a group);
(4) at every call whose candidates all end inside the `TRY_PARSE_AT_MOST` window (`WithinWindow`, the
    hypothesis of `recover_eq_reference`, carried explicitly; it holds e.g. when the input ends inside
    the window, `withinWindow_of_short`): if sequences are reported, there is a cost `k` such that for
    every cap `≥ k` the reference `refRepairs` of THAT configuration answers `k` with exactly the
    reported set. -/
theorem cpct_reports_minimum_cost_repairs_at_every_error (E : Env) (hT : TableOK E)
    (hs : List Seq → List Seq) (hhs : HashSetLike hs) (avoid : Nat → Bool) (lexStart : Nat → Nat)
    (win sfuel : Nat) (fuel : Nat) (c0 : Pos) (hc0 : c0.pos ≤ E.w.length) (errs : List Err) :
    (recRun E.G E.A E.w (cpctRecover E hs avoid lexStart win sfuel) fuel c0 errs).2 =
      errs ++ (recCalls E.G E.A E.w (cpctRecover E hs avoid lexStart win sfuel) fuel c0).map
        (errOf (cpctRecover E hs avoid lexStart win sfuel)) ∧
    ∀ c ∈ recCalls E.G E.A E.w (cpctRecover E hs avoid lexStart win sfuel) fuel c0,
      errCfg E.G E.A E.w c = true ∧
      (cpctOutcome E hs avoid lexStart win sfuel c = .noRepair →
        ∀ k, k ≤ U16MAX → ∀ seq, ¬ Search E.G E.A E.w E.cost E.N ⟨c, [], 0⟩ k seq) ∧
      (WithinWindow E c win →
        ∀ c' rs, cpctRecover E hs avoid lexStart win sfuel c = some (c', rs) →
          ∃ k, ∀ cap, k ≤ cap → ∃ ref, refRepairs E.G E.A E.w E.cost E.N win c cap = some (k, ref) ∧
            ∀ r, r ∈ ref ↔ r ∈ rs) := by
  refine ⟨recRun_eq_calls _ _ _ _ fuel c0 errs, ?_⟩
  intro c hc
  have he := recCalls_cpct_errCfg hT hhs fuel c0 hc0 c hc
  have H := hyps_of_errCfg hT he
  refine ⟨he, ?_, fun hwin => ?_⟩
  · intro ho
    obtain ⟨⟨c', hri⟩, _⟩ := cpctOutcome_noRepair ho
    exact search_none E c H sfuel (noRepair_dijkstra_nil hhs H hri)
  · intro c' rs h
    obtain ⟨out, hri, hne, rfl⟩ := cpct_some_unpack h
    obtain ⟨k, hk⟩ := (recover_eq_reference E c H hs hhs avoid lexStart win hwin sfuel c' out hri).2 hne
    refine ⟨k, fun cap hcap => ?_⟩
    obtain ⟨ref, h1, h2, _⟩ := hk cap hcap
    refine ⟨ref, h1, fun r => ?_⟩
    rw [h2 r]
    simp only [eraseAll, List.mem_map]

/-- **The same without the window hypothesis, for inputs that end inside the window.** If the input is
no longer than `TRY_PARSE_AT_MOST` (`|w| ≤ win`; decidable, and what the driver counts per error as
`errors_within_the_window_hypothesis` is the weaker `|w| ≤ pos + win`), every call of the recoverer in a
run of the modelled recovering parser reports exactly the reference set of the configuration the run is
in, or — when the search ended properly with nothing to report — no repair of representable cost exists
there. Hypotheses on the table and the costs only (`TableOK`). -/
theorem cpct_reports_minimum_cost_repairs_at_every_error_of_short_input (E : Env) (hT : TableOK E)
    (hs : List Seq → List Seq) (hhs : HashSetLike hs) (avoid : Nat → Bool) (lexStart : Nat → Nat)
    (win sfuel : Nat) (hshort : E.w.length ≤ win) (fuel : Nat) (c0 : Pos) (hc0 : c0.pos ≤ E.w.length) :
    ∀ c ∈ recCalls E.G E.A E.w (cpctRecover E hs avoid lexStart win sfuel) fuel c0,
      (∀ c' rs, cpctRecover E hs avoid lexStart win sfuel c = some (c', rs) →
        ∃ k, ∀ cap, k ≤ cap → ∃ ref, refRepairs E.G E.A E.w E.cost E.N win c cap = some (k, ref) ∧
          ∀ r, r ∈ ref ↔ r ∈ rs) ∧
      (cpctOutcome E hs avoid lexStart win sfuel c = .noRepair →
        ∀ k, k ≤ U16MAX → ∀ seq, ¬ Search E.G E.A E.w E.cost E.N ⟨c, [], 0⟩ k seq) := by
  intro c hc
  obtain ⟨he, hno, h⟩ := (cpct_reports_minimum_cost_repairs_at_every_error E hT hs hhs avoid lexStart win sfuel
    fuel c0 hc0 []).2 c hc
  exact ⟨h (withinWindow_of_short (hyps_of_errCfg hT he).pos (Nat.le_trans hshort (Nat.le_add_left _ _))), hno⟩

/-! ## Panic-freedom of the modelled recoverer

Every place of `CPCTPlus::recover` that can panic is an explicit `.panic` of the model: `unwrap` of a
goto / of the top of an empty stack in `lr_cactus`/`lr_upto` (`feed … = .crash`), `*n.pstack.val().unwrap()`
in `success`/`insert`, `state_actions(st)` of a state that does not exist, `next_lexeme` past the end in
`insert`/`apply_repairs`, `unreachable!()` in the merge closure, `todo[..]` out of range, `rpr_seqs[0]` in
`rank_cnds`, `rnk_rprs[0]` in `recover`. The model's OWN fuels are a different result, `.fuelOut`: the
loop fuel of the search, and the constant `FUEL` of `feed` (one run of reductions under one lookahead),
in the search and — through `rankCndsO`/`applyRepairsO`, the refinements of `rankCnds`/`applyRepairs`
that keep a crash of `lr_upto` apart from exhausted `FUEL` — in the post-processing. -/

/-- **The refinement of the post-processing model agrees with the model of `rank_keeps_furthest`.**
`rankCndsO`, `applyRepairsO`, `lrUptoO` (what `recoverTail` runs) answer `.ok x` exactly when `rankCnds`,
`applyRepairs`, `lrUpto` answer `some x`; where the latter answer `none` the former say WHY: `.panic` (a
crash of `lr_upto`, `rpr_seqs[0]` on an empty group, `next_lexeme` past the end) or `.fuelOut` (the
model's fuel). For every table, input, window, configuration and list of groups. -/
theorem postprocessing_refinement_agrees (G : Grammar) (A : Automaton) (w : List Nat) (win : Nat)
    (start : Pos) (cnds : List (List Seq)) (seq : Seq) (endIdx fuel : Nat) :
    (rankCndsO G A w win start cnds).toOption = rankCnds G A w win start cnds ∧
    (applyRepairsO G A w start seq).toOption = applyRepairs G A w start seq ∧
    (lrUptoO G A w endIdx fuel start).toOption = lrUpto G A w endIdx fuel start :=
  ⟨rankCndsO_toOption G A w win start cnds, applyRepairsO_toOption G A w seq start,
    lrUptoO_toOption G A w endIdx fuel start⟩

/-- **The model of `CPCTPlus::recover` never panics.** On an automaton that passes `Cert.check`, with
`state_actions` exact (`stateActionsExactB`, decidable; `C16.state_actions_spec` for tables
`StateTable::new` builds), every token costing at least 1 (asserted by `parse_actions`),
`PARSE_AT_LEAST = E.N ≥ 1` (the constant 3 of the code; with 0 the start node would be a success node
with no repairs and `rank_cnds` WOULD index an empty group), an input of tokens of the grammar other
than end-of-input (what a lexer produces), at every configuration `c` at which `Parser::lr` calls
`recover` (`errCfg`: inside the input, the top state refuses the next lexeme) whose state stack is a
PATH of the automaton from the start state (`Term.IsPath`; true of every configuration of a run:
`recover_never_panics_in_a_run`), for every `HashSet` order (`HashSetLike`), `%avoid_insert` set, lexeme
offsets, window and search fuel:
* the search `dijkstra` does not panic — every node it creates has a path stack and a position inside
  the input (`nodeInv_pathOK`), so `lr_cactus` never unwraps a missing goto, `success`/`insert` see a
  non-empty stack of existing states, `next_lexeme` stays inside the input; `todo[off]`/`todo[c]` are in
  range; the merge closure never reaches `unreachable!()`;
* whatever nodes the search returned, the post-processing `recoverTail` does not panic — `rpr_seqs[0]`
  and `rnk_rprs[0]` exist, `apply_repairs`/`lr_upto` replay sequences that apply, on path stacks;
* hence neither does `recoverImpl`, and `cpctOutcome` is never `panicked`.
No termination hypothesis: the model's fuels (`.fuelOut`) are not panics, see
`recover_answers_or_runs_out_of_model_fuel`. -/
theorem recover_never_panics (E : Env) (hc : Cert.check E.G E.A = true)
    (hsa : stateActionsExactB E.G E.A = true) (hcost : ∀ t, 1 ≤ E.cost t) (hN : 1 ≤ E.N)
    (hw : Cert.InputOk E.G E.w) (c : Pos) (he : errCfg E.G E.A E.w c = true)
    (hp : Term.IsPath E.A c.stack) (hs : List Seq → List Seq) (hhs : HashSetLike hs)
    (avoid : Nat → Bool) (lexStart : Nat → Nat) (win sfuel : Nat) :
    dijkstra E sfuel c ≠ .panic ∧
    (∀ res, dijkstra E sfuel c = .ok res → recoverTail E hs avoid lexStart win c res ≠ .panic) ∧
    recoverImpl E hs avoid lexStart win sfuel c ≠ .panic ∧
    cpctOutcome E hs avoid lexStart win sfuel c ≠ .panicked := by
  have hT := tableOK_of_cert hc hsa hcost hN
  have P := Cert.check_props E.G E.A hc
  have H := hyps_of_errCfg hT he
  refine ⟨dijkstra_ne_panic H P hw hp sfuel, ?_, recoverImpl_ne_panic H P hw hp hhs,
    cpctOutcome_ne_panicked H P hw hp hhs⟩
  intro res hd
  rcases recoverTail_cases (avoid := avoid) (lexStart := lexStart) (win := win) H P hw hp hhs hd with
    ⟨r, h⟩ | ⟨h, _⟩ <;> (rw [h]; intro e; cases e)

/-- **What is left besides a proper answer is the model's fuel, and in the post-processing exactly the
constant `FUEL` of `feed`.** Under the hypotheses of `recover_never_panics`: `recoverImpl` answers
(`.ok`), or it answers `.fuelOut` and then either the search did (`dijkstra … = .fuelOut`: its loop fuel
`sfuel` — the real code: the deadline — or the `FUEL` of a `feed` inside it) or, the search having ended
properly, `Cpct.FeedStuck` holds: there are a token `la` of the grammar and a stack that is a path of the
automaton on which the reductions under `la` are not over after `FUEL` = 2000 steps (a table with a
reduction loop, or one needing more than 2000 reductions under one lookahead; the real code has no such
bound, so the model is silent there — it is not a panic of the real code, which `feed_path` excludes
for every fuel). In particular the `|w| + 2` iterations the model gives the loop of `lr_upto` always
suffice. -/
theorem recover_answers_or_runs_out_of_model_fuel (E : Env) (hc : Cert.check E.G E.A = true)
    (hsa : stateActionsExactB E.G E.A = true) (hcost : ∀ t, 1 ≤ E.cost t) (hN : 1 ≤ E.N)
    (hw : Cert.InputOk E.G E.w) (c : Pos) (he : errCfg E.G E.A E.w c = true)
    (hp : Term.IsPath E.A c.stack) (hs : List Seq → List Seq) (hhs : HashSetLike hs)
    (avoid : Nat → Bool) (lexStart : Nat → Nat) (win sfuel : Nat) :
    ((∃ r, recoverImpl E hs avoid lexStart win sfuel c = .ok r) ∨
      (recoverImpl E hs avoid lexStart win sfuel c = .fuelOut ∧
        (dijkstra E sfuel c = .fuelOut ∨ FeedStuck E.G E.A))) ∧
    (∀ res, dijkstra E sfuel c = .ok res →
      (∃ r, recoverTail E hs avoid lexStart win c res = .ok r) ∨
      (recoverTail E hs avoid lexStart win c res = .fuelOut ∧ FeedStuck E.G E.A)) := by
  have hT := tableOK_of_cert hc hsa hcost hN
  have P := Cert.check_props E.G E.A hc
  have H := hyps_of_errCfg hT he
  exact ⟨recoverImpl_cases H P hw hp hhs, fun res hd => recoverTail_cases H P hw hp hhs hd⟩

/-- **`repair_to_parse_repair` asks `next_lexeme` for lexemes of the input only.** `collect_repairs`
names the lexeme of every Delete and Shift with `next_lexeme(laidx)`, which indexes `lexemes[laidx - 1]`
(a panic) for `laidx > |w|`; the model's `attach` is total. Under the hypotheses `Hyps` of the search
theorems (no certificate needed): if the search ends properly, every Delete and Shift of every sequence
`collect_repairs` produces names a lexeme index `< |w|` — the call is made inside the input. -/
theorem collected_sequences_name_lexemes_of_the_input (E : Env) (start : Pos) (H : Hyps E start)
    (fuel : Nat) (res : List PNode) (h : dijkstra E fuel start = .ok res) :
    ∀ g ∈ collectRepairs start.pos res, ∀ s ∈ g, LexemesIn E.w.length s :=
  collectRepairs_lexemesIn H h

/-- **The hypotheses of `recover_never_panics` are decidable** (and the driver evaluates them at every
error: `errors_where_the_model_of_recover_cannot_panic_by_theorem`): if every token costs at least 1
and the Booleans `noPanicTableB` (the automaton passes `Cert.check`, `state_actions` is exact,
`PARSE_AT_LEAST ≥ 1`) and `noPanicCfgB` (the input consists of real tokens, the configuration is an
error configuration, its stack is a path: `isPathB`) hold, the conclusion of `recover_never_panics`
holds. -/
theorem recover_never_panics_checked (E : Env) (hcost : ∀ t, 1 ≤ E.cost t)
    (ht : noPanicTableB E.G E.A E.N = true) (c : Pos) (hcfg : noPanicCfgB E.G E.A E.w c = true)
    (hs : List Seq → List Seq) (hhs : HashSetLike hs) (avoid : Nat → Bool) (lexStart : Nat → Nat)
    (win sfuel : Nat) :
    dijkstra E sfuel c ≠ .panic ∧
    (∀ res, dijkstra E sfuel c = .ok res → recoverTail E hs avoid lexStart win c res ≠ .panic) ∧
    recoverImpl E hs avoid lexStart win sfuel c ≠ .panic ∧
    cpctOutcome E hs avoid lexStart win sfuel c ≠ .panicked := by
  simp only [noPanicTableB, Bool.and_eq_true, decide_eq_true_eq] at ht
  simp only [noPanicCfgB, Bool.and_eq_true] at hcfg
  obtain ⟨⟨h1, h2⟩, h3⟩ := ht
  obtain ⟨⟨h4, h5⟩, h6⟩ := hcfg
  exact recover_never_panics E h1 h2 hcost h3 (inputOk_of_B h4) c h5 ((isPathB_iff _ _).mp h6) hs hhs
    avoid lexStart win sfuel

/-- **In a run of the modelled recovering parser no call of the recoverer panics.** On an automaton that
passes `Cert.check`, with `stateActionsExactB`, costs ≥ 1, `PARSE_AT_LEAST ≥ 1` and an input of real
tokens, for every `HashSet` order, `%avoid_insert` set, lexeme offsets, window, search budget and driver
fuel, from every start configuration inside the input whose stack is a path (the initial one,
`⟨[start], 0⟩`, is): every configuration at which the driver consults the recoverer (`recCalls`) is an
error configuration (`errCfg`) whose stack is a path of the automaton — the hypotheses of
`recover_never_panics` are INVARIANTS of the run, not assumptions about it (`feed` keeps paths,
`C07.feed_path`; the recoverer hands back the stack `applySeq` of its first sequence leaves, a path,
`C07.applySeq_isPath`) — and there the outcome of the modelled `recover` is never `panicked`. -/
theorem recover_never_panics_in_a_run (E : Env) (hc : Cert.check E.G E.A = true)
    (hsa : stateActionsExactB E.G E.A = true) (hcost : ∀ t, 1 ≤ E.cost t) (hN : 1 ≤ E.N)
    (hw : Cert.InputOk E.G E.w) (hs : List Seq → List Seq) (hhs : HashSetLike hs)
    (avoid : Nat → Bool) (lexStart : Nat → Nat) (win sfuel : Nat) (fuel : Nat) (c0 : Pos)
    (hp0 : Term.IsPath E.A c0.stack) (hc0 : c0.pos ≤ E.w.length) :
    ∀ c ∈ recCalls E.G E.A E.w (cpctRecover E hs avoid lexStart win sfuel) fuel c0,
      errCfg E.G E.A E.w c = true ∧ Term.IsPath E.A c.stack ∧
      cpctOutcome E hs avoid lexStart win sfuel c ≠ .panicked :=
  cpct_calls_never_panic (tableOK_of_cert hc hsa hcost hN) (Cert.check_props E.G E.A hc) hw hhs fuel c0 hp0 hc0

/-- **Capstone without the escape for panics: every error of a run is repaired minimally, or has no
repair, or the budget ran out.** Under the hypotheses of `recover_never_panics_in_a_run`, at every call
`c` of the recoverer in a run of the modelled recovering parser EXACTLY one of three things happened —
there is no fourth case "the model panicked":
* `repaired`: sequences are reported, parsing continues, and — if the candidates end inside the
  `TRY_PARSE_AT_MOST` window (`WithinWindow`, as in `cpct_reports_minimum_cost_repairs_at_every_error`) —
  there is a cost `k` such that for every cap `≥ k` the reference `refRepairs` of THAT configuration
  answers `k` with exactly the reported set;
* `noRepair`: nothing is reported and no repair sequence of representable cost exists there;
* `outOfBudget`: nothing is reported because the model's fuel ran out — the search's (`dijkstra … =
  .fuelOut`; the real code: its deadline) or the `FUEL` of one `feed` on a path stack (`FeedStuck`). -/
theorem cpct_every_error_repaired_minimally_or_no_repair_or_out_of_budget (E : Env)
    (hc : Cert.check E.G E.A = true) (hsa : stateActionsExactB E.G E.A = true)
    (hcost : ∀ t, 1 ≤ E.cost t) (hN : 1 ≤ E.N) (hw : Cert.InputOk E.G E.w)
    (hs : List Seq → List Seq) (hhs : HashSetLike hs) (avoid : Nat → Bool) (lexStart : Nat → Nat)
    (win sfuel : Nat) (fuel : Nat) (c0 : Pos) (hp0 : Term.IsPath E.A c0.stack)
    (hc0 : c0.pos ≤ E.w.length) :
    ∀ c ∈ recCalls E.G E.A E.w (cpctRecover E hs avoid lexStart win sfuel) fuel c0,
      (cpctOutcome E hs avoid lexStart win sfuel c = .repaired ∧
        ∃ c' rs, cpctRecover E hs avoid lexStart win sfuel c = some (c', rs) ∧ rs ≠ [] ∧
          (WithinWindow E c win → ∃ k, ∀ cap, k ≤ cap →
            ∃ ref, refRepairs E.G E.A E.w E.cost E.N win c cap = some (k, ref) ∧ ∀ r, r ∈ ref ↔ r ∈ rs)) ∨
      (cpctOutcome E hs avoid lexStart win sfuel c = .noRepair ∧
        cpctRecover E hs avoid lexStart win sfuel c = none ∧
        ∀ k, k ≤ U16MAX → ∀ seq, ¬ Search E.G E.A E.w E.cost E.N ⟨c, [], 0⟩ k seq) ∨
      (cpctOutcome E hs avoid lexStart win sfuel c = .outOfBudget ∧
        cpctRecover E hs avoid lexStart win sfuel c = none ∧
        (dijkstra E sfuel c = .fuelOut ∨ FeedStuck E.G E.A)) := by
  intro c hcall
  have hT := tableOK_of_cert hc hsa hcost hN
  have P := Cert.check_props E.G E.A hc
  obtain ⟨he, hp, hnp⟩ := cpct_calls_never_panic (avoid := avoid) (lexStart := lexStart) (win := win)
    (fuel := sfuel) hT P hw hhs fuel c0 hp0 hc0 c hcall
  have H := hyps_of_errCfg hT he
  obtain ⟨_, hno, hwin⟩ := (cpct_reports_minimum_cost_repairs_at_every_error E hT hs hhs avoid lexStart win
    sfuel fuel c0 hc0 []).2 c hcall
  cases ho : cpctOutcome E hs avoid lexStart win sfuel c with
  | panicked => exact absurd ho hnp
  | outOfBudget => exact Or.inr (Or.inr ⟨rfl, cpctOutcome_outOfBudget H P hw hp hhs ho⟩)
  | noRepair => exact Or.inr (Or.inl ⟨rfl, (cpctOutcome_noRepair ho).2, hno ho⟩)
  | repaired =>
    obtain ⟨c', rs, hrec, hne⟩ := cpctOutcome_repaired ho
    exact Or.inl ⟨rfl, c', rs, hrec, hne, fun hw' => hwin hw' c' rs hrec⟩

/-! Tests: the hypotheses are satisfiable, the model computes, and the hypothesis of the second part
of `simplify_ranked` is needed. -/
example : HashSetLike dedup := hashSetLike_dedup
example (la : Nat) (rs : List Repair) : WellLexed la (attach la rs) = true := wellLexed_attach la rs
example : ∀ i j : Nat, 3 * i + 1 = 3 * j + 1 → i = j :=
  fun _ _ h => Nat.eq_of_mul_eq_mul_left (Nat.succ_pos 2) (Nat.add_right_cancel h)

/-- `S: 'a' 'b'` (tokens a = 0, b = 1, end-of-input = 2; rules ^ = 0, S = 1; productions
0 = S → a b, 1 = ^ → S) -/
def exG : Grammar := ⟨3, 2, 2, 1, [(1, [.tok 0, .tok 1]), (0, [.rule 1])], [], []⟩
def exSt (actions : List Act) (gotos : List (Option Nat)) : StateD := ⟨[], [], [], actions, gotos, [], [], [], false⟩
def exA : Automaton :=
  ⟨0, [exSt [.shift 1, .error, .error] [none, some 2], exSt [.error, .shift 3, .error] [none, none],
       exSt [.error, .error, .accept] [none, none], exSt [.error, .error, .reduce 0] [none, none]], [], []⟩
example : EofNeverShifted exG exA := eofNeverShifted_of_check (by decide)
/-- input `a a b`, error at the second `a` (state 1 on top): inserting `b` gets nowhere, deleting the
`a` lets the parse reach the end — only the second group survives -/
example : rankCnds exG exA [0, 0, 1] 250 ⟨[1, 0], 1⟩ [[[.insert 1]], [[.delete 1, .shift 2], [.delete 1]]] =
    some [[.delete 1, .shift 2], [.delete 1]] := by decide +kernel
example : rankCnds exG exA [0, 0, 1] 250 ⟨[1, 0], 1⟩ [[[.insert 1]], []] = none := by decide +kernel
example : postProcess dedup (fun _ => false) (fun i => 3 * i + 1) exG exA [0, 0, 1] 250 ⟨[1, 0], 1⟩
    [[[.insert 1]], [[.delete 1, .shift 2], [.delete 1]]] = some [[.delete 1]] := by decide +kernel
example : simplify dedup (fun t => t == 7) (fun i => 3 * i + 1)
    [[.insert 7, .shift 4], [.delete 4, .shift 5, .shift 6], [.insert 2, .insert 3], [.delete 4],
     [.insert 3, .insert 2], [.insert 1, .shift 4, .shift 5]] =
    [[.insert 1], [.delete 4], [.insert 2, .insert 3], [.insert 3, .insert 2], [.insert 7]] := by decide +kernel
example : simplify dedup (fun _ => false) (fun _ => 0) [[.delete 0], [.delete 1]] ≠
    simplify dedup (fun _ => false) (fun _ => 0) [[.delete 1], [.delete 0]] := by decide +kernel

/-! Tests for the search theorems: a concrete instance satisfies `Hyps`, the modelled search ends
properly on it, and it merges nodes. -/

/-- `S: T 'd' 'c'; T: 'a' | 'b'` (tokens a b c d = 0 1 2 3, end-of-input = 4; rules ^ S T = 0 1 2;
productions 0 = S → T d c, 1 = T → a, 2 = T → b, 3 = ^ → S) -/
def mG : Grammar := ⟨5, 3, 4, 3, [(1, [.rule 2, .tok 3, .tok 2]), (2, [.tok 0]), (2, [.tok 1]), (0, [.rule 1])], [], []⟩
def mSt (actions : List Act) (gotos : List (Option Nat)) (sa : List Nat) : StateD :=
  ⟨[], [], [], actions, gotos, sa, [], [], false⟩
def mA : Automaton :=
  ⟨0, [mSt [.shift 1, .shift 2, .error, .error, .error] [none, some 3, some 4] [0, 1],
       mSt [.error, .error, .error, .reduce 1, .error] [none, none, none] [3],
       mSt [.error, .error, .error, .reduce 2, .error] [none, none, none] [3],
       mSt [.error, .error, .error, .error, .accept] [none, none, none] [4],
       mSt [.error, .error, .error, .shift 5, .error] [none, none, none] [3],
       mSt [.error, .error, .shift 6, .error, .error] [none, none, none] [2],
       mSt [.error, .error, .error, .error, .reduce 0] [none, none, none] [4]], [], []⟩
def mE : Env := ⟨mG, mA, [2], fun _ => 1, 3⟩
/-- input `c`: the error is at the first lexeme in the start state. The two minimum-cost repairs `Insert b,
Insert d` and `Insert a, Insert d` reach the same stack at the same position: the second node is MERGED
into the first (one returned node, two sequences) -/
example : (match dijkstra mE 100 ⟨[0], 0⟩ with
    | .ok l => l.map (fun (n : PNode) => (n.cf, traverse n.repairs))
    | _ => []) = [(2, [[.insert 1, .insert 3, .shift], [.insert 0, .insert 3, .shift]])] := by decide +kernel

/-- the hypotheses of the search theorems hold of this instance (through the decidable check) -/
example : Hyps mE ⟨[0], 0⟩ := hyps_decidable mE _ (fun _ => Nat.le_refl _) (by decide +kernel)
example : checkHyps mE ⟨[0], 0⟩ = true := by decide +kernel
/-- the window hypothesis of `recover_eq_reference` holds of this instance (the input is shorter than
the window) -/
example : WithinWindow mE ⟨[0], 0⟩ 250 := withinWindow_of_short (by decide) (by decide)
/-- the whole modelled `recover` on this instance: both repairs are reported, trailing Shifts
stripped, in content order; parsing continues after `Insert a, Insert d` -/
example : (match recoverImpl mE dedup (fun _ => false) (fun i => 3 * i + 1) 250 100 ⟨[0], 0⟩ with
    | .ok (c', out) => some (c'.stack, c'.pos, out)
    | _ => none) = some ([5, 4, 0], 0, [[.insert 0, .insert 3], [.insert 1, .insert 3]]) := by decide +kernel
/-- … and it is what the reference answers -/
example : refRepairs mE.G mE.A mE.w mE.cost mE.N 250 ⟨[0], 0⟩ 2 =
    some (2, [[.insert 0, .insert 3], [.insert 1, .insert 3]]) := by decide +kernel

/-- the merge closure on two chains: the result expands to both sequences, the kept node's first -/
example : (mergeRepairs (.rep (.rep .term (.insert 1)) (.insert 3)) (.rep (.rep .term (.insert 0)) (.insert 3))).map
    traverse = some [[.insert 1, .insert 3], [.insert 0, .insert 3]] := by decide


/-! Tests for the capstone (`Lemmas/CpctEx.lean`: the certified merged LALR table with its
`state_actions` view, input `x a d`): the run consults the modelled recoverer once, at the configuration
left by the reduction kept under the refused `d`; the hypotheses hold there; the conclusion is the
evaluated one. -/
example : recCalls C05.exG2 exA3 [0, 2, 4] exRec 10 ⟨[0], 0⟩ = [⟨[4, 2, 0], 2⟩] := by decide +kernel
example : TableOK exE := tableOK_of_cert (C05.wholeRunCert_unpack ex3_cert).1 ex3_sa ex3_cost (by decide)
example : WithinWindow exE ⟨[4, 2, 0], 2⟩ 250 := withinWindow_of_short (by decide) (by decide)
/-- the conclusion of `cpct_reports_minimum_cost_repairs_at_every_error` at that call, from the theorem:
the reference answers cost 2 with exactly the reported set … -/
example : ∃ k, ∀ cap, k ≤ cap → ∃ ref, refRepairs C05.exG2 exA3 [0, 2, 4] (fun _ => 1) 3 250 ⟨[4, 2, 0], 2⟩ cap = some (k, ref) ∧
    ∀ r, r ∈ ref ↔ r ∈ [[Repair.insert 3, Repair.delete]] :=
  ((cpct_reports_minimum_cost_repairs_at_every_error exE
    (tableOK_of_cert (C05.wholeRunCert_unpack ex3_cert).1 ex3_sa ex3_cost (by decide)) dedup
    hashSetLike_dedup (fun _ => false) (fun i => 3 * i + 1) 250 200 10 ⟨[0], 0⟩ (by decide) []).2 ⟨[4, 2, 0], 2⟩
    (by decide +kernel)).2.2 (withinWindow_of_short (by decide) (by decide)) ⟨[9, 4, 2, 0], 3⟩ [[.insert 3, .delete]] (by decide +kernel)
/-- … and by evaluation -/
example : refRepairs C05.exG2 exA3 [0, 2, 4] (fun _ => 1) 3 250 ⟨[4, 2, 0], 2⟩ 2 =
    some (2, [[.insert 3, .delete]]) := by decide +kernel
/-- the reported sequence (it ends in no Shift: stripping leaves it as it is) repairs -/
example : validSeq C05.exG2 exA3 [0, 2, 4] 3 ⟨[4, 2, 0], 2⟩ (stripShifts [.insert 3, .delete]) = true := by decide +kernel

/-! Tests for panic-freedom (`recover_never_panics`): the decidable hypotheses hold of the instance of
`Lemmas/CpctEx.lean` at the error of the input `x a d`; the conclusion from the theorem and by
evaluation; each of the hypotheses "the stack is a path" and `PARSE_AT_LEAST ≥ 1` is needed — without it
the model DOES panic. -/
example : noPanicTableB exE.G exE.A exE.N = true :=
  noPanicTableB_of (C05.wholeRunCert_unpack ex3_cert).1 ex3_sa (by decide)
example : noPanicCfgB exE.G exE.A exE.w ⟨[4, 2, 0], 2⟩ = true := by decide +kernel
example : Term.IsPath exA3 [4, 2, 0] := (isPathB_iff _ _).mp (by decide +kernel)
example : cpctOutcome exE dedup (fun _ => false) (fun i => 3 * i + 1) 250 200 ⟨[4, 2, 0], 2⟩ ≠ .panicked :=
  (recover_never_panics_checked exE ex3_cost
    (noPanicTableB_of (C05.wholeRunCert_unpack ex3_cert).1 ex3_sa (by decide)) ⟨[4, 2, 0], 2⟩ (by decide +kernel) dedup
    hashSetLike_dedup (fun _ => false) (fun i => 3 * i + 1) 250 200).2.2.2
example : cpctOutcome exE dedup (fun _ => false) (fun i => 3 * i + 1) 250 200 ⟨[4, 2, 0], 2⟩ = .repaired := by
  decide +kernel
/-- a budget of 3 iterations: out of budget, not a panic -/
example : cpctOutcome exE dedup (fun _ => false) (fun i => 3 * i + 1) 250 3 ⟨[4, 2, 0], 2⟩ = .outOfBudget := by
  decide +kernel
/-- the stack `[4]` is not a path (state 4 is not the start state); the top state refuses the next lexeme
(`errCfg` holds), and the model panics: the reduction the inserted token asks for pops below the stack -/
example : errCfg exE.G exE.A exE.w ⟨[4], 2⟩ = true ∧ isPathB exA3 [4] = false ∧
    cpctOutcome exE dedup (fun _ => false) (fun i => 3 * i + 1) 250 200 ⟨[4], 2⟩ = .panicked := by
  decide +kernel
/-- with `PARSE_AT_LEAST = 0` the start node is a success node without repairs and `rank_cnds` indexes an
empty group: the model panics -/
example : cpctOutcome { exE with N := 0 } dedup (fun _ => false) (fun i => 3 * i + 1) 250 200 ⟨[4, 2, 0], 2⟩ =
    .panicked := by decide +kernel
/-- the whole run on `x a d`: one call of the recoverer, which does not panic — from the theorem -/
example : ∀ c ∈ recCalls C05.exG2 exA3 [0, 2, 4] exRec 10 ⟨[0], 0⟩,
    cpctOutcome exE dedup (fun _ => false) (fun i => 3 * i + 1) 250 200 c ≠ .panicked := fun c hc =>
  (recover_never_panics_in_a_run exE (C05.wholeRunCert_unpack ex3_cert).1 ex3_sa ex3_cost (by decide)
    ex3_inputOk dedup hashSetLike_dedup (fun _ => false) (fun i => 3 * i + 1) 250 200 10 ⟨[0], 0⟩
    (Term.IsPath.start exA3) (by decide) c hc).2.2

end GrmVerif.C06
