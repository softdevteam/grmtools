import GrmVerif.Lemmas.OrderIndep
/-!
# C15 — the same sources always produce the same grammar, table and generated code

Property theorems only (helper lemmas: `GrmVerif/Lemmas/OrderIndep.lean`; model:
`GrmVerif/Model/OrderIndep.lean`). Every place where cfgrammar/lrtable iterate a randomly seeded
`HashMap`/`HashSet` and the result *could* depend on the order (audit: `tools/propcfg/C15.py`) is
modelled with the iteration order as a parameter; the theorems quantify over ALL orders
(`List.Perm`, or an arbitrary reordering strategy `σ`). Thread interleavings of the `OnceLock` first
use are NOT modelled (observed by the harness only).
-/
namespace GrmVerif.C15
open GrmVerif.OrderIndep

/-- **(a) `%avoid_insert`.** The bit vector does not depend on the order in which the key set of
`ast.avoid_insert` is iterated. -/
theorem avoid_insert_order_indep (ntoks : Nat) (o₁ o₂ : List Nat) (h : o₁.Perm o₂) :
    avoidInsert ntoks o₁ = avoidInsert ntoks o₂ :=
  foldl_setBit_perm h _

/-- **(b) `gc`.** Whatever element the hash order hands out next (`σ` reorders the work set arbitrarily
on every turn), a terminating run returns exactly the states reachable from the start state. -/
theorem gc_reach_spec (edges : Nat → List Nat) (σ : List Nat → List Nat) (hσ : ∀ l, (σ l).Perm l)
    (start fuel : Nat) (r : List Nat) (h : gcLoop edges σ fuel [start] [] = some r) (x : Nat) :
    x ∈ r ↔ Reach edges start x := by
  refine gcLoop_spec hσ fuel [start] [] r ⟨?_, Or.inl List.mem_cons_self, nofun⟩ h x
  intro y hy
  cases hy.resolve_right List.not_mem_nil with
  | head => exact Reach.refl
  | tail _ h => cases h

/-- **(b) order independence of `gc`.** Two runs with different visiting orders keep the same set of
states (so the renumbering `offsets`, which is computed from that set in index order, is the same). -/
theorem gc_reach_order_indep (edges : Nat → List Nat) (σ₁ σ₂ : List Nat → List Nat)
    (h₁ : ∀ l, (σ₁ l).Perm l) (h₂ : ∀ l, (σ₂ l).Perm l) (start f₁ f₂ : Nat) (r₁ r₂ : List Nat)
    (e₁ : gcLoop edges σ₁ f₁ [start] [] = some r₁) (e₂ : gcLoop edges σ₂ f₂ [start] [] = some r₂)
    (x : Nat) : x ∈ r₁ ↔ x ∈ r₂ :=
  (gc_reach_spec edges σ₁ h₁ start f₁ r₁ e₁ x).trans (gc_reach_spec edges σ₂ h₂ start f₂ r₂ e₂ x).symm

/-- **(c) the UNREPAIRED numbering depends on the order**: two orders of the same implicit-token map
give different production numberings. -/
theorem implicit_prods_order_DEPENDENT :
    ∃ (base : Nat) (o₁ o₂ : List Nat), o₁.Perm o₂ ∧ implicitProdsOrig base o₁ ≠ implicitProdsOrig base o₂ :=
  ⟨0, [0, 1], [1, 0], List.Perm.swap 1 0 [], by decide⟩

/-- … in fact EVERY two different iteration orders give different numberings (so with k implicit tokens
there are k! possible grammars for one source). -/
theorem implicit_prods_orig_injective (base : Nat) (o₁ o₂ : List Nat)
    (h : implicitProdsOrig base o₁ = implicitProdsOrig base o₂) : o₁ = o₂ := by
  have := congrArg (fun p => p.1.map Prod.snd) h
  simpa [implicitProdsOrig, number_snd] using this

/-- **(c) the REPAIRED numbering is order independent.** -/
theorem implicit_prods_order_indep (base : Nat) (o₁ o₂ : List Nat) (h : o₁.Perm o₂) :
    implicitProds base o₁ = implicitProds base o₂ := by
  simp only [implicitProds, sortNat_perm_eq h]

/-- what the repaired numbering is: the implicit tokens in increasing token-index order (a
rearrangement of the key set), on consecutive production indices from `base`, the empty production
right after them. -/
theorem implicit_prods_sorted (base : Nat) (o : List Nat) :
    ((implicitProds base o).1.map Prod.snd).Pairwise (· ≤ ·) ∧
    ((implicitProds base o).1.map Prod.snd).Perm o ∧
    (implicitProds base o).1.map Prod.fst = List.range' base o.length ∧
    (implicitProds base o).2 = base + o.length := by
  have hl : (sortNat o).length = o.length := (sortNat_perm o).length_eq
  simp only [implicitProds, implicitProdsOrig, number_snd, number_fst, hl]
  exact ⟨sortNat_sorted o, sortNat_perm o, trivial, trivial⟩

/-- **action/goto cells.** The edges of a state have distinct symbols, every edge writes the cell of its
own symbol: the filled row does not depend on the order in which `sg.edges(stidx)` is iterated. -/
theorem edges_fill_order_indep (tbl : List Nat) (e₁ e₂ : List (Nat × Nat)) (h : e₁.Perm e₂)
    (hd : (e₁.map Prod.fst).Nodup) : fillCells tbl e₁ = fillCells tbl e₂ :=
  fillCells_perm h hd tbl

/-! ### tests (hypotheses satisfiable, definitions compute what they should) -/
example : avoidInsert 4 [2, 0] = [true, false, true, false] := by decide +kernel
example : implicitProdsOrig 5 [3, 1] = ([(5, 3), (6, 1)], 7) := by decide +kernel
example : implicitProds 5 [3, 1] = ([(5, 1), (6, 3)], 7) := by decide +kernel
example : gcLoop (fun s => if s = 0 then [2] else []) id 5 [0] [] = some [2, 0] := by decide +kernel
example : gcLoop (fun s => if s = 0 then [2, 1] else if s = 1 then [0] else []) List.reverse 9 [0] [] = some [2, 1, 0] := by decide +kernel
example : fillCells [0, 0, 0] [(2, 4), (0, 1)] = [2, 0, 5] := by decide +kernel

end GrmVerif.C15
