import GrmVerif.Lemmas.Table
/-!
# C03 — conflicts are resolved by Yacc's rules and reported exactly

Model: `Model/Table.lean` (`cellOf` = the life of one action-table cell in `StateTable::new`:
reduce/accept loop over the closed items in hash-map iteration order, then the edge loop with
`resolve_shift_reduce`). Specification: `Lemmas/TableSpec.lean` (`specReduce`, `specSR`,
`specCell`). The production precedence itself (`%prec` token, else last token) is part of grammar
construction and is covered under C10 (`prod_prec_spec`).
-/
namespace GrmVerif.C03
open GrmVerif GrmVerif.Table

/-- **Every cell holds the action Yacc prescribes.** For the closed items of a state in ANY
iteration order (`R` = the candidate reductions in that order, duplicate-free because item keys
are unique), the optional shift edge on `t`, and consistent precedence declarations: the model of
`StateTable::new` leaves in the cell exactly `specCell` — earliest production among the reductions;
then the shift against that winner by precedence/associativity, `%nonassoc` ⇒ error, shift when
either side lacks a precedence —, records `|R| − 1` reduce/reduce pairs `(kept < displaced)` drawn
from `R`, records the shift/reduce conflict exactly when the default rule was used, and lists the
token under `state_actions` exactly when the final action is not an error. An accepting item
clashing with a reduction is the hard accept/reduce error. `hacc`: a cell that holds Accept has no shift
edge on its token (the token is `$`, which occurs in no right-hand side); `StateTable::new` panics there
(`Action::Accept => panic!("Internal error")`), and so does the model. -/
theorem table_cell_spec (G : Grammar) (items : List Item) (tgt : Option Nat) (t : Nat)
    (hnd : (reduceCands G items t).Nodup) (hprec : precConsistent G = true)
    (hacc : specReduce G t (reduceCands G items t) = some .accept → tgt = none) :
    match specCell G (reduceCands G items t) tgt t with
    | none => ∃ o, cellOf G items tgt t = .acceptReduce o
    | some (a, nrr, sr) =>
      ∃ rr, cellOf G items tgt t = .ok a rr sr (decide (a ≠ .error)) ∧ rr.length = nrr ∧
        ∀ kd ∈ rr, kd.1 < kd.2 ∧ kd.1 ∈ reduceCands G items t ∧ kd.2 ∈ reduceCands G items t := by
  have hR := reducePhase_spec G t (reduceCands G items t) hnd
  unfold specCell cellOf
  cases hs : specReduce G t (reduceCands G items t) with
  | none =>
    rw [hs] at hR
    obtain ⟨o, ho⟩ := hR
    simp only [ho]; exact ⟨o, rfl⟩
  | some base =>
    rw [hs] at hR
    obtain ⟨rr, h1, h2, h3⟩ := hR
    -- the bit the loop sets says whether it left an error, and it leaves no shift
    obtain ⟨hflag, hnoshift⟩ := reducePhase_ok G t _ base rr h1
    simp only [h1]
    cases tgt with
    | none => exact ⟨rr, by rw [hflag], h2, h3⟩
    | some tg =>
      cases base with
      | error =>
        refine ⟨rr, ?_, h2, h3⟩
        simp [shiftStep]
      | shift x => exact absurd rfl (hnoshift x)
      | accept =>
        have := hacc hs; cases this
      | reduce r =>
        have hsr := resolveSR_spec ((G.tokPrec[t]?).getD none) ((G.prodPrec[r]?).getD none) tg r
          (precConsistent_cond G hprec t r)
        simp only [shiftStep, hsr]
        refine ⟨rr, ?_, h2, h3⟩
        cases hsp : specSR ((G.tokPrec[t]?).getD none) ((G.prodPrec[r]?).getD none) tg r with
        | mk a rep =>
          cases rep <;> cases a <;> rfl

/-- **Order independence.** Permuting the iteration order of the items changes neither the cell,
nor the number of reported reduce/reduce conflicts, nor the reported shift/reduce conflict. (The
identity of the reduce/reduce *pairs* may change when three or more productions compete; their
number and the winner do not.) -/
theorem table_order_indep (G : Grammar) (R R' : List Nat) (tgt : Option Nat) (t : Nat) (h : R.Perm R') :
    specCell G R tgt t = specCell G R' tgt t := by
  have hmem : ∀ x, x ∈ R ↔ x ∈ R' := fun x => h.mem_iff
  have hlen : R.length = R'.length := h.length_eq
  have hnil : R = [] ↔ R' = [] := by
    constructor
    · intro e; subst e; exact h.nil_eq.symm
    · intro e; subst e; exact h.eq_nil
  have hred : specReduce G t R = specReduce G t R' := by
    unfold specReduce
    by_cases he : R = []
    · simp [he, hnil.mp he]
    · have he' : R' ≠ [] := fun e => he (hnil.mpr e)
      simp only [he, he', ↓reduceIte, hmem, hlen, minList_congr R R' hmem he]
  unfold specCell
  rw [hred, hlen]

/-- what ties `table_order_indep` to the model: under two iteration orders of the items the candidate lists that
`cellOf` works on are permutations of each other -/
theorem reduceCands_perm (G : Grammar) (items items' : List Item) (t : Nat) (h : items.Perm items') :
    (reduceCands G items t).Perm (reduceCands G items' t) :=
  (h.filter _).map _

/-- **Reported conflicts are exactly the pairs settled by the two default rules** (cell level):
a shift/reduce conflict is reported iff a shift edge met a winning reduction and the token or the
production had no precedence; the number of reduce/reduce conflicts reported for the cell is the
number of candidate reductions minus one. -/
theorem conflicts_exact (G : Grammar) (R : List Nat) (tgt : Option Nat) (t : Nat) (a : Act) (nrr : Nat)
    (sr : Option Nat) (h : specCell G R tgt t = some (a, nrr, sr)) :
    nrr = R.length - 1 ∧
    (∀ r, sr = some r ↔ ∃ tg, tgt = some tg ∧ specReduce G t R = some (.reduce r) ∧
      ((G.tokPrec[t]?).getD none = none ∨ (G.prodPrec[r]?).getD none = none)) := by
  unfold specCell at h
  cases hs : specReduce G t R with
  | none => rw [hs] at h; cases h
  | some base =>
    rw [hs] at h
    cases tgt with
    | none => cases h; exact ⟨rfl, fun r => ⟨nofun, fun ⟨_, h, _⟩ => nomatch h⟩⟩
    | some tg =>
      cases base with
      | reduce r0 =>
        have hrep := specSR_reported ((G.tokPrec[t]?).getD none) ((G.prodPrec[r0]?).getD none) tg r0
        dsimp only at h
        cases hsp : specSR ((G.tokPrec[t]?).getD none) ((G.prodPrec[r0]?).getD none) tg r0 with
        | mk a' rep =>
          rw [hsp] at h hrep
          cases h
          refine ⟨rfl, fun r => ⟨fun hr => ?_, ?_⟩⟩
          · cases rep with
            | false => cases hr
            | true => cases hr; exact ⟨tg, rfl, rfl, hrep.mp rfl⟩
          · rintro ⟨_, _, hr0, hmiss⟩
            cases hr0
            rw [hrep.mpr hmiss]; rfl
      | _ => cases h; exact ⟨rfl, fun r => ⟨nofun, fun ⟨_, _, h, _⟩ => nomatch h⟩⟩

/-- with unequal levels, or equal levels and equal kinds in 0..2, `resolve_shift_reduce` does not
reach `panic!("Not supported.")` -/
theorem prec_panic_unreachable (tp pp : Prec) (tgt r : Nat)
    (h : tp.level = pp.level → tp.kind = pp.kind ∧ tp.kind ≤ 2) :
    resolveSR (some tp) (some pp) tgt r ≠ none := by
  have := resolveSR_spec (some tp) (some pp) tgt r (by
    intro a b ha hb hl; cases ha; cases hb; exact h hl)
  rw [this]; simp

/-- `CTParserBuilder::build`'s decision, as written, the `else if` arm for a conflict-free table included:
`conflicts = none` when the table reports no conflict at all -/
def ctBuildFails (errOnConflicts : Bool) (conflicts : Option (Nat × Nat)) (expect expectrr : Option Nat) : Bool :=
  match errOnConflicts, conflicts with
  | true, some (sr, rr) =>
    match expect, expectrr with
    | some i, some j => !(i == sr && j == rr)
    | some i, none => !(i == sr && 0 == rr)
    | none, some j => !(0 == sr && j == rr)
    | none, none => !(0 == rr && 0 == sr)
  | true, none => expect.getD 0 != 0 || expectrr.getD 0 != 0
  | false, _ => false

/-- **A compile-time build fails iff the counts differ from `%expect` / `%expect-rr` (default 0).** -/
theorem expect_iff (errOnConflicts : Bool) (sr rr : Nat) (expect expectrr : Option Nat) :
    ctBuildFails errOnConflicts (if sr = 0 ∧ rr = 0 then none else some (sr, rr)) expect expectrr =
      (errOnConflicts && (sr != expect.getD 0 || rr != expectrr.getD 0)) := by
  -- "the counts are not the expected ones", as the `match` arms and as the right-hand side write it
  have hne : ∀ i j a b : Nat, (!(i == a && j == b)) = (a != i || b != j) := fun i j a b => by
    rw [Bool.not_and, bne, bne, BEq.comm (a := a), BEq.comm (a := b)]
  cases errOnConflicts
  · rfl
  · rw [Bool.true_and]
    by_cases h0 : sr = 0 ∧ rr = 0
    · obtain ⟨rfl, rfl⟩ := h0
      rw [if_pos ⟨rfl, rfl⟩]
      show (expect.getD 0 != 0 || expectrr.getD 0 != 0) = _
      rw [bne_comm, bne_comm (a := expectrr.getD 0)]
    · rw [if_neg h0]
      cases expect with
      | none =>
        cases expectrr with
        | none => show (!(0 == rr && 0 == sr)) = _; rw [Bool.and_comm]; exact hne 0 0 sr rr
        | some j => exact hne 0 j sr rr
      | some i =>
        cases expectrr with
        | none => exact hne i 0 sr rr
        | some j => exact hne i j sr rr

/-- tables of `E: E '+' E | 'n'` without precedences -/
def exNoPrec : Grammar :=
  { ntoks := 3, nrules := 2, eof := 2, startProd := 2, prods := []
    tokPrec := [none, none, none], prodPrec := [none, none, none] }
/-- the same with `%left '+'` -/
def exLeft : Grammar :=
  { ntoks := 3, nrules := 2, eof := 2, startProd := 2, prods := []
    tokPrec := [some ⟨0, 0⟩, none, none], prodPrec := [some ⟨0, 0⟩, none, none] }
/-- state after `E + E`: reduce by production 0 meets a shift on `+`; no precedences: shift wins and
the conflict is reported; with `%left`: reduce wins, nothing reported -/
example : specCell exNoPrec [0] (some 4) 0 = some (.shift 4, 0, some 0) := by decide
example : specCell exLeft [0] (some 4) 0 = some (.reduce 0, 0, none) := by decide
example : precConsistent exLeft = true := by decide
example : ctBuildFails true none (some 1) none = true := by decide

end GrmVerif.C03
