import GrmVerif.Lemmas.Width
/-!
# C20 — results are independent of the index storage width; too-small widths are refused cleanly

Property theorems only (helper lemmas: `GrmVerif/Lemmas/Width.lean`).  The model is
`GrmVerif/Model/Width.lean`: the size guards and `as_()` conversions of
`YaccGrammar::new_from_ast_with_validity_info` (repaired source), the state-count guards of
`pager.rs`/`stategraph.rs`/`statetable.rs`, the goto `+1` and action encodings, and the lexer's
`StorageT::try_from` for token ids.  `as_()` is truncation `n % 2^w`; a panic is `none`.

Every theorem holds for every width `w` (8, 16, 32 are instances; `action_roundtrip` asks `w ≤ 62`, the
two tag bits share a 64-bit `usize` with the index), every count and every list of production lengths.
-/
namespace GrmVerif.C20
open GrmVerif.Width

/-- **Guards prevent wrap-around.** If construction succeeds at width `w`, every reported size is the
true size (so nothing wrapped), every true size is `< 2^w`, and converting *any* rule, token,
production or symbol index of the grammar to `StorageT` is the identity. -/
theorem guards_prevent_wrap (w : Nat) (s : Src) (r : Sizes) (h : build w s = some r) :
    r = trueSizes s ∧
    s.rulesTrue < 2 ^ w ∧ s.tokensTrue < 2 ^ w ∧ s.prodsTrue < 2 ^ w ∧
    (∀ i, i ≤ s.rulesTrue → idx w i = i) ∧
    (∀ i, i ≤ s.tokensTrue → idx w i = i) ∧
    (∀ i, i ≤ s.prodsTrue → idx w i = i) ∧
    (∀ l ∈ s.prodLens, l < 2 ^ w ∧ ∀ d, d ≤ l → idx w d = d) := by
  obtain ⟨⟨hr, ht, hp, hs⟩, rfl⟩ := (build_eq_some_iff w s r).mp h
  have hid : ∀ {m}, m ≤ maxVal w → ∀ i, i ≤ m → idx w i = i :=
    fun hm i hi => trunc_of_le (Nat.le_trans hi hm)
  exact ⟨rfl, le_maxVal_iff.mp hr, le_maxVal_iff.mp ht, le_maxVal_iff.mp hp, hid hr, hid ht, hid hp,
    fun l hl => ⟨le_maxVal_iff.mp (hs l hl), hid (hs l hl)⟩⟩

/-- **Refusal is exact.** Construction is refused (the "not big enough" panic) precisely when some
size the grammar object has to store does not fit `w` bits: never an accepted grammar with a size that
does not fit, never a refusal of one whose sizes all fit. -/
theorem refused_iff_too_small (w : Nat) (s : Src) : build w s = none ↔ ¬ s.Fits w := by
  rw [Option.eq_none_iff_forall_ne_some]
  exact ⟨fun h hf => h _ ((build_eq_some_iff w s _).mpr ⟨hf, rfl⟩),
    fun h r hr => h ((build_eq_some_iff w s r).mp hr).1⟩

/-- **Widths agree.** Two widths that both accept a grammar report identical sizes and distinguished
indices, and number every rule, token, production and symbol position identically. -/
theorem widths_agree (w₁ w₂ : Nat) (s : Src) (r₁ r₂ : Sizes)
    (h₁ : build w₁ s = some r₁) (h₂ : build w₂ s = some r₂) :
    r₁ = r₂ ∧
    (∀ i, i ≤ s.rulesTrue → idx w₁ i = idx w₂ i) ∧
    (∀ i, i ≤ s.tokensTrue → idx w₁ i = idx w₂ i) ∧
    (∀ i, i ≤ s.prodsTrue → idx w₁ i = idx w₂ i) ∧
    (∀ l ∈ s.prodLens, ∀ d, d ≤ l → idx w₁ d = idx w₂ d) := by
  obtain ⟨e₁, _, _, _, a₁, b₁, c₁, d₁⟩ := guards_prevent_wrap w₁ s r₁ h₁
  obtain ⟨e₂, _, _, _, a₂, b₂, c₂, d₂⟩ := guards_prevent_wrap w₂ s r₂ h₂
  exact ⟨e₁.trans e₂.symm, fun i hi => (a₁ i hi).trans (a₂ i hi).symm,
    fun i hi => (b₁ i hi).trans (b₂ i hi).symm, fun i hi => (c₁ i hi).trans (c₂ i hi).symm,
    fun l hl d hd => ((d₁ l hl).2 d hd).trans ((d₂ l hl).2 d hd).symm⟩

/-- A wider storage type accepts whatever a narrower one accepts, with the same result. -/
theorem wider_accepts (w₁ w₂ : Nat) (hw : w₁ ≤ w₂) (s : Src) (r : Sizes)
    (h : build w₁ s = some r) : build w₂ s = some r := by
  obtain ⟨⟨hr, ht, hp, hs⟩, rfl⟩ := (build_eq_some_iff w₁ s r).mp h
  have hm := maxVal_mono hw
  exact (build_eq_some_iff w₂ s _).mpr
    ⟨⟨Nat.le_trans hr hm, Nat.le_trans ht hm, Nat.le_trans hp hm,
      fun l hl => Nat.le_trans (hs l hl) hm⟩, rfl⟩

/-- **State-count guards are sound.** If `pager_stategraph` returns a graph (all three guards passed:
`pre` core states before garbage collection, `post` after), `all_states_len()` is the true number of
states, it is `< 2^w - 1`, and every state index converts to `StorageT` unchanged. -/
theorem state_guards_sound (w pre post n : Nat) (h : stategraph w pre post = some n) :
    n = post ∧ post < maxVal w ∧ (pre ≤ 1 ∨ pre ≤ maxVal w) ∧ ∀ i, i ≤ post → stIdx w i = i := by
  obtain ⟨rfl, hp, hn⟩ := (stategraph_eq_some_iff w pre post n).mp h
  exact ⟨rfl, hn, hp, fun i hi => trunc_of_le (Nat.le_trans hi (Nat.le_of_lt hn))⟩

/-- Two widths that both build the state graph report the same number of states. -/
theorem state_widths_agree (w₁ w₂ pre post n₁ n₂ : Nat)
    (h₁ : stategraph w₁ pre post = some n₁) (h₂ : stategraph w₂ pre post = some n₂) : n₁ = n₂ := by
  rw [(state_guards_sound _ _ _ _ h₁).1, (state_guards_sound _ _ _ _ h₂).1]

/-- **The goto `+1` encoding fits.** If `StateTable::new`'s assertions pass for a graph with `n`
states (`n` as reported by a graph that was built, i.e. not wrapped), then for every state the cell
value `st + 1` is non-zero, fits `usize` and even fits `StorageT`, and `goto` decodes it to `st`. -/
theorem goto_plus_one_fits (w n rl : Nat) (h : tableOk w n rl = true) (st : Nat) (hst : st < n) :
    gotoEnc st ≠ 0 ∧ gotoEnc st < 2 ^ usizeBits ∧ gotoEnc st < maxVal w ∧
    gotoDec w (gotoEnc st) = some st := by
  unfold tableOk at h
  simp only [Bool.and_eq_true, decide_eq_true_eq] at h
  obtain ⟨⟨h1, _⟩, h3⟩ := h
  -- `st + 1 ≤ n`, and `n` is below both bounds even before the slack is given back
  have hu : st + 1 < 2 ^ usizeBits :=
    Nat.lt_of_le_of_lt hst (Nat.lt_of_lt_of_le h1 (Nat.le_trans (Nat.sub_le _ _) (Nat.sub_le _ _)))
  have hm : st + 1 < maxVal w := Nat.lt_of_le_of_lt hst (Nat.lt_of_lt_of_le h3 (Nat.sub_le _ _))
  refine ⟨Nat.succ_ne_zero st, hu, hm, ?_⟩
  simp [gotoEnc, gotoDec, trunc_of_le (Nat.le_of_lt (Nat.lt_trans (Nat.lt_succ_self st) hm))]

/-- **Actions survive the table.** A shift to a state / a reduction by a production whose index fits
`w` bits (`w ≤ 62`, so that the two tag bits fit a 64-bit `usize`) decodes to itself; so do accept
and error. -/
theorem action_roundtrip (w : Nat) (hw : w ≤ 62) (a : Action)
    (ha : match a with | .shift st => st < 2 ^ w | .reduce p => p < 2 ^ w | _ => True) :
    decode w (encode a) = a := by
  have hpow : 2 ^ w ≤ 2 ^ 62 := Nat.pow_le_pow_right (by decide) hw
  cases a with
  | shift st =>
    obtain ⟨h1, h2⟩ := tag_or_shl 1 st (by decide) (Nat.lt_of_lt_of_le ha hpow)
    simp only [encode, decode, Extracted.SHIFT, h1, h2, if_true, trunc_of_lt ha]
  | reduce p =>
    obtain ⟨h1, h2⟩ := tag_or_shl 2 p (by decide) (Nat.lt_of_lt_of_le ha hpow)
    simp only [encode, decode, Extracted.SHIFT, Extracted.REDUCE, h1, h2, trunc_of_lt ha]
    rfl
  | accept => rfl
  | error => rfl

/-- **Lexer token ids.** A lexer definition with `n` rules is accepted at width `w` iff `n ≤ 2^w`;
if accepted, rule `k` gets id `k` and every id is `< 2^w` (no wrapped id). -/
theorem lexer_ids_fit (w n : Nat) :
    (lexIds w n = some (List.range n) ∧ n ≤ 2 ^ w) ∨ (lexIds w n = none ∧ 2 ^ w < n) := by
  rw [lexIds, mapM_lexTokId]
  by_cases hn : n ≤ 2 ^ w
  · exact .inl ⟨if_pos fun k hk =>
      le_maxVal_iff.mpr (Nat.lt_of_lt_of_le (List.mem_range.mp hk) hn), hn⟩
  · have hlt := Nat.not_le.mp hn
    exact .inr ⟨if_neg fun h =>
      Nat.lt_irrefl _ (le_maxVal_iff.mp (h (2 ^ w) (List.mem_range.mpr hlt))), hlt⟩

/-! ### Tests (labelled as such): the hypotheses are satisfiable, and the defect is real -/

/-- test: a u8 grammar at the limit (254 user rules + `^` = 255 = `u8::MAX`) is accepted unwrapped -/
example : build 8 ⟨254, 254, [(255, 255), (0, 0)], false, none⟩ =
    some ⟨255, 255, 3, 254, 2, [255, 0, 1]⟩ := by decide +kernel

/-- test: one more rule is refused by the repaired guards -/
example : build 8 ⟨255, 1, [(1, 1)], false, none⟩ = none := by decide +kernel

/-- test (the defect repaired by `fix:` 4e65965): the unrepaired guards accept 255 user rules at u8 and the
constructor then reports `rules_len() = 0`; likewise 255 tokens give `tokens_len() = 0` -/
example : buildOld 8 ⟨255, 255, [(1, 1)], false, none⟩ = some ⟨0, 0, 2, 255, 1, [1, 1]⟩ := by decide +kernel

/-- test: Eco with two implicit tokens: three added rules, five added productions, doubled tokens -/
example : build 8 ⟨2, 4, [(2, 1), (127, 127)], true, some 2⟩ =
    some ⟨5, 5, 7, 4, 2, [3, 254, 1, 2, 2, 0, 2]⟩ := by decide +kernel

/-- test: the unrepaired guards let an Eco production of 128 tokens through; its length wraps to 0 -/
example : (buildOld 8 ⟨1, 2, [(128, 128)], true, some 1⟩).map (·.prodLens) =
    some [0, 1, 2, 0, 2] := by decide +kernel

/-- test: state counts at u8: 253 states pass everything, 254 only the graph, 255 and 256 nothing -/
example : stategraph 8 253 253 = some 253 ∧ tableOk 8 253 2 = true ∧
    stategraph 8 254 254 = some 254 ∧ tableOk 8 254 2 = false ∧
    stategraph 8 255 255 = none ∧ stategraph 8 256 256 = none := by
  have refused : ∀ k, ¬ k < maxVal 8 → stategraph 8 k k = none := fun k hk =>
    Option.eq_none_iff_forall_ne_some.mpr fun n h => hk ((stategraph_eq_some_iff 8 k k n).mp h).2.2
  exact ⟨(stategraph_eq_some_iff ..).mpr (by decide), by decide,
    (stategraph_eq_some_iff ..).mpr (by decide), by decide,
    refused 255 (by decide), refused 256 (by decide)⟩

/-- test: lexer ids at u8: 256 rules (ids 0..255) are accepted, 257 are refused -/
example : (lexIds 8 256).isSome = true ∧ lexIds 8 257 = none := by
  constructor
  · rcases lexer_ids_fit 8 256 with ⟨h, _⟩ | ⟨_, h⟩
    · simp [h]
    · exact absurd h (by decide)
  · rcases lexer_ids_fit 8 257 with ⟨_, h⟩ | ⟨h, _⟩
    · exact absurd h (by decide)
    · exact h

end GrmVerif.C20
