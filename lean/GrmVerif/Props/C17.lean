import GrmVerif.Lemmas.Total
import GrmVerif.Lemmas.Analyses
import GrmVerif.Lemmas.Costs
import GrmVerif.Lemmas.FollowsImpl
import GrmVerif.Lemmas.MaxCostsImpl
import GrmVerif.Lemmas.MaxCostsUB
import GrmVerif.Lemmas.MinSentenceTerm
import GrmVerif.Lemmas.MinSentencesTerm
import GrmVerif.Lemmas.MinSentencesTrees
/-!
# C17 — grammar analyses (FIRST, FOLLOW, nullable, reachability, costs) are exact

Three groups of theorems. About the references: the functions of `Model/AnalysesRef.lean`, `Model/CostsRef.lean`,
`Model/Recog.lean` are the specification-side computations the driver evaluates on every dumped grammar; whenever
they return a result it is *exactly* the textbook notion (`Lemmas/Analyses.lean`: `NullableR`, `FirstP`, `FollowP`,
`Reach`; `Lemmas/Costs.lean`: `Derives`), and they always return. About the Rust loops themselves, through the models
of `Model/FirstsFollowsImpl.lean`, `Model/CostsImpl.lean`, `Model/MinSentencesImpl.lean` (what each transcribes is said
at the head of its section): `YaccFirsts::new`, `YaccFollows::new`, `has_path`, `rule_min_costs`, `rule_max_costs`,
`min_sentence`, `min_sentences` neither panic (under the stated decidable conditions) nor run on, and compute exactly
the notions above. At the end, evaluated examples: the hypotheses are satisfiable and the findings reproduce.
The implementation's answers are compared with the references and with the models for equality on every run.
-/
namespace GrmVerif.C17
open GrmVerif Ref Spec

/-- **nullable / FIRST / FOLLOW exact.** -/
theorem analyses_exact (G : Grammar) (hwf : G.wf = true) (A : Analyses) (h : analyses G = some A) :
    (∀ r, r ∈ A.nullable ↔ NullableR G r) ∧
    (∀ r t, (r, t) ∈ A.first ↔ FirstP G r t) ∧
    (∀ r t, (r, t) ∈ A.follow ↔ FollowP G r t) :=
  Spec.analyses_exact G hwf A h

/-- **path query exact**: the reference reachable set from `A` is `Reach G A` (one or more
production steps; a rule reaches itself only through a cycle). -/
theorem has_path_spec (G : Grammar) (hwf : G.wf = true) (A : Nat) (R : List Nat)
    (h : reach G A = some R) : ∀ B, B ∈ R ↔ Reach G A B :=
  reach_exact G hwf A R h

/-- **minimal costs exact**: `none` means no token string is derivable; `some v` is the cost of a
derivable string and no derivable string is cheaper. For every token-cost function. -/
theorem min_cost_exact (G : Grammar) (hwf : G.wf = true) (tc : Nat → Nat) (c : List (Option Nat))
    (h : minCosts G tc = some c) (r : Nat) (hr : r < G.nrules) :
    (look c r = none → ¬ ∃ w, Derives G (.rule r) w) ∧
    (∀ v, look c r = some v →
      (∃ w, Derives G (.rule r) w ∧ cost tc w = v) ∧ ∀ w, Derives G (.rule r) w → v ≤ cost tc w) :=
  (minCosts_minTable hwf h).exact hwf hr

/-- **maximal cost, upper half**: a bound table that passes the certificate check bounds every
derivable string of every rule it claims bounded. (Used with the implementation's own answers as
the table: each `Some v` it reports is then a proven upper bound.) -/
theorem max_cost_upper_bound (G : Grammar) (tc : Nat → Nat) (prodv : Nat → Bool) (ub : Nat → Option Nat)
    (hcert : upperBoundOk G tc prodv ub = true)
    (hprod : ∀ q, prodv q = false → ¬ ∃ w, Derives G (.rule q) w)
    (r b : Nat) (hb : ub r = some b) (w : List Nat) (hw : Derives G (.rule r) w) : cost tc w ≤ b :=
  derives_upper hcert hprod hw b (by simpa [symCost] using hb)

/-- **derivability check sound**: what the bounded recogniser accepts is derivable (used for the
generated minimal sentences and for the maximal-cost witnesses). -/
theorem recog_sound (G : Grammar) (allow : Nat → Bool) (fuel : Nat) (s : Sym) (w : List Nat)
    (h : recogSym G allow fuel s w = true) : Derives G s w :=
  recogSym_sound G allow fuel s w h

/-! The full statement for maximal costs — "the reported value is the exact maximum, `None` exactly
when the costs of derivable strings are unbounded" — is decided per grammar by the driver as:
upper half by `max_cost_upper_bound` on the implementation's table, lower half by a witness string
(from `maxIter`) accepted by `recog_sound`. The "unbounded" verdict itself is NOT proved in Lean
(it needs a pumping argument; DESIGN.md §5 C17, "Not proved"); what the code answers is settled by
`max_costs_impl_spec` / `max_costs_impl_unbounded_none` below. -/

/-- **the reference analyses terminate**: nullable, FIRST and FOLLOW are each computed with
`|universe| + 1` rounds of fuel, and every non-final round adds a fact (`Fix.lfp_total`), so the
references used as oracle here (and as lookahead oracle by C01/C02/C04/C16) never answer "fuel
exhausted", for any grammar. -/
theorem reference_analyses_total (G : Grammar) : ∃ An, analyses G = some An := Total.analyses_total G

/-- likewise the reference rule reachability -/
theorem reference_reach_total (G : Grammar) (A : Nat) : ∃ R, reach G A = some R := Total.reach_total G A

/-! ### the Rust algorithms themselves

`Model/FirstsFollowsImpl.lean` transcribes the loops of `YaccFirsts::new` (firsts.rs) and
`YaccFollows::new` (follows.rs): rules and productions in index order, the token loop of every row
union, the epsilon bits, the early `break`s, the right-to-left pass over a production with its local
`epsilon`, the `changed` flag; the outer `loop` takes fuel and an out-of-range symbol index is a panic.
The theorems below are about these models (the driver prints their answers next to the real code's on
every generated grammar, line `Mf`). -/

/-- **`YaccFirsts::new` is exact and terminates.** For every well-formed grammar the model of the
constructor neither panics nor needs more than `nrules·(ntoks+1)+1` rounds of its outer loop (every
round but the last sets a bit that was clear) — with that or any larger fuel it returns the same table
`fst` — and in `fst` the bit of rule `r` and token `t` is set exactly when `t` can begin a string
derived from `r` (`FirstP`), the epsilon bit of `r` exactly when `r` derives the empty string
(`NullableR`). -/
theorem firsts_impl_exact (G : Grammar) (hwf : G.wf = true) :
    ∃ fst : Impl.Firsts,
      (∀ fuel, G.nrules * (G.ntoks + 1) + 1 ≤ fuel → Impl.firstsNew G fuel = .done fst) ∧
      (∀ r t, fst.isSet r t = true ↔ FirstP G r t) ∧
      (∀ r, fst.isEpsilonSet r = true ↔ NullableR G r) := by
  obtain ⟨fst, h1, hx⟩ := Impl.firstsNew_exact G hwf
  exact ⟨fst, h1, hx.first, hx.eps⟩

/-- **`YaccFollows::new` is exact and terminates.** For every well-formed grammar, run on the table
`fst` that (the model of) `YaccFirsts::new` returns, the model of the constructor neither panics nor
needs more than `nrules·ntoks+1` rounds, returns the same table `W` for every larger fuel, and the
bit of rule `A` and token `t` (`G.eof` = end of input) is set in `W` exactly when `t` can follow `A`
in a sentential form (`FollowP`). -/
theorem follows_impl_exact (G : Grammar) (hwf : G.wf = true) :
    ∃ (fst : Impl.Firsts) (W : List (List Bool)),
      (∀ fuel, G.nrules * (G.ntoks + 1) + 1 ≤ fuel → Impl.firstsNew G fuel = .done fst) ∧
      (∀ fuel, G.nrules * G.ntoks + 1 ≤ fuel → Impl.followsNew G fst fuel = .done W) ∧
      (∀ A t, Impl.mget W A t = true ↔ FollowP G A t) := by
  obtain ⟨fst, h1, hx⟩ := Impl.firstsNew_exact G hwf
  obtain ⟨W, h2, h3⟩ := Impl.followsNew_exact G hwf fst hx
  exact ⟨fst, W, h1, h2, h3⟩

/-- equivalently: the models of the two constructors compute exactly the verified reference analyses
(the `S` line of the driver), bit for bit. -/
theorem impl_equals_reference (G : Grammar) (hwf : G.wf = true) :
    ∃ (fst : Impl.Firsts) (W : List (List Bool)) (A : Analyses),
      Impl.firstsNew G (Impl.firstsFuel G) = .done fst ∧
      Impl.followsNew G fst (Impl.followsFuel G) = .done W ∧
      analyses G = some A ∧
      (∀ r, fst.isEpsilonSet r = A.nullable.contains r) ∧
      (∀ r t, fst.isSet r t = A.first.contains (r, t)) ∧
      (∀ r t, Impl.mget W r t = A.follow.contains (r, t)) := by
  obtain ⟨fst, W, h1, h2, h3⟩ := follows_impl_exact G hwf
  obtain ⟨_, h1', hF, hE⟩ := firsts_impl_exact G hwf
  have e := (h1' _ (Nat.le_refl _)).symm.trans (h1 _ (Nat.le_refl _))
  simp only [Impl.Outcome.done.injEq] at e
  subst e
  obtain ⟨A, hA⟩ := Total.analyses_total G
  obtain ⟨a1, a2, a3⟩ := analyses_exact G hwf A hA
  refine ⟨_, W, A, h1 _ (Nat.le_refl _), h2 _ (Nat.le_refl _), hA, ?_, ?_, ?_⟩
  · intro r
    rw [Bool.eq_iff_iff, hE r, ← a1 r]; simp
  · intro r t
    rw [Bool.eq_iff_iff, hF r t, ← a2 r t]; simp
  · intro r t
    rw [Bool.eq_iff_iff, h3 r t, ← a3 r t]; simp

/-! ### `has_path`, `rule_min_costs`, `rule_max_costs`, `min_sentence` themselves

`Model/CostsImpl.lean` transcribes the four functions of grammar.rs: the work-list sweeps of `has_path`
with its `seen`/`todo` vectors and the early `return true`; the rounds of `rule_min_costs` (per rule the
cheapest production all of whose rules are done, `break` at the first rule that is not, `checked_add` with
its `expect`, the two update loops, the final `all done` test); `rule_max_costs` (the `has_path(r, r)` marking
loop, the sweeps with `hs_cmplt`/`hs_noncmplt`, `break 'a` at a rule of cost `u16::MAX`, the two panics, the
three `debug_assert!`s — checked when `dbg` is set); `min_sentence` (the closure `cheapest_prod` with its
`saturating_add`, the explicit stack of `(pidx, sym_idx)` frames). Every unbounded loop takes fuel; a panic
is the outcome `panic`. The driver prints what these models compute next to the real code's answers on every
generated grammar (line `Mc` against the harness's `Ic`). -/

/-- **`has_path` is exact and terminates.** For every well-formed grammar, every rule `A` of it and every
`T`, the model of `has_path(A, T)` does not panic, needs at most `nrules + 1` sweeps of its outer loop
(every sweep but the last moves a rule into `seen`) — with that or any larger fuel it returns the same
`b` — and `b` is true exactly when `T` is reachable from `A` through one or more production steps
(`Reach`, the relation `has_path_spec` is about); equivalently `b` is the answer of the verified reference
`reach`. (`A < nrules` says that `from` is a rule index of this grammar; for any other value
`todo[from] = true` is out of bounds: `has_path_impl_out_of_range`.) -/
theorem has_path_impl_exact (G : Grammar) (hwf : G.wf = true) (A T : Nat) (hA : A < G.nrules) :
    ∃ b, (∀ fuel, G.nrules + 1 ≤ fuel → Impl.hasPath G A T fuel = .done b) ∧
      (b = true ↔ Reach G A T) ∧
      (reach G A).map (fun R => R.contains T) = some b := by
  obtain ⟨b, h1, h2⟩ := Impl.hasPath_exact G hwf A T hA
  refine ⟨b, h1, h2, ?_⟩
  obtain ⟨R, hR⟩ := Total.reach_total G A
  have h3 := has_path_spec G hwf A R hR T
  rw [hR]
  simp only [Option.map_some, Option.some.injEq]
  rw [Bool.eq_iff_iff, h2, ← h3]
  simp

/-- a `from` that is not a rule index makes `has_path` panic (index out of bounds) -/
theorem has_path_impl_out_of_range (G : Grammar) (A T fuel : Nat) (hA : ¬ A < G.nrules) :
    Impl.hasPath G A T fuel = .panic := by
  simp [Impl.hasPath, hA]

/-- **the reference cost iteration converges** (what `reference_analyses_total` does not cover): for every
well-formed grammar and every token-cost function the Bellman–Ford iteration `minCosts`, which is given
`nrules + 2` rounds, reaches its fixed point — it never answers "fuel exhausted". (Proof: Knuth's
generalisation of Dijkstra's algorithm, `Spec.dijkstra`, fixes at least one more rule per round, and by
induction the `k`-th Bellman–Ford table contains the `k`-th Dijkstra table.) -/
theorem reference_min_costs_total (G : Grammar) (hwf : G.wf = true) (tc : Nat → Nat) :
    ∃ c, minCosts G tc = some c := by
  obtain ⟨m, _, hm, _⟩ := minCosts_total G hwf tc
  exact ⟨m, hm⟩

/-- **`rule_min_costs` is exact and terminates.** For every well-formed grammar and every vector of token
costs (one per token; zero costs allowed) let `c` be the reference table of minimal costs (`min_cost_exact`:
`none` = the rule derives no sentence, `some v` = the least cost of a sentence it derives; it exists by
`reference_min_costs_total`). If no sum the loop forms can overflow — `sumsFit`: in every production the
costs of the symbols before the first rule deriving nothing add up to at most `u16::MAX`, rules counted
with their minimal cost — then the model of `rule_min_costs` does not panic, needs at most `nrules + 1`
rounds (every round but the last completes a rule), returns the same vector for every larger fuel, and the
vector is `c` with `u16::MAX` for `none`. Without `sumsFit` the real code can panic although every minimal
cost fits (finding C17-mincost-overflow-dearer-production); `sumsFit` is decidable; the driver does not evaluate it, it runs
the model, which panics where the code does. -/
theorem min_costs_impl_exact (G : Grammar) (hwf : G.wf = true) (tc : List Nat) (htc : tc.length = G.ntoks) :
    ∃ c, minCosts G (Impl.tcF tc) = some c ∧
      (Impl.sumsFit G (Impl.tcF tc) c = true →
        ∀ fuel, G.nrules + 1 ≤ fuel → Impl.ruleMinCosts G tc fuel = .done (Impl.concr c)) := by
  obtain ⟨m, hm, _, h⟩ := Impl.ruleMinCosts_exact G hwf tc htc
  exact ⟨m, hm, h⟩

/-- the same, spelled out: under `sumsFit` the vector `v` the model of `rule_min_costs` returns has, for
every rule `r`, either `v[r] = u16::MAX` and `r` derives no sentence, or `v[r]` is the cost of a sentence `r`
derives and no sentence `r` derives is cheaper. -/
theorem min_costs_impl_meaning (G : Grammar) (hwf : G.wf = true) (tc : List Nat) (htc : tc.length = G.ntoks)
    (c : List (Option Nat)) (hc : minCosts G (Impl.tcF tc) = some c)
    (hfit : Impl.sumsFit G (Impl.tcF tc) c = true) :
    ∃ v, (∀ fuel, G.nrules + 1 ≤ fuel → Impl.ruleMinCosts G tc fuel = .done v) ∧ v.length = G.nrules ∧
      ∀ r, r < G.nrules →
        (Impl.cget v r = Impl.U16MAX ∧ look c r = none ∧ ¬ ∃ w, Derives G (.rule r) w) ∨
        (look c r = some (Impl.cget v r) ∧
          (∃ w, Derives G (.rule r) w ∧ cost (Impl.tcF tc) w = Impl.cget v r) ∧
          ∀ w, Derives G (.rule r) w → Impl.cget v r ≤ cost (Impl.tcF tc) w) := by
  obtain ⟨m, hm, hmt, h⟩ := Impl.ruleMinCosts_exact G hwf tc htc
  rw [hc] at hm
  simp only [Option.some.injEq] at hm
  subst hm
  refine ⟨Impl.concr c, h hfit, by simp [Impl.concr, hmt.len], ?_⟩
  intro r hr
  have hex := min_cost_exact G hwf (Impl.tcF tc) c hc r hr
  have hcg := Impl.cget_concr c r (by rw [hmt.len]; exact hr)
  cases hl : look c r with
  | none =>
    left
    rw [hl] at hcg
    exact ⟨hcg, rfl, hex.1 hl⟩
  | some x =>
    right
    rw [hl] at hcg
    simp only [Option.getD_some] at hcg
    rw [hcg]
    exact ⟨rfl, hex.2 x hl⟩

/-- **what `rule_max_costs` computes.** For every well-formed grammar in which every rule has a production
(true of every `YaccGrammar`; without it the real loop never ends), every vector of token costs, in a
release or a debug build (`dbg`): if the sums fit — `maxFits`, decidable: with rules counted at `maxUB` (the
largest cost of a sentential form a rule derives without expanding a recursive rule; for a rule that
reaches no recursive rule this is its maximal sentence cost), in every production of a rule that is not
recursive the costs of the symbols before the first recursive rule add up to less than `u16::MAX` — then
the model of `rule_max_costs` (as repaired by 18eae51) does not panic — none of its three `debug_assert!`s
fails either —, needs at most `nrules + 1` sweeps, returns the same vector `v` for every larger fuel, and
for every rule `r`:
* `v[r] = u16::MAX` (`max_sentence_cost` = `None`) exactly when `r` is recursive or reaches a recursive rule
  (`Inf`) — this is the documented over-approximation of finding C17-maxcost-recursive: such a rule need
  not derive arbitrarily expensive sentences (`A: A | 'a'`);
* otherwise `v[r]` is the exact maximum: the cost of a sentence `r` derives, and no sentence `r` derives
  costs more.
So a finite answer is always the true maximum, and a rule whose sentences have unbounded cost is always
answered `None` (`max_costs_impl_unbounded_none`). When `maxFits` fails for a production of a rule that
reaches no recursive rule the real code panics by design ("Overflow occurred…" / "Unable to represent
cost…"). -/
theorem max_costs_impl_spec (G : Grammar) (hwf : G.wf = true) (hprods : Impl.everyRuleHasProd G = true)
    (tc : List Nat) (htc : tc.length = G.ntoks) (hfit : Impl.maxFits G (Impl.tcF tc) = true) (dbg : Bool) :
    ∃ v : List Nat, (∀ fuel, G.nrules + 1 ≤ fuel → Impl.ruleMaxCosts G tc dbg fuel = .done v) ∧
      v.length = G.nrules ∧
      ∀ r, r < G.nrules →
        (Impl.cget v r = Impl.U16MAX ↔ Impl.Inf G r) ∧
        (Impl.cget v r ≠ Impl.U16MAX →
          (∃ w, Derives G (.rule r) w ∧ cost (Impl.tcF tc) w = Impl.cget v r) ∧
          ∀ w, Derives G (.rule r) w → cost (Impl.tcF tc) w ≤ Impl.cget v r) :=
  Impl.ruleMaxCosts_spec G hwf ((Impl.everyRuleHasProd_iff G).mp hprods) tc htc _
    (Impl.maxCert_maxUB G hwf (Impl.tcF tc) hfit) dbg

/-- the same with any bound table `U` that passes the certificate `maxCert` in place of `maxUB` (a table
with smaller entries for the rules that reach a recursive rule can pass where `maxFits` fails) -/
theorem max_costs_impl_spec_cert (G : Grammar) (hwf : G.wf = true) (hprods : Impl.everyRuleHasProd G = true)
    (tc : List Nat) (htc : tc.length = G.ntoks) (U : Nat → Nat)
    (hcert : Impl.maxCert G (Impl.tcF tc) U = true) (dbg : Bool) :
    ∃ v : List Nat, (∀ fuel, G.nrules + 1 ≤ fuel → Impl.ruleMaxCosts G tc dbg fuel = .done v) ∧
      v.length = G.nrules ∧
      ∀ r, r < G.nrules →
        (Impl.cget v r = Impl.U16MAX ↔ Impl.Inf G r) ∧
        (Impl.cget v r ≠ Impl.U16MAX →
          (∃ w, Derives G (.rule r) w ∧ cost (Impl.tcF tc) w = Impl.cget v r) ∧
          ∀ w, Derives G (.rule r) w → cost (Impl.tcF tc) w ≤ Impl.cget v r) :=
  Impl.ruleMaxCosts_spec G hwf ((Impl.everyRuleHasProd_iff G).mp hprods) tc htc U hcert dbg

/-- under the hypotheses of `max_costs_impl_spec`: a rule that derives sentences of unbounded cost is
answered `u16::MAX` (`None`) -/
theorem max_costs_impl_unbounded_none (G : Grammar) (hwf : G.wf = true)
    (hprods : Impl.everyRuleHasProd G = true) (tc : List Nat) (htc : tc.length = G.ntoks)
    (hfit : Impl.maxFits G (Impl.tcF tc) = true) (dbg : Bool) (v : List Nat)
    (hv : Impl.ruleMaxCosts G tc dbg (Impl.maxCostsFuel G) = .done v) (r : Nat) (hr : r < G.nrules)
    (hunb : ∀ b, ∃ w, Derives G (.rule r) w ∧ b < cost (Impl.tcF tc) w) :
    Impl.cget v r = Impl.U16MAX := by
  obtain ⟨v', h1, _, h3⟩ := max_costs_impl_spec G hwf hprods tc htc hfit dbg
  have := h1 (Impl.maxCostsFuel G) (Nat.le_refl _)
  rw [hv] at this
  simp only [Impl.Outcome.done.injEq] at this
  subst this
  apply Classical.byContradiction
  intro hne
  obtain ⟨w, hw, hlt⟩ := hunb (Impl.cget v r)
  have := ((h3 r hr).2 hne).2 w hw
  omega

/-- **`min_sentence` is sound.** For every well-formed grammar and vector of token costs, with `c` the
reference table of minimal costs: if no sum of `rule_min_costs` overflows (`sumsFit`, as in
`min_costs_impl_exact`), then for every rule `r` whose minimal cost `x` is below `u16::MAX` (the rules for
which a minimal sentence exists and `min_sentence_cost` does not answer `u16::MAX`) the model of
`min_sentence(r)` never panics, and whenever it returns — the `while` loop ends within the given fuel —
the sentence `w` it returns is derived by `r` and costs exactly `x`, i.e. `min_sentence_cost(r)`. (It does
not always return: `min_sentence_impl_terminates_iff` says exactly when.) -/
theorem min_sentence_impl_sound (G : Grammar) (hwf : G.wf = true) (tc : List Nat) (htc : tc.length = G.ntoks)
    (c : List (Option Nat)) (hc : minCosts G (Impl.tcF tc) = some c)
    (hfit : Impl.sumsFit G (Impl.tcF tc) c = true) (r x : Nat) (hr : r < G.nrules)
    (hx : look c r = some x) (hlt : x < Impl.U16MAX) (fuel : Nat) :
    Impl.minSentence G tc r fuel ≠ .panic ∧
    ∀ w, Impl.minSentence G tc r fuel = .done w → Derives G (.rule r) w ∧ cost (Impl.tcF tc) w = x := by
  obtain ⟨hmt, hunf, _⟩ := Impl.minSentences_unfold G hwf tc htc c hc hfit
  obtain ⟨hnp, hs, _⟩ := Impl.minSentenceWith_sound hwf c htc hmt ⟨hr, hx, hlt⟩ fuel
  rw [hunf]
  exact ⟨hnp, hs⟩

/-- **on which grammars `min_sentence` returns** (the exact extent of finding C17-minsent-tight-cycle).
Under the hypotheses of `min_sentence_impl_sound`, let `tightInf r` be the decidable predicate "in the
graph that joins every rule to the rules of the production `cheapest_prod` returns for it, `r` is or reaches
a rule that reaches itself" (`Impl.tightInf`: the verified reference reachability on the grammar `tightG`
that keeps exactly these productions). Then
* if `tightInf r` is false the model of `min_sentence(r)` returns, within `minSentenceFuel` iterations of
  its `while` loop (a bound that only depends on the number of rules and the longest production) and with
  the same sentence for every larger fuel — a sentence derived by `r` at cost `min_sentence_cost(r)` by
  `min_sentence_impl_sound`;
* if `tightInf r` is true the model runs out of every fuel: the real `min_sentence(r)` does not return
  (the stack of frames need not even grow: `A: A | 'a'`). -/
theorem min_sentence_impl_terminates_iff (G : Grammar) (hwf : G.wf = true) (tc : List Nat)
    (htc : tc.length = G.ntoks) (c : List (Option Nat)) (hc : minCosts G (Impl.tcF tc) = some c)
    (hfit : Impl.sumsFit G (Impl.tcF tc) c = true) (r x : Nat) (hr : r < G.nrules)
    (hx : look c r = some x) (hlt : x < Impl.U16MAX) :
    (Impl.tightInf G tc (some (Impl.concr c)) r = false →
      ∃ w, ∀ fuel, Impl.minSentenceFuel G ≤ fuel → Impl.minSentence G tc r fuel = .done w) ∧
    (Impl.tightInf G tc (some (Impl.concr c)) r = true →
      ∀ fuel, Impl.minSentence G tc r fuel = .fuelOut) := by
  obtain ⟨hmt, hunf, _⟩ := Impl.minSentences_unfold G hwf tc htc c hc hfit
  constructor
  · intro hti
    have hni : ¬ Impl.Inf (Impl.tightG G tc (some (Impl.concr c))) r :=
      fun hinf => Bool.eq_false_iff.mp hti ((Impl.tightInf_iff G tc _ hwf r).mpr hinf)
    obtain ⟨w, hw⟩ := Impl.minSentenceWith_terminates hwf c htc hmt ⟨hr, hx, hlt⟩ hni
    exact ⟨w, fun fuel hf => by rw [hunf]; exact hw fuel hf⟩
  · intro hti fuel
    rw [hunf]
    exact (Impl.minSentenceWith_sound hwf c htc hmt ⟨hr, hx, hlt⟩ fuel).2.2 ((Impl.tightInf_iff G tc _ hwf r).mp hti)

/-! ### `min_sentences` (plural) itself

`Model/MinSentencesImpl.lean` transcribes `SentenceGenerator::min_sentences`: the closure `cheapest_prods`
(the saturating sums of `cheapest_prod`, `<=` with `clear()` on `<`, so ALL productions of lowest cost in
production order), for every such production the empty-production shortcut, the vector `ms` with one vector
of sentences per symbol (a recursive call per rule symbol, `[[t]]` per token) and the odometer `'b: loop`
over `todo` (the LAST column advances first; a column that spills is reset and the one before it advances;
the loop ends when the first column spills; `cur` is the concatenation of `ms[i][todo[i]]` for `i = 0 …`;
index errors are panics). The recursion takes its DEPTH as fuel; the odometer loop is given the number of
combinations plus one as fuel and `Lemmas/Odometer.lean` proves that it pushes exactly `Impl.combos ms` —
the concatenations of one sentence per column, first column varying slowest — without running out. -/

/-- **`min_sentences` is sound.** Under the hypotheses of `min_sentence_impl_sound` — a well-formed grammar,
a vector of token costs, `c` the reference table of minimal costs, no sum of `rule_min_costs` overflowing
(`sumsFit`), a rule `r` whose minimal cost `x` is below `u16::MAX` — the model of `min_sentences(r)` never
panics (in particular the odometer never indexes out of range), whatever recursion depth `fuel` it is
allowed; and whenever it returns a vector `L`, `L` is not empty and EVERY sentence in `L` is derived by `r`
and costs exactly `x` = `min_sentence_cost(r)`. (It does not always return:
`min_sentences_impl_terminates_iff`.) -/
theorem min_sentences_impl_sound (G : Grammar) (hwf : G.wf = true) (tc : List Nat) (htc : tc.length = G.ntoks)
    (c : List (Option Nat)) (hc : minCosts G (Impl.tcF tc) = some c)
    (hfit : Impl.sumsFit G (Impl.tcF tc) c = true) (r x : Nat) (hr : r < G.nrules)
    (hx : look c r = some x) (hlt : x < Impl.U16MAX) (fuel : Nat) :
    Impl.minSentences G tc r fuel ≠ .panic ∧
    ∀ L, Impl.minSentences G tc r fuel = .done L →
      L ≠ [] ∧ ∀ w ∈ L, Derives G (.rule r) w ∧ cost (Impl.tcF tc) w = x := by
  obtain ⟨hmt, _, hunf⟩ := Impl.minSentences_unfold G hwf tc htc c hc hfit
  obtain ⟨hnp, hs⟩ := Impl.minSentencesWith_sound G hwf tc c htc hmt ⟨hr, hx, hlt⟩ fuel
  rw [hunf]
  exact ⟨hnp, fun L hL => ⟨(hs L hL).1, (hs L hL).2.1⟩⟩

/-- **`min_sentences` is complete.** Under the same hypotheses, whenever the model of `min_sentences(r)`
returns a vector `L`, EVERY sentence that `r` derives at cost `x` = `min_sentence_cost(r)` is in `L`: the
set enumerated is the set of ALL minimal-cost sentences of the rule, nothing less. (By
`min_cost_sentences_are_cheapest_derivations` these are exactly the sentences that have a derivation using
one of the productions `cheapest_prods` returns at every step — the two readings of "minimal sentences"
coincide.) `L` can contain a sentence more than once: `min_sentences_impl_order` and
`min_sentences_impl_trees` say exactly what `L` is. -/
theorem min_sentences_impl_complete (G : Grammar) (hwf : G.wf = true) (tc : List Nat)
    (htc : tc.length = G.ntoks) (c : List (Option Nat)) (hc : minCosts G (Impl.tcF tc) = some c)
    (hfit : Impl.sumsFit G (Impl.tcF tc) c = true) (r x : Nat) (hr : r < G.nrules)
    (hx : look c r = some x) (hlt : x < Impl.U16MAX) (fuel : Nat) (L : List (List Nat))
    (hL : Impl.minSentences G tc r fuel = .done L) :
    ∀ w, Derives G (.rule r) w → cost (Impl.tcF tc) w = x → w ∈ L := by
  obtain ⟨hmt, _, hunf⟩ := Impl.minSentences_unfold G hwf tc htc c hc hfit
  rw [hunf] at hL
  exact ((Impl.minSentencesWith_sound G hwf tc c htc hmt ⟨hr, hx, hlt⟩ fuel).2 L hL).2.2

/-- **minimal-cost sentences = sentences derived through cheapest productions only.** For every well-formed
grammar, token-cost function and the reference table `c` of minimal costs: a rule `r` derives `w` at its
minimal cost (`look c r = some (cost w)`) if and only if `w` has a derivation from `r` in which every rule
is expanded by a production whose cost — every rule counted at its minimal cost — equals the minimal cost
of its rule (`Impl.TightDerives`; for rules of minimal cost below `u16::MAX` these are the productions
`cheapest_prods` returns, `Impl.cheapestProds_spec`). So "all sentences of minimal cost" and "all sentences
derivable through cheapest productions at every step" are the same set, and a derivation of a minimal-cost
sentence can never use a production that is not a cheapest one. -/
theorem min_cost_sentences_are_cheapest_derivations (G : Grammar) (hwf : G.wf = true) (tc : Nat → Nat)
    (c : List (Option Nat)) (hc : minCosts G tc = some c) (r : Nat) (hr : r < G.nrules) (w : List Nat) :
    (Derives G (.rule r) w ∧ look c r = some (cost tc w)) ↔ Impl.TightDerives G tc (look c) (.rule r) w := by
  constructor
  · rintro ⟨hd, hcw⟩
    exact Impl.tightDerives_of_min (minCosts_minTable hwf hc).fix hwf hd (symOk_rule.mpr hr)
      (by simpa [symCost] using hcw)
  · intro h
    have := Impl.tightDerives_sound h
    exact ⟨this.1, by simpa [symCost] using this.2⟩

/-- **what the vector is, in which order, and when it has duplicates.** Under the hypotheses of
`min_sentences_impl_sound`: if the model of `min_sentences(r)` returns `L` at recursion depth `fuel + 1`,
then the calls for the rules of the cheapest productions returned at depth `fuel`, and `L` is the
concatenation, over the cheapest productions `p` of `r` in production order (`Impl.cheapSet`: the
productions of `r` whose cost, rules at their minimal cost, is `x`), of the combinations `Impl.combos` of
the vectors of the symbols of `p` — `[[t]]` for a token, the returned vector for a rule (`Impl.gatherP`) —,
i.e. all concatenations of one sentence per symbol, the FIRST symbol's sentence varying slowest and the last
one's fastest (for an empty production: the empty sentence once). So `L` has one entry per choice of a
cheapest production and of one entry per symbol, not one per sentence: `min_sentences_impl_trees` turns this
into the exact account of duplicates. -/
theorem min_sentences_impl_order (G : Grammar) (hwf : G.wf = true) (tc : List Nat)
    (htc : tc.length = G.ntoks) (c : List (Option Nat)) (hc : minCosts G (Impl.tcF tc) = some c)
    (hfit : Impl.sumsFit G (Impl.tcF tc) c = true) (r x : Nat) (hr : r < G.nrules)
    (hx : look c r = some x) (hlt : x < Impl.U16MAX) (fuel : Nat) (L : List (List Nat))
    (hL : Impl.minSentences G tc r (fuel + 1) = .done L) :
    (∀ p ∈ Impl.cheapSet G tc c r x, ∀ q, Sym.rule q ∈ G.rhs p →
      ∃ Lq, Impl.minSentences G tc q fuel = .done Lq) ∧
    L = (Impl.cheapSet G tc c r x).flatMap (fun p =>
      Impl.combos (Impl.gatherP (fun q => (Impl.minSentences G tc q fuel).val []) (G.rhs p))) := by
  obtain ⟨hmt, _, hunf⟩ := Impl.minSentences_unfold G hwf tc htc c hc hfit
  rw [hunf] at hL
  obtain ⟨hinv, hdone⟩ := Impl.minSentencesWith_order G hwf tc c htc hmt ⟨hr, hx, hlt⟩ hL
  constructor
  · intro p hp q hq
    rw [hunf]
    exact hinv p hp q hq
  · rw [hdone]
    simp only [hunf]
    rfl

/-- **the vector has one entry per derivation tree, not per sentence.** Under the hypotheses of
`min_sentences_impl_sound`, whenever the model of `min_sentences(r)` returns `L` there is a list `T` of
derivation trees (`Impl.DTree`: a token, or a production with one subtree per symbol) such that `T` has no
duplicates, `T` contains exactly the derivation trees of `r` all of whose nodes carry a cheapest production
of their rule (`Impl.TightTree`; by `min_cost_sentences_are_cheapest_derivations` these are exactly the
derivation trees of the minimal-cost sentences of `r`), and `L` is the list of the yields of the trees of `T`
in order. So a sentence occurs in `L` exactly as many times as it has such trees: the code does NOT guarantee
a vector without duplicates — `min_sentences_impl_nodup_iff`. -/
theorem min_sentences_impl_trees (G : Grammar) (hwf : G.wf = true) (tc : List Nat)
    (htc : tc.length = G.ntoks) (c : List (Option Nat)) (hc : minCosts G (Impl.tcF tc) = some c)
    (hfit : Impl.sumsFit G (Impl.tcF tc) c = true) (r x : Nat) (hr : r < G.nrules)
    (hx : look c r = some x) (hlt : x < Impl.U16MAX) (fuel : Nat) (L : List (List Nat))
    (hL : Impl.minSentences G tc r fuel = .done L) :
    ∃ T : List Impl.DTree, T.Nodup ∧
      (∀ t, t ∈ T ↔ Impl.TightTree G (Impl.tcF tc) (look c) t (.rule r)) ∧
      L = T.map Impl.DTree.yield := by
  obtain ⟨hmt, _, hunf⟩ := Impl.minSentences_unfold G hwf tc htc c hc hfit
  rw [hunf] at hL
  obtain ⟨h1, h2, h3⟩ := Impl.msw_trees G hwf tc c htc hmt ⟨hr, hx, hlt⟩ hL
  exact ⟨_, h2, h3, h1⟩

/-- **when the vector has duplicates.** Under the same hypotheses, the vector `L` the model of
`min_sentences(r)` returns is free of duplicates if and only if no two different derivation trees of `r` built
from cheapest productions have the same yield, i.e. if and only if the grammar is unambiguous on the
minimal-cost sentences of `r`. (`A: 'a' | 'a'` and `S: B | C; B: 'a'; C: 'a'` — example `exDup` below — give
the sentence `a` twice.) -/
theorem min_sentences_impl_nodup_iff (G : Grammar) (hwf : G.wf = true) (tc : List Nat)
    (htc : tc.length = G.ntoks) (c : List (Option Nat)) (hc : minCosts G (Impl.tcF tc) = some c)
    (hfit : Impl.sumsFit G (Impl.tcF tc) c = true) (r x : Nat) (hr : r < G.nrules)
    (hx : look c r = some x) (hlt : x < Impl.U16MAX) (fuel : Nat) (L : List (List Nat))
    (hL : Impl.minSentences G tc r fuel = .done L) :
    L.Nodup ↔ ∀ t t', Impl.TightTree G (Impl.tcF tc) (look c) t (.rule r) →
      Impl.TightTree G (Impl.tcF tc) (look c) t' (.rule r) → t.yield = t'.yield → t = t' := by
  obtain ⟨T, hn, hmem, rfl⟩ := min_sentences_impl_trees G hwf tc htc c hc hfit r x hr hx hlt fuel L hL
  rw [Impl.nodup_map_iff_injOn _ T hn]
  constructor
  · intro h t t' ht ht' e
    exact h t ((hmem t).mpr ht) t' ((hmem t').mpr ht') e
  · intro h a ha b hb e
    exact h a b ((hmem a).mp ha) ((hmem b).mp hb) e

/-- **on which grammars `min_sentences` returns** (the exact extent of finding C17-minsents-tight-cycle).
Under the hypotheses of `min_sentences_impl_sound`, let `tightInfAll r` be the decidable predicate "in the
graph that joins every rule to the rules of ALL the productions `cheapest_prods` returns for it (not only the
first one, as for `min_sentence`), `r` is or reaches a rule that reaches itself" (`Impl.tightInfAll`: the
verified reference reachability on the grammar `allTightG` that keeps exactly these productions). Then
* if `tightInfAll r` is false the recursion of the model of `min_sentences(r)` ends: it returns within the
  recursion depth `minSentencesFuel` = `nrules + 1`, with the same vector for every larger depth — a vector
  that is sound and complete by the two theorems above;
* if `tightInfAll r` is true the model exceeds EVERY recursion depth: the real `min_sentences(r)` recurses
  until the stack overflows (`A: A | 'a'`, and also `A: 'a' | A`, on which `min_sentence` returns). -/
theorem min_sentences_impl_terminates_iff (G : Grammar) (hwf : G.wf = true) (tc : List Nat)
    (htc : tc.length = G.ntoks) (c : List (Option Nat)) (hc : minCosts G (Impl.tcF tc) = some c)
    (hfit : Impl.sumsFit G (Impl.tcF tc) c = true) (r x : Nat) (hr : r < G.nrules)
    (hx : look c r = some x) (hlt : x < Impl.U16MAX) :
    (Impl.tightInfAll G tc (some (Impl.concr c)) r = false →
      ∃ L, ∀ fuel, Impl.minSentencesFuel G ≤ fuel → Impl.minSentences G tc r fuel = .done L) ∧
    (Impl.tightInfAll G tc (some (Impl.concr c)) r = true →
      ∀ fuel, Impl.minSentences G tc r fuel = .fuelOut) := by
  obtain ⟨hmt, _, hunf⟩ := Impl.minSentences_unfold G hwf tc htc c hc hfit
  constructor
  · intro hti
    have hni : ¬ Impl.Inf (Impl.allTightG G tc (some (Impl.concr c))) r :=
      fun hinf => Bool.eq_false_iff.mp hti ((Impl.tightInfAll_iff G tc _ hwf r).mpr hinf)
    obtain ⟨L, hLf⟩ := Impl.minSentencesWith_terminates G hwf tc c htc hmt ⟨hr, hx, hlt⟩ hni
    exact ⟨L, fun fuel hf => by rw [hunf]; exact hLf fuel hf⟩
  · intro hti fuel
    rw [hunf]
    exact (Impl.msw_closed G hwf tc c htc hmt fuel r x ⟨hr, hx, hlt⟩).1.2
      (((Impl.tightInfAll_iff G tc _ hwf r).mp hti).not_depth fuel)

/-- **`min_sentence` picks one of `min_sentences`.** Under the same hypotheses, whenever the model of
`min_sentence(r)` returns a sentence `w` (its loop ends within `fuel₁` iterations) and the model of
`min_sentences(r)` returns a vector `L` (within recursion depth `fuel₂`), `w` is an element of `L`. -/
theorem min_sentence_in_min_sentences (G : Grammar) (hwf : G.wf = true) (tc : List Nat)
    (htc : tc.length = G.ntoks) (c : List (Option Nat)) (hc : minCosts G (Impl.tcF tc) = some c)
    (hfit : Impl.sumsFit G (Impl.tcF tc) c = true) (r x : Nat) (hr : r < G.nrules)
    (hx : look c r = some x) (hlt : x < Impl.U16MAX) (fuel₁ fuel₂ : Nat) (w : List Nat) (L : List (List Nat))
    (hw : Impl.minSentence G tc r fuel₁ = .done w) (hL : Impl.minSentences G tc r fuel₂ = .done L) :
    w ∈ L := by
  obtain ⟨hd, hcw⟩ := (min_sentence_impl_sound G hwf tc htc c hc hfit r x hr hx hlt fuel₁).2 w hw
  exact min_sentences_impl_complete G hwf tc htc c hc hfit r x hr hx hlt fuel₂ L hL w hd hcw

/-! ### non-vacuity (tests) -/

/-- `^: S; S: A B 'c'; A: 'a' | ; B: 'b' | ;` tokens a=0 b=1 c=2 eof=3; rules ^=0 S=1 A=2 B=3 -/
def exG : Grammar :=
  { ntoks := 4, nrules := 4, eof := 3, startProd := 5,
    prods := [(1, [.rule 2, .rule 3, .tok 2]), (2, [.tok 0]), (2, []), (3, [.tok 1]), (3, []), (0, [.rule 1])] }

example : exG.wf = true := by decide +kernel
example : (analyses exG).map (·.nullable) = some [2, 3] := by decide +kernel
example : ((analyses exG).map (fun a => a.follow.contains (2, 2))) = some true := by decide +kernel
example : minCosts exG (fun _ => 1) = some [some 1, some 1, some 0, some 0] := by decide +kernel
example : (match Impl.firstsNew exG (Impl.firstsFuel exG) with
    | .done f => some f.epsilons | _ => none) = some [false, false, true, true] := by decide +kernel

/-- `exG` with unit token costs: the hypotheses of the theorems about the cost loops hold -/
example : Impl.everyRuleHasProd exG = true := by decide +kernel
example : Impl.sumsFit exG (Impl.tcF [1, 1, 1, 1]) [some 1, some 1, some 0, some 0] = true := by decide +kernel
example : Impl.maxCert exG (Impl.tcF [1, 1, 1, 1]) (fun r => [3, 3, 1, 1].getD r 0) = true := by decide +kernel
example : Impl.maxFits exG (Impl.tcF [1, 1, 1, 1]) = true := by decide +kernel
example : (List.range 4).map (Impl.maxUB exG (Impl.tcF [1, 1, 1, 1])) = [3, 3, 1, 1] := by decide +kernel
example : Impl.ruleMinCosts exG [1, 1, 1, 1] (Impl.minCostsFuel exG) = .done [1, 1, 0, 0] := by decide +kernel
example : Impl.ruleMaxCosts exG [1, 1, 1, 1] true (Impl.maxCostsFuel exG) = .done [3, 3, 1, 1] := by decide +kernel
example : Impl.hasPath exG 0 3 (Impl.hasPathFuel exG) = .done true := by decide +kernel
example : Impl.hasPath exG 2 2 (Impl.hasPathFuel exG) = .done false := by decide +kernel
example : Impl.minSentence exG [1, 1, 1, 1] 0 50 = .done [2] := by decide +kernel

/-- `^: A; A: A | 'a'` (finding C17-maxcost-recursive): the model answers `u16::MAX` for both rules although
the maximum is 1 -/
def exRec : Grammar :=
  { ntoks := 2, nrules := 2, eof := 1, startProd := 0, prods := [(0, [.rule 1]), (1, [.rule 1]), (1, [.tok 0])] }
example : Impl.ruleMaxCosts exRec [1, 1] true (Impl.maxCostsFuel exRec) = .done [65535, 65535] := by decide +kernel
/-- … and `min_sentence` runs out of any fuel on it (finding C17-minsent-tight-cycle) -/
example : Impl.minSentence exRec [1, 1] 1 200 = .fuelOut := by decide +kernel
example : Impl.tightInf exRec [1, 1] (some [1, 1]) 1 = true := by decide +kernel
example : Impl.tightInf exG [1, 1, 1, 1] (some [1, 1, 0, 0]) 0 = false := by decide +kernel
example : Impl.minSentenceFuel exG = 485 := by decide +kernel

/-- a grammar with two cheapest productions and a nullable symbol (tests of the `min_sentences` theorems):
`^: S; S: N X Y | 'c' 'c' | 'a' 'b' 'c'; N: ; X: 'a' | 'b'; Y: 'a' | 'b' | 'c' 'c'`
tokens a=0 b=1 c=2 eof=3; rules ^=0 S=1 N=2 X=3 Y=4; unit costs. `S` has minimal cost 2 with the two cheapest
productions `N X Y` and `'c' 'c'`; `N` is nullable; the third production of `Y` and of `S` are dearer. -/
def exMany : Grammar :=
  { ntoks := 4, nrules := 5, eof := 3, startProd := 0,
    prods := [(0, [.rule 1]), (1, [.rule 2, .rule 3, .rule 4]), (1, [.tok 2, .tok 2]), (1, [.tok 0, .tok 1, .tok 2]),
      (2, []), (3, [.tok 0]), (3, [.tok 1]), (4, [.tok 0]), (4, [.tok 1]), (4, [.tok 2, .tok 2])] }

example : exMany.wf = true := by decide +kernel
example : minCosts exMany (Impl.tcF [1, 1, 1, 1]) = some [some 2, some 2, some 0, some 1, some 1] := by decide +kernel
example : Impl.sumsFit exMany (Impl.tcF [1, 1, 1, 1]) [some 2, some 2, some 0, some 1, some 1] = true := by decide +kernel
example : Impl.cheapestProds exMany [1, 1, 1, 1] (some [2, 2, 0, 1, 1]) 1 = some [1, 2] := by decide +kernel
example : Impl.cheapSet exMany [1, 1, 1, 1] [some 2, some 2, some 0, some 1, some 1] 1 2 = [1, 2] := by decide +kernel
/-- the odometer: the last column (`Y`) advances first; the sentences of the second cheapest production follow -/
example : Impl.minSentences exMany [1, 1, 1, 1] 1 (Impl.minSentencesFuel exMany) =
    .done [[0, 0], [0, 1], [1, 0], [1, 1], [2, 2]] := by decide +kernel
example : Impl.minSentences exMany [1, 1, 1, 1] 2 (Impl.minSentencesFuel exMany) = .done [[]] := by decide +kernel
example : Impl.tightInfAll exMany [1, 1, 1, 1] (some [2, 2, 0, 1, 1]) 1 = false := by decide +kernel
example : Impl.minSentence exMany [1, 1, 1, 1] 1 (Impl.minSentenceFuel exMany) = .done [0, 0] := by decide +kernel
/-- too shallow a recursion is reported as such, not as an answer -/
example : Impl.minSentences exMany [1, 1, 1, 1] 0 2 = .fuelOut := by decide +kernel
example : Impl.odoLoop [[[0], [1]], [[5]], [[2], [3], [4]]] 7 [0, 0, 0] [] =
    .done [[0, 5, 2], [0, 5, 3], [0, 5, 4], [1, 5, 2], [1, 5, 3], [1, 5, 4]] := by decide +kernel
example : Impl.combos [[[0], [1]], [[5]], [[2], [3], [4]]] =
    [[0, 5, 2], [0, 5, 3], [0, 5, 4], [1, 5, 2], [1, 5, 3], [1, 5, 4]] := by decide +kernel
/-- a column without a sentence: the out-of-range panic of `ms[i][todo[i]]` -/
example : Impl.odoLoop [[[0]], []] (Impl.odoFuel [[[0]], []]) [0, 0] [] = .panic := by decide +kernel

/-- duplicates: `^: S; S: B | C; B: 'a'; C: 'a'` — two derivation trees for the one minimal sentence -/
def exDup : Grammar :=
  { ntoks := 2, nrules := 4, eof := 1, startProd := 0,
    prods := [(0, [.rule 1]), (1, [.rule 2]), (1, [.rule 3]), (2, [.tok 0]), (3, [.tok 0])] }
example : Impl.minSentences exDup [1, 1] 1 (Impl.minSentencesFuel exDup) = .done [[0], [0]] := by decide +kernel

/-- finding C17-minsents-tight-cycle: on `exRec` (`A: A | 'a'`) and on `^: A; A: 'a' | A` — where `min_sentence`
returns because the FIRST cheapest production is `'a'` — `min_sentences` exceeds every recursion depth -/
def exRec2 : Grammar :=
  { ntoks := 2, nrules := 2, eof := 1, startProd := 0, prods := [(0, [.rule 1]), (1, [.tok 0]), (1, [.rule 1])] }
example : Impl.tightInfAll exRec [1, 1] (some [1, 1]) 1 = true := by decide +kernel
example : Impl.tightInfAll exRec2 [1, 1] (some [1, 1]) 1 = true := by decide +kernel
example : Impl.tightInf exRec2 [1, 1] (some [1, 1]) 1 = false := by decide +kernel
example : Impl.minSentence exRec2 [1, 1] 1 50 = .done [0] := by decide +kernel
example : Impl.minSentences exRec2 [1, 1] 1 12 = .fuelOut := by decide +kernel

/-- a rule without productions (excluded by `everyRuleHasProd`): the sweeps of `rule_max_costs` never end -/
def exNoProd : Grammar :=
  { ntoks := 1, nrules := 2, eof := 0, startProd := 0, prods := [(0, [.tok 0])] }
example : Impl.ruleMaxCosts exNoProd [1] true 40 = .fuelOut := by decide +kernel

end GrmVerif.C17
