import GrmVerif.Lemmas.Dollar
import GrmVerif.Lemmas.LexCodegen
import GrmVerif.Extracted
/-!
# C13 — a compile-time generated parser and lexer behave exactly like the run-time ones

What Lean carries of this property is the part of the code generator that is a pure function of the
grammar text: the `$`-substitution of action code (`gen_user_actions`) and the order in which the
generated wrapper binds the popped values to `__gt_arg_1 … __gt_arg_n` (`gen_wrappers`). Equivalence of
whole generated programs with the run-time pipeline is not provable here (the program only exists after
`rustc`); it is checked per generated program by the translation-validation part of the check
(`harness/src/props/c13.rs`, `harness/ctgen/`).

Model: `GrmVerif/Model/Dollar.lean` (transcription of the loop in lrpar/src/lib/ctbuilder.rs).
Specification: `dollarSpec` (`GrmVerif/Lemmas/Dollar.lean`). `num` is Rust's `char::is_numeric`, `pfx` is
`ACTION_PREFIX`; all theorems hold for every `num` and `pfx`.

The wiring of the lexer code generator is the other part carried here (`GrmVerif/Model/LexCodegen.lean`,
data re-extracted from the source into `GrmVerif/Extracted.lean` on every run).
-/
namespace GrmVerif.C13
open GrmVerif.Dollar

/-- **The routine is its specification**, for every action text (any characters, any length, multi-byte
included): the byte-offset `find`/slice loop computes exactly the one-pass substitution `dollarSpec`:
`$$` ↦ `$`, `$lexer`/`$span` ↦ `<pfx>lexer`/`<pfx>span`, `$`+numeric ↦ `<pfx>arg_` followed by the
digits as written, any other `$` ↦ error positioned just after that `$`. -/
theorem dollar_eq_spec (num : Char → Bool) (pfx s : List Char) :
    dollar num pfx s = dollarSpec num pfx s :=
  (loop_eq_spec num pfx (byteLen s + 1) [] s [] (Nat.lt_succ_of_le (length_le_byteLen s))).trans (prepend_nil _)

/-- the specification only ever answers `ok` or `err`, and an error position is the offset just after
a `$` of the text that starts none of `$$`, `$lexer`, `$span`, `$<numeric>` -/
theorem spec_err_located (num : Char → Bool) (pfx : List Char) (s : List Char) (pos : Nat) :
    (∃ o, specGo num pfx s pos = .ok o) ∨
    (∃ a r, s = a ++ '$' :: r ∧ specGo num pfx s pos = .err (pos + byteLen a + 1) ∧
      startsWith ('$' :: r) kwDollar = false ∧ startsWith ('$' :: r) kwLexer = false ∧
      startsWith ('$' :: r) kwSpan = false ∧ firstIs num r = false) := by
  induction hn : s.length using Nat.strongRecOn generalizing s pos with
  | _ n ih =>
    obtain ⟨p, t, rfl, hp, rfl | ⟨r, rfl⟩⟩ := split_at_dollar s
    · left; exact ⟨p ++ [], by rw [specGo_plain num pfx p [] pos hp, specGo]; rfl⟩
    · rw [specGo_plain num pfx p _ pos hp, specGo_dollar]
      have hs := expand_spec num pfx r
      cases he : expand num pfx r with
      | none => rw [he] at hs; right; exact ⟨p, r, rfl, rfl, hs⟩
      | some ko =>
        obtain ⟨kw, o⟩ := ko
        rw [he] at hs
        obtain ⟨r', hr, hk⟩ := hs
        rw [List.length_append, List.length_cons] at hn
        simp only [Option.elim_some]
        rw [hr, List.drop_left]
        rcases ih r'.length (by omega) r' (pos + byteLen p + byteLen kw) rfl with
          ⟨o', ho⟩ | ⟨a, r₂, rfl, herr, hh⟩
        · left; exact ⟨p ++ (o ++ o'), by rw [ho]; rfl⟩
        · right
          refine ⟨p ++ (kw ++ a), r₂, by simp only [List.append_assoc], ?_, hh⟩
          rw [herr]; simp only [Res.prepend, byteLen_append, Nat.add_assoc]

/-- **No panic, no divergence**: on every action text the loop terminates within its fuel and never
slices off a character boundary (multi-byte text included); and when it reports an error at offset
`pos`, `Span::new(span.start() + pos, span.end())` does not panic for the span the Yacc parser records
for an action (`end = start + len`): the position is within the text. -/
theorem dollar_no_panic (num : Char → Bool) (pfx s : List Char) :
    dollar num pfx s ≠ .panic ∧ dollar num pfx s ≠ .fuel ∧
    ∀ pos, dollar num pfx s = .err pos →
      1 ≤ pos ∧ pos ≤ byteLen s ∧
      ∀ st, errSpan st (st + byteLen s) pos = some (st + pos, st + byteLen s) := by
  rw [dollar_eq_spec, dollarSpec]
  rcases spec_err_located num pfx s 0 with ⟨o, ho⟩ | ⟨a, r, rfl, herr, _⟩
  · rw [ho]; exact ⟨nofun, nofun, nofun⟩
  · have hb : byteLen (a ++ '$' :: r) = byteLen a + 1 + byteLen r := by
      rw [byteLen_append, Nat.add_assoc]; rfl
    rw [herr, Nat.zero_add, hb]
    refine ⟨nofun, nofun, fun pos hp => ?_⟩
    cases hp
    refine ⟨Nat.le_add_left .., Nat.le_add_right .., fun st => ?_⟩
    rw [errSpan, if_neg (Nat.not_lt.mpr (Nat.add_le_add_left (Nat.le_add_right ..) st))]

/-- **`$k` denotes the k-th argument identifier.** A `$` followed by a run of digits `d :: ds` (first one
numeric, none of them `$`; `d` is not `l`/`s`, which holds for every numeric character) is replaced by
`<pfx>arg_` followed by exactly those digits, i.e. by the name that `gen_user_actions` gives the
parameter and `gen_wrappers` the `let` binding with that number (`argName`); the rest of the text is
processed independently. Nothing checks that the number is between 1 and the production's length:
see the `example`s below. -/
theorem dollar_arg_denotes (num : Char → Bool) (pfx : List Char) (d : Char) (ds t : List Char)
    (pos : Nat) (hd : num d = true) (h1 : d ≠ '$') (h2 : d ≠ 'l') (h3 : d ≠ 's') (hds : '$' ∉ ds) :
    specGo num pfx ('$' :: ((d :: ds) ++ t)) pos
      = (specGo num pfx t (pos + 1 + byteLen (d :: ds))).prepend (pfx ++ idArg ++ (d :: ds)) := by
  have hp : '$' ∉ d :: ds := fun h => (List.mem_cons.mp h).elim (fun e => h1 e.symm) hds
  have ns : ∀ c k, d ≠ c → startsWith ('$' :: ((d :: ds) ++ t)) ('$' :: c :: k) = false := fun c k h => by
    simp [startsWith, List.isPrefixOf, h.symm]
  have e1 : startsWith ('$' :: ((d :: ds) ++ t)) kwDollar = false := ns '$' _ h1
  have e2 : startsWith ('$' :: ((d :: ds) ++ t)) kwLexer = false := ns 'l' _ h2
  have e3 : startsWith ('$' :: ((d :: ds) ++ t)) kwSpan = false := ns 's' _ h3
  have e4 : firstIs num ((d :: ds) ++ t) = true := hd
  rw [specGo]
  simp only [ne_eq, not_true_eq_false, if_false, e1, e2, e3, e4, Bool.false_eq_true, if_true]
  rw [specGo_plain num pfx (d :: ds) t (pos + 1) hp, prepend_prepend]

/-- the identifier produced for `$k` is the k-th parameter name (decimal `k`) -/
theorem arg_name_is_param (pfx : List Char) (n k : Nat) (hk : k < n) :
    (argNames pfx n)[k]? = some (pfx ++ idArg ++ (toString (k + 1)).toList) := by
  simp [argNames, argName, hk]

/-- what the action receives for one stack entry: `Ok(lexeme)` for a lexeme of the input, `Err(lexeme)`
for one inserted by error recovery (`faulty()`), the inner value for a rule -/
def argOf : AStack → Arg
  | .lexeme id false => .okLex id
  | .lexeme id true => .errLex id
  | .value _ v => .val v

/-- the stack entry fits the production's symbol (what the parser guarantees for a reduction) -/
def fits : Sym → AStack → Prop
  | .tok _, .lexeme _ _ => True
  | .rule r, .value variant _ => variant = r
  | _, _ => False

/-- every symbol of the production has a fitting entry at the same position of the drain -/
def agree : List Sym → List AStack → Prop
  | [], _ => True
  | _ :: _, [] => False
  | s :: ss, a :: as => fits s a ∧ agree ss as

private theorem unpack1_eq_some_iff (s : Sym) (a : AStack) (x : Arg) :
    unpack1 s (some a) = some x ↔ fits s a ∧ x = argOf a := by
  cases s with
  | tok t =>
    cases a with
    | lexeme id faulty => cases faulty <;> exact ⟨fun h => ⟨trivial, (Option.some.inj h).symm⟩, fun h => h.2 ▸ rfl⟩
    | value variant v => exact ⟨nofun, fun h => h.1.elim⟩
  | rule r =>
    cases a with
    | lexeme id faulty => exact ⟨nofun, fun h => h.1.elim⟩
    | value variant v =>
      by_cases hv : variant = r
      · simp only [unpack1, if_pos hv]
        exact ⟨fun h => ⟨hv, (Option.some.inj h).symm⟩, fun h => h.2 ▸ rfl⟩
      · simp only [unpack1, if_neg hv]
        exact ⟨nofun, fun h => absurd h.1 hv⟩

/-- **Wrapper binding order.** For a drain that fits the production, the generated `let` sequence
binds `__gt_arg_{k+1}` to the k-th popped value, for every k: `Ok` for real lexemes, `Err` for inserted
ones, the action value for rules; no `unwrap`/`unreachable!` panic. The call passes them in the same
order as the action function declares its parameters (`argNames`, used by both generators). -/
theorem wrapper_binds_in_order (syms : List Sym) (drain : List AStack) (h : agree syms drain) :
    unpack syms drain = some ((drain.take syms.length).map argOf) ∧
    ∀ k, k < syms.length →
      ((drain.take syms.length).map argOf)[k]? = (drain[k]?).map argOf := by
  refine ⟨?_, fun k hk => by rw [List.getElem?_map, List.getElem?_take_of_lt hk]⟩
  induction syms generalizing drain with
  | nil => rfl
  | cons s ss ih =>
    cases drain with
    | nil => exact h.elim
    | cons a as =>
      rw [unpack, List.head?_cons, (unpack1_eq_some_iff s a _).mpr ⟨h.1, rfl⟩, List.tail_cons, ih as h.2]
      rfl

/-- conversely the wrapper never mis-binds silently: if it returns at all, the drain fitted -/
theorem wrapper_ok_only_if_agree (syms : List Sym) (drain : List AStack) (bound : List Arg)
    (h : unpack syms drain = some bound) : agree syms drain := by
  induction syms generalizing drain bound with
  | nil => trivial
  | cons s ss ih =>
    cases drain with
    | nil => cases h
    | cons a as =>
      rw [unpack, List.head?_cons, List.tail_cons] at h
      cases h1 : unpack1 s (some a) with
      | none => rw [h1] at h; cases h
      | some x =>
        cases h2 : unpack ss as with
        | none => rw [h1, h2] at h; cases h
        | some b => exact ⟨((unpack1_eq_some_iff s a x).mp h1).1, ih as b h2⟩

/-! ## The wiring of the lexer code generator

`CTLexerBuilder::build` writes a `lexerdef()` that rebuilds the flags, the start states and the rules of
the run-time lexer definition. Which flag goes where, which accessor each argument of the generated
`Rule::new` is read from and which iterators are walked is re-read from the Rust source on every run
(`GrmVerif/Extracted.lean`, `C13_*`). The first two theorems say what a correct wiring gives, for EVERY
wiring that passes the decidable checks; the third says that the wiring found in the source passes them. It
is the third that stops checking when the generator is rewired. -/

open GrmVerif.LexCodegen GrmVerif.Extracted

/-- **The generated flags are the source's flags.** For any list of flag fields and any generated
assignment lines that pass `flagWiringOk`, and for any user flags and default flags: every field `f` of
`LexFlags` has, in the generated lexer, the value `user.f.or(default.f)` — the user's setting if there is
one, the default otherwise; which is what the run-time lexer is built with. -/
theorem generated_flags_are_source_flags (fields : List String) (w : FlagWiring)
    (hok : flagWiringOk fields w = true) (user dflt : Flags) :
    ∀ f ∈ fields, emitFlags w user dflt f = (user f).or (dflt f) := by
  intro f hf
  simp only [flagWiringOk, Bool.and_eq_true, List.all_eq_true, beq_iff_eq] at hok
  obtain ⟨h1, h2⟩ := hok
  have hany := filter_len_one_any _ _ (h1 f hf)
  rw [emitFlags, applyLines_self user dflt w (fun l hl => (h2 l hl).1), hany, if_pos rfl]

/-- **The generated rules are the source's rules, in the source's order.** For any rule wirings that pass
`ruleWiringOk` and iterator expressions that pass `iterOk`: the generated definition exists, has the
run-time definition's start states (same number, same order), has exactly one `Rule::new` call per
run-time rule in the same order, and what `Rule::new` builds from the k-th call has, in every field that
`Rule::new` stores (every field that is not derived from the regex text and the flags), the value of that
field in the k-th run-time rule. -/
theorem generated_rules_are_source_rules (fields derived : List String)
    (rw stores acc : List (String × String)) (rulesIter statesIter : String)
    (hok : ruleWiringOk fields derived rw stores acc = true) (hit : iterOk rulesIter statesIter = true)
    (d : LexCodegen.RDef) (dv : RRule) :
    (∀ r : RRule, ∀ f ∈ fields, f ∉ derived →
        rebuildRule stores dv (emitRule rw acc fields r) f = r f) ∧
    ∃ g, emitDef rulesIter statesIter rw acc fields d = some g ∧ g.states = d.states ∧
      g.rules.length = d.rules.length ∧
      ∀ k (hk : k < d.rules.length), ∀ f ∈ fields, f ∉ derived →
        (g.rules[k]?.map (rebuildRule stores dv)).map (· f) = some (d.rules[k] f) := by
  have hrule : ∀ r : RRule, ∀ f ∈ fields, f ∉ derived →
      rebuildRule stores dv (emitRule rw acc fields r) f = r f := by
    intro r f hf hnd
    simp only [ruleWiringOk, Bool.and_eq_true, List.all_eq_true, Bool.or_eq_true, beq_iff_eq] at hok
    obtain ⟨⟨⟨h1, h2⟩, _⟩, _⟩ := hok
    -- `f` is stored from exactly one parameter `s.1`, and that parameter is computed from field `s.2 = f`
    obtain ⟨s, hfind, hmem, hs⟩ := find_of_filter_len_one _ _
      ((h2 f hf).resolve_left fun h => hnd (List.contains_iff_mem.mp h))
    have h1s := h1 s hmem
    simp only [rebuildRule, hfind, emitRule]
    cases hl : rw.lookup s.1 with
    | none => rw [hl] at h1s; cases h1s
    | some a =>
      rw [hl] at h1s
      simp only [eq_of_beq h1s, Option.map_some, Option.getD_some, eq_of_beq hs]
  refine ⟨hrule, { states := d.states.map id, rules := d.rules.map (emitRule rw acc fields) },
    by rw [emitDef, if_pos hit], List.map_id _, List.length_map .., fun k hk f hf hnd => ?_⟩
  rw [List.getElem?_map, List.getElem?_eq_getElem hk]
  exact congrArg some (hrule _ f hf hnd)

/-- **The generator's wiring, as found in the source on this run, is the correct one**: each of the
`LexFlags` fields is assigned exactly once, from the user's value of that same field, with that same
field's default; every argument of the generated `Rule::new` is read through the accessor of the field its
parameter is stored in, every field of `Rule` but `re` is stored from exactly one parameter; rules and
start states are taken from `lexerdef.iter_rules()` / `lexerdef.iter_start_states()` with nothing in
between. This is the obligation that stops checking when the generator is rewired (a flag ignored, two
flags crossed, states filtered, rules reordered, a field of a rule dropped). -/
theorem extracted_lexer_wiring_ok :
    flagWiringOk C13_LEXFLAGS_FIELDS C13_FLAG_WIRING = true ∧
    ruleWiringOk C13_RULE_FIELDS C13_RULE_DERIVED_FIELDS C13_RULE_WIRING C13_RULE_NEW_STORES
      C13_RULE_ACCESSORS = true ∧
    C13_RULE_DERIVED_FIELDS = ["re"] ∧
    iterOk C13_RULES_ITER C13_STATES_ITER = true := by decide +kernel

/-- `generated_flags_are_source_flags` applied to the source as it is: the generated `lexerdef()` of this source
tree has the user-or-default value in every `LexFlags` field -/
theorem generated_flags_of_this_source (user dflt : Flags) :
    ∀ f ∈ C13_LEXFLAGS_FIELDS, emitFlags C13_FLAG_WIRING user dflt f = (user f).or (dflt f) :=
  generated_flags_are_source_flags _ _ extracted_lexer_wiring_ok.1 user dflt

/-! ### tests (labelled as such): the hypotheses are satisfiable and the boundary cases behave as read
off the code -/

private def isDigit (c : Char) : Bool := c.isDigit
private def gt : List Char := "__gt_".toList

-- the ordinary case. `toList_ofList` turns `"…".toList` into the list of characters without the kernel
-- running the UTF-8 decoder (slow, and run again at every slice the loop takes of the text).
example : dollar isDigit gt "Ok($1 + $2)".toList = .ok "Ok(__gt_arg_1 + __gt_arg_2)".toList := by
  rw [gt, String.toList_ofList, String.toList_ofList, String.toList_ofList]; decide +kernel
-- `$$`, `$span`, `$lexer`, multi-byte text
example : dollar isDigit gt "\"é$$\", $span, $lexer.x".toList
    = .ok "\"é$\", __gt_span, __gt_lexer.x".toList := by
  rw [gt, String.toList_ofList, String.toList_ofList, String.toList_ofList]; decide +kernel
-- a digit run is copied as written; no range check: `$0`, `$12`, `$1x` all go through
example : dollar isDigit gt "$0 $12 $1x".toList = .ok "__gt_arg_0 __gt_arg_12 __gt_arg_1x".toList := by
  rw [gt, String.toList_ofList, String.toList_ofList, String.toList_ofList]; decide +kernel
-- `$` followed by anything else, and `$` at the end of the text, are errors just after that `$`
example : dollar isDigit gt "ab $x".toList = .err 4 := by
  rw [gt, String.toList_ofList, String.toList_ofList]; decide +kernel
example : dollar isDigit gt "é$".toList = .err 3 := by
  rw [gt, String.toList_ofList, String.toList_ofList]; decide +kernel
-- `$$$1` is a literal dollar followed by argument 1
example : dollar isDigit gt "$$$1".toList = .ok "$__gt_arg_1".toList := by
  rw [gt, String.toList_ofList, String.toList_ofList, String.toList_ofList]; decide +kernel
-- wrapper: token (real), rule, token (inserted)
example : unpack [.tok 0, .rule 2, .tok 1] [.lexeme 10 false, .value 2 77, .lexeme 11 true]
    = some [.okLex 10, .val 77, .errLex 11] := by decide +kernel
example : agree [.tok 0, .rule 2, .tok 1] [.lexeme 10 false, .value 2 77, .lexeme 11 true] := by
  simp [agree, fits]

-- wiring tests: two crossed flags are rejected
example : flagWiringOk ["swap_greed", "ignore_whitespace"]
    [("ignore_whitespace", "swap_greed", "ignore_whitespace"), ("swap_greed", "ignore_whitespace", "swap_greed")] = false := by decide +kernel
-- a flag that is never assigned (ignored) is rejected, and so is one assigned with another's default
example : flagWiringOk ["octal", "unicode"] [("octal", "octal", "octal")] = false := by decide +kernel
example : flagWiringOk ["octal", "unicode"] [("octal", "octal", "octal"), ("unicode", "unicode", "octal")] = false := by decide +kernel
-- the straight wiring is accepted, and the crossed one really computes something else
example : flagWiringOk ["octal", "unicode"] [("unicode", "unicode", "unicode"), ("octal", "octal", "octal")] = true := by decide +kernel
example : emitFlags [("a", "b", "a"), ("b", "a", "b")] (fun f => if f = "a" then some 1 else none) (fun _ => some 0) "b"
    = some 1 := by decide +kernel
-- iterators: a filter, a reversal are rejected
example : iterOk "lexerdef.iter_rules()" "lexerdef.iter_start_states().filter(|ss| ss.id == 0)" = false := by
  rw [iterOk, ofList_beq, ofList_beq]; decide +kernel
example : iterOk "lexerdef.iter_rules().rev()" "lexerdef.iter_start_states()" = false := by
  rw [iterOk, ofList_beq, ofList_beq]; decide +kernel
-- rules: a target state read from another accessor, or not passed at all, is rejected
example : ruleWiringOk ["name", "target_state", "re"] ["re"]
    [("name", "name()"), ("target_state", "name()"), ("lex_flags", "&lex_flags")]
    [("name", "name"), ("target_state", "target_state")]
    [("name()", "name"), ("target_state()", "target_state")] = false := by decide +kernel
example : ruleWiringOk ["name", "target_state", "re"] ["re"]
    [("name", "name()"), ("lex_flags", "&lex_flags")]
    [("name", "name"), ("target_state", "target_state")]
    [("name()", "name"), ("target_state()", "target_state")] = false := by decide +kernel
example : ruleWiringOk ["name", "target_state", "re"] ["re"]
    [("name", "name()"), ("target_state", "target_state()"), ("lex_flags", "&lex_flags")]
    [("name", "name"), ("target_state", "target_state")]
    [("name()", "name"), ("target_state()", "target_state")] = true := by decide +kernel

end GrmVerif.C13
