import GrmVerif.Props.C04
import GrmVerif.Lemmas.PagerGc
import GrmVerif.Lemmas.PagerWeak
import GrmVerif.Lemmas.PagerInvB
import GrmVerif.Lemmas.PagerTotal
/-!
# C02 — state minimisation never costs an LR(1) grammar its determinism

`Canon.canonical` builds the canonical (unmerged) LR(1) automaton; it is used only after it passed
the verified validators. Two automata for the same grammar that both pass `check` and `checkLA`
— the canonical one and the minimised one the real code built — are related by the theorems below
for EVERY input.
-/
namespace GrmVerif.C02
open Cert LR Ref C01

/-- **Same parse tree.** If the canonical parser accepts an input with tree `t`, the minimised
parser accepts it with a tree of the same shape (same productions, same leaves). -/
theorem same_tree (G : Grammar) (Ac Ap : Automaton) (hc : check G Ac = true) (hp : check G Ap = true)
    (An : Analyses) (hAn : analyses G = some An)
    (hlp : checkLA G Ap (An.nullable.contains ·) (An.first.contains ·) = true)
    (w : List Nat) (hw : InputOk G w) (fuel : Nat) (t : Tree) (h : parse G Ac w fuel = .accept t) :
    ∃ fuel' t', parse G Ap w fuel' = .accept t' ∧ shape t' = shape t := by
  obtain ⟨hv, ⟨S, hS, hr⟩, hy⟩ := lr_sound G Ac hc w hw fuel t h
  exact lr_complete G Ap hp An hAn hlp w hw t S hv hS hr hy

/-- **Same language.** Both parsers accept exactly the sentences of the grammar, hence the same
inputs; in particular the minimised parser rejects exactly what the canonical one rejects. -/
theorem same_language (G : Grammar) (Ac Ap : Automaton) (hc : check G Ac = true) (hp : check G Ap = true)
    (An : Analyses) (hAn : analyses G = some An)
    (hlc : checkLA G Ac (An.nullable.contains ·) (An.first.contains ·) = true)
    (hlp : checkLA G Ap (An.nullable.contains ·) (An.first.contains ·) = true)
    (w : List Nat) (hw : InputOk G w) :
    (∃ fuel t, parse G Ac w fuel = .accept t) ↔ (∃ fuel t, parse G Ap w fuel = .accept t) := by
  rw [lr_accepts_iff_sentence G Ac hc An hAn hlc w hw, lr_accepts_iff_sentence G Ap hp An hAn hlp w hw]

/-- **First error, partial.** Neither parser reports its error prematurely: if the canonical parser
fails at lexeme `i` and the minimised one at lexeme `j`, then neither `w[0..i]` nor `w[0..j]`
(inclusive) is a prefix of a sentence. (Missing for `i = j`: that each parser's consumed prefix IS a
prefix of a sentence — the viable-prefix half of C04; the check compares the two positions on every
generated input.) -/
theorem same_first_error_partial (G : Grammar) (Ac Ap : Automaton) (hc : check G Ac = true) (hp : check G Ap = true)
    (An : Analyses) (hAn : analyses G = some An)
    (hlc : checkLA G Ac (An.nullable.contains ·) (An.first.contains ·) = true)
    (hlp : checkLA G Ap (An.nullable.contains ·) (An.first.contains ·) = true)
    (w : List Nat) (f1 f2 i j s1 s2 : Nat) (hi : i < w.length) (hj : j < w.length)
    (h1 : parse G Ac w f1 = .error i s1) (h2 : parse G Ap w f2 = .error j s2) :
    (¬ ∃ v, InputOk G (w.take (i + 1) ++ v) ∧ Sentence G (w.take (i + 1) ++ v)) ∧
    (¬ ∃ v, InputOk G (w.take (j + 1) ++ v) ∧ Sentence G (w.take (j + 1) ++ v)) :=
  ⟨C04.error_not_premature G Ac hc An hAn hlc w f1 i s1 hi h1,
   C04.error_not_premature G Ap hp An hAn hlp w f2 j s2 hj h2⟩

/-- **Same first-error position.** If both automata additionally pass `checkVP` (closed states hold
only closure items; all rules productive) the two parsers report their error at the same lexeme, for
every input: the position is determined by the language alone. -/
theorem same_first_error (G : Grammar) (Ac Ap : Automaton) (hc : check G Ac = true) (hp : check G Ap = true)
    (hvc : checkVP G Ac = true) (hvp : checkVP G Ap = true)
    (An : Analyses) (hAn : analyses G = some An)
    (hlc : checkLA G Ac (An.nullable.contains ·) (An.first.contains ·) = true)
    (hlp : checkLA G Ap (An.nullable.contains ·) (An.first.contains ·) = true)
    (w : List Nat) (hw : InputOk G w) (f1 f2 i j s1 s2 : Nat)
    (h1 : parse G Ac w f1 = .error i s1) (h2 : parse G Ap w f2 = .error j s2) : i = j :=
  Nat.le_antisymm
    (C04.error_position_unique G Ap Ac hp hc hvc An hAn hlp w hw f2 f1 j i s2 s1 h2 h1)
    (C04.error_position_unique G Ac Ap hc hp hvp An hAn hlc w hw f1 f2 i j s1 s2 h1 h2)

/-! ## The construction algorithm itself (`Model/PagerImpl.lean`, tied to `pager_stategraph` per grammar)

The theorems below are about the line-by-line model of `lrtable/src/lib/pager.rs`; the check replays the
hash-map iteration orders recorded by the hook and demands that the model reproduces the real pre-gc
state list, edges, `state_i` sequence and final `StateGraph` exactly (`Ig`/`Mg` lines). -/

open GrmVerif.PagerImpl GrmVerif.CloseImpl

/-- **`gc` keeps exactly the reachable states, in order, and renumbers the edges consistently.** For any
state list, any start state in range and any edge table (one map per state) whose targets are in range:
the model of `gc` ends normally (no panic: `offsets[v]` is always in range; no fuel exhaustion with the
`|states| + 1` units the model gives the reachability loop) with `(states', edges')` such that, writing
`gcIndex s` for the number of reachable states before `s`:
* there are as many kept states (and edge maps) as reachable states;
* every reachable old state `s` sits at position `gcIndex s` and its edge map there is the old one with
  every target `t` replaced by `gcIndex t` (kept edges `(s, sym, t)` appear as `(gcIndex s, sym, gcIndex t)`);
* nothing else is kept: every new index is `gcIndex s` of a reachable `s`;
* the original relative order is preserved (`gcIndex` is strictly increasing on reachable states);
* `gcIndex s` is the old index minus the number of dropped (unreachable) states before it;
* all new targets are in range;
* the start state stays 0 when it was 0. -/
theorem gc_spec {α : Type} (states : List α) (start : Nat) (edges : List (List (Sym × Nat)))
    (hlen : edges.length = states.length) (hstart : start < states.length)
    (hrange : ∀ (s : Nat) (es : List (Sym × Nat)), edges[s]? = some es → ∀ e ∈ es, e.2 < states.length) :
    ∃ states' edges', gc states start edges = .ok (states', edges') ∧
      states'.length = gcIndex edges start states.length ∧ edges'.length = states'.length ∧
      (∀ s, s < states.length → Reach edges start s →
        states'[gcIndex edges start s]? = states[s]? ∧
        edges'[gcIndex edges start s]? = (edges[s]?).map (relabel (gcIndex edges start))) ∧
      (∀ k, k < states'.length → ∃ s, s < states.length ∧ Reach edges start s ∧ gcIndex edges start s = k) ∧
      (∀ s t, s < t → Reach edges start s → gcIndex edges start s < gcIndex edges start t) ∧
      (∀ s, gcIndex edges start s + droppedBefore edges start s = s) ∧
      (∀ es ∈ edges', ∀ e ∈ es, e.2 < states'.length) ∧
      (start = 0 → gcIndex edges start start = 0) := by
  classical
  obtain ⟨states', edges', hgc, hl1, hl2, hA⟩ := gc_core states start edges hlen hstart hrange
  have hsurj : ∀ k, k < states'.length → ∃ s, s < states.length ∧ Reach edges start s ∧ gcIndex edges start s = k := by
    intro k hk
    rw [hl1] at hk
    obtain ⟨s, h1, h2, h3⟩ := keptBefore_surj _ _ _ hk
    exact ⟨s, h1, of_decide_eq_true h2, h3⟩
  refine ⟨states', edges', hgc, hl1, hl2.trans hl1.symm, hA, hsurj, ?_, ?_, ?_, ?_⟩
  · intro s t hst hr
    exact keptBefore_lt _ hst (decide_eq_true hr)
  · exact gcIndex_add_dropped edges start
  · intro es hes e he
    obtain ⟨k, hk, hget⟩ := List.getElem_of_mem hes
    obtain ⟨s, hs, hr, hks⟩ := hsurj k (hl1 ▸ hl2 ▸ hk)
    have h2 := (hA s hs hr).2
    rw [hks, List.getElem?_eq_getElem hk, hget] at h2
    obtain ⟨es0, hes0⟩ := getElem?_of_lt (hlen ▸ hs)
    rw [hes0] at h2
    simp only [Option.map_some, Option.some.injEq] at h2
    rw [h2] at he
    obtain ⟨e0, he0, rfl⟩ := List.mem_map.mp he
    have hlt := hrange s es0 hes0 e0 he0
    have hr' : Reach edges start e0.2 := .step s e0.2 e0.1 es0 hr hes0 he0
    rw [hl1]
    exact keptBefore_lt _ hlt (decide_eq_true hr')
  · intro h0; rw [h0]; exact keptBefore_zero _

/-- **`weakly_compatible` decides Pager's condition.** For two item sets that are hash maps (distinct
keys), `self` non-empty, and `keys` any duplicate-free enumeration of the keys of `self` (the order in
which `self.items.keys()` yields them): the model ends normally and answers `true` exactly when the
declarative condition `WeaklyCompatibleSpec` holds — same core items, and for every pair `i ≠ j` of
core items: contexts (self i, other j) and (self j, other i) both disjoint, or self i ∩ self j ≠ ∅, or
other i ∩ other j ≠ ∅. (For an EMPTY `self` and `other` the real code computes `len - 1` with
`len = 0`; item sets built by `goto` are never empty.) -/
theorem weakly_compatible_spec (self other : List Item) (hs : KeysNodup self) (ho : KeysNodup other)
    (keys : List (Nat × Nat)) (hknd : keys.Nodup) (hkeys : ∀ k, k ∈ keys ↔ CloseImpl.HasItem self k.1 k.2)
    (hne : self ≠ []) :
    ∃ b, weaklyCompatible self other keys = some b ∧ (b = true ↔ WeaklyCompatibleSpec self other) :=
  weaklyCompatible_spec hs ho keys hknd hkeys hne

/-- **The answer of `weakly_compatible` does not depend on the order of `keys`**: two enumerations of
the keys of `self` give the same answer (and neither panics). -/
theorem weakly_compatible_order_irrelevant (self other : List Item) (hs : KeysNodup self) (ho : KeysNodup other)
    (k1 k2 : List (Nat × Nat)) (hn1 : k1.Nodup) (hn2 : k2.Nodup)
    (h1 : ∀ k, k ∈ k1 ↔ CloseImpl.HasItem self k.1 k.2) (h2 : ∀ k, k ∈ k2 ↔ CloseImpl.HasItem self k.1 k.2)
    (hne : self ≠ []) :
    ∃ b, weaklyCompatible self other k1 = some b ∧ weaklyCompatible self other k2 = some b := by
  obtain ⟨b1, e1, p1⟩ := weaklyCompatible_spec hs ho k1 hn1 h1 hne
  obtain ⟨b2, e2, p2⟩ := weaklyCompatible_spec hs ho k2 hn2 h2 hne
  exact ⟨b1, e1, by rw [e2, Bool.eq_iff_iff.mpr (p2.trans p1.symm)]⟩

/-- **`weakly_compatible` is symmetric**: `a.weakly_compatible(b) = b.weakly_compatible(a)` for non-empty
hash maps, each call iterating over its own receiver's keys in any order. -/
theorem weakly_compatible_symm (a b : List Item) (ha : KeysNodup a) (hb : KeysNodup b)
    (ka kb : List (Nat × Nat)) (hna : ka.Nodup) (hnb : kb.Nodup)
    (h1 : ∀ k, k ∈ ka ↔ CloseImpl.HasItem a k.1 k.2) (h2 : ∀ k, k ∈ kb ↔ CloseImpl.HasItem b k.1 k.2)
    (hnea : a ≠ []) (hneb : b ≠ []) :
    ∃ r, weaklyCompatible a b ka = some r ∧ weaklyCompatible b a kb = some r := by
  obtain ⟨b1, e1, p1⟩ := weaklyCompatible_spec ha hb ka hna h1 hnea
  obtain ⟨b2, e2, p2⟩ := weaklyCompatible_spec hb ha kb hnb h2 hneb
  exact ⟨b1, e1, by rw [e2, Bool.eq_iff_iff.mpr (p2.trans (weaklyCompatibleSpec_symm.trans p1.symm))]⟩

/-- **`weakly_merge`: every context becomes the union; the flag says whether some context grew.** For
hash maps `self`, `other` where `other` has every key of `self` (true after a successful compatibility
test): the model ends normally (no missing key) with an item set that has the keys of `self` in the same
order, in which token `t` is in the context of item `[p, d]` iff it was there in `self` or is there in
`other`; the returned flag is `true` iff some token of `other`'s context of some item was not in
`self`'s. -/
theorem weakly_merge_spec (self other : List Item) (hs : KeysNodup self) (ho : KeysNodup other)
    (hsub : ∀ p d, CloseImpl.HasItem self p d → CloseImpl.HasItem other p d) :
    ∃ R ch, weaklyMerge self other = some (R, ch) ∧ keysOf R = keysOf self ∧
      (∀ p d t, HasLa R p d t ↔ HasLa self p d t ∨ (CloseImpl.HasItem self p d ∧ HasLa other p d t)) ∧
      (ch = true ↔ ∃ p d t, CloseImpl.HasItem self p d ∧ HasLa other p d t ∧ ¬ HasLa self p d t) := by
  obtain ⟨R, ch, h1, h2, h3, h4, _⟩ := weaklyMerge_spec self other hs ho hsub
  exact ⟨R, ch, h1, h2, h3, h4⟩

/-- **`goto`: exactly the items with the dot before `sym`, advanced, contexts carried.** For an item set
`cl` whose items are in range (`p < prods_len`, `dot ≤ prod_len(p)`): the model ends normally (no index
panic) with a hash map `R` (distinct keys) whose items are exactly `{[p, d+1] | [p, d] ∈ cl, the symbol at
position d of p is sym}` and in which `t` is in the context of `[p, d+1]` iff it is in the context of
`[p, d]` in `cl`. -/
theorem goto_spec (G : Grammar) (sym : Sym) (cl : List Item)
    (hok : ∀ i ∈ cl, i.p < G.nprods ∧ i.dot ≤ (G.rhs i.p).length) :
    ∃ R, PagerImpl.goto G sym cl = some R ∧ KeysNodup R ∧
      (∀ p d, CloseImpl.HasItem R p d ↔ ∃ d0, d = d0 + 1 ∧ CloseImpl.HasItem cl p d0 ∧ (G.rhs p)[d0]? = some sym) ∧
      (∀ p d t, HasLa R p d t ↔ ∃ d0, d = d0 + 1 ∧ HasLa cl p d0 t ∧ (G.rhs p)[d0]? = some sym) :=
  PagerImpl.goto_spec G sym cl hok

/-- **Soundness of the construction, for EVERY order parameter.** For a well-formed grammar and exact
nullable/FIRST oracles: whenever the modelled `pager_stategraph` ends normally — whatever the hash orders
`orders` and whatever `maxStates` — the final state graph (after `gc`) satisfies
(i) every core state is a hash map in range and every closed state denotes exactly the LR(1) closure
(`ClosureP`, the specification side of `C16.close_impl_exact`) of its core state;
(ii) state 0's core is the start item `[start_prod, 0]` with context `{eof}`;
(iii) for every edge `(s, sym, t)`: `t` is a state, `goto (closed s) sym` is non-empty, has exactly the core
items of `core t`, and each of its contexts is a subset of the corresponding context of `core t`
(`GotoInto`);
(iv) every symbol after a dot in a closed state has an edge;
and there is one edge map per state and fewer than `maxStates` states.
(The invariant behind it, `Lemmas/PagerInv.lean`/`PagerInvB.lean`: cores only grow; a closed state whose
core grows is re-opened, so every state that is not open has `closed = close core`; an edge is inserted with
its goto set included in the target's core at that moment; the edges of a re-processed state are all
overwritten; state 0 is never a merge target. Pager's global theorem — no new conflicts for LR(1)
grammars — is not part of this statement.) -/
theorem pager_output_certified (G : Grammar) (hwf : G.wf = true) (N : Nat → Bool) (F : Nat × Nat → Bool)
    (hN : ∀ r, N r = true ↔ Spec.NullableR G r) (hF : ∀ r t, F (r, t) = true ↔ Spec.FirstP G r t)
    (maxStates : Nat) (orders : List Order) (out : Output) (h : pager G N F maxStates orders = .ok out) :
    (∀ (k : Nat) (core cl : List Item), out.states[k]? = some (core, cl) → ItemsOk G core ∧ ClosedOf G core cl) ∧
    (∃ cl, out.states[0]? = some ([⟨G.startProd, 0, [G.eof]⟩], cl)) ∧
    (∀ (k : Nat) (core cl : List Item) (es : List (Sym × Nat)), out.states[k]? = some (core, cl) →
      out.edges[k]? = some es → ∀ e ∈ es, ∃ tcore tcl, out.states[e.2]? = some (tcore, tcl) ∧ GotoInto G cl e.1 tcore) ∧
    (∀ (k : Nat) (core cl : List Item) (es : List (Sym × Nat)), out.states[k]? = some (core, cl) →
      out.edges[k]? = some es → ∀ p d X, CloseImpl.HasItem cl p d → (G.rhs p)[d]? = some X → ∃ e ∈ es, e.1 = X) ∧
    out.edges.length = out.states.length ∧ out.states.length < maxStates := by
  rcases pager_spec hwf hN hF maxStates orders with
    ⟨e, _⟩ | ⟨e, _⟩ | ⟨e, _⟩ | ⟨_, _, _, e, inv, invB, htodo, zs, hz, hgc, hmax⟩ <;> (rw [e] at h; cases h)
  obtain ⟨zs', hz', hzl, hzs⟩ := zipStates_spec _ _ inv.len1 (inv.todo ▸ htodo)
  cases hz.symm.trans hz'
  have hpos := inv.pos
  obtain ⟨states', edges', hgc', hl1, hl2, hA, hsurj, _, _, hrange, h0⟩ :=
    gc_spec zs 0 out.pre.edges (by rw [hzl]; exact inv.len2) (hzl ▸ hpos)
      (fun s es hes e he => by rw [hzl]; exact inv.edgeRange s es hes e he)
  rw [hgc] at hgc'
  simp only [Res.ok.injEq, Prod.mk.injEq] at hgc'
  obtain ⟨e1, e2⟩ := hgc'
  subst e1 e2
  -- every final state is a reachable pre-gc state, and its edge map is the renumbered edge map of that state
  have hback : ∀ (k : Nat) (core cl : List Item), out.states[k]? = some (core, cl) →
      ∃ s, Reach out.pre.edges 0 s ∧ out.pre.core[s]? = some core ∧ out.pre.closed[s]? = some (some cl) ∧
        ∀ es : List (Sym × Nat), out.edges[k]? = some es →
          ∃ es0, out.pre.edges[s]? = some es0 ∧ es = relabel (gcIndex out.pre.edges 0) es0 := by
    intro k core cl hk
    obtain ⟨s, hs, hr, rfl⟩ := hsurj k (getElem?_some_lt hk)
    obtain ⟨h1, h2⟩ := hA s hs hr
    rw [hk] at h1
    obtain ⟨c1, c2⟩ := hzs s (core, cl) h1.symm
    refine ⟨s, hr, c1, c2, fun es hes => ?_⟩
    rw [hes] at h2
    obtain ⟨es0, he0, h⟩ := Option.map_eq_some_iff.mp h2.symm
    exact ⟨es0, he0, h.symm⟩
  -- a reachable pre-gc state sits in the output at its new index
  have hfwd : ∀ (s : Nat) (c : List Item), Reach out.pre.edges 0 s → out.pre.core[s]? = some c →
      ∃ cl, out.states[gcIndex out.pre.edges 0 s]? = some (c, cl) := by
    intro s c hr hc
    have hs : s < zs.length := hzl ▸ getElem?_some_lt hc
    obtain ⟨z, hz⟩ := getElem?_of_lt hs
    have c1 := (hzs s z hz).1
    rw [hc] at c1
    cases c1
    exact ⟨z.2, by rw [(hA s hs hr).1, hz]⟩
  refine ⟨?_, ?_, ?_, ?_, hl2, hmax⟩
  · intro k core cl hk
    obtain ⟨s, _, c1, c2, _⟩ := hback k core cl hk
    exact ⟨inv.coreOk s core c1, inv.closedOk s cl core c2 c1⟩
  · obtain ⟨cl, hcl⟩ := hfwd 0 _ .start inv.start
    rw [h0 rfl] at hcl
    exact ⟨cl, hcl⟩
  · intro k core cl es hk hes e he
    obtain ⟨s, hr, c1, c2, hed⟩ := hback k core cl hk
    obtain ⟨es0, hes0, rfl⟩ := hed es hes
    obtain ⟨e0, he0, rfl⟩ := List.mem_map.mp he
    obtain ⟨tgt, ht, hgoto⟩ := (invB.edgeOk s cl es0 nofun c2 hes0).1 e0 he0
    obtain ⟨tcl, htcl⟩ := hfwd e0.2 tgt (.step s e0.2 e0.1 es0 hr hes0 he0) ht
    exact ⟨tgt, tcl, htcl, hgoto⟩
  · intro k core cl es hk hes p d X hi hX
    obtain ⟨s, hr, c1, c2, hed⟩ := hback k core cl hk
    obtain ⟨es0, hes0, rfl⟩ := hed es hes
    obtain ⟨e0, he0, hk0⟩ := (invB.edgeOk s cl es0 nofun c2 hes0).2 p d X hi hX
    exact ⟨(e0.1, gcIndex out.pre.edges 0 e0.2), List.mem_map.mpr ⟨e0, he0, rfl⟩, hk0⟩

/-- **The graph-level conditions of `Cert.check` hold of every output of the modelled construction.** Under
the hypotheses of `pager_output_certified`, the automaton view `toAutomaton out` of the final state graph
satisfies the fields of `Cert.Props` that speak about the graph — i.e. the unpacked clauses `itemsOk`, K1
(`startLt`, `startCore`, `startHas`), K2 (`kernelOfDot`, `coreSub`), K3′ (`edgeTarget`), K3 (`edgeExists`)
and K6 (`justified`) of `Cert.check`. (Not covered, because they are not about the graph: K4 and K5 — the
table built by `StateTable::new`, C03/C16 — and `wfG`, the shape of the grammar.) -/
theorem pager_output_cert_graph_clauses (G : Grammar) (hwf : G.wf = true) (N : Nat → Bool) (F : Nat × Nat → Bool)
    (hN : ∀ r, N r = true ↔ Spec.NullableR G r) (hF : ∀ r t, F (r, t) = true ↔ Spec.FirstP G r t)
    (maxStates : Nat) (orders : List Order) (out : Output) (h : pager G N F maxStates orders = .ok out) :
    let A := toAutomaton out
    (∀ s, s < A.nstates → ∀ i ∈ A.closed s ++ A.core s, i.p < G.nprods ∧ i.dot ≤ (G.rhs i.p).length) ∧
    A.start < A.nstates ∧
    (∀ i ∈ A.core A.start, i.p = G.startProd ∧ i.dot = 0) ∧
    Cert.HasItem (A.core A.start) G.startProd 0 ∧
    (∀ s, s < A.nstates → ∀ i ∈ A.closed s, i.dot > 0 → Cert.HasItem (A.core s) i.p i.dot) ∧
    (∀ s, s < A.nstates → ∀ i ∈ A.core s, Cert.HasItem (A.closed s) i.p i.dot) ∧
    (∀ s, s < A.nstates → ∀ e ∈ A.edges s, e.2 < A.nstates ∧ A.core e.2 ≠ [] ∧
      ∀ i ∈ A.core e.2, i.dot > 0 ∧ symAt G i.p (i.dot - 1) = some e.1 ∧ Cert.HasItem (A.closed s) i.p (i.dot - 1)) ∧
    (∀ s, s < A.nstates → ∀ i ∈ A.closed s, ∀ X, symAt G i.p i.dot = some X →
      ∃ t, A.edge s X = some t ∧ Cert.HasItem (A.core t) i.p (i.dot + 1)) ∧
    (∀ s, s < A.nstates → ∀ i ∈ A.closed s, i.dot = 0 →
      Cert.HasItem (A.core s) i.p 0 ∨ ∃ j ∈ A.closed s, symAt G j.p j.dot = some (.rule (G.lhs i.p))) := by
  intro A
  obtain ⟨h1, ⟨cl0, h2⟩, h3, h4, hlen, _⟩ := pager_output_certified G hwf N F hN hF maxStates orders out h
  obtain ⟨hn, hview⟩ := toAutomaton_view out hlen
  have hpos : 0 < A.nstates := by rw [hn]; exact getElem?_some_lt h2
  -- per state: its entry in the output and what `pager_output_certified` says of it
  have hst : ∀ s, s < A.nstates → out.states[s]? = some (A.core s, A.closed s) ∧ out.edges[s]? = some (A.edges s) ∧
      Closure.CoreOk G (A.core s) ∧ ClosedOf G (A.core s) (A.closed s) ∧ Closure.CoreOk G (A.closed s) := by
    intro s hs
    obtain ⟨e1, e2⟩ := hview s (by rw [← hn]; exact hs)
    obtain ⟨hcore, hcl⟩ := h1 s _ _ e1
    exact ⟨e1, e2, hcore.1, hcl, (closedOf_coreOk hwf hcore.1 hcl).1⟩
  have hstart : A.core 0 = [⟨G.startProd, 0, [G.eof]⟩] := by
    have := (hst 0 hpos).1
    rw [h2] at this
    exact (Prod.mk.inj (Option.some.inj this)).1.symm
  -- per edge `(X, t)` of `s`: `t` is a state, and the items of `core t` are those of `goto (closed s) X`
  have hedge : ∀ s, s < A.nstates → ∀ e ∈ A.edges s, e.2 < A.nstates ∧ A.core e.2 ≠ [] ∧
      ∀ p d, Cert.HasItem (A.core e.2) p d ↔ ∃ d0, d = d0 + 1 ∧ Cert.HasItem (A.closed s) p d0 ∧ symAt G p d0 = some e.1 := by
    intro s hs e he
    obtain ⟨e1, e2, _, _, hclOk⟩ := hst s hs
    obtain ⟨tcore, tcl, ht, n, hg, hne, hsame, _⟩ := h3 s _ _ _ e1 e2 e he
    have htlt : e.2 < A.nstates := by rw [hn]; exact getElem?_some_lt ht
    rw [(hst e.2 htlt).1] at ht
    cases ht
    refine ⟨htlt, fun hempty => ?_, fun p d => ((hsame p d).symm.trans ((goto_itemsOk hclOk hg).2.1 p d))⟩
    cases n with
    | nil => exact hne rfl
    | cons x xs =>
      obtain ⟨j, hj, _⟩ := (hsame x.p x.dot).mp ⟨x, List.mem_cons_self .., rfl, rfl⟩
      rw [hempty] at hj; cases hj
  refine ⟨?_, hpos, ?_, ?_, ?_, ?_, ?_, ?_, ?_⟩
  · intro s hs i hi
    obtain ⟨_, _, hcore, _, hclOk⟩ := hst s hs
    rcases List.mem_append.mp hi with hi | hi
    · exact ⟨(hclOk i hi).1, (hclOk i hi).2.1⟩
    · exact ⟨(hcore i hi).1, (hcore i hi).2.1⟩
  · intro i hi
    rw [show A.core A.start = _ from hstart, List.mem_singleton] at hi
    rw [hi]; exact ⟨rfl, rfl⟩
  · rw [show A.core A.start = _ from hstart]
    exact ⟨_, List.mem_singleton.mpr rfl, rfl, rfl⟩
  · intro s hs i hi hd
    rcases closureP_item_inv (((hst s hs).2.2.2.1.2.1 i.p i.dot).mp ⟨i, hi, rfl, rfl⟩) with h | ⟨h0, _⟩
    · exact h
    · exact absurd h0 (Nat.ne_of_gt hd)
  · intro s hs i hi
    exact ((hst s hs).2.2.2.1.2.1 i.p i.dot).mpr (.kitem i hi)
  · intro s hs e he
    obtain ⟨htlt, hne, hitems⟩ := hedge s hs e he
    refine ⟨htlt, hne, fun i hi => ?_⟩
    obtain ⟨d0, hd0, hitem, hsym⟩ := (hitems i.p i.dot).mp ⟨i, hi, rfl, rfl⟩
    rw [hd0]
    exact ⟨Nat.succ_pos _, hsym, hitem⟩
  · intro s hs i hi X hX
    obtain ⟨e1, e2, _⟩ := hst s hs
    obtain ⟨e0, he0, hk0⟩ := h4 s _ _ _ e1 e2 i.p i.dot X ⟨i, hi, rfl, rfl⟩ hX
    cases hedge' : A.edge s X with
    | none =>
      simp only [Automaton.edge, Option.map_eq_none_iff, List.find?_eq_none] at hedge'
      exact absurd (beq_iff_eq.mpr hk0) (hedge' e0 he0)
    | some t =>
      exact ⟨t, rfl, ((hedge s hs (X, t) (Cert.edge_mem hedge')).2.2 i.p (i.dot + 1)).mpr ⟨i.dot, rfl, ⟨i, hi, rfl, rfl⟩, hX⟩⟩
  · intro s hs i hi hd
    have hcl := (hst s hs).2.2.2.1
    rcases closureP_item_inv ((hcl.2.1 i.p i.dot).mp ⟨i, hi, rfl, rfl⟩) with h | ⟨_, p', d', hc, hsym⟩
    · left; rw [hd] at h; exact h
    · right
      obtain ⟨j, hj, e1', e2'⟩ := (hcl.2.1 p' d').mpr hc
      exact ⟨j, hj, by rw [e1', e2']; exact hsym⟩

/-- **The modelled `pager_stategraph` never panics, whatever the hash-map iteration orders, as long as
`StorageT` is not exhausted.** For a well-formed grammar, exact nullable/FIRST oracles and ANY list of
orders (well-formed or not, too short or too long): if `maxStates` (= `StorageT::max_value()`) exceeds
`1 +` the total number of keys the orders make the loop `for &(pidx, dot) in cl_state.items.keys()` visit
(each visit creates at most one state, so this bounds the number of states ever created; for `u32` it
means fewer than 2^32 - 2 key visits in the whole run), the model does not answer `panic`. Since the model
answers `panic` for every index out of range, every `unwrap()` of `None`, the `len - 1` underflow in
`weakly_compatible`, a missing key in `weakly_merge`/`vob_intersect`, the explicit `panic!` of the
`StorageT` guard and `StateGraph::new`'s `assert!`, this says that under the hypothesis:
`closed_states.iter().position(Option::is_none).unwrap()` finds an entry whenever `todo > 0` (`todo` IS the
number of `None` entries); `core_states[state_i]`, `edges[state_i]`, `closed_states[k]`, `core_states[k]`,
`cnd_rule_weaklies[r]`, `cnd_token_weaklies[t]`, `seen_rules[r]`, `seen_tokens[t]`, `prod[dot]` are in range;
`close` and `goto` do not panic; no core state is empty; a weakly compatible candidate has the keys
`weakly_merge` looks up; after the loop every `closed_states` entry is `Some`; `gc`'s `offsets[v]` is in
range; and the final state count fits. Without the hypothesis the only way to `panic` that is left is the
documented `StorageT` one (`PagerImpl.pager_spec`, `Lemmas/PagerTotal.lean`: `panic` implies that the hypothesis
fails; see the example below, `maxStates = 3`). The invariant is `PagerImpl.InvT` (`Lemmas/PagerInv.lean`), which
is `InvA` and the counting. -/
theorem pager_never_panics (G : Grammar) (hwf : G.wf = true) (N : Nat → Bool) (F : Nat × Nat → Bool)
    (hN : ∀ r, N r = true ↔ Spec.NullableR G r) (hF : ∀ r t, F (r, t) = true ↔ Spec.FirstP G r t)
    (maxStates : Nat) (orders : List Order)
    (hmax : 1 + (orders.map (fun o => o.closedKeys.length)).sum < maxStates) :
    pager G N F maxStates orders ≠ .panic := by
  intro h
  rcases pager_spec hwf hN hF maxStates orders with ⟨h1, _⟩ | ⟨h1, _⟩ | ⟨_, hle⟩ | ⟨_, out, _, h1, _⟩
  · rw [h1] at h; cases h
  · rw [h1] at h; cases h
  · exact absurd hmax (Nat.not_lt.mpr hle)
  · rw [h1] at h; cases h

/-- **The three outcomes of the modelled `pager_stategraph`, and where they come from.** Under the
hypotheses of `pager_never_panics`, for any orders exactly one of these holds. Write `Steps os st st'` for
"the main loop performs one normal iteration per element of `os` (with `todo > 0` before each) and gets from
`st` to `st'`".
* `badOrder`: the loop ran normally through a prefix `pre` of the orders, `todo` was still positive, and the
  next order `o` was refused (`BadOrderAt`): `o.coreKeys` is not an enumeration of the keys of the core state
  picked next, or `o.closedKeys` is not an enumeration of the keys of its closure. Nothing else answers
  `badOrder`.
* `fuelOut`: the loop ran normally through ALL the orders and `todo` is still positive: the list of orders
  was too short. Nothing else answers `fuelOut`: `close` and `gc` never run out of the fuel the model gives
  them.
* the main loop ended normally (`todo = 0`), and then so does the whole function: the final `unwrap`s, `gc`
  and the `StorageT` checks all pass.
(Termination — that some list of orders leads to the third case — is not part of this statement.) -/
theorem pager_outcomes (G : Grammar) (hwf : G.wf = true) (N : Nat → Bool) (F : Nat × Nat → Bool)
    (hN : ∀ r, N r = true ↔ Spec.NullableR G r) (hF : ∀ r t, F (r, t) = true ↔ Spec.FirstP G r t)
    (maxStates : Nat) (orders : List Order)
    (hmax : 1 + (orders.map (fun o => o.closedKeys.length)).sum < maxStates) :
    (pager G N F maxStates orders = .badOrder ∧ ∃ pre o post st', orders = pre ++ o :: post ∧
      Steps G N F maxStates pre (initSt G) st' ∧ st'.todo ≠ 0 ∧ BadOrderAt G N F o st') ∨
    (pager G N F maxStates orders = .fuelOut ∧
      ∃ st', Steps G N F maxStates orders (initSt G) st' ∧ st'.todo ≠ 0) ∨
    (∃ r out, mainLoop G N F maxStates orders (initSt G) = .ok r ∧ pager G N F maxStates orders = .ok out) := by
  rcases pager_spec hwf hN hF maxStates orders with h | h | ⟨_, hle⟩ | ⟨r, out, h1, h2, _⟩
  · exact Or.inl h
  · exact Or.inr (Or.inl h)
  · exact absurd hmax (Nat.not_lt.mpr hle)
  · exact Or.inr (Or.inr ⟨r, out, h1, h2⟩)

/-! ### non-vacuity (tests, evaluated in the kernel) -/

/-- `^ → R0; R0 → R1; R1 → R4 R4; R4 → t0` (tokens `t0 $`, rules `^ R0 R1 R4`) -/
def exMerge : Grammar :=
  { ntoks := 2, nrules := 4, eof := 1, startProd := 0,
    prods := [(0, [.rule 1]), (1, [.rule 2]), (2, [.rule 3, .rule 3]), (3, [.tok 0])] }

/-- hash orders under which the state reached over `t0` is numbered (and closed) before the state
reached over `R4`: the second `R4 → t0 ·` (context `$`) is then merged into a closed state, which is
re-opened -/
def exMergeOrders : List Order :=
  [⟨[(0, 0)], [(3, 0), (0, 0), (1, 0), (2, 0)]⟩, ⟨[(3, 1)], [(3, 1)]⟩, ⟨[(0, 1)], [(0, 1)]⟩, ⟨[(1, 1)], [(1, 1)]⟩,
   ⟨[(2, 1)], [(2, 1), (3, 0)]⟩, ⟨[(2, 2)], [(2, 2)]⟩, ⟨[(3, 1)], [(3, 1)]⟩]

def exMergeRun : Res Output := pager exMerge (fun _ => false) (fun x => x.2 == 0) 1000 exMergeOrders

/-- the modelled pager runs 7 iterations on it (state 1 twice), merges once, re-opens one state, ends
with 6 states, and state 1's core context has become `{t0, $}` -/
example : (match exMergeRun with
    | .ok o => o.log.map (·.1) == [0, 1, 2, 3, 4, 5, 1] && o.pre.nmerge == 1 && o.pre.nreopen == 1 &&
        o.states.length == 6 && (o.states.getD 1 ([], [])).1 == [⟨3, 1, [0, 1]⟩] &&
        o.edges.getD 4 [] == [(.rule 3, 5), (.tok 0, 1)]
    | _ => false) = true := by decide +kernel

/-- an order that is not an enumeration of the keys is refused -/
example : (match pager exMerge (fun _ => false) (fun x => x.2 == 0) 1000 [⟨[(0, 0)], [(3, 0)]⟩] with
    | .badOrder => true
    | _ => false) = true := by decide +kernel

/-- too few orders: the loop is cut off -/
example : (match pager exMerge (fun _ => false) (fun x => x.2 == 0) 1000 (exMergeOrders.take 3) with
    | .fuelOut => true
    | _ => false) = true := by decide +kernel

/-- `pager_never_panics` is not vacuous: the run above satisfies its `maxStates` hypothesis (11 key
visits, `maxStates = 1000`) and ends normally -/
example : 1 + (exMergeOrders.map (fun o => o.closedKeys.length)).sum < 1000 := by decide +kernel
example : (match exMergeRun with
    | .ok _ => true
    | _ => false) = true := by decide +kernel

/-- the hypothesis is needed: with `StorageT::max_value() = 3` the same run hits the documented `panic!`
of the `StorageT` guard -/
example : (match pager exMerge (fun _ => false) (fun x => x.2 == 0) 3 exMergeOrders with
    | .panic => true
    | _ => false) = true := by decide +kernel

/-- `gc` on four states whose second state is unreachable: it is dropped, the edges to states 2 and 3 are
renumbered to 1 and 2 -/
example : (match gc ["s0", "s1", "s2", "s3"] 0 [[(.tok 0, 2)], [(.tok 0, 3)], [(.tok 1, 3), (.rule 0, 0)], []] with
    | .ok r => r.1 == ["s0", "s2", "s3"] && r.2 == [[(.tok 0, 1)], [(.tok 1, 2), (.rule 0, 0)], []]
    | _ => false) = true := by decide +kernel

/-- Pager's condition on a pair: `{[0,1]:{0}, [1,1]:{1}}` against `{[0,1]:{1}, [1,1]:{0}}` is NOT weakly
compatible (merging would create a reduce/reduce conflict); against `{[0,1]:{2}, [1,1]:{3}}` it is -/
example : weaklyCompatible [⟨0, 1, [0]⟩, ⟨1, 1, [1]⟩] [⟨1, 1, [0]⟩, ⟨0, 1, [1]⟩] [(0, 1), (1, 1)] = some false := by decide +kernel
example : weaklyCompatible [⟨0, 1, [0]⟩, ⟨1, 1, [1]⟩] [⟨1, 1, [3]⟩, ⟨0, 1, [2]⟩] [(1, 1), (0, 1)] = some true := by decide +kernel

end GrmVerif.C02
