import GrmVerif.Lemmas.HeaderParse
import GrmVerif.Lemmas.YaccRules
/-!
# C12 — specification parsers are total: a result or located errors, never crash or hang

Property theorems for the `%grmtools` section parser (`cfgrammar/src/lib/header.rs` as it stands in /repo).
The model is `GrmVerif/Model/Header.lean`: byte offsets over `List Char`; `&src[i..]` off a character
boundary or out of range is `Res.panic`; every loop and the recursion of `parse_setting` take fuel,
`Res.fuelOut` = did not finish. `parse src required` hands out `|src| + 1` units of fuel.
Helper lemmas: `GrmVerif/Lemmas/Header.lean`, `HeaderParse.lean`. All statements are for every text.

The second half of the file is about the yacc text parser `YaccParser::parse`
(`cfgrammar/src/lib/yacc/parser.rs`), modelled in `GrmVerif/Model/YaccParse.lean` (control flow and
positions of `parse`, `parse_declarations`, `parse_rules`, `parse_rule`, `parse_programs` and all
their helpers; the three `YaccKind`s the control flow distinguishes). Helper lemmas:
`GrmVerif/Lemmas/YaccScan.lean`, `YaccSafe.lean`, `YaccDecls.lean`, `YaccRules.lean`.

The lex parser and `GrammarAST::complete_and_validate` are not modelled here; for them the check is
differential only (see `tools/propcfg/C12.py`).
-/
namespace GrmVerif.C12
open GrmVerif.Header

/-- **Totality.** For every text and both values of `required`, `parse` returns a value or a
non-empty list of errors (so in particular it neither panics nor runs out of fuel). -/
theorem header_total (src : List Char) (required : Bool) :
    (∃ v pos, parse src required = .ok (v, pos)) ∨
    (∃ errs, parse src required = .err errs ∧ errs ≠ []) :=
  (Sat.cases (parse_sat src required)).imp (fun ⟨a, h, _⟩ => ⟨a.1, a.2, h⟩) (fun ⟨e, h, he⟩ => ⟨e, h, he.1⟩)

/-- **No panic.** No slice out of range or off a character boundary, no failed `unwrap`, on any text. -/
theorem header_no_panic (src : List Char) (required : Bool) : parse src required ≠ .panic :=
  (Sat.ne (parse_sat src required)).2

/-- **Termination.** The array loop, the recursion through nested arrays and the key/value loop all
finish within `|src| + 1` steps each: every iteration consumes at least one byte. -/
theorem header_terminates (src : List Char) (required : Bool) : parse src required ≠ .fuelOut :=
  (Sat.ne (parse_sat src required)).1

/-- more fuel than `|src|` never changes the verdict "finished": any such amount suffices -/
theorem header_any_larger_fuel (src : List Char) (required : Bool) (fuel : Nat) (h : byteLen src < fuel) :
    parseWith src required fuel ≠ .fuelOut ∧ parseWith src required fuel ≠ .panic :=
  Sat.ne (parseWith_sat h)

/-- **Error spans.** Every error carries at least one span, and every span satisfies
`start ≤ end ≤ |src|` with both ends on character boundaries: it can be sliced out and rendered. -/
theorem header_error_spans_wf (src : List Char) (required : Bool) (errs : List HErr)
    (h : parse src required = .err errs) :
    ∀ e ∈ errs, e.spans ≠ [] ∧ ∀ sp ∈ e.spans, SpanWF src sp := by
  have hs := parse_sat src required
  rw [h] at hs
  exact fun e he => ⟨(hs.2 e he).1, fun sp hsp => ((hs.2 e he).2 sp hsp).wf⟩

/-- **Result spans.** On success the reported end of the section is a character boundary within the
text, and every span stored in the header (key spans, flag spans, every span inside every setting,
nested arrays included) is well-formed. -/
theorem header_result_spans_wf (src : List Char) (required : Bool) (v : List Entry) (pos : Nat)
    (h : parse src required = .ok (v, pos)) :
    IsBoundary src pos ∧ pos ≤ byteLen src ∧ ∀ e ∈ v, ∀ sp ∈ e.spans, SpanWF src sp := by
  have hs := parse_sat src required
  rw [h] at hs
  exact ⟨(valid_iff_boundary _ _).1 hs.1, hs.1.le, fun e he sp hsp => (hs.2 e he sp hsp).wf⟩

/-- **The span checker the driver runs on the implementation's spans is exact.** -/
theorem span_checker_correct (src : List Char) (sp : Span) : spanWFb src sp = true ↔ SpanWF src sp := by
  simp only [spanWFb, SpanWF, Bool.and_eq_true, decide_eq_true_eq, isBoundaryB_iff, and_assoc]

/-- **The outcome checker (`V` verdict) is exact**: it accepts what an entry point returned iff that
is a value with a boundary end position and well-formed spans, or a non-empty list of errors all of
whose spans are well-formed. -/
theorem outcome_checker_correct (src : List Char) (o : Outcome) : outcomeOKb src o = true ↔ OutcomeOK src o := by
  cases o with
  | crashed => simp [outcomeOKb, OutcomeOK]
  | value pos spans =>
    simp [outcomeOKb, OutcomeOK, isBoundaryB_iff, List.all_eq_true, span_checker_correct]
  | errors errs =>
    simp only [outcomeOKb, OutcomeOK, Bool.and_eq_true, Bool.not_eq_true', List.all_eq_true,
      span_checker_correct, List.isEmpty_eq_false_iff, ne_eq]

/-! ## The yacc text parser

`YaccParse.parse src kind` is `YaccParser::new(kind, src).parse()` followed by `build()`: the result
`Ok(pos)` / `Err(errs)` paired with the AST built so far. In the model
* `Res.panic` = a slice `&src[i..]`/`&src[a..b]` out of range, off a character boundary or with
  `a > b`; `Span::new(a, b)` with `b < a`; `chars().next().unwrap()` at the end of the text; the
  `unwrap` of `lookahead_is("%%", i)` in `parse_rules`; `self.rules[&rule_name]` in `add_prod` for a
  rule that was not added; `e.spans[0]` in `add_duplicate_occurrence`; `assert!(m.end() > 0)`; the
  three `debug_assert!`s;
* `Res.fuelOut` = some loop did not finish within the fuel: EVERY loop instance (the declarations
  loop, the five token/symbol loops inside declarations, the rules loop, the production loop, and the
  character loops of `parse_to_eol`, `parse_int`, `parse_string`, `parse_to_single_colon`,
  `parse_action`) is handed `fuel` units and spends one per iteration; `parse` hands out
  `|src| + 1` (bytes). The fuel bounds each loop instance, not the total work.
All statements are for every text and each of the three kinds. -/

section Yacc
open GrmVerif.YaccParse

/-- **Totality.** For every text and kind the parser returns `Ok` or a NON-EMPTY list of errors. -/
theorem yacc_total (src : List Char) (kind : Kind) :
    (∃ pos ast, YaccParse.parse src kind = .ok (pos, ast)) ∨
    (∃ errs ast, YaccParse.parse src kind = .err (errs, ast) ∧ errs ≠ []) :=
  (Sat.cases (YaccParse.parse_sat src kind)).imp (fun ⟨a, h, _⟩ => ⟨a.1, a.2, h⟩)
    (fun ⟨e, h, he⟩ => ⟨e.1, e.2, h, he.1⟩)

/-- **No panic** (see the list of modelled panics above), on any text, for every kind. -/
theorem yacc_no_panic (src : List Char) (kind : Kind) : YaccParse.parse src kind ≠ .panic :=
  (Sat.ne (YaccParse.parse_sat src kind)).2

/-- **Termination.** `|src| + 1` units of fuel per loop instance always suffice: every iteration of
every loop consumes at least one byte of the text or ends the loop. -/
theorem yacc_terminates (src : List Char) (kind : Kind) : YaccParse.parse src kind ≠ .fuelOut :=
  (Sat.ne (YaccParse.parse_sat src kind)).1

/-- any amount of fuel above `|src|` does: the verdict "finished without panic" does not depend on it -/
theorem yacc_any_larger_fuel (src : List Char) (kind : Kind) (fuel : Nat) (h : byteLen src < fuel) :
    YaccParse.parseWith src kind fuel ≠ .fuelOut ∧ YaccParse.parseWith src kind fuel ≠ .panic :=
  Sat.ne (YaccParse.parseWith_sat h)

/-- **Error spans.** The error list is not empty; every error (the `Duplicate…` ones with all their
occurrences, the ones forwarded from the `%grmtools` section included) carries at least one span,
and every span satisfies `start ≤ end ≤ |src|` with both ends on character boundaries. -/
theorem yacc_error_spans_wf (src : List Char) (kind : Kind) (errs : List YErr) (ast : Ast)
    (h : YaccParse.parse src kind = .err (errs, ast)) :
    errs ≠ [] ∧ ∀ e ∈ errs, e.spans ≠ [] ∧ ∀ sp ∈ e.spans, SpanWF src sp := by
  have hs := YaccParse.parse_sat src kind
  rw [h] at hs
  exact ⟨hs.1, fun e he => ⟨(hs.2.1 e he).1, fun sp hsp => ((hs.2.1 e he).2 sp hsp).wf⟩⟩

/-- **Result position.** On `Ok(pos)` the position is a character boundary within the text. -/
theorem yacc_result_pos_wf (src : List Char) (kind : Kind) (pos : Nat) (ast : Ast)
    (h : YaccParse.parse src kind = .ok (pos, ast)) : IsBoundary src pos ∧ pos ≤ byteLen src := by
  have hs := YaccParse.parse_sat src kind
  rw [h] at hs
  exact ⟨(valid_iff_boundary _ _).1 hs.1, hs.1.le⟩

/-- **AST spans.** Whatever `parse` returns, every span stored in the AST it built (start rule, rule
names, production spans, symbols, tokens, precedences, `%avoid_insert`, `%implicit_tokens`, `%epp`
keys and values, `%expect`, `%expect-rr`, `%expect-unused`) is well-formed. These are the only spans
`complete_and_validate` and `warnings()` put into the errors and warnings they create (besides
`Span::new(0, 0)`); action spans are not part of the model (C10 finding). -/
theorem yacc_ast_spans_wf (src : List Char) (kind : Kind) :
    (∀ pos ast, YaccParse.parse src kind = .ok (pos, ast) → ∀ sp ∈ ast.spans, SpanWF src sp) ∧
    (∀ errs ast, YaccParse.parse src kind = .err (errs, ast) → ∀ sp ∈ ast.spans, SpanWF src sp) := by
  have hs := YaccParse.parse_sat src kind
  constructor
  · intro pos ast h sp hsp
    rw [h] at hs
    exact (hs.2.spans sp hsp).wf
  · intro errs ast h sp hsp
    rw [h] at hs
    exact (hs.2.2.spans sp hsp).wf

/-- test: the hypothesis of `yacc_error_spans_wf` is satisfiable (a header error is forwarded) -/
example : ∃ errs ast, YaccParse.parse "%grmtools".toList .grmtools = .err (errs, ast) := ⟨_, _, rfl⟩

end Yacc

/-! The witnesses of the two repaired defects (`%grmtools{a: [`, `%grmtools{a: 99999999999999999999999}`)
and accepted sections are evaluated on the compiled model by the driver on every run (corpus/C12),
where the implementation must return the same errors. -/

end GrmVerif.C12
