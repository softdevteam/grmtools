import GrmVerif.Lemmas.Total
import GrmVerif.Lemmas.TableViews
import GrmVerif.Lemmas.Closure
import GrmVerif.Lemmas.CertProps
import GrmVerif.Lemmas.CloseLoop
import GrmVerif.Lemmas.Table
/-!
# C16 — state graph and table queries agree with each other

Model: `Model/Table.lean` (`cellOf`, `stateShifts`, `ntDepth`/`coreReduces`, `reduceOnly` as
`StateTable::new` computes them), `Model/Closure.lean` (reference LR(1) closure and state
reachability), `Model/CloseImpl.lean` (the Rust algorithm `Itemset::close` itself: work list, FIRST-based
lookaheads with the nullable `break`, `add`'s changed flag; hash-map order a parameter), `Model/Cert.lean` (edge/goto/shift agreement clauses of the validator).
The bit-level `decode (encode a) = a` is `C20.action_roundtrip`.
-/
namespace GrmVerif.C16
open GrmVerif GrmVerif.Table GrmVerif.Closure GrmVerif.Cert

/-- **tokens listed as having actions = tokens whose action is not an error** (cell level; the bit is
cleared again when `%nonassoc` empties the cell). Stated with the hypotheses of `C03.table_cell_spec`; it holds
without them (`Table.cellOf_ok`). -/
theorem state_actions_spec (G : Grammar) (items : List Item) (tgt : Option Nat) (t : Nat)
    (hnd : (reduceCands G items t).Nodup) (hprec : precConsistent G = true)
    (hacc : specReduce G t (reduceCands G items t) = some .accept → tgt = none)
    (a : Act) (rr : List (Nat × Nat)) (sr : Option Nat) (b : Bool)
    (h : cellOf G items tgt t = .ok a rr sr b) : b = decide (a ≠ .error) :=
  (cellOf_ok h).1

/-- **tokens listed as shifts = tokens whose action is a shift** -/
theorem state_shifts_spec (row : List Act) (t : Nat) :
    t ∈ stateShifts row ↔ t < row.length ∧ ∃ s, row[t]? = some (.shift s) := by
  simp only [stateShifts, List.mem_filter, List.mem_range]
  constructor
  · rintro ⟨hlt, hs⟩
    refine ⟨hlt, ?_⟩
    have : row.getD t .error = row[t] := by simp [List.getD, List.getElem?_eq_getElem hlt]
    rw [this] at hs
    cases hr : row[t] with
    | shift s => exact ⟨s, by simp [List.getElem?_eq_getElem hlt, hr]⟩
    | _ => rw [hr] at hs; simp [isShift] at hs
  · rintro ⟨hlt, s, hs⟩
    refine ⟨hlt, ?_⟩
    simp [List.getD, hs, isShift]

/-- **a shift's target is the graph's edge on that token** (cell level) -/
theorem shift_target_is_edge (G : Grammar) (items : List Item) (tgt : Option Nat) (t x : Nat)
    (rr : List (Nat × Nat)) (sr : Option Nat) (b : Bool)
    (h : cellOf G items tgt t = .ok (.shift x) rr sr b) : tgt = some x :=
  (cellOf_ok h).2 x rfl

/-- **core reductions: one production per distinct (rule, length) among the row's reductions, and
nothing else.** -/
theorem core_reduces_spec (G : Grammar) (row : List Act)
    (hrow : ∀ p, Act.reduce p ∈ row → p < G.nprods) :
    (∀ q, q ∈ coreReduces G row → Act.reduce q ∈ row) ∧
    (∀ p, Act.reduce p ∈ row → ∃ q, q ∈ coreReduces G row ∧ rkey G q = rkey G p) ∧
    (∀ q1 q2, q1 ∈ coreReduces G row → q2 ∈ coreReduces G row → rkey G q1 = rkey G q2 → q1 = q2) := by
  obtain ⟨hinv, hA, hB, _⟩ := ntDepth_spec G row [] (depthInv_nil G)
  have hred : ∀ e ∈ ntDepth G row [], Act.reduce e.2 ∈ row := fun e he => (hA e he).resolve_left (fun h => nomatch h)
  have hmem : ∀ q, q ∈ coreReduces G row ↔ q < G.nprods ∧ ∃ k, (k, q) ∈ ntDepth G row [] := by
    intro q
    simp only [coreReduces, List.mem_filter, List.mem_range, List.contains_eq_mem, List.mem_map,
      decide_eq_true_eq]
    constructor
    · rintro ⟨h1, e, he, rfl⟩; exact ⟨h1, e.1, he⟩
    · rintro ⟨h1, k, hk⟩; exact ⟨h1, (k, q), hk, rfl⟩
  refine ⟨?_, ?_, ?_⟩
  · intro q hq
    obtain ⟨_, k, hk⟩ := (hmem q).mp hq
    exact hred _ hk
  · intro p hp
    obtain ⟨q, hq⟩ := hB p hp
    exact ⟨q, (hmem q).mpr ⟨hrow q (hred _ hq), _, hq⟩, (hinv.2 _ hq).symm⟩
  · intro q1 q2 h1 h2 hk
    obtain ⟨_, k1, hk1⟩ := (hmem q1).mp h1
    obtain ⟨_, k2, hk2⟩ := (hmem q2).mp h2
    exact (Prod.mk.inj (eq_of_nodup_map hinv.1 hk1 hk2 ((hinv.2 _ hk1).trans (hk.trans (hinv.2 _ hk2).symm)))).2

/-- **reduce-only flag**: set exactly when no action is a shift or accept and the reductions of the
row have exactly one distinct (rule, length). -/
theorem reduce_only_spec (G : Grammar) (row : List Act) :
    reduceOnly G row = true ↔
      (∀ a ∈ row, (∀ s, a ≠ .shift s) ∧ a ≠ .accept) ∧
      ∃ k, (∃ p, Act.reduce p ∈ row ∧ rkey G p = k) ∧ ∀ p, Act.reduce p ∈ row → rkey G p = k := by
  obtain ⟨hnd, hmem⟩ := ntDepth_keys G row
  have hns : ∀ a : Act, notShiftAccept a = true ↔ (∀ s, a ≠ .shift s) ∧ a ≠ .accept := by
    intro a
    cases a with
    | shift s => exact ⟨fun h => (nomatch h), fun h => absurd rfl (h.1 s)⟩
    | accept => exact ⟨fun h => (nomatch h), fun h => absurd rfl h.2⟩
    | error => exact ⟨fun _ => ⟨nofun, nofun⟩, fun _ => rfl⟩
    | reduce p => exact ⟨fun _ => ⟨nofun, nofun⟩, fun _ => rfl⟩
  have hall : (row.all notShiftAccept) = true ↔ ∀ a ∈ row, (∀ s, a ≠ .shift s) ∧ a ≠ .accept := by
    rw [List.all_eq_true]
    exact forall_congr' fun a => imp_congr_right fun _ => hns a
  -- the number of entries of `nt_depth` is the number of its (distinct) keys
  rw [reduceOnly, Bool.and_eq_true, beq_iff_eq, hall, ← List.length_map (·.1), nodup_length_eq_one hnd]
  refine and_congr_right fun _ => exists_congr fun k => ?_
  rw [hmem k]
  exact and_congr_right fun _ => ⟨fun h p hp => h _ ((hmem _).mpr ⟨p, hp, rfl⟩),
    fun h x hx => by obtain ⟨p, hp, rfl⟩ := (hmem x).mp hx; exact h p hp⟩

/-- **goto and shift targets equal the graph's edges** on every certified automaton -/
theorem goto_shift_eq_edge (G : Grammar) (A : Automaton) (hc : Cert.check G A = true) :
    (∀ s r, s < A.nstates → r < G.nrules → A.goto s r = A.edge s (.rule r)) ∧
    (∀ s t s', s < A.nstates → t < G.ntoks → A.action s t = .shift s' → A.edge s (.tok t) = some s') :=
  let P := check_props G A hc
  ⟨P.gotoEdge, P.actShift⟩

/-- **the reference closure is the LR(1) closure** (least set closed under the closure rules that
contains the kernel); the check compares it with every dumped closed state for equality -/
theorem closure_exact (G : Grammar) (hwf : G.wf = true) (A : Ref.Analyses) (hA : Ref.analyses G = some A)
    (core : List Item) (hcore : CoreOk G core) (S : List CFact)
    (h : close1 G (A.nullable.contains ·) (A.first.contains ·) core = some S) :
    ∀ x, x ∈ S ↔ ClosureP G core x := by
  obtain ⟨h1, h2, _⟩ := GrmVerif.Spec.analyses_exact G hwf A hA
  exact close1_exact G hwf _ _ (by intro r; simpa using h1 r) (by intro r t; simpa using h2 r t) core hcore S h

/-- **every state reachable**: the reference set is exactly the states reachable from the start
state through edges; the check requires it to contain every state -/
theorem reachable_exact (A : Automaton) (hstart : A.start < A.nstates)
    (hedges : ∀ s, s < A.nstates → ∀ e ∈ A.edges s, e.2 < A.nstates)
    (R : List Nat) (h : reachableStates A = some R) : ∀ s, s ∈ R ↔ ReachSt A s :=
  reachableStates_exact A hstart hedges R h

/-- the reference closure and the reference reachability always answer (never "fuel exhausted") -/
theorem closure_total (G : Grammar) (N : Nat → Bool) (F : Nat × Nat → Bool) (core : List Item) :
    ∃ S, Closure.close1 G N F core = some S := Total.close1_total G N F core

theorem reachable_total (A : Automaton) : ∃ R, Closure.reachableStates A = some R :=
  Total.reachableStates_total A

open GrmVerif.CloseImpl in
/-- **`Itemset::close` computes exactly the LR(1) closure of its kernel.** For every well-formed
grammar, exact nullable/FIRST oracles (the hypotheses of `close1_exact`), kernel `core` = the content
of a hash map (`CoreOk`, distinct keys) and EVERY order `order` in which `self.items.keys()` may yield
the kernel's keys: with `closeFuel G order` (= |order| + |fact universe| + 1) or more units of fuel the
model of the work-list loop ends normally (no panic, no fuel exhaustion) with a map `R` of distinct
keys that denotes exactly the facts of `ClosureP G core` — the same items and, for every item, the
same lookahead set. -/
theorem close_impl_exact (G : Grammar) (hwf : G.wf = true) (N : Nat → Bool) (F : Nat × Nat → Bool)
    (hN : ∀ r, N r = true ↔ Spec.NullableR G r) (hF : ∀ r t, F (r, t) = true ↔ Spec.FirstP G r t)
    (core : List Item) (hcore : CoreOk G core) (hnd : KeysNodup core)
    (order : List (Nat × Nat)) (horder : ∀ p d, (p, d) ∈ order ↔ CloseImpl.HasItem core p d)
    (fuel : Nat) (hfuel : closeFuel G order ≤ fuel) :
    ∃ R, CloseImpl.close G N F core order fuel = .done R ∧ KeysNodup R ∧
      (∀ p d, CloseImpl.HasItem R p d ↔ ClosureP G core (.item p d)) ∧
      (∀ p d t, HasLa R p d t ↔ ClosureP G core (.la p d t)) :=
  close_spec hwf hN hF hcore hnd horder hfuel

open GrmVerif.CloseImpl in
/-- **the model of `Itemset::close` equals the reference closure `close1` as a set of facts** (the
reference is what the check compares every dumped closed state with) -/
theorem close_impl_eq_reference (G : Grammar) (hwf : G.wf = true) (N : Nat → Bool) (F : Nat × Nat → Bool)
    (hN : ∀ r, N r = true ↔ Spec.NullableR G r) (hF : ∀ r t, F (r, t) = true ↔ Spec.FirstP G r t)
    (core : List Item) (hcore : CoreOk G core) (hnd : KeysNodup core)
    (order : List (Nat × Nat)) (horder : ∀ p d, (p, d) ∈ order ↔ CloseImpl.HasItem core p d)
    (fuel : Nat) (hfuel : closeFuel G order ≤ fuel) :
    ∃ R S, CloseImpl.close G N F core order fuel = .done R ∧ close1 G N F core = some S ∧
      ∀ x, x ∈ S ↔ x ∈ factsOf R := by
  obtain ⟨R, hR, _, h1, h2⟩ := close_impl_exact G hwf N F hN hF core hcore hnd order horder fuel hfuel
  obtain ⟨S, hS⟩ := Total.close1_total G N F core
  refine ⟨R, S, hR, hS, ?_⟩
  intro x
  rw [close1_exact G hwf N F hN hF core hcore S hS x]
  cases x with
  | item p d => rw [mem_factsOf_item]; exact (h1 p d).symm
  | la p d t => rw [mem_factsOf_la]; exact (h2 p d t).symm

open GrmVerif.CloseImpl in
/-- **the hash map's iteration order is irrelevant**: whatever two orders `self.items.keys()` yields the
kernel's keys in, both runs end normally and their maps hold the same items with the same lookahead
sets -/
theorem close_impl_order_irrelevant (G : Grammar) (hwf : G.wf = true) (N : Nat → Bool) (F : Nat × Nat → Bool)
    (hN : ∀ r, N r = true ↔ Spec.NullableR G r) (hF : ∀ r t, F (r, t) = true ↔ Spec.FirstP G r t)
    (core : List Item) (hcore : CoreOk G core) (hnd : KeysNodup core)
    (o1 o2 : List (Nat × Nat)) (h1 : ∀ p d, (p, d) ∈ o1 ↔ CloseImpl.HasItem core p d)
    (h2 : ∀ p d, (p, d) ∈ o2 ↔ CloseImpl.HasItem core p d) :
    ∃ R1 R2, CloseImpl.close G N F core o1 (closeFuel G o1) = .done R1 ∧
      CloseImpl.close G N F core o2 (closeFuel G o2) = .done R2 ∧
      (∀ p d, CloseImpl.HasItem R1 p d ↔ CloseImpl.HasItem R2 p d) ∧ (∀ p d t, HasLa R1 p d t ↔ HasLa R2 p d t) ∧
      sameItems R1 R2 = true := by
  obtain ⟨R1, hR1, n1, a1, b1⟩ := close_impl_exact G hwf N F hN hF core hcore hnd o1 h1 _ (Nat.le_refl _)
  obtain ⟨R2, hR2, n2, a2, b2⟩ := close_impl_exact G hwf N F hN hF core hcore hnd o2 h2 _ (Nat.le_refl _)
  have ha : ∀ p d, CloseImpl.HasItem R1 p d ↔ CloseImpl.HasItem R2 p d := fun p d => (a1 p d).trans (a2 p d).symm
  have hb : ∀ p d t, HasLa R1 p d t ↔ HasLa R2 p d t := fun p d t => (b1 p d t).trans (b2 p d t).symm
  exact ⟨R1, R2, hR1, hR2, ha, hb, (sameItems_iff n1 n2).mpr ⟨fun p d => (ha p d).symm, fun p d t => (hb p d t).symm⟩⟩

open GrmVerif.CloseImpl in
/-- **the driver's model comparison decides the property**: for a dumped closed state `closed` (the
content of a hash map: distinct keys), `sameItems (model's map) closed` holds iff `closed` denotes
exactly the LR(1) closure of `core` -/
theorem close_impl_check_sound (G : Grammar) (hwf : G.wf = true) (N : Nat → Bool) (F : Nat × Nat → Bool)
    (hN : ∀ r, N r = true ↔ Spec.NullableR G r) (hF : ∀ r t, F (r, t) = true ↔ Spec.FirstP G r t)
    (core : List Item) (hcore : CoreOk G core) (hnd : KeysNodup core)
    (order : List (Nat × Nat)) (horder : ∀ p d, (p, d) ∈ order ↔ CloseImpl.HasItem core p d)
    (closed : List Item) (hcl : KeysNodup closed) :
    ∃ R, CloseImpl.close G N F core order (closeFuel G order) = .done R ∧
      (sameItems R closed = true ↔
        (∀ p d, CloseImpl.HasItem closed p d ↔ ClosureP G core (.item p d)) ∧
        (∀ p d t, HasLa closed p d t ↔ ClosureP G core (.la p d t))) := by
  obtain ⟨R, hR, n, a, b⟩ := close_impl_exact G hwf N F hN hF core hcore hnd order horder _ (Nat.le_refl _)
  refine ⟨R, hR, ?_⟩
  rw [sameItems_iff n hcl]
  constructor
  · rintro ⟨x, y⟩; exact ⟨fun p d => (x p d).trans (a p d), fun p d t => (y p d t).trans (b p d t)⟩
  · rintro ⟨x, y⟩; exact ⟨fun p d => (x p d).trans (a p d).symm, fun p d t => (y p d t).trans (b p d t).symm⟩

/-! tests (not theorems): the hypotheses are satisfiable and the model computes the textbook closures -/

/-- `S' → S; S → L = R | R; L → * R | id; R → L` (tokens `= * id $`) -/
def exDragon : Grammar :=
  { ntoks := 4, nrules := 4, eof := 3, startProd := 0,
    prods := [(0, [.rule 1]), (1, [.rule 2, .tok 0, .rule 3]), (1, [.rule 3]), (2, [.tok 1, .rule 3]),
      (2, [.tok 2]), (3, [.rule 2])] }

/-- `S' → A; A → B C d | B C; B → ε | b; C → ε | c` (tokens `b c d $`): nullable tails -/
def exNullTail : Grammar :=
  { ntoks := 4, nrules := 4, eof := 3, startProd := 0,
    prods := [(0, [.rule 1]), (1, [.rule 2, .rule 3, .tok 2]), (1, [.rule 2, .rule 3]), (2, []), (2, [.tok 0]),
      (3, []), (3, [.tok 1])] }

/-- run the model with the verified reference analyses and compare with an expected map -/
def modelGives (G : Grammar) (core : List Item) (order : List (Nat × Nat)) (expected : List Item) : Bool :=
  match Ref.analyses G with
  | none => false
  | some An =>
    match CloseImpl.close G (An.nullable.contains ·) (An.first.contains ·) core order (CloseImpl.closeFuel G order) with
    | .done R => CloseImpl.sameItems R expected
    | _ => false

example : exDragon.wf = true := by decide
example : CoreOk exDragon [⟨0, 0, [3]⟩] := by
  intro i hi; simp only [List.mem_singleton] at hi; subst hi; decide
example : CloseImpl.KeysNodup [⟨1, 1, [3]⟩, ⟨5, 1, [0, 3]⟩] := by
  unfold CloseImpl.KeysNodup CloseImpl.keysOf; decide
example : modelGives exDragon [⟨0, 0, [3]⟩] [(0, 0)]
    [⟨0, 0, [3]⟩, ⟨1, 0, [3]⟩, ⟨2, 0, [3]⟩, ⟨3, 0, [0, 3]⟩, ⟨4, 0, [3, 0]⟩, ⟨5, 0, [3]⟩] = true := by decide +kernel
example : modelGives exDragon [⟨1, 2, [3]⟩] [(1, 2)]
    [⟨1, 2, [3]⟩, ⟨5, 0, [3]⟩, ⟨3, 0, [3]⟩, ⟨4, 0, [3]⟩] = true := by decide +kernel
-- both orders of a two-item kernel
example : modelGives exNullTail [⟨1, 1, [3]⟩, ⟨2, 1, [3]⟩] [(1, 1), (2, 1)]
    [⟨1, 1, [3]⟩, ⟨2, 1, [3]⟩, ⟨5, 0, [2, 3]⟩, ⟨6, 0, [2, 3]⟩] = true := by decide +kernel
example : modelGives exNullTail [⟨1, 1, [3]⟩, ⟨2, 1, [3]⟩] [(2, 1), (1, 1)]
    [⟨1, 1, [3]⟩, ⟨2, 1, [3]⟩, ⟨5, 0, [2, 3]⟩, ⟨6, 0, [2, 3]⟩] = true := by decide +kernel
example : modelGives exNullTail [⟨0, 0, [3]⟩] [(0, 0)]
    [⟨0, 0, [3]⟩, ⟨1, 0, [3]⟩, ⟨2, 0, [3]⟩, ⟨3, 0, [1, 2, 3]⟩, ⟨4, 0, [1, 2, 3]⟩] = true := by decide +kernel
-- a wrong expectation is rejected (lookahead `$` of `B → ·` missing)
example : modelGives exNullTail [⟨0, 0, [3]⟩] [(0, 0)]
    [⟨0, 0, [3]⟩, ⟨1, 0, [3]⟩, ⟨2, 0, [3]⟩, ⟨3, 0, [1, 2]⟩, ⟨4, 0, [1, 2, 3]⟩] = false := by decide +kernel

end GrmVerif.C16
