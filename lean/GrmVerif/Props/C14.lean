import GrmVerif.Lemmas.Codec
import GrmVerif.Lemmas.QueryProg
/-!
# C14 — serialised grammars and tables come back observationally identical

Property theorems only. Codecs: `Model/Codec.lean` (wire format of wincode 0.5.5 in the two
configurations `lrpar::ctbuilder` uses); drivers as query programs: `Model/QueryProg.lean`.
`Codec.Law c` is: `∀ x rest, c.wf x → c.dec (c.enc x ++ rest) = some (x, rest)`.
The schema of `YaccGrammar<T>`/`StateTable<T>` is a closed `Ty` term, which the driver (`Drive/C14.lean`, `rootTy`) builds
from the field lists in `Extracted.lean` (`WINCODE_DEFS`, regenerated from the derive structs on every run);
`schema_roundtrip` holds for every `Ty`, hence for it.
-/
namespace GrmVerif.C14

/-- every unsigned integer type, fixed-width and variable-length encoding: any value of the type
(`n ≤ uN::MAX`) followed by anything decodes to itself and leaves the rest -/
theorem int_roundtrip (cfg : IntEnc) (i : IntTy) (n : Nat) (rest : Bytes) (h : n < 256 ^ i.bytes) :
    decInt cfg i (encInt cfg i n ++ rest) = some (n, rest) :=
  decInt_encInt cfg i n rest h

theorem u8_roundtrip (cfg : IntEnc) (n : Nat) (rest : Bytes) (h : n < 2 ^ 8) :
    decInt cfg .u8 (encInt cfg .u8 n ++ rest) = some (n, rest) :=
  decInt_encInt cfg .u8 n rest (by simpa [IntTy.bytes] using h)

theorem u16_roundtrip (cfg : IntEnc) (n : Nat) (rest : Bytes) (h : n < 2 ^ 16) :
    decInt cfg .u16 (encInt cfg .u16 n ++ rest) = some (n, rest) :=
  decInt_encInt cfg .u16 n rest (by simpa [IntTy.bytes] using h)

theorem u32_roundtrip (cfg : IntEnc) (n : Nat) (rest : Bytes) (h : n < 2 ^ 32) :
    decInt cfg .u32 (encInt cfg .u32 n ++ rest) = some (n, rest) :=
  decInt_encInt cfg .u32 n rest (by simpa [IntTy.bytes] using h)

theorem u64_roundtrip (cfg : IntEnc) (n : Nat) (rest : Bytes) (h : n < 2 ^ 64) :
    decInt cfg .u64 (encInt cfg .u64 n ++ rest) = some (n, rest) :=
  decInt_encInt cfg .u64 n rest (by simpa [IntTy.bytes] using h)

/-- `usize` travels as `u64` (64-bit targets: every `usize` fits) -/
theorem usize_roundtrip (cfg : IntEnc) (n : Nat) (rest : Bytes) (h : n < 2 ^ 64) :
    decInt cfg .usize (encInt cfg .usize n ++ rest) = some (n, rest) :=
  decInt_encInt cfg .usize n rest (by simpa [IntTy.bytes] using h)

/-- the fixed encoding is exactly `size_of::<T>()` little-endian bytes; the variable one is 1, 3, 5 or 9 bytes -/
theorem fixed_length (i : IntTy) (n : Nat) : (encInt .fix i n).length = i.bytes := by
  have h : ∀ k m, (encLE k m).length = k := by
    intro k; induction k with
    | zero => intro m; rfl
    | succ k ih => intro m; simp [encLE, ih]
  cases i <;> simp [encInt, h, IntTy.bytes]

theorem bool_roundtrip : Codec.bool.Law := bool_law

/-- `String`: any UTF-8 byte string shorter than 2^64 -/
theorem string_roundtrip (cfg : IntEnc) : (Codec.string cfg).Law := string_law cfg

theorem option_roundtrip {α : Type} (c : Codec α) (hc : c.Law) : c.option.Law := option_law c hc

/-- `Vec<T>` and `Box<[T]>` -/
theorem vec_roundtrip {α : Type} (cfg : IntEnc) (c : Codec α) (hc : c.Law) : (c.seq cfg).Law :=
  seq_law cfg c hc

/-- consecutive fields (tuples, structs, newtypes) -/
theorem pair_roundtrip {α β : Type} (name : String) (a : Codec α) (b : Codec β) (ha : a.Law) (hb : b.Law) :
    (Codec.pair name a b).Law := pair_law name a b ha hb

/-- enums: variant `k` with payload codec `a`, later variants `b` (whose encodings start with a tag `> k`) -/
theorem enum_roundtrip {α β : Type} (cfg : IntEnc) (k : Nat) (name : String) (a : Codec α) (b : Codec β)
    (ha : a.Law) (hb : b.Law) (hbt : b.TagsFrom cfg (k + 1)) : (Codec.sum cfg k name a b).Law :=
  sum_law cfg k name a b ha hb hbt

/-- for every schema term, both encodings, every well-formed value and every continuation of the byte
stream: decoding the encoding gives the value back and consumes exactly the encoding -/
theorem schema_roundtrip (cfg : IntEnc) (t : Ty) (x : t.interp) (rest : Bytes) (h : (codec cfg t).wf x) :
    (codec cfg t).dec ((codec cfg t).enc x ++ rest) = some (x, rest) :=
  codec_law cfg t x rest h

/-- a whole buffer (what `_reconstitute` is given): nothing is left over -/
theorem schema_roundtrip_buffer (cfg : IntEnc) (t : Ty) (x : t.interp) (h : (codec cfg t).wf x) :
    (codec cfg t).dec ((codec cfg t).enc x) = some (x, []) := by
  have := codec_law cfg t x [] h
  simpa using this

/-- the bytes determine the value: two well-formed values with the same serialisation are equal -/
theorem schema_enc_injective (cfg : IntEnc) (t : Ty) (x y : t.interp) (hx : (codec cfg t).wf x)
    (hy : (codec cfg t).wf y) (h : (codec cfg t).enc x = (codec cfg t).enc y) : x = y := by
  have h1 := schema_roundtrip_buffer cfg t x hx
  have h2 := schema_roundtrip_buffer cfg t y hy
  rw [h] at h1
  rw [h1] at h2
  simpa using h2

/-- ANY driver that reaches grammar and table only through queries (`Prog`: LR loop, recoverers, …)
returns the same result against two oracles that agree on the queries it actually puts -/
theorem run_congr {Q A β : Type} (P : Prog Q A β) (o₁ o₂ : Q → A)
    (h : ∀ q ∈ P.asked o₁, o₁ q = o₂ q) : P.run o₁ = P.run o₂ :=
  Prog.run_congr P o₁ o₂ h

/-- the LR driver: if the original's queries are closed over the index ranges (`ns` states, `nt` tokens,
`nr` rules, `np` productions) and the reconstituted objects answer `action`, `goto`, `prod_len`,
`prod_to_rule`, `start_state`, `eof_token_idx` identically on every in-range index — the finite
comparison the harness makes per grammar — then every input over the tokens is parsed identically
(same outcome, same reduction sequence hence same tree, same error position and state), for every
amount of fuel. -/
theorem parse_congr (T₁ T₂ : Queries) (ns nt nr np : Nat) (hc : Closed T₁ ns nt nr np)
    (ha : Agree T₁ T₂ ns nt nr np) (fuel : Nat) (input : List Nat) (hi : ∀ t ∈ input, t < nt) :
    lrRun T₁ fuel [T₁.start] input 0 [] = lrRun T₂ fuel [T₂.start] input 0 [] := by
  rw [← ha.start]
  exact lrRun_congr hc ha fuel [T₁.start] input 0 [] (by simpa using hc.start) hi

/-! ## tests (hypotheses are satisfiable; concrete bytes as the Rust side produces them) -/

example : encInt .var .u64 2 = [2] := by decide +kernel
example : encInt .fix .u16 2 = [2, 0] := by decide +kernel
example : encInt .var .u32 300 = [251, 44, 1] := by decide +kernel
example : encInt .var .usize 70000 = [252, 112, 17, 1, 0] := by decide +kernel
example : (Codec.string .var).enc [94] = [1, 94] := by decide +kernel
example : (Codec.string .fix).enc [94] = [1, 0, 0, 0, 0, 0, 0, 0, 94] := by decide +kernel
example : validUtf8 [0xF0, 0x9F, 0xA6, 0x80, 0xC3, 0xA9] = true := by decide +kernel
example : validUtf8 [0xED, 0xA0, 0x80] = false := by decide +kernel
example : (codec .var (.struct (.cons "a" (.int .u16) (.cons "b" (.option .bool) .nil)))).enc ((300 : Nat), (some true : Option Bool), ())
    = [251, 44, 1, 1, 1] := by decide +kernel
example : (codec .fix (.enum (.cons "Rule" (.int .u8) (.cons "Token" (.int .u8) .nil)))).enc (.inr (.inl (7 : Nat)))
    = [1, 0, 0, 0, 7] := by decide +kernel
example : (Codec.seq .var (Codec.int .var .u32)).wf [1, 2, 70000] := by
  refine ⟨by decide, ?_⟩
  intro x hx
  simp only [List.mem_cons, List.not_mem_nil, or_false] at hx
  rcases hx with rfl | rfl | rfl <;> simp [Codec.int, IntTy.bytes]

end GrmVerif.C14
