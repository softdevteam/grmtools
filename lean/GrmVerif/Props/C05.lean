import GrmVerif.Props.C01
import GrmVerif.Lemmas.RecEditedEx
import GrmVerif.Lemmas.LeafIdx
import GrmVerif.Lemmas.KeptRun
import GrmVerif.Lemmas.KeptCertEx
import GrmVerif.Lemmas.KeptCols
import GrmVerif.Lemmas.CpctRun
import GrmVerif.Lemmas.CpctEx
import GrmVerif.Lemmas.KeptCert
/-!
# C05 — every reported repair sequence repairs; parsing continues as if it were applied

Specification: `Rec.applySeq`, `Rec.validSeq`, `Rec.editSeq` (`Model/Recover.lean`) and, for a whole
run, `C05.editedItems`/`C05.editedToks` (`Lemmas/RunSpec.lean`): the input with the FIRST repair
sequence of every reported error applied. The driver evaluates `validSeq` on every repair sequence
the real recoverer reports, and compares the returned tree with the plain parse (`LR.parse`, the
model proved sound and complete under C01) of `editedItems` of the reported errors.

One sequence at one error: applying a sequence is feeding the tokens of the edited input
(`applySeq_is_edited_input`), feeding a token to the stack automaton is what the full LR driver does
(`feed_is_lr_steps`), and a valid sequence leaves the parser where a plain parse runs `N` lexemes or
accepts (`validSeq_runs`), which is exactly the premise `RecovererOK` of C07.

Whole input, any number of errors, about the recovering driver `Rec.recRun` with any recoverer that
continues as if the first sequence it reports had been applied (`FirstApplies`), in three tiers:

1. `recRun_is_edited_run_keeping_reductions` — unconditional: the run is the run over the edited
   input in which each refused lexeme is first offered to the table, the reductions made under it
   being kept (tables with or without conflicts).
2. **THE STRONGEST STATEMENTS — no undecidable hypothesis about the table:**
   `recRun_is_plain_parse_of_edited_input_certified`,
   `reported_errors_are_plain_errors_of_edited_input_certified`,
   `unrepaired_error_is_first_error_of_edited_input_certified`,
   `returned_tree_spells_edited_input_certified`: for EVERY table that passes the decidable
   certificates the driver evaluates on every dumped automaton (`wholeRunCert` = `Cert.check`,
   `Cert.checkLA`, `Cert.vpClosed`, `colsOk`) and every recoverer whose first sequence
   applies (`FirstApplies`) and repairs (`FirstValid`: `validSeq … N`, `N ≥ 1` — what the driver
   validates per reported sequence), the recovering run IS the plain parse of the edited input.
   They are instances of the theorems with the plain names
   (`recRun_is_plain_parse_of_edited_input`, …), which assume `KeptShiftInvisible G A` (whatever the
   stack with the kept reductions shifts or accepts, the stack without them shifts to the same stack
   or accepts), through `certified_table_keeps_shifts_invisible`
   (`kept_reductions_invisible_to_shifted_tokens` with the certificates spelled out): every certified
   conflict-free table — merged (Pager, LALR-like, detecting errors late) or canonical — satisfies it.
3. `…_of_keptInvisible` — the form under `KeptInvisible G A` (additionally: what the reduced
   stack refuses the unreduced one refuses). It needs neither `FirstValid` nor the certificates, but
   `KeptInvisible` is FALSE of merged tables that detect errors late (`ex2_not_keptInvisible`: the
   LALR table of a 7-production grammar), so it covers canonical-like tables only.

The plain parse of the edited input is stated without the model's fuel constant: the unreduced stack
has to redo the kept reductions before it shifts, so at the constant `FUEL` of `feed` it can run out
where the recovering run did not. `FeedsTo`/`AcceptsAt`/`RefusesAt` (`Lemmas/KeptShift.lean`) say "for
some fuel" (an answer other than out-of-fuel is the answer for every larger fuel, `C07.feed_ge`), and
`PlainIs G A b toks r` says: `plainFromF … ff … = r` for every large enough `ff`, and
`plainFrom … = r` at `FUEL` unless `plainFrom … = other` (out of fuel) there.
-/
namespace GrmVerif.C05
open Rec LR Cert Term

/-- **Applying a repair sequence = parsing the edited input.** If the sequence applies from
`c`, the resulting configuration is the one reached by feeding, in order, the tokens of the edited
input it denotes (deleted lexemes dropped, inserted tokens added, shifted lexemes kept), and the
input position is the one after the last lexeme it consumed. -/
theorem applySeq_is_edited_input (G : Grammar) (A : Automaton) (w : List Nat) :
    ∀ (rs : List Repair) (c c' : Pos), applySeq G A w c rs = some c' →
      feedToks G A c.stack ((editSeq c.pos rs).1.map (itemTok w)) = some c'.stack ∧
      c'.pos = (editSeq c.pos rs).2 :=
  applySeq_feedToks G A w

/-- `continueFrom` counts the lexemes a plain parse shifts: if it reports `n` shifts or acceptance,
the plain parse `Runs` that far -/
theorem continueFrom_runs (G : Grammar) (A : Automaton) (w : List Nat) (N : Nat) :
    ∀ (fuel : Nat) (c : Pos) (m n : Nat) (acc : Bool) (p : Nat),
      continueFrom G A w fuel c m = (n, acc, p) → (acc = true ∨ m + N ≤ n) → C07.Runs G A w N c :=
  C07.Runs.of_continueFrom G A w N

/-- **A valid sequence repairs**: it applies with plain LR semantics, never moves the input
position backwards, and leaves the parser in a configuration from which a plain parse continues
without error over at least `N` further lexemes or to acceptance — the premise of C07's
`RecovererOK` for a recoverer that applies it. -/
theorem validSeq_runs (G : Grammar) (A : Automaton) (w : List Nat) (N : Nat) (c : Pos) (rs : List Repair)
    (h : validSeq G A w N c rs = true) :
    ∃ c', applySeq G A w c rs = some c' ∧ c.pos ≤ c'.pos ∧ C07.Runs G A w N c' :=
  runs_of_validSeq h

/-- **Feeding a token is what the LR driver does.** If the stack automaton shifts lookahead `la`
from `stack` (after the reductions the table prescribes), then the full driver — with trees —
started in any configuration with that state stack and lookahead reaches, in some number of steps,
the configuration with the shifted stack, the lexeme pushed as a leaf, and the next position. -/
theorem feed_is_lr_steps (G : Grammar) (A : Automaton) (w : List Nat) :
    ∀ (fuel : Nat) (stack s' : List Nat) (astack : List Tree) (laidx : Nat),
      feed G A (nextTok G w laidx) fuel stack = .shifted s' →
      ∃ astack', Steps G A w ⟨stack, astack, laidx⟩ ⟨s', .leaf (nextTok G w laidx) laidx :: astack', laidx + 1⟩ :=
  feed_shifted_steps G A w

/-! ## The whole input, any number of errors

`recover` is any recoverer; `FirstApplies` says it continues as if the first sequence it reports had
been applied (for the real recoverer this is what the driver checks per error: `validSeq` holds of
every reported sequence at the configuration of the error, and the parser goes on from the
configuration `applySeq` gives for the first one). `eofOk G A` is the decidable check that the table
never shifts the end-of-input token and accepts only under it (true of every table
`StateTable::new` builds; evaluated by the driver on every dumped table); `G.eof ∉ w` says the lexer
never hands the parser the end-of-input token as a lexeme. Both are needed only so that "accepts"
means "accepts at the end of the edited input". -/

/-- **The recovering run is the run over the edited input, each refused lexeme being offered to the
table first.** For every recoverer with `FirstApplies`, every fuel, every start configuration `c`
within the input and every result `(v, errs')` of `recRun`: the run appended errors `new` at
increasing positions (`Ordered`), and
* if a value was produced, the stack automaton started from `c.stack` runs through
  `editedSteps … new` — the real lexemes between the errors, and at each error first the refused
  lexeme (`EStep.offer`: the table refuses it after the reductions it prescribes under it, and those
  reductions are KEPT) and then the tokens of the error's first sequence — and then accepts under the
  end-of-input token;
* for every reported error `e`, the same run over the edits of the EARLIER errors `pre` reaches `e`'s
  position and the lexeme there is refused.
No hypothesis about the table beyond the end-of-input discipline: this is the exact semantics of the
driver, on every table (with or without conflicts). -/
theorem recRun_is_edited_run_keeping_reductions (G : Grammar) (A : Automaton) (w : List Nat)
    (recover : Pos → Option (Pos × List (List Repair)))
    (hfirst : FirstApplies G A w recover) (heof : eofOk G A = true) (hw : G.eof ∉ w)
    (fuel : Nat) (c : Pos) (errs : List Err) (v : Bool) (errs' : List Err) (hc : c.pos ≤ w.length)
    (h : recRun G A w recover fuel c errs = (v, errs')) :
    ∃ new, errs' = errs ++ new ∧ Ordered w.length c.pos new ∧
      (v = true → ∃ st x, runSteps G A c.stack (editedSteps G w w.length c.pos new) = some st ∧
        feed G A G.eof FUEL st = .accept x) ∧
      (∀ pre e post, new = pre ++ e :: post →
        ∃ s, runSteps G A c.stack (editedSteps G w e.pos c.pos pre ++ [.offer (nextTok G w e.pos)]) = some s) := by
  obtain ⟨new, v', he, hseg⟩ := C07.recRun_seg G A w recover fuel c errs
  cases h.symm.trans he
  obtain ⟨h2, h3, h4⟩ := recRun_own hfirst (eofOk_spec heof).1 (eofOk_spec heof).2 hw hseg hc
  refine ⟨new, rfl, h2, h3, fun pre e post hs => ?_⟩
  obtain ⟨a, s, hr, hf⟩ := h4 pre e post hs
  exact ⟨s, by simp [runSteps_append, hr, runSteps, hf]⟩


/-- **Acceptance by the plain stack automaton is acceptance by the LR driver with trees, and the tree
spells the tokens.** On a table that passes `Cert.check`, if the stack automaton started on
`[A.start]` shifts every token of `toks` (`FeedsTo`, any fuel) and then accepts under end-of-input,
and `toks` consists of tokens of the grammar other than end-of-input, then `LR.parse` (the model of
`Parser::lr` of C01) accepts `toks` and returns a valid tree rooted at the start rule whose yield is
`toks` and whose `k`-th leaf carries lexeme index `k`. -/
theorem plain_acceptance_is_a_tree (G : Grammar) (A : Automaton) (hcert : check G A = true)
    (toks : List Nat) (hin : InputOk G toks) (st : List Nat)
    (hf : FeedsTo G A [A.start] toks st) (hacc : AcceptsAt G A G.eof st) :
    ∃ fuel' t, LR.parse G A toks fuel' = .accept t ∧
      Tree.valid G t = true ∧ (∃ S, G.rhs G.startProd = [.rule S] ∧ Tree.root G t = .rule S) ∧
      Tree.yield t = toks ∧ Tree.leafIdxs t = List.range toks.length := by
  obtain ⟨fa, x, hx⟩ := hacc
  -- the tokens are shifted by the driver with trees …
  obtain ⟨a1, hs1⟩ := feedsTo_steps G A toks toks 0 [A.start] st [] (Nat.zero_le _) (by simp) hf
  -- … and at the end of the input it reduces and stops
  rw [← nextTok_of_le (G := G) (Nat.le_refl toks.length)] at hx
  obtain ⟨a2, hs2, st0, tl, hx0, hact⟩ := feed_accept_steps G A toks fa st x a1 toks.length hx
  have hsteps := hs1.trans hs2
  subst hx0
  -- the next step ends the parse: with the tree, or with `crash 3`, which a certified table excludes
  have hdone : step G A toks ⟨st0 :: tl, a2, toks.length⟩ = .done (.crash 3) ∨
      ∃ t, step G A toks ⟨st0 :: tl, a2, toks.length⟩ = .done (.accept t) := by
    simp only [step, hact]
    split
    · exact Or.inr ⟨_, rfl⟩
    · exact Or.inl rfl
  rcases hdone with hdo | ⟨t, hdo⟩
  · obtain ⟨fuel', hrun⟩ := run_of_steps hsteps hdo
    exact absurd hrun (C01.lr_no_crash G A hcert toks hin fuel' 3)
  · obtain ⟨fuel', hrun⟩ := run_of_steps hsteps hdo
    obtain ⟨hv, hr, hy⟩ := C01.lr_sound G A hcert toks hin fuel' _ hrun
    exact ⟨fuel', _, hrun, hv, hr, hy, accept_leafIdxs (check_props G A hcert) hin hsteps _ hdo⟩

/-- **On every certified conflict-free table the reductions kept under refused lexemes cannot be
observed by a token that is shifted or accepted afterwards** (`KeptShiftInvisible`). Hypotheses, all
decidable and evaluated by the driver on every dumped automaton: `Cert.check` (K1–K6), `Cert.checkLA`
(L1–L4, w.r.t. the reference nullable/FIRST sets, exact by C17), `Cert.vpClosed` (closed sets hold
only closure items of their kernels), `colsOk` (no action cell beyond the grammar's tokens).
Conclusion: let `b` be a stack that is a path of the automaton and `a` the stack left after offering
any number of refused lexemes to it (`Kept a b`: the table made the reductions it prescribes under
each and then refused it). For every token `t`: if `a` shifts `t` (at `FUEL`) to the stack `x`, then
`b` shifts `t` to the same `x` (for some fuel, hence every larger one); if `a` accepts under `t`, so
does `b`. Reason: a lookahead the reduced stack goes on with is LR(1)-valid for each kept reduction
(`validNext_of_feed`, `validNext_pull`), the certified lookahead sets contain every valid lookahead
(`lv_lower`), and L4 makes the cell of a complete item with that lookahead that very reduction
(`feed_reduce_same`); merged tables included — only lower bounds on lookahead sets are used. -/
theorem kept_reductions_invisible_to_shifted_tokens (G : Grammar) (A : Automaton)
    (hc : check G A = true) (An : Ref.Analyses) (hAn : Ref.analyses G = some An)
    (hla : checkLA G A (An.nullable.contains ·) (An.first.contains ·) = true)
    (hvp : vpClosed G A = true) (hcols : colsOk G A = true) : KeptShiftInvisible G A := by
  obtain ⟨hN, hF⟩ := analyses_contains (check_props G A hc).wf hAn
  exact keptShiftInvisible_of_cert hc hla hN hF hvp hcols

/-- **The certificates as one decidable predicate.** `wholeRunCert G A = true` — the conjunction of
`Cert.check`, `Cert.vpClosed`, `colsOk` and `Cert.checkLA` w.r.t. `Ref.analyses G` — gives everything
the whole-run theorems need of the table: the certificate, the column bound, and
`KeptShiftInvisible`. -/
theorem certified_table_keeps_shifts_invisible (G : Grammar) (A : Automaton)
    (h : wholeRunCert G A = true) :
    check G A = true ∧ colsOk G A = true ∧ KeptShiftInvisible G A := by
  obtain ⟨hc, hvp, hcols, An, hAn, hla⟩ := wholeRunCert_unpack h
  exact ⟨hc, hcols, kept_reductions_invisible_to_shifted_tokens G A hc An hAn hla hvp hcols⟩

/-- **A certified table keeps the end-of-input discipline**: `Cert.check` and `colsOk` imply the
decidable `eofOk` conditions (end-of-input is never shifted, Accept is entered only under it), so
`eofOk` is not asked for separately below. -/
theorem certified_table_keeps_eof_discipline (G : Grammar) (A : Automaton)
    (hcert : check G A = true) (hcols : colsOk G A = true) :
    RankImpl.EofNeverShifted G A ∧ AcceptOnlyAtEof G A :=
  eof_discipline_of_cert (check_props G A hcert) hcols

/-- **`colsOk` holds of every automaton dump the driver reads**: the wire format carries exactly
`ntoks` action cells per state, so for dumped automata `colsOk` is not an assumption. -/
theorem dumped_automaton_has_colsOk (G : Grammar) (l : List Nat) (A : Automaton) (r : List Nat)
    (h : parseAutomaton G l = some (A, r)) : colsOk G A = true :=
  parseAutomaton_colsOk G l A r h

/-- the stronger hypothesis implies the weaker one: `KeptInvisible`'s first two clauses at `FUEL` are
`KeptShiftInvisible`'s for that fuel -/
theorem keptInvisible_implies_keptShiftInvisible (G : Grammar) (A : Automaton) (hk : KeptInvisible G A) :
    KeptShiftInvisible G A := by
  intro a b hab _ t
  obtain ⟨h1, h2, _⟩ := hk a b hab t
  exact ⟨fun x hx => ⟨FUEL, h1 x hx⟩, fun x hx => by obtain ⟨y, hy⟩ := h2 x hx; exact ⟨FUEL, y, hy⟩⟩

/-! ### the whole run under `KeptShiftInvisible` and `FirstValid`

Hypotheses common to the four theorems: the table passes `Cert.check` and `colsOk` (so that stacks
stay paths of the automaton, and the end-of-input discipline holds); `KeptShiftInvisible G A`; the recoverer continues from where
its first sequence leads (`FirstApplies`) and that sequence repairs (`FirstValid … N` with `N ≥ 1`);
the input does not contain the end-of-input token; the run starts within the input on a stack that is
a path of the automaton (`IsPath`; `[A.start]` is one). `FirstValid` replaces the third clause of
`KeptInvisible`: after a valid sequence the plain parse shifts a lexeme or accepts, so a refused
lexeme is only ever met on a stack without kept reductions. -/

/-- **A value means the plain parse of the edited input accepts.** Under the hypotheses above, for
every fuel, start configuration and result with a value: the plain stack automaton started from
`c.stack` shifts every token of `editedToks` (first sequence of every reported error applied) and
then accepts under end-of-input; as a function: `plainFromF … = accepted` for every large enough
fuel of `feed`, and `plainFrom … = accepted` at the model's `FUEL` unless it runs out of fuel there
(`PlainIs`). -/
theorem recRun_is_plain_parse_of_edited_input (G : Grammar) (A : Automaton) (w : List Nat)
    (recover : Pos → Option (Pos × List (List Repair)))
    (hcert : check G A = true) (hcols : colsOk G A = true) (hk : KeptShiftInvisible G A)
    (hfirst : FirstApplies G A w recover) (N : Nat) (hN : 1 ≤ N) (hvalid : FirstValid G A w N recover)
    (hw : G.eof ∉ w)
    (fuel : Nat) (c : Pos) (errs errs' : List Err) (hc : c.pos ≤ w.length) (hp : IsPath A c.stack)
    (h : recRun G A w recover fuel c errs = (true, errs')) :
    ∃ new, errs' = errs ++ new ∧
      (∃ st, FeedsTo G A c.stack (editedToks w w.length c.pos new) st ∧ AcceptsAt G A G.eof st) ∧
      PlainIs G A c.stack (editedToks w w.length c.pos new) .accepted := by
  obtain ⟨hsh, hacc⟩ := certified_table_keeps_eof_discipline G A hcert hcols
  obtain ⟨new, h1, _, h3, _⟩ := recRun_plainK G A w recover (check_props G A hcert) hcols hfirst hN hvalid
    hsh hacc hw hk fuel c errs true errs' c.stack hc (.refl _) hp (Or.inl rfl) h
  obtain ⟨st, hf, hx⟩ := h3 rfl
  exact ⟨new, h1, ⟨st, hf, hx⟩, plainIs_of_large (plainFromF_eventually_accepts _ _ st hf hx)⟩

/-- **Later errors are exactly those of parsing the input with the first sequence of each earlier
error applied.** Same hypotheses, any result (value or not). For every reported error `e`, with `pre`
the errors reported before it: `e` lies within the input at or after the start; the input edited by
`pre` is the edited input up to `e`'s position followed by the untouched real lexemes from `e.pos` on;
and the plain parse of that edited input shifts everything before that point and REFUSES the token
there (the real lexeme `e.pos`, or the end of input if `e.pos = |w|`): its first error is exactly at
the reported position (`PlainIs … (refusedAt …)`). -/
theorem reported_errors_are_plain_errors_of_edited_input (G : Grammar) (A : Automaton) (w : List Nat)
    (recover : Pos → Option (Pos × List (List Repair)))
    (hcert : check G A = true) (hcols : colsOk G A = true) (hk : KeptShiftInvisible G A)
    (hfirst : FirstApplies G A w recover) (N : Nat) (hN : 1 ≤ N) (hvalid : FirstValid G A w N recover)
    (hw : G.eof ∉ w)
    (fuel : Nat) (c : Pos) (errs : List Err) (v : Bool) (errs' : List Err) (hc : c.pos ≤ w.length)
    (hp : IsPath A c.stack) (h : recRun G A w recover fuel c errs = (v, errs')) :
    ∃ new, errs' = errs ++ new ∧ Ordered w.length c.pos new ∧ ∀ pre e post, new = pre ++ e :: post →
      c.pos ≤ e.pos ∧ e.pos ≤ w.length ∧
      editedItems w.length c.pos pre = editedItems e.pos c.pos pre ++ reals e.pos w.length ∧
      (∃ st, FeedsTo G A c.stack (editedToks w e.pos c.pos pre) st ∧
        RefusesAt G A (nextTok G w e.pos) st) ∧
      PlainIs G A c.stack (editedToks w w.length c.pos pre)
        (.refusedAt (editedToks w e.pos c.pos pre).length) := by
  obtain ⟨hsh, hacc⟩ := certified_table_keeps_eof_discipline G A hcert hcols
  obtain ⟨new, h1, h2, _, h4⟩ := recRun_plainK G A w recover (check_props G A hcert) hcols hfirst hN hvalid
    hsh hacc hw hk fuel c errs v errs' c.stack hc (.refl _) hp (Or.inl rfl) h
  refine ⟨new, h1, h2, ?_⟩
  intro pre e post hs
  subst hs
  obtain ⟨ho, hle⟩ := ordered_split h2
  obtain ⟨st, hf, hy⟩ := h4 pre e post rfl
  refine ⟨ordered_le ho, hle, editedItems_split hle ho, ⟨st, hf, hy⟩, plainIs_of_large ?_⟩
  rw [editedToks_split w hle ho]
  exact plainFromF_eventually_refuses w _ c.stack st e.pos hf hy

/-- **A run that gives up stops where the plain parse of the edited input has its first error.** Same
hypotheses. If the last reported error `e` has no repair sequence (the run ended without a value
there), the edited input is the input edited by the earlier errors `pre` only, and its plain parse
shifts every token before `e`'s position and refuses the one there. -/
theorem unrepaired_error_is_first_error_of_edited_input (G : Grammar) (A : Automaton) (w : List Nat)
    (recover : Pos → Option (Pos × List (List Repair)))
    (hcert : check G A = true) (hcols : colsOk G A = true) (hk : KeptShiftInvisible G A)
    (hfirst : FirstApplies G A w recover) (N : Nat) (hN : 1 ≤ N) (hvalid : FirstValid G A w N recover)
    (hw : G.eof ∉ w)
    (fuel : Nat) (c : Pos) (errs : List Err) (v : Bool) (errs' : List Err) (hc : c.pos ≤ w.length)
    (hp : IsPath A c.stack) (h : recRun G A w recover fuel c errs = (v, errs')) :
    ∃ new, errs' = errs ++ new ∧ ∀ pre e, new = pre ++ [e] → e.repairs = [] →
      editedItems w.length c.pos new = editedItems w.length c.pos pre ∧
      PlainIs G A c.stack (editedToks w w.length c.pos new)
        (.refusedAt (editedToks w e.pos c.pos pre).length) := by
  obtain ⟨new, h1, h2, h3⟩ := reported_errors_are_plain_errors_of_edited_input G A w recover hcert hcols hk
    hfirst N hN hvalid hw fuel c errs v errs' hc hp h
  refine ⟨new, h1, ?_⟩
  intro pre e hs he
  subst hs
  have hun := editedItems_unrepaired he h2
  refine ⟨hun, ?_⟩
  obtain ⟨_, _, _, _, hpl⟩ := h3 pre e [] rfl
  simp only [editedToks, hun] at hpl ⊢
  exact hpl

/-- **A returned tree's leaves spell the repaired input.** Same hypotheses, for a run from the start
configuration that produced a value, when the edited input consists of real tokens (`InputOk`:
inserted tokens are tokens of the grammar other than end-of-input — the recoverer never inserts that
one). Then the plain LR driver WITH TREES (`LR.parse`, the model of `Parser::lr` of C01) accepts the
edited token list, and the tree it returns is a valid derivation from the start rule whose leaves,
left to right, are exactly the edited token list — the real lexemes kept, the inserted tokens where
`editedItems` places them (before the next real lexeme), the deleted lexemes gone. The `k`-th leaf
carries the lexeme index `k`: it stands for the `k`-th item of `editedItems`, i.e. a real lexeme
`EItem.real i` or a token inserted before real lexeme `b`, `EItem.ins t b` (which the real parser shows
as a zero-length faulty lexeme at `b`'s start). -/
theorem returned_tree_spells_edited_input (G : Grammar) (A : Automaton) (w : List Nat)
    (recover : Pos → Option (Pos × List (List Repair)))
    (hcert : check G A = true) (hcols : colsOk G A = true) (hk : KeptShiftInvisible G A)
    (hfirst : FirstApplies G A w recover) (N : Nat) (hN : 1 ≤ N) (hvalid : FirstValid G A w N recover)
    (hw : G.eof ∉ w)
    (fuel : Nat) (errs : List Err)
    (h : recRun G A w recover fuel ⟨[A.start], 0⟩ [] = (true, errs))
    (hin : InputOk G (editedToks w w.length 0 errs)) :
    ∃ fuel' t, LR.parse G A (editedToks w w.length 0 errs) fuel' = .accept t ∧
      Tree.valid G t = true ∧ (∃ S, G.rhs G.startProd = [.rule S] ∧ Tree.root G t = .rule S) ∧
      Tree.yield t = editedToks w w.length 0 errs ∧
      Tree.leafIdxs t = List.range (editedItems w.length 0 errs).length := by
  obtain ⟨new, h1, ⟨st, hf, hx⟩, _⟩ := recRun_is_plain_parse_of_edited_input G A w recover hcert hcols hk
    hfirst N hN hvalid hw fuel ⟨[A.start], 0⟩ [] errs (Nat.zero_le _) (IsPath.start A) h
  simp only [List.nil_append] at h1
  subst h1
  simp only at hf
  obtain ⟨fuel', t, hparse, hv, hr, hy, hidx⟩ := plain_acceptance_is_a_tree G A hcert _ hin st hf hx
  refine ⟨fuel', t, hparse, hv, hr, hy, ?_⟩
  rw [hidx]; simp [editedToks]

/-! ### the same for certified tables: no undecidable hypothesis about the table is left -/

/-- **On every certified table, a value means the plain parse of the edited input accepts.**
`recRun_is_plain_parse_of_edited_input` with `wholeRunCert G A = true` (all decidable: `Cert.check`,
`Cert.checkLA`, `Cert.vpClosed`, `colsOk`; evaluated by the driver on every dumped automaton)
in place of `KeptShiftInvisible`; remaining hypotheses: `FirstApplies` and `FirstValid` of the
recoverer, an input without the end-of-input token, a start on a path stack within the input. -/
theorem recRun_is_plain_parse_of_edited_input_certified (G : Grammar) (A : Automaton) (w : List Nat)
    (recover : Pos → Option (Pos × List (List Repair)))
    (hcert : wholeRunCert G A = true)
    (hfirst : FirstApplies G A w recover) (N : Nat) (hN : 1 ≤ N) (hvalid : FirstValid G A w N recover)
    (hw : G.eof ∉ w)
    (fuel : Nat) (c : Pos) (errs errs' : List Err) (hc : c.pos ≤ w.length) (hp : IsPath A c.stack)
    (h : recRun G A w recover fuel c errs = (true, errs')) :
    ∃ new, errs' = errs ++ new ∧
      (∃ st, FeedsTo G A c.stack (editedToks w w.length c.pos new) st ∧ AcceptsAt G A G.eof st) ∧
      PlainIs G A c.stack (editedToks w w.length c.pos new) .accepted := by
  obtain ⟨h1, h2, h4⟩ := certified_table_keeps_shifts_invisible G A hcert
  exact recRun_is_plain_parse_of_edited_input G A w recover h1 h2 h4 hfirst N hN hvalid hw fuel c errs errs' hc hp h

/-- **On every certified table, later errors are exactly those of parsing the input with the first
sequence of each earlier error applied.** `reported_errors_are_plain_errors_of_edited_input` with
`wholeRunCert G A = true` in place of `KeptShiftInvisible`. -/
theorem reported_errors_are_plain_errors_of_edited_input_certified (G : Grammar) (A : Automaton) (w : List Nat)
    (recover : Pos → Option (Pos × List (List Repair)))
    (hcert : wholeRunCert G A = true)
    (hfirst : FirstApplies G A w recover) (N : Nat) (hN : 1 ≤ N) (hvalid : FirstValid G A w N recover)
    (hw : G.eof ∉ w)
    (fuel : Nat) (c : Pos) (errs : List Err) (v : Bool) (errs' : List Err) (hc : c.pos ≤ w.length)
    (hp : IsPath A c.stack) (h : recRun G A w recover fuel c errs = (v, errs')) :
    ∃ new, errs' = errs ++ new ∧ Ordered w.length c.pos new ∧ ∀ pre e post, new = pre ++ e :: post →
      c.pos ≤ e.pos ∧ e.pos ≤ w.length ∧
      editedItems w.length c.pos pre = editedItems e.pos c.pos pre ++ reals e.pos w.length ∧
      (∃ st, FeedsTo G A c.stack (editedToks w e.pos c.pos pre) st ∧
        RefusesAt G A (nextTok G w e.pos) st) ∧
      PlainIs G A c.stack (editedToks w w.length c.pos pre)
        (.refusedAt (editedToks w e.pos c.pos pre).length) := by
  obtain ⟨h1, h2, h4⟩ := certified_table_keeps_shifts_invisible G A hcert
  exact reported_errors_are_plain_errors_of_edited_input G A w recover h1 h2 h4 hfirst N hN hvalid hw fuel c errs v
    errs' hc hp h

/-- **On every certified table, a run that gives up stops where the plain parse of the edited input
has its first error.** `unrepaired_error_is_first_error_of_edited_input` with `wholeRunCert G A = true`
in place of `KeptShiftInvisible`. -/
theorem unrepaired_error_is_first_error_of_edited_input_certified (G : Grammar) (A : Automaton) (w : List Nat)
    (recover : Pos → Option (Pos × List (List Repair)))
    (hcert : wholeRunCert G A = true)
    (hfirst : FirstApplies G A w recover) (N : Nat) (hN : 1 ≤ N) (hvalid : FirstValid G A w N recover)
    (hw : G.eof ∉ w)
    (fuel : Nat) (c : Pos) (errs : List Err) (v : Bool) (errs' : List Err) (hc : c.pos ≤ w.length)
    (hp : IsPath A c.stack) (h : recRun G A w recover fuel c errs = (v, errs')) :
    ∃ new, errs' = errs ++ new ∧ ∀ pre e, new = pre ++ [e] → e.repairs = [] →
      editedItems w.length c.pos new = editedItems w.length c.pos pre ∧
      PlainIs G A c.stack (editedToks w w.length c.pos new)
        (.refusedAt (editedToks w e.pos c.pos pre).length) := by
  obtain ⟨h1, h2, h4⟩ := certified_table_keeps_shifts_invisible G A hcert
  exact unrepaired_error_is_first_error_of_edited_input G A w recover h1 h2 h4 hfirst N hN hvalid hw fuel c errs v
    errs' hc hp h

/-- **On every certified table, a returned tree's leaves spell the repaired input.**
`returned_tree_spells_edited_input` with `wholeRunCert G A = true` in place of `KeptShiftInvisible`:
the hypotheses are the decidable certificates of the table, `FirstApplies` and `FirstValid` of the
recoverer, an input without the end-of-input token and an edited input made of real tokens. -/
theorem returned_tree_spells_edited_input_certified (G : Grammar) (A : Automaton) (w : List Nat)
    (recover : Pos → Option (Pos × List (List Repair)))
    (hcert : wholeRunCert G A = true)
    (hfirst : FirstApplies G A w recover) (N : Nat) (hN : 1 ≤ N) (hvalid : FirstValid G A w N recover)
    (hw : G.eof ∉ w)
    (fuel : Nat) (errs : List Err)
    (h : recRun G A w recover fuel ⟨[A.start], 0⟩ [] = (true, errs))
    (hin : InputOk G (editedToks w w.length 0 errs)) :
    ∃ fuel' t, LR.parse G A (editedToks w w.length 0 errs) fuel' = .accept t ∧
      Tree.valid G t = true ∧ (∃ S, G.rhs G.startProd = [.rule S] ∧ Tree.root G t = .rule S) ∧
      Tree.yield t = editedToks w w.length 0 errs ∧
      Tree.leafIdxs t = List.range (editedItems w.length 0 errs).length := by
  obtain ⟨h1, h2, h4⟩ := certified_table_keeps_shifts_invisible G A hcert
  exact returned_tree_spells_edited_input G A w recover h1 h2 h4 hfirst N hN hvalid hw fuel errs h hin

/-! ### the form under `KeptInvisible` (tables that never shift what the reduced stack refuses)

It needs neither the certificates nor `FirstValid` and gives the conclusions at the
model's `FUEL` directly; `KeptInvisible` is not decidable and FALSE of merged tables that detect errors
late (`ex2_not_keptInvisible`). -/

/-- **A value means the plain parse of the edited input accepts** (on state stacks). Hypotheses: `FirstApplies`, the end-of-input discipline, and
`KeptInvisible G A` — the reductions made under a refused lexeme cannot be observed by any token fed
afterwards. The last one is forced: the recovering driver keeps those reductions, a plain parse of
the edited input never makes them. It holds trivially for tables that refuse a lexeme before
reducing under it (canonical LR(1)) and is FALSE of merged tables that detect an error only after
reducing (`ex2_not_keptInvisible`; those are covered by the theorems under `KeptShiftInvisible` above);
on tables with conflicts it can fail as well, which is the known finding
`C05-conflicting-grammar-keeps-reductions`.
Conclusion, for every fuel, start configuration and result with a value: feeding the edited token
list (`editedToks`: first sequence of every reported error applied) to the plain stack automaton
from `c.stack` shifts every token, and the end-of-input token is then accepted; as one function:
`plainFrom … = accepted`. -/
theorem recRun_is_plain_parse_of_edited_input_of_keptInvisible (G : Grammar) (A : Automaton) (w : List Nat)
    (recover : Pos → Option (Pos × List (List Repair)))
    (hfirst : FirstApplies G A w recover) (heof : eofOk G A = true) (hw : G.eof ∉ w)
    (hk : KeptInvisible G A)
    (fuel : Nat) (c : Pos) (errs errs' : List Err) (hc : c.pos ≤ w.length)
    (h : recRun G A w recover fuel c errs = (true, errs')) :
    ∃ new, errs' = errs ++ new ∧
      (∃ st x, feedToks G A c.stack (editedToks w w.length c.pos new) = some st ∧
        feed G A G.eof FUEL st = .accept x) ∧
      plainFrom G A c.stack (editedToks w w.length c.pos new) 0 = .accepted := by
  obtain ⟨new, h1, _, h3, _⟩ := recRun_plain G A w recover hfirst heof hw hk fuel c errs true errs' hc h
  obtain ⟨st, x, hf, hx⟩ := h3 rfl
  refine ⟨new, h1, ⟨st, x, hf, hx⟩, ?_⟩
  rw [← feedToksF_FUEL] at hf
  rw [← plainFromF_FUEL]
  exact plainFromF_accepts _ _ st x hf hx

/-- **Later errors are exactly those of parsing the input with the first sequence of each earlier
error applied.** `reported_errors_are_plain_errors_of_edited_input` under the hypotheses of
`recRun_is_plain_parse_of_edited_input_of_keptInvisible`, with the conclusions at the model's `FUEL`. -/
theorem reported_errors_are_plain_errors_of_edited_input_of_keptInvisible (G : Grammar) (A : Automaton) (w : List Nat)
    (recover : Pos → Option (Pos × List (List Repair)))
    (hfirst : FirstApplies G A w recover) (heof : eofOk G A = true) (hw : G.eof ∉ w)
    (hk : KeptInvisible G A)
    (fuel : Nat) (c : Pos) (errs : List Err) (v : Bool) (errs' : List Err) (hc : c.pos ≤ w.length)
    (h : recRun G A w recover fuel c errs = (v, errs')) :
    ∃ new, errs' = errs ++ new ∧ Ordered w.length c.pos new ∧ ∀ pre e post, new = pre ++ e :: post →
      c.pos ≤ e.pos ∧ e.pos ≤ w.length ∧
      editedItems w.length c.pos pre = editedItems e.pos c.pos pre ++ reals e.pos w.length ∧
      (∃ st y, feedToks G A c.stack (editedToks w e.pos c.pos pre) = some st ∧
        feed G A (nextTok G w e.pos) FUEL st = .error y) ∧
      plainFrom G A c.stack (editedToks w w.length c.pos pre) 0 =
        .refusedAt (editedToks w e.pos c.pos pre).length := by
  obtain ⟨new, h1, h2, _, h4⟩ := recRun_plain G A w recover hfirst heof hw hk fuel c errs v errs' hc h
  refine ⟨new, h1, h2, ?_⟩
  intro pre e post hs
  subst hs
  obtain ⟨ho, hle⟩ := ordered_split h2
  obtain ⟨st, y, hf, hy⟩ := h4 pre e post rfl
  refine ⟨ordered_le ho, hle, editedItems_split hle ho, ⟨st, y, hf, hy⟩, ?_⟩
  rw [← feedToksF_FUEL] at hf
  rw [editedToks_split w hle ho, ← plainFromF_FUEL]
  exact plainFromF_refuses w _ c.stack st y e.pos hf hy

/-- **A run that gives up stops where the plain parse of the edited input has its first error.**
`unrepaired_error_is_first_error_of_edited_input` under the same hypotheses, at the model's `FUEL`. -/
theorem unrepaired_error_is_first_error_of_edited_input_of_keptInvisible (G : Grammar) (A : Automaton) (w : List Nat)
    (recover : Pos → Option (Pos × List (List Repair)))
    (hfirst : FirstApplies G A w recover) (heof : eofOk G A = true) (hw : G.eof ∉ w)
    (hk : KeptInvisible G A)
    (fuel : Nat) (c : Pos) (errs : List Err) (v : Bool) (errs' : List Err) (hc : c.pos ≤ w.length)
    (h : recRun G A w recover fuel c errs = (v, errs')) :
    ∃ new, errs' = errs ++ new ∧ ∀ pre e, new = pre ++ [e] → e.repairs = [] →
      editedItems w.length c.pos new = editedItems w.length c.pos pre ∧
      plainFrom G A c.stack (editedToks w w.length c.pos new) 0 =
        .refusedAt (editedToks w e.pos c.pos pre).length := by
  obtain ⟨new, h1, h2, h3⟩ := reported_errors_are_plain_errors_of_edited_input_of_keptInvisible G A w recover hfirst
    heof hw hk fuel c errs v errs' hc h
  refine ⟨new, h1, ?_⟩
  intro pre e hs he
  subst hs
  have hun := editedItems_unrepaired he h2
  refine ⟨hun, ?_⟩
  obtain ⟨_, _, _, _, hp⟩ := h3 pre e [] rfl
  simp only [editedToks, hun] at hp ⊢
  exact hp

/-- **A returned tree's leaves spell the repaired input.** `returned_tree_spells_edited_input` under the
same hypotheses, on a table that passes C01's validator `Cert.check`. -/
theorem returned_tree_spells_edited_input_of_keptInvisible (G : Grammar) (A : Automaton) (w : List Nat)
    (recover : Pos → Option (Pos × List (List Repair)))
    (hfirst : FirstApplies G A w recover) (heof : eofOk G A = true) (hw : G.eof ∉ w)
    (hk : KeptInvisible G A) (hcert : check G A = true)
    (fuel : Nat) (errs : List Err)
    (h : recRun G A w recover fuel ⟨[A.start], 0⟩ [] = (true, errs))
    (hin : InputOk G (editedToks w w.length 0 errs)) :
    ∃ fuel' t, LR.parse G A (editedToks w w.length 0 errs) fuel' = .accept t ∧
      Tree.valid G t = true ∧ (∃ S, G.rhs G.startProd = [.rule S] ∧ Tree.root G t = .rule S) ∧
      Tree.yield t = editedToks w w.length 0 errs ∧
      Tree.leafIdxs t = List.range (editedItems w.length 0 errs).length := by
  obtain ⟨new, h1, ⟨st, x, hf, hx⟩, _⟩ := recRun_is_plain_parse_of_edited_input_of_keptInvisible G A w recover hfirst heof hw hk
    fuel ⟨[A.start], 0⟩ [] errs (Nat.zero_le _) h
  simp only [List.nil_append] at h1
  subst h1
  obtain ⟨fuel', t, hparse, hv, hr, hy, hidx⟩ := plain_acceptance_is_a_tree G A hcert _ hin st
    (feedsTo_of_feedToks _ _ _ hf) ⟨FUEL, x, hx⟩
  refine ⟨fuel', t, hparse, hv, hr, hy, ?_⟩
  rw [hidx]; simp [editedToks]

/-! ## Tests: the hypotheses are jointly satisfiable on a run with two errors, one of which leaves a
kept reduction behind, and the conclusions compute (`Lemmas/RecEditedEx.lean`: grammar
`S: A 'b'; A: 'a'`, input `a a`) -/

/-- the table keeps the end-of-input discipline -/
example : eofOk exG exA = true := by decide +kernel
/-- the reduction `A → a` made under the refused end-of-input token is kept -/
example : feed exG exA 2 FUEL [1, 0] = .error [2, 0] := by rfl
/-- this table satisfies `KeptInvisible` although it does reduce under refused lexemes -/
example : KeptInvisible exG exA := ex_keptInvisible
/-- the recoverer continues as if its first sequence were applied -/
example : FirstApplies exG exA [0, 0] exRecover := exFirst_holds
/-- the run: two errors (the second `a`, then the end of input), each repaired by its first sequence -/
example : recRun exG exA [0, 0] exRecover 10 ⟨[0], 0⟩ [] =
    (true, [⟨1, [[.delete], [.insert 1, .delete]]⟩, ⟨2, [[.insert 1]]⟩]) := by rfl
/-- its edited input: `a`, then `b` inserted before (absent) lexeme 2; the second `a` is gone -/
example : editedItems 2 0 [⟨1, [[.delete], [.insert 1, .delete]]⟩, ⟨2, [[.insert 1]]⟩] = [.real 0, .ins 1 2] := by decide +kernel
example : editedToks [0, 0] 2 0 [⟨1, [[.delete], [.insert 1, .delete]]⟩, ⟨2, [[.insert 1]]⟩] = [0, 1] := by decide +kernel
/-- the conclusion of `recRun_is_plain_parse_of_edited_input_of_keptInvisible`, obtained from the theorem … -/
example : plainFrom exG exA [0]
    (editedToks [0, 0] 2 0 [⟨1, [[.delete], [.insert 1, .delete]]⟩, ⟨2, [[.insert 1]]⟩]) 0 = .accepted := by
  obtain ⟨new, h1, _, h3⟩ := recRun_is_plain_parse_of_edited_input_of_keptInvisible exG exA [0, 0] exRecover exFirst_holds
    (by decide) (by decide) ex_keptInvisible 10 ⟨[0], 0⟩ [] _ (by decide) rfl
  simp only [List.nil_append] at h1
  subst h1
  exact h3
/-- … and by evaluation -/
example : plainFrom exG exA [0] [0, 1] 0 = .accepted := by decide +kernel
/-- the second error is where the plain parse of the input edited by the first error (`a`) fails: at
its end (token index 1) -/
example : plainFrom exG exA [0] (editedToks [0, 0] 2 0 [⟨1, [[.delete], [.insert 1, .delete]]⟩]) 0 = .refusedAt 1 := by decide +kernel
/-- a run that gives up: `b` alone is refused at once, the recoverer has nothing, and the plain parse
of the (unedited) input has its first error at token 0 -/
example : recRun exG exA [1] (fun _ => none) 10 ⟨[0], 0⟩ [] = (false, [⟨0, []⟩]) := by rfl
example : plainFrom exG exA [0] (editedToks [1] 1 0 [⟨0, []⟩]) 0 = .refusedAt 0 := by decide +kernel


/-! ## Tests: a certified MERGED table that detects an error late (`Lemmas/KeptCertEx.lean`: the LALR
automaton of `S: x A c | y A d | x B f | y B g; A: a; B: a e`, whose state after `a` is merged from
two contexts), input `x a d` -/

/-- the table passes every certificate of the certified theorems -/
example : wholeRunCert exG2 exA2 = true := ex2_cert
/-- late detection: `A → a` is reduced under `d` (valid after `y a` only), then `d` is refused -/
example : feed exG2 exA2 4 FUEL [6, 2, 0] = .error [4, 2, 0] := by rfl
/-- `KeptInvisible` is FALSE of this table (the unreduced stack shifts `e`, the reduced one refuses
it), so the `…_of_keptInvisible` theorems say nothing here … -/
example : ¬ KeptInvisible exG2 exA2 := ex2_not_keptInvisible
/-- … while `KeptShiftInvisible` holds, by the certificates -/
example : KeptShiftInvisible exG2 exA2 := (certified_table_keeps_shifts_invisible exG2 exA2 ex2_cert).2.2
example : FirstApplies exG2 exA2 [0, 2, 4] exRecover2 := ex2_first
example : FirstValid exG2 exA2 [0, 2, 4] 1 exRecover2 := ex2_valid
/-- the run: one error at `d`, repaired by `insert c, delete` applied to the REDUCED stack -/
example : recRun exG2 exA2 [0, 2, 4] exRecover2 10 ⟨[0], 0⟩ [] =
    (true, [⟨2, [[.insert 3, .delete], [.delete, .insert 3]]⟩]) := by rfl
example : editedToks [0, 2, 4] 3 0 [⟨2, [[.insert 3, .delete], [.delete, .insert 3]]⟩] = [0, 2, 3] := by decide +kernel
/-- the conclusion of `recRun_is_plain_parse_of_edited_input_certified`, obtained from the theorem
(the plain parse of `x a c` reduces `A → a` under `c`, from the UNREDUCED stack) … -/
example : plainFrom exG2 exA2 [0]
    (editedToks [0, 2, 4] 3 0 [⟨2, [[.insert 3, .delete], [.delete, .insert 3]]⟩]) 0 = .accepted := by
  obtain ⟨new, h1, _, h3⟩ := recRun_is_plain_parse_of_edited_input_certified exG2 exA2 [0, 2, 4] exRecover2 ex2_cert
    ex2_first 1 (Nat.le_refl _) ex2_valid (by decide) 10 ⟨[0], 0⟩ [] _ (by decide) (IsPath.start exA2) rfl
  simp only [List.nil_append] at h1
  subst h1
  exact h3.2 (by decide)
/-- … and by evaluation -/
example : plainFrom exG2 exA2 [0] [0, 2, 3] 0 = .accepted := by decide +kernel
/-- the reported error is where the plain parse of the unedited input fails (token 2, after the same
kept reduction) -/
example : plainFrom exG2 exA2 [0] [0, 2, 4] 0 = .refusedAt 2 := by decide +kernel


/-! ## Capstone: the modelled recoverer satisfies the hypotheses

Up to here the recoverer is a parameter with the hypotheses `FirstApplies` and `FirstValid`. The
recoverer that IS the model of CPCT+ — `Cpct.cpctRecover` (`Model/Cpct.lean`): `SearchImpl.recoverImpl`
(Dijkstra search with node merging, `collect_repairs`, `rank_cnds`, `simplify_repairs`,
`apply_repairs` of the first reported sequence, all proved in C06) seen through the interface of
`recRun` — satisfies them, so the whole-run theorems hold of the model of the WHOLE recovering parser
with hypotheses on the table and the costs only:

* `Cpct.TableOK E`: every token costs at least 1 (`parse_actions` asserts it), no state shifts the
  end-of-input token, `state_actions` of every state lists exactly the tokens whose action is not
  `Error` (`C16.state_actions_spec`; decidable: `stateActionsExactB`), `PARSE_AT_LEAST ≥ 1` (it is 3);
  in the capstones it is derived from `wholeRunCert` (`Cpct.tableOK_of_cert`) and `stateActionsExactB`;
* `HashSetLike hs` (the order in which the `HashSet` of `simplify_repairs` hands its elements back is a
  parameter; any order will do);
* they hold for EVERY window `win`, `%avoid_insert` set, lexeme offsets and search budget `sfuel` (a
  search that runs out of budget reports nothing, like the real one that runs out of time).

`FirstApplies`/`FirstValid` quantify over ALL configurations, while `Parser::lr` calls `recover` only
when the top state refuses the next lexeme, inside the input (`Cpct.errCfg`); they are stated for
`Cpct.cpctRecoverAt` (`cpctRecover` at such configurations, `none` elsewhere) and, pointwise, for
`cpctRecover` itself at such configurations. `cpct_restriction_invisible` shows the restriction cannot
be observed in a run, and the capstones are about `recRun` with the UNRESTRICTED `cpctRecover`. -/

section Capstone
open Cpct SearchImpl RankImpl

/-- **The modelled recoverer continues from where its first reported sequence leads.** On a table
with `TableOK`, for every `HashSet` order, `%avoid_insert` set, lexeme offsets, window and search
budget: `FirstApplies` holds of `cpctRecoverAt`; and at every configuration at which `Parser::lr`
calls `recover` (`errCfg`), if `cpctRecover` reports `s0 :: rest` and continues from `c'`, then `c'` is
`applySeq` of `s0` — plain LR semantics — from the error configuration (`apply_repairs` agrees with
`applySeq` on sequences that apply, and `s0` does: it is a prefix of a `Search` sequence). -/
theorem cpct_first_applies (E : Env) (hT : TableOK E) (hs : List Seq → List Seq) (hhs : HashSetLike hs)
    (avoid : Nat → Bool) (lexStart : Nat → Nat) (win sfuel : Nat) :
    FirstApplies E.G E.A E.w (cpctRecoverAt E hs avoid lexStart win sfuel) ∧
    ∀ c c' s0 rest, errCfg E.G E.A E.w c = true →
      cpctRecover E hs avoid lexStart win sfuel c = some (c', s0 :: rest) →
      applySeq E.G E.A E.w c s0 = some c' := by
  refine ⟨cpctAt_firstApplies hT hhs, ?_⟩
  intro c c' s0 rest hc h
  rw [← cpctAt_of_errCfg hc] at h
  exact cpctAt_firstApplies hT hhs c c' s0 rest h

/-- **Every sequence the modelled recoverer reports repairs.** Same hypotheses: `FirstValid … N`
with `N = E.N = PARSE_AT_LEAST` holds of `cpctRecoverAt`; and at every `errCfg` configuration EVERY
sequence `cpctRecover` reports — not only the first — satisfies `validSeq … PARSE_AT_LEAST`: it is a
minimum-cost `Search` sequence (`C06.search_sound`) with its trailing Shifts stripped (`rank_cnds` only
filters, `simplify_repairs` strips), the full sequence ends in `PARSE_AT_LEAST` Shifts or in acceptance
(`C06.search_sequence_valid`), and `continueFrom` performs the stripped Shifts (`validSeq_stripped`).
No window hypothesis is needed. -/
theorem cpct_first_valid (E : Env) (hT : TableOK E) (hs : List Seq → List Seq) (hhs : HashSetLike hs)
    (avoid : Nat → Bool) (lexStart : Nat → Nat) (win sfuel : Nat) :
    FirstValid E.G E.A E.w E.N (cpctRecoverAt E hs avoid lexStart win sfuel) ∧
    ∀ c c' rs, errCfg E.G E.A E.w c = true →
      cpctRecover E hs avoid lexStart win sfuel c = some (c', rs) →
      ∀ r ∈ rs, validSeq E.G E.A E.w E.N c r = true := by
  refine ⟨cpctAt_firstValid hT hhs, ?_⟩
  intro c c' rs hc h
  rw [← cpctAt_of_errCfg hc] at h
  exact cpctAt_allValid hT hhs h

/-- **The restriction to the configurations `Parser::lr` calls `recover` at cannot be observed.** On a
table with `TableOK`, from every start within the input, with every fuel: the recovering driver
(`recRun`; the instrumented `recRunO` with any fuel of `feed`) does exactly the same with the
unrestricted `cpctRecover` as with `cpctRecoverAt`, and every configuration it hands to the recoverer
(`recCalls`) is an `errCfg`. -/
theorem cpct_restriction_invisible (E : Env) (hT : TableOK E) (hs : List Seq → List Seq) (hhs : HashSetLike hs)
    (avoid : Nat → Bool) (lexStart : Nat → Nat) (win sfuel : Nat) (c : Pos) (hc : c.pos ≤ E.w.length)
    (fuel : Nat) (errs : List Err) :
    recRun E.G E.A E.w (cpctRecover E hs avoid lexStart win sfuel) fuel c errs =
      recRun E.G E.A E.w (cpctRecoverAt E hs avoid lexStart win sfuel) fuel c errs ∧
    (∀ ff, recRunO E.G E.A E.w (cpctRecover E hs avoid lexStart win sfuel) ff fuel c errs =
      recRunO E.G E.A E.w (cpctRecoverAt E hs avoid lexStart win sfuel) ff fuel c errs) ∧
    ∀ x ∈ recCalls E.G E.A E.w (cpctRecover E hs avoid lexStart win sfuel) fuel c,
      errCfg E.G E.A E.w x = true :=
  ⟨recRun_cpct_guard hT hhs fuel c errs hc, fun ff => recRunO_cpct_guard hT hhs ff fuel c errs hc,
   recCalls_cpct_errCfg hT hhs fuel c hc⟩

/-- **Capstone: every repair sequence the modelled recovering parser reports repairs** — the first
sentence of C05 for the model of the WHOLE parser (LR driver + CPCT+ search + ranking + replay). On a
table with `TableOK`, for every `HashSet` order, `%avoid_insert` set, lexeme offsets, window, search
budget, driver fuel and start within the input: the errors the run appends are, in order, the calls of
the recoverer (`recCalls`: the configuration — reduced stack and position — the driver is in) with what
`cpctRecover` reported there; every call is at a configuration `Parser::lr` calls `recover` at; and
EVERY sequence reported at a call satisfies `validSeq … PARSE_AT_LEAST` at that configuration (it applies
with plain LR semantics and the plain parse then runs `PARSE_AT_LEAST` further lexemes or accepts) and
inserts only tokens of the grammar other than end-of-input. -/
theorem cpct_every_reported_sequence_repairs (E : Env) (hT : TableOK E) (hs : List Seq → List Seq)
    (hhs : HashSetLike hs) (avoid : Nat → Bool) (lexStart : Nat → Nat) (win sfuel : Nat)
    (fuel : Nat) (c0 : Pos) (hc0 : c0.pos ≤ E.w.length) (errs : List Err) :
    (recRun E.G E.A E.w (cpctRecover E hs avoid lexStart win sfuel) fuel c0 errs).2 =
      errs ++ (recCalls E.G E.A E.w (cpctRecover E hs avoid lexStart win sfuel) fuel c0).map
        (errOf (cpctRecover E hs avoid lexStart win sfuel)) ∧
    ∀ x ∈ recCalls E.G E.A E.w (cpctRecover E hs avoid lexStart win sfuel) fuel c0,
      errCfg E.G E.A E.w x = true ∧
      ∀ r ∈ (errOf (cpctRecover E hs avoid lexStart win sfuel) x).repairs,
        validSeq E.G E.A E.w E.N x r = true ∧ ∀ t, Repair.insert t ∈ r → t < E.G.ntoks ∧ t ≠ E.G.eof := by
  refine ⟨recRun_eq_calls _ _ _ _ fuel c0 errs, ?_⟩
  intro x hx
  have he := recCalls_cpct_errCfg hT hhs fuel c0 hc0 x hx
  refine ⟨he, ?_⟩
  intro r hr
  cases hrec : cpctRecover E hs avoid lexStart win sfuel x with
  | none => simp [errOf, hrec] at hr
  | some y =>
    obtain ⟨c', rs⟩ := y
    have hr' : r ∈ rs := by simpa [errOf, hrec] using hr
    obtain ⟨_, k, _, hall⟩ := cpct_report hT hhs he hrec
    exact ⟨(hall r hr').1, (hall r hr').2.1⟩

/-- **Capstone: with the modelled CPCT+ recoverer, a value means the plain parse of the edited input
accepts.** `recRun_is_plain_parse_of_edited_input_certified` for `recover := cpctRecover …` — the model
of the whole recovering parser: LR driver + search + ranking + replay. Hypotheses on the table and the
costs only: `wholeRunCert` (decidable), `stateActionsExactB` (decidable), every token costs ≥ 1,
`PARSE_AT_LEAST ≥ 1`; any `HashSet` order; an input without the end-of-input token; a start within the
input on a stack that is a path of the automaton. For every window, `%avoid_insert` set and search
budget. -/
theorem cpct_recovering_parse_is_plain_parse_of_edited_input (E : Env)
    (hcert : wholeRunCert E.G E.A = true) (hsa : stateActionsExactB E.G E.A = true)
    (hcost : ∀ t, 1 ≤ E.cost t) (hN : 1 ≤ E.N) (hs : List Seq → List Seq) (hhs : HashSetLike hs)
    (avoid : Nat → Bool) (lexStart : Nat → Nat) (win sfuel : Nat) (hw : E.G.eof ∉ E.w)
    (fuel : Nat) (c : Pos) (errs errs' : List Err) (hc : c.pos ≤ E.w.length) (hp : IsPath E.A c.stack)
    (h : recRun E.G E.A E.w (cpctRecover E hs avoid lexStart win sfuel) fuel c errs = (true, errs')) :
    ∃ new, errs' = errs ++ new ∧
      (∃ st, FeedsTo E.G E.A c.stack (editedToks E.w E.w.length c.pos new) st ∧ AcceptsAt E.G E.A E.G.eof st) ∧
      PlainIs E.G E.A c.stack (editedToks E.w E.w.length c.pos new) .accepted := by
  have hT := tableOK_of_cert (wholeRunCert_unpack hcert).1 hsa hcost hN
  rw [recRun_cpct_guard hT hhs fuel c errs hc] at h
  exact recRun_is_plain_parse_of_edited_input_certified E.G E.A E.w _ hcert (cpctAt_firstApplies hT hhs)
    E.N hN (cpctAt_firstValid hT hhs) hw fuel c errs errs' hc hp h

/-- **Capstone: with the modelled CPCT+ recoverer, later errors are exactly those of parsing the input
with the first sequence of each earlier error applied.**
`reported_errors_are_plain_errors_of_edited_input_certified` for `recover := cpctRecover …`; hypotheses
as in `cpct_recovering_parse_is_plain_parse_of_edited_input`, any result (value or not). -/
theorem cpct_reported_errors_are_plain_errors_of_edited_input (E : Env)
    (hcert : wholeRunCert E.G E.A = true) (hsa : stateActionsExactB E.G E.A = true)
    (hcost : ∀ t, 1 ≤ E.cost t) (hN : 1 ≤ E.N) (hs : List Seq → List Seq) (hhs : HashSetLike hs)
    (avoid : Nat → Bool) (lexStart : Nat → Nat) (win sfuel : Nat) (hw : E.G.eof ∉ E.w)
    (fuel : Nat) (c : Pos) (errs : List Err) (v : Bool) (errs' : List Err) (hc : c.pos ≤ E.w.length)
    (hp : IsPath E.A c.stack)
    (h : recRun E.G E.A E.w (cpctRecover E hs avoid lexStart win sfuel) fuel c errs = (v, errs')) :
    ∃ new, errs' = errs ++ new ∧ Ordered E.w.length c.pos new ∧ ∀ pre e post, new = pre ++ e :: post →
      c.pos ≤ e.pos ∧ e.pos ≤ E.w.length ∧
      editedItems E.w.length c.pos pre = editedItems e.pos c.pos pre ++ reals e.pos E.w.length ∧
      (∃ st, FeedsTo E.G E.A c.stack (editedToks E.w e.pos c.pos pre) st ∧
        RefusesAt E.G E.A (nextTok E.G E.w e.pos) st) ∧
      PlainIs E.G E.A c.stack (editedToks E.w E.w.length c.pos pre)
        (.refusedAt (editedToks E.w e.pos c.pos pre).length) := by
  have hT := tableOK_of_cert (wholeRunCert_unpack hcert).1 hsa hcost hN
  rw [recRun_cpct_guard hT hhs fuel c errs hc] at h
  exact reported_errors_are_plain_errors_of_edited_input_certified E.G E.A E.w _ hcert
    (cpctAt_firstApplies hT hhs) E.N hN (cpctAt_firstValid hT hhs) hw fuel c errs v errs' hc hp h

/-- **Capstone: with the modelled CPCT+ recoverer, a run that gives up stops where the plain parse of
the edited input has its first error.** `unrepaired_error_is_first_error_of_edited_input_certified` for
`recover := cpctRecover …`; same hypotheses. (The recoverer gives up when the search finds no repair of
representable cost or when its budget runs out: `Cpct.cpctOutcome`; the fourth outcome, a panic of the
model of the real code, does not occur in a run on a certified table with an input of real tokens —
`C06.recover_never_panics_in_a_run`.) -/
theorem cpct_unrepaired_error_is_first_error_of_edited_input (E : Env)
    (hcert : wholeRunCert E.G E.A = true) (hsa : stateActionsExactB E.G E.A = true)
    (hcost : ∀ t, 1 ≤ E.cost t) (hN : 1 ≤ E.N) (hs : List Seq → List Seq) (hhs : HashSetLike hs)
    (avoid : Nat → Bool) (lexStart : Nat → Nat) (win sfuel : Nat) (hw : E.G.eof ∉ E.w)
    (fuel : Nat) (c : Pos) (errs : List Err) (v : Bool) (errs' : List Err) (hc : c.pos ≤ E.w.length)
    (hp : IsPath E.A c.stack)
    (h : recRun E.G E.A E.w (cpctRecover E hs avoid lexStart win sfuel) fuel c errs = (v, errs')) :
    ∃ new, errs' = errs ++ new ∧ ∀ pre e, new = pre ++ [e] → e.repairs = [] →
      editedItems E.w.length c.pos new = editedItems E.w.length c.pos pre ∧
      PlainIs E.G E.A c.stack (editedToks E.w E.w.length c.pos new)
        (.refusedAt (editedToks E.w e.pos c.pos pre).length) := by
  have hT := tableOK_of_cert (wholeRunCert_unpack hcert).1 hsa hcost hN
  rw [recRun_cpct_guard hT hhs fuel c errs hc] at h
  exact unrepaired_error_is_first_error_of_edited_input_certified E.G E.A E.w _ hcert
    (cpctAt_firstApplies hT hhs) E.N hN (cpctAt_firstValid hT hhs) hw fuel c errs v errs' hc hp h

/-- **Capstone: with the modelled CPCT+ recoverer, a returned tree's leaves spell the repaired input.**
`returned_tree_spells_edited_input_certified` for `recover := cpctRecover …`, and its remaining
hypothesis "the edited input consists of real tokens" is DISCHARGED: the input consists of tokens of the
grammar other than end-of-input (`InputOk`), every first sequence applies (so the lexemes it shifts
exist) and inserts only tokens of the grammar other than end-of-input (`Search` never inserts
end-of-input and inserts tokens below `ntoks` only). So: whenever the model of the whole recovering
parser returns a value, the plain LR driver with trees accepts the edited token list and its tree is a
valid derivation from the start rule whose leaves are exactly the edited input. -/
theorem cpct_returned_tree_spells_edited_input (E : Env)
    (hcert : wholeRunCert E.G E.A = true) (hsa : stateActionsExactB E.G E.A = true)
    (hcost : ∀ t, 1 ≤ E.cost t) (hN : 1 ≤ E.N) (hs : List Seq → List Seq) (hhs : HashSetLike hs)
    (avoid : Nat → Bool) (lexStart : Nat → Nat) (win sfuel : Nat) (hw : InputOk E.G E.w)
    (fuel : Nat) (errs : List Err)
    (h : recRun E.G E.A E.w (cpctRecover E hs avoid lexStart win sfuel) fuel ⟨[E.A.start], 0⟩ [] = (true, errs)) :
    ∃ fuel' t, LR.parse E.G E.A (editedToks E.w E.w.length 0 errs) fuel' = .accept t ∧
      Tree.valid E.G t = true ∧ (∃ S, E.G.rhs E.G.startProd = [.rule S] ∧ Tree.root E.G t = .rule S) ∧
      Tree.yield t = editedToks E.w E.w.length 0 errs ∧
      Tree.leafIdxs t = List.range (editedItems E.w.length 0 errs).length := by
  have hT := tableOK_of_cert (wholeRunCert_unpack hcert).1 hsa hcost hN
  have hcalls := recRun_eq_calls E.G E.A E.w (cpctRecover E hs avoid lexStart win sfuel) fuel ⟨[E.A.start], 0⟩ []
  rw [h] at hcalls
  simp only [List.nil_append] at hcalls
  have hin : InputOk E.G (editedToks E.w E.w.length 0 errs) := by
    rw [hcalls]
    exact inputOk_editedToks hw _ 0 (cpct_run_goodErrs hT hhs fuel _ (Nat.zero_le _))
  have hweof : E.G.eof ∉ E.w := fun hm => (hw _ hm).2 rfl
  rw [recRun_cpct_guard hT hhs fuel _ [] (Nat.zero_le _)] at h
  exact returned_tree_spells_edited_input_certified E.G E.A E.w _ hcert (cpctAt_firstApplies hT hhs)
    E.N hN (cpctAt_firstValid hT hhs) hweof fuel errs h hin

end Capstone


/-! ## Tests for the capstone: the modelled recoverer on the certified merged table
(`Lemmas/CpctEx.lean`: the automaton of `Lemmas/KeptCertEx.lean` with its `state_actions` view; input
`x a d`, every token costs 1, `PARSE_AT_LEAST = 3`, `TRY_PARSE_AT_MOST = 250`, search budget 200) -/

section CapstoneTests
open Cpct SearchImpl RankImpl

private theorem exE_tableOK : TableOK exE :=
  tableOK_of_cert (wholeRunCert_unpack ex3_cert).1 ex3_sa ex3_cost (by decide)
private theorem exRec_at_error : exRec ⟨[4, 2, 0], 2⟩ = some (⟨[9, 4, 2, 0], 3⟩, [[.insert 3, .delete]]) := by
  decide +kernel
private theorem exRec_run :
    recRun exG2 exA3 [0, 2, 4] exRec 10 ⟨[0], 0⟩ [] = (true, [⟨2, [[.insert 3, .delete]]⟩]) := by decide +kernel

/-- the hypotheses on table and costs hold -/
example : wholeRunCert exG2 exA3 = true := ex3_cert
example : stateActionsExactB exG2 exA3 = true := ex3_sa
example : TableOK exE := exE_tableOK
example : HashSetLike dedup := hashSetLike_dedup
/-- `d` is refused after `A → a` was reduced under it; that is a configuration `recover` is called at -/
example : feed exG2 exA3 4 FUEL [6, 2, 0] = .error [4, 2, 0] := by rfl
example : errCfg exG2 exA3 [0, 2, 4] ⟨[4, 2, 0], 2⟩ = true := by decide +kernel
/-- the modelled CPCT+ evaluated on this real error: one minimum-cost repair (cost 2), `Insert c,
Delete`; parsing continues on `[9, 4, 2, 0]` at the end of the input -/
example : exRec ⟨[4, 2, 0], 2⟩ = some (⟨[9, 4, 2, 0], 3⟩, [[.insert 3, .delete]]) := exRec_at_error
example : cpctOutcome exE dedup (fun _ => false) (fun i => 3 * i + 1) 250 200 ⟨[4, 2, 0], 2⟩ = .repaired := by
  decide +kernel
/-- with a budget of 3 iterations the search runs out: nothing is reported, the parse gives up -/
example : cpctRecover exE dedup (fun _ => false) (fun i => 3 * i + 1) 250 3 ⟨[4, 2, 0], 2⟩ = none := by
  decide +kernel
example : cpctOutcome exE dedup (fun _ => false) (fun i => 3 * i + 1) 250 3 ⟨[4, 2, 0], 2⟩ = .outOfBudget := by
  decide +kernel
/-- `cpct_first_applies`, `cpct_first_valid` for this call, from the theorems -/
example : applySeq exG2 exA3 [0, 2, 4] ⟨[4, 2, 0], 2⟩ [.insert 3, .delete] = some ⟨[9, 4, 2, 0], 3⟩ :=
  (cpct_first_applies exE exE_tableOK dedup hashSetLike_dedup (fun _ => false) (fun i => 3 * i + 1) 250 200).2
    _ _ _ [] (by decide) exRec_at_error
example : validSeq exG2 exA3 [0, 2, 4] 3 ⟨[4, 2, 0], 2⟩ [.insert 3, .delete] = true :=
  (cpct_first_valid exE exE_tableOK dedup hashSetLike_dedup (fun _ => false) (fun i => 3 * i + 1) 250 200).2
    ⟨[4, 2, 0], 2⟩ ⟨[9, 4, 2, 0], 3⟩ [[.insert 3, .delete]] (by decide) exRec_at_error _ List.mem_cons_self
/-- … and by evaluation -/
example : validSeq exG2 exA3 [0, 2, 4] 3 ⟨[4, 2, 0], 2⟩ [.insert 3, .delete] = true := by decide +kernel
/-- the whole modelled recovering parse of `x a d`: one error at `d`, repaired, a value -/
example : recRun exG2 exA3 [0, 2, 4] exRec 10 ⟨[0], 0⟩ [] = (true, [⟨2, [[.insert 3, .delete]]⟩]) := exRec_run
/-- the calls of the recoverer in this run: the one error configuration -/
example : recCalls exG2 exA3 [0, 2, 4] exRec 10 ⟨[0], 0⟩ = [⟨[4, 2, 0], 2⟩] := by decide +kernel
/-- the capstone's conclusion for this run, obtained from the theorem: the plain parse of the edited
input `x a c` accepts … -/
example : plainFrom exG2 exA3 [0] (editedToks [0, 2, 4] 3 0 [⟨2, [[.insert 3, .delete]]⟩]) 0 = .accepted := by
  obtain ⟨new, h1, _, h3⟩ := cpct_recovering_parse_is_plain_parse_of_edited_input exE ex3_cert ex3_sa ex3_cost
    (by decide) dedup hashSetLike_dedup (fun _ => false) (fun i => 3 * i + 1) 250 200 (by decide) 10 ⟨[0], 0⟩ [] _
    (by decide) (IsPath.start exA3) exRec_run
  simp only [List.nil_append] at h1
  subst h1
  exact h3.2 (by decide)
/-- … and by evaluation -/
example : editedToks [0, 2, 4] 3 0 [⟨2, [[.insert 3, .delete]]⟩] = [0, 2, 3] := by decide +kernel
example : plainFrom exG2 exA3 [0] [0, 2, 3] 0 = .accepted := by decide +kernel
/-- a longer input, `x e a d d`: the reported sequence has a Shift INSIDE (`Delete, Shift, Insert c,
Delete, Delete`); the run returns a value -/
example : recRun exG2 exA3 [0, 5, 2, 4, 4]
    (cpctRecover ⟨exG2, exA3, [0, 5, 2, 4, 4], fun _ => 1, 3⟩ dedup (fun _ => false) (fun i => 3 * i + 1) 250 200)
    20 ⟨[0], 0⟩ [] = (true, [⟨1, [[.delete, .shift, .insert 3, .delete, .delete]]⟩]) := by decide +kernel

end CapstoneTests

end GrmVerif.C05
