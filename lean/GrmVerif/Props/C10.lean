import GrmVerif.Lemmas.YaccBuildInv
import GrmVerif.Lemmas.YaccFile
import GrmVerif.Lemmas.YaccProdSpan
import GrmVerif.Extracted
import GrmVerif.Lemmas.YaccBuildShape
/-!
# C10 — a grammar object is a faithful, well-formed image of its `.y` source

* Stage A (AST → grammar object): `Model/YaccBuild.lean` is a transcription of
  `YaccGrammar::new_from_ast_with_validity_info` as it stands in /repo (`prod_spans`, `actions`, `action_spans`
  have one entry per production: /repo commit 74b27b4). `buildGrammar … = some g` means "the construction did not panic".
  The theorems are about every AST, every kind, every iteration order of the implicit-token map.
* Stage B (lexical layer): `Model/YaccLex.lean` is a transcription of `parse_ws` as it stands in /repo (a newline
  inside `/* */` does not fall through to the end-of-comment test: /repo commit dbc3ad1) and of the other lexical
  helpers.
* Stage T (text → AST): `Model/YaccParse.lean` is the line-by-line model of the text parser (written
  for C12 and tied to the real parser on every run by C12's `Iy`/`My` lines). The theorems of the
  section "Stage T" say that the rules section of a canonically rendered description
  (`Lemmas/YaccRender.lean`) is read back exactly: `parse_rules (render rs) = image rs`. The harness
  oracle (`harness/src/props/c10.rs`: real AST = the AST the rendering defines) remains for the
  generator's own, freer layout.
-/
namespace GrmVerif.C10
open GrmVerif.YaccBuild

section StageA
variable {cfg : Cfg} {a : AST} {k : Kind} {g : IGrammar}

/-- **Dense numbering.** Rules, tokens and productions are numbered `0 … len-1` with exactly the
source's rules plus the added ones (`^`; `~`, `^~` for Eco with implicit tokens), the source's tokens
plus one, and the source's productions plus the added ones (`^: S;` — for Eco with implicit tokens
`^: ^~;`, one per implicit token, the empty one and `^~: ~ S;`, i.e. `|implicit tokens| + 3`); EVERY
per-rule, per-token and per-production table of the object has exactly `rules_len` / `tokens_len` /
`prods_len` entries — in particular `prod_span`, `action`, `action_span` are defined on every `PIdx`
(what /repo commit 74b27b4 established). `cfgOk` is a property of the three name constants
(an `example` below shows the extracted ones have it). -/
theorem dense_numbering (hc : cfgOk cfg = true) (h : buildGrammar cfg a k = some g) :
    g.rulesLen = a.rules.length + addedRules a k ∧ g.tokensLen = a.tokens.length + 1 ∧
    g.prodsLen = a.prods.length + addedProds a k ∧
    g.tokenPrecs.length = g.tokensLen ∧ g.tokenEpp.length = g.tokensLen ∧
    g.rulesProds.length = g.rulesLen ∧ g.actiontypes.length = g.rulesLen ∧
    g.prods.length = g.prodsLen ∧ g.prodsRules.length = g.prodsLen ∧ g.prodPrecs.length = g.prodsLen ∧
    g.actions.length = g.prodsLen ∧ g.actionSpans.length = g.prodsLen ∧ g.prodSpans.length = g.prodsLen := by
  obtain ⟨us, hr⟩ := build_ran h
  obtain ⟨_, _, _, hb⟩ := hr.built hc
  have hR := hr.rulesLen
  have hT := hr.tokensLen
  refine ⟨hR.trans (ruleNamesOf_length cfg a k), hT, ?_, ?_, ?_, ?_, ?_, ?_⟩
  · rw [IGrammar.prodsLen, hb.len, addedShape_length hb.shape]
  · rw [hT, hr.tokenPrecs, List.length_append, List.length_map, List.length_map]; rfl
  · rw [hT, hr.tokenEpp, List.length_append, List.length_map, List.length_map]; rfl
  · exact hr.inv.rpLen.trans hR.symm
  · exact hr.inv.atLen.trans hR.symm
  · exact ⟨List.length_map _, List.length_map _, List.length_map _, List.length_map _, List.length_map _,
      List.length_map _⟩

/-- **Every index the object stores is in range**: the rule of every production, every symbol of
every right-hand side, every production listed for a rule, the start production, the end-of-input
token, the implicit rule, and the `%avoid_insert` bit vector has one bit per token. For EVERY AST on
which the construction does not panic — no validity assumption is needed. -/
theorem indices_in_range (h : buildGrammar cfg a k = some g) :
    (∀ r ∈ g.recs, r.rule < g.rulesLen ∧ ∀ s ∈ r.rhs, SymOk g.rulesLen g.tokensLen s) ∧
    (∀ l ∈ g.rulesProds, ∀ p ∈ l, p < g.prodsLen) ∧
    g.startProd < g.prodsLen ∧ g.eof < g.tokensLen ∧
    (∀ r, g.implicitRule = some r → r < g.rulesLen) ∧
    (∀ v, g.avoidInsert = some v → v.length = g.tokensLen) := by
  obtain ⟨us, hr⟩ := build_ran h
  have hinv := hr.inv
  have hP : g.st.slots.length = g.prodsLen := List.length_map _
  rw [hr.rulesLen, hr.tokensLen, ← hP]
  refine ⟨fun r hm => hinv.recs r (List.mem_map_of_mem hm), hinv.rp, ?_, ?_, ?_, ?_⟩
  · obtain ⟨r, _, hsp⟩ := Option.bind_eq_some_iff.mp hr.startProd
    obtain ⟨l, h2, hsp⟩ := Option.bind_eq_some_iff.mp hsp
    exact hinv.rp l (List.mem_of_getElem? h2) _ (List.mem_of_getElem? hsp)
  · rw [hr.eof]; exact Nat.lt_succ_self _
  · intro r hir
    obtain ⟨nm, _, hir⟩ := Option.bind_eq_some_iff.mp (hr.implicitRule ▸ hir)
    exact (mkCtx_mapsOk cfg a k us).r _ _ hir
  · intro v hv
    have hav := hr.avoid
    split at hav
    · cases hav.symm.trans hv
    · obtain ⟨v', hv', hg⟩ := hav
      cases hg.symm.trans hv
      rw [avoidBits_length _ _ _ _ hv', List.length_replicate]

/-- **One unnamed end-of-input token, numbered last.** Tokens `0 … eof-1` are the source's tokens in
AST order with their names, spans, declared precedences and `%epp` strings (the token's own name when
it has no `%epp`); token `eof = tokens_len - 1` has no name, span, precedence or `%epp`. -/
theorem eof_last_unnamed (h : buildGrammar cfg a k = some g) :
    g.eof + 1 = g.tokensLen ∧ g.eof = a.tokens.length ∧
    g.tokenNames[g.eof]? = some none ∧ g.tokenPrecs[g.eof]? = some none ∧ g.tokenEpp[g.eof]? = some none ∧
    (∀ (i : Nat) (name : Str) (sp : Span), a.tokens[i]? = some (name, sp) →
      g.tokenNames[i]? = some (some (sp, name)) ∧ g.tokenPrecs[i]? = some (assoc a.precs name) ∧
      g.tokenEpp[i]? = some (some ((assoc a.epp name).getD name))) := by
  obtain ⟨us, hr⟩ := build_ran h
  have last : ∀ {β : Type} (l : List β) (x : β), l.length = a.tokens.length → (l ++ [x])[g.eof]? = some x :=
    fun l x hl => hr.eof ▸ hl ▸ List.getElem?_concat_length
  refine ⟨hr.eof ▸ hr.tokensLen.symm, hr.eof, ?_, ?_, ?_, ?_⟩
  · rw [hr.tokenNames]; exact last _ _ (List.length_map _)
  · rw [hr.tokenPrecs]; exact last _ _ ((List.length_map _).trans (List.length_map _))
  · rw [hr.tokenEpp]; exact last _ _ ((List.length_map _).trans (List.length_map _))
  · intro i name sp hi
    have hlt : i < a.tokens.length := (List.getElem?_eq_some_iff.mp hi).1
    refine ⟨?_, ?_, ?_⟩
    · rw [hr.tokenNames, List.getElem?_append_left (by rw [List.length_map]; exact hlt), List.getElem?_map, hi]; rfl
    · rw [hr.tokenPrecs, List.getElem?_append_left (by rw [List.length_map, List.length_map]; exact hlt), List.getElem?_map,
        List.getElem?_map, hi]; rfl
    · rw [hr.tokenEpp, List.getElem?_append_left (by rw [List.length_map, List.length_map]; exact hlt), List.getElem?_map,
        List.getElem?_map, hi]; rfl

/-- **The added start rule's name.** Rule 0 carries a name that no rule of the source has (however
the source's rules are called: the loop that lengthens `^` always ends with a fresh name), with the
empty span at 0; a reference to a rule of the source never resolves to rule 0. -/
theorem start_rule_name_fresh (hs : cfg.startRule ≠ []) (h : buildGrammar cfg a k = some g) :
    ∃ nm, g.ruleNames[0]? = some (nm, (0, 0)) ∧ nm = fresh (a.rules.map (·.name)) cfg.startRule ∧
      nm ∉ a.rules.map (·.name) ∧
      ∀ n ∈ a.rules.map (·.name), lastIdx (g.ruleNames.map (·.1)) n ≠ some 0 := by
  obtain ⟨us, hr⟩ := build_ran h
  have hfresh := fresh_not_mem (a.rules.map (·.name)) cfg.startRule hs
  have h0 : g.ruleNames[0]? = some (fresh (a.rules.map (·.name)) cfg.startRule, (0, 0)) := by
    rw [hr.ruleNames, ruleNamesOf_eq,
      List.getElem?_append_left (by rw [List.length_map, specialNames_length]; exact addedRules_pos a k),
      List.getElem?_map, specialNames_head cfg a k us, mkCtx_startName]
    rfl
  refine ⟨_, h0, rfl, hfresh, ?_⟩
  intro n hn hl
  have := (lastIdx_lt hl).2
  rw [List.getElem?_map, h0] at this
  cases this
  exact hfresh hn

/-- **The added start rule.** With `tgt` the rule the user's `%start` names (a rule of the source,
numbered after the added ones): the start production is the first added production (`PIdx` =
number of source productions), it is the only production of rule 0, and it is `^: S;` — for Eco
with `%implicit_tokens` it is `^: ^~;`, the implicit rule is rule 1, and rule 2 (`^~`) has the single
production `^~: ~ S;`. Rule 0 occurs in no right-hand side of the built grammar. `refsOk` (the
`%start` name and every rule symbol name a rule of the AST) is what `complete_and_validate`
guarantees; without it `A: ^;` would resolve `^` to rule 0. -/
theorem start_rule_shape (hc : cfgOk cfg = true) (hr : refsOk a = true) (h : buildGrammar cfg a k = some g) :
    ∃ us sp tgt, a.start = some (us, sp) ∧
      lastIdx (g.ruleNames.map (·.1)) us = some tgt ∧ addedRules a k ≤ tgt ∧
      (a.rules[tgt - addedRules a k]?).map (·.name) = some us ∧
      g.startProd = a.prods.length ∧ g.rulesProds[0]? = some [g.startProd] ∧
      (match g.implicitRule with
       | none => g.recs[g.startProd]? = some (addedRec [.rule tgt] 0)
       | some ir => ir = 1 ∧ g.recs[g.startProd]? = some (addedRec [.rule 2] 0) ∧
           ∃ q, g.rulesProds[2]? = some [q] ∧ g.recs[q]? = some (addedRec [.rule 1, .rule tgt] 2)) ∧
      (∀ r ∈ g.recs, Sym.rule 0 ∉ r.rhs) := by
  obtain ⟨us, tgt, added, low, hb⟩ := build_shape hc h
  obtain ⟨sp, hstart⟩ := hb.start
  have ok := mkCtx_ok hc a k us
  have hR0 := specialNames_length cfg a k
  have hpos := addedRules_pos a k
  obtain ⟨j, hj, hrm⟩ := rmap_user ok (refsOk_start hr hstart)
  rw [hb.tgt, hR0] at hrm
  cases hrm
  refine ⟨us, sp, j + addedRules a k, hstart, ?_, Nat.le_add_left _ _, ?_, hb.startProd, ?_, ?_, ?_⟩
  · rw [hb.names, ← mkCtx_rmap]; exact hb.tgt
  · have := (lastIdx_lt hj).2
    rwa [Nat.add_sub_cancel, ← List.getElem?_map]
  · rw [hb.lowRp 0 hpos, hb.startProd]
    exact addedShape_low_zero hb.shape
  · rw [hb.startProd]
    rcases hb.cases hc with ⟨hi, _, h0⟩ | ⟨its, _, _, hi, _, h2, h0, _, _, hl⟩
    · rw [hi]; exact h0
    · rw [hi]; exact ⟨rfl, h0, _, h2, hl⟩
  · intro r hrm' h0
    obtain ⟨i, hi⟩ := List.mem_iff_getElem?.mp hrm'
    by_cases hip : i < a.prods.length
    · obtain ⟨r', hri, _, hrs, _⟩ := hb.userRec (List.getElem?_eq_getElem hip)
      cases hi.symm.trans hri
      rcases resolveSyms_rule_mem _ _ hrs h0 with ⟨n, sp', hn, hn0⟩ | ⟨ir, hir, hn0⟩
      -- a rule symbol of the source names a user rule, and those are numbered after the added ones
      · obtain ⟨j', _, hj'⟩ := rmap_user ok (refsOk_sym hr (List.getElem_mem hip) hn)
        rw [hn0, hR0] at hj'
        exact Nat.ne_of_lt (Nat.lt_add_left j' hpos) (Option.some.inj hj')
      · rw [rmap_implName hc a k us hir] at hn0
        cases hn0
    · rw [hb.addedRecs i (Nat.le_of_not_lt hip)] at hi
      obtain ⟨rhs, ridx, rfl, ht⟩ := addedShape_added hb.shape r (List.mem_of_getElem? hi)
      exact Nat.ne_of_gt (Nat.lt_add_left j hpos) (ht h0)

/-- **Per-production precedence** as computed for one production of the source equals the
declarative `prodPrecSpec`: the precedence of its `%prec` token if it has one (a `%prec` token without
declared precedence is the panic `none`), otherwise the declared precedence of its LAST token symbol
— `none` if there is no token symbol or if that last token has no declared precedence (earlier
tokens are not consulted). -/
theorem prod_prec_fn_spec (precs : List (Str × Prec)) (p : AProd) :
    prodPrec precs p =
      match p.prec with
      | some n => (assoc precs n).map some
      | none => some ((lastTok p.syms).bind (assoc precs)) :=
  prodPrec_eq_spec precs p

/-- **`prod_precedence` of the built grammar.** Source production `i` is production `i` of the
grammar (the construction maps AST production indices 1:1 to `PIdx`), and `prod_precedence(i)` is
`prodPrecSpec` of that source production (see `prod_prec_fn_spec` for its reading); every added
production has no precedence. -/
theorem prod_prec_spec (hc : cfgOk cfg = true) (h : buildGrammar cfg a k = some g) :
    (∀ (i : Nat) (p : AProd), a.prods[i]? = some p → g.prodPrecs[i]? = prodPrecSpec a.precs p) ∧
    (∀ i, a.prods.length ≤ i → i < g.prodsLen → g.prodPrecs[i]? = some none) := by
  obtain ⟨us, tgt, added, low, hb⟩ := build_shape hc h
  refine ⟨?_, ?_⟩
  · intro i p hp
    obtain ⟨r, hri, _, _, hpr, _⟩ := hb.userRec hp
    rw [hpr, IGrammar.prodPrecs, List.getElem?_map, hri]; rfl
  · intro i hi hlt
    have hr : g.recs[i]? = some g.recs[i] := List.getElem?_eq_getElem hlt
    obtain ⟨rhs, ridx, he, _⟩ :=
      addedShape_added hb.shape _ (List.mem_of_getElem? ((hb.addedRecs i hi).symm.trans hr))
    rw [IGrammar.prodPrecs, List.getElem?_map, hr, he]; rfl

/-- **Every source production is imaged faithfully** (no assumption on the AST): production `i` of
the grammar has as right-hand side the source production's symbols resolved through the rule map
(last index carrying the name in the grammar's rule names) and the token map, in order, with the
implicit rule after every token symbol (`resolveSpec`, see also `eco_rewrite_spec`); its action,
action span and production span are the source's; its rule is a user rule under which it is listed
in `rule_to_prods`. More generally `prod_to_rule` and `rule_to_prods` agree on EVERY production. -/
theorem prod_image_spec (hc : cfgOk cfg = true) (h : buildGrammar cfg a k = some g) :
    (∀ (i : Nat) (p : AProd), a.prods[i]? = some p → ∃ r, g.recs[i]? = some r ∧
      resolveSpec (lastIdx (g.ruleNames.map (·.1))) (lastIdx (a.tokens.map (·.1))) g.implicitRule p.syms
        = some r.rhs ∧
      r.action = p.action.map (·.1) ∧ r.actionSpan = p.action.map (·.2) ∧ r.span = p.span ∧
      addedRules a k ≤ r.rule) ∧
    (∀ (i : Nat) (r : PRec), g.recs[i]? = some r → ∃ l, g.rulesProds[r.rule]? = some l ∧ i ∈ l) := by
  obtain ⟨us, tgt, added, low, hb⟩ := build_shape hc h
  refine ⟨?_, build_listed h⟩
  intro i p hp
  obtain ⟨r, hri, hlo, h2, _, h4, h5, h6⟩ := hb.userRec hp
  refine ⟨r, hri, ?_, h4, h5, h6, hlo⟩
  have h2 := resolveSyms_spec _ _ h2
  rwa [← hb.implicitRule, mkCtx_rmap, mkCtx_tmap, ← hb.names] at h2

/-- **Productions in source order.** When the AST's rule names are distinct (they are the keys of an
`IndexMap`): user rule `j` of the AST is rule `added + j` of the grammar with its name, name span and
action type, and `rule_to_prods` of it is exactly the rule's `pidxs`, in the AST's order; every source
production `i` belongs to such a rule whose `pidxs` contain `i`. Together with `prod_image_spec`
(symbols, actions, spans of production `i` are those of AST production `i`) this fixes the user part
of the grammar completely. -/
theorem prods_in_source_order (hc : cfgOk cfg = true) (hn : (a.rules.map (·.name)).Nodup)
    (h : buildGrammar cfg a k = some g) :
    (∀ (j : Nat) (r : ARule), a.rules[j]? = some r →
      g.ruleNames[addedRules a k + j]? = some (r.name, r.nameSpan) ∧
      g.rulesProds[addedRules a k + j]? = some r.pidxs ∧
      g.actiontypes[addedRules a k + j]? = some r.actiont) ∧
    (∀ (i : Nat) (p : AProd), a.prods[i]? = some p → ∃ rec j r, g.recs[i]? = some rec ∧
      a.rules[j]? = some r ∧ rec.rule = addedRules a k + j ∧ i ∈ r.pidxs) := by
  obtain ⟨us, hr⟩ := build_ran h
  obtain ⟨tgt, added, low, hb⟩ := hr.built hc
  refine ⟨fun j r hj => ⟨by rw [hr.ruleNames, ruleNamesOf_user, hj]; rfl, hb.order hn j r hj⟩, ?_⟩
  intro i p hp
  obtain ⟨rec, hri, hlo, _⟩ := hb.userRec hp
  obtain ⟨l, hl, hil⟩ := build_listed h i rec hri
  obtain ⟨j, hrj⟩ := Nat.exists_eq_add_of_le hlo
  have hj : j < a.rules.length := by
    have hlt : rec.rule < g.rulesProds.length := (List.getElem?_eq_some_iff.mp hl).1
    rw [show g.rulesProds.length = _ from hr.inv.rpLen, ruleNamesOf_length, hrj, Nat.add_comm a.rules.length] at hlt
    exact Nat.lt_of_add_lt_add_left hlt
  refine ⟨rec, j, a.rules[j], hri, List.getElem?_eq_getElem hj, hrj, ?_⟩
  cases (hrj ▸ hl).symm.trans (hb.order hn j _ (List.getElem?_eq_getElem hj)).1
  exact hil

/-- **Eco's implicit rule.** For an Eco grammar with `%implicit_tokens` (iterated in the order `its`):
the implicit rule is rule 1 (`~`), its productions are the `|its| + 1` productions that follow the
start production, in order `~: T ~;` for each implicit token `T` in iteration order and finally the
empty production. -/
theorem implicit_rule_shape (hc : cfgOk cfg = true) (h : buildGrammar cfg a .eco = some g) {its : List Str}
    (hits : a.implicitTokens = some its) :
    g.implicitRule = some 1 ∧
    g.rulesProds[1]? = some (List.range' (a.prods.length + 1) (its.length + 1)) ∧
    (∀ (j : Nat) (t : Str), its[j]? = some t → ∃ ti, lastIdx (a.tokens.map (·.1)) t = some ti ∧
      g.recs[a.prods.length + 1 + j]? = some (addedRec [.tok ti, .rule 1] 1)) ∧
    g.recs[a.prods.length + 1 + its.length]? = some (addedRec [] 1) := by
  obtain ⟨us, tgt, added, low, hb⟩ := build_shape hc h
  rcases hb.cases hc with ⟨_, h1, _⟩ | ⟨its', _, hits', hi, h1, _, _, ht, he, _⟩
  · unfold addedRules at h1
    rw [hits] at h1
    cases h1
  · cases hits.symm.trans hits'
    exact ⟨hi, h1, ht, he⟩

/-- no implicit rule for the other kinds, or for Eco without `%implicit_tokens` -/
theorem implicit_rule_absent (hc : cfgOk cfg = true) (h : buildGrammar cfg a k = some g)
    (hk : k ≠ .eco ∨ a.implicitTokens = none) : g.implicitRule = none := by
  obtain ⟨us, tgt, added, low, hb⟩ := build_shape hc h
  rcases hb.cases hc with ⟨hi, _⟩ | ⟨_, hk', hits, _⟩
  · exact hi
  · rcases hk with hk | hk
    · exact absurd hk' hk
    · rw [hk] at hits; cases hits

/-- **Eco rewriting of a right-hand side**: without an implicit rule every symbol is replaced by its
index; with one, the implicit rule follows every TOKEN symbol (and only those). -/
theorem eco_rewrite_spec (rmap tmap : Str → Option Nat) (impl : Option Str) (syms : List ASym) (out : List Sym)
    (h : resolveSyms rmap tmap impl syms = some out) :
    match impl with
    | none => out.length = syms.length
    | some _ => out.length = syms.length + (syms.filter ASym.isTok).length ∧
        ∃ r, impl.bind rmap = some r ∨ syms.filter ASym.isTok = [] := by
  cases impl with
  | none =>
    refine resolveSyms_induction (impl := none) (P := fun syms out => out.length = syms.length) rfl ?_ ?_
      (fun _ _ _ _ _ _ _ _ hi => nomatch hi) syms out h
    · intro _ _ _ _ _ _ ih; exact congrArg (· + 1) ih
    · intro _ _ _ _ _ _ _ ih; exact congrArg (· + 1) ih
  | some ir =>
    -- `filter` on a cons cell with a known head reduces by computation
    refine resolveSyms_induction (impl := some ir) (P := fun syms out =>
        out.length = syms.length + (syms.filter ASym.isTok).length ∧
        ∃ r, (some ir).bind rmap = some r ∨ syms.filter ASym.isTok = []) ⟨rfl, 0, .inr rfl⟩ ?_
      (fun _ _ _ _ _ _ hi => nomatch hi) ?_ syms out h
    · intro _ _ rest _ tl _ ih
      exact ⟨show tl.length + 1 = rest.length + 1 + (rest.filter ASym.isTok).length by
        rw [ih.1, Nat.add_right_comm], ih.2⟩
    · intro _ _ rest _ tl _ r _ hi h3 ih
      cases hi
      exact ⟨show tl.length + 1 + 1 = rest.length + 1 + ((rest.filter ASym.isTok).length + 1) by
        rw [ih.1]; exact Nat.add_add_add_comm _ _ 1 1, r, .inl h3⟩

end StageA

open GrmVerif.YaccLex in
/-- **`parse_ws` skips exactly a maximal sequence of layout items.** If skipping succeeds, what was
skipped is a concatenation of blanks, line ends, `//` comments (to the end of their line, or to the
end of the text) and `/* … */` comments whose body does not contain `*/`; the byte count and the
newline count are those of the skipped text; and the rest does not start with a layout item. -/
theorem ws_spec {s : List Char} {n nl : Nat} {rest : List Char} (h : parseWs true s = .ok (n, nl, rest)) :
    ∃ pre, s = pre ++ rest ∧ Layout true rest pre ∧ n = byteLen pre ∧ nl = countEol pre ∧ StopsLayout rest :=
  ws_spec_ok_inc true s n nl rest h

open GrmVerif.YaccLex in
/-- **Completeness**: every layout sequence followed by something that does not start a layout item
is skipped entirely — whatever the comment bodies contain (a line starting with `/` included). -/
theorem ws_complete {pre rest : List Char} (hl : Layout true rest pre) (hs : StopsLayout rest) :
    parseWs true (pre ++ rest) = .ok (byteLen pre, countEol pre, rest) :=
  ws_spec_complete_inc true hl hs

open GrmVerif.YaccLex in
/-- **An unterminated comment is an error at its start**, after a well-formed layout prefix. -/
theorem ws_unterminated {s : List Char} {p : Nat} (h : parseWs true s = .error (Err.incompleteComment, p)) :
    ∃ pre tail, s = pre ++ '/' :: '*' :: tail ∧ Layout true ('/' :: '*' :: tail) pre ∧ p = byteLen pre ∧
      NoClose tail := by
  obtain ⟨pre, tail, e1, e2, e3, e4⟩ := ws_spec_error_inc true s _ _ h
  cases e4 with
  | unterminated h1 _ => exact ⟨pre, _, e1, e2, e3, h1⟩

section StageT
open GrmVerif.YaccRender GrmVerif.YaccParse
open GrmVerif.Header (byteLen sliceRange)

/-- the flag "the kind is `YaccKind::Grmtools`" (rule headers are then `name -> type :`), which the rendering and
image functions take as `g : Bool` -/
def isGrm (kind : YaccParse.Kind) : Bool := decide (kind = .grmtools)

private theorem kindIs_isGrm (kind : YaccParse.Kind) : kindIs (isGrm kind) kind := decide_eq_true_iff.symm

/-- **Round trip of the rules section, every `YaccKind`.** Take ANY description `rs` of a rules
section (rules in order; each a name, for `Grmtools` an action type, and one or more productions;
each production an optional `%empty`, symbols — quoted `'x'`/`"x"` or bare names —, an optional
`%prec tok`, an optional action) that is well formed (`wfRules`, decidable: names match
`[a-zA-Z_.][a-zA-Z0-9_.]*`; quoted texts are non-empty, contain no newline and, after their first
character, not their quote; action texts have balanced braces as `parse_action` counts them; `%empty`
only without symbols; for `Grmtools` the type contains no single `:` and does not begin with white
space or `/`). Render it canonically (`renderRules`: `name: sym sym %prec tok {action} | … ;\n`,
for `Grmtools` `name -> type: …`, single spaces, one rule per line) after ANY text `pre` and the line
`%%\n`, and follow it by the end of the text or by `%%` and ANY programs text. Then the model of
`parse_rules`, started at the `%%`, in ANY state, with ANY fuel above the length of the text (`parse`
hands out `|src| + 1`), returns normally — no error, no panic, fuel not exhausted — exactly at the
end of the rendered rules, and the state it returns is `runRules`, the image of the description
computed WITHOUT parsing (`Lemmas/YaccRender.lean`): every rule added once with the span of its FIRST
definition, every production appended to `prods` in source order under its rule's name (a rule
defined twice contributes its productions in order of appearance), every symbol in order with its
kind, `%prec`, action presence, every quoted or `%prec` token inserted in the token set at its first
appearance (`image_productions`, `image_rule_names`, `image_token_names`), every span at the byte
offsets of the item's text (`image_spans`). -/
theorem parse_rules_roundtrip (pre post : List Char) (rs : List RRule) (kind : YaccParse.Kind)
    (fuel : Nat) (st : YaccParse.St) (hw : wfRules (isGrm kind) rs = true)
    (hp : post = [] ∨ ∃ t, post = '%' :: '%' :: t)
    (hf : byteLen (pre ++ '%' :: '%' :: '\n' :: (renderRules (isGrm kind) rs ++ post)) < fuel) :
    parseRules (pre ++ '%' :: '%' :: '\n' :: (renderRules (isGrm kind) rs ++ post)) kind fuel (byteLen pre) st
        = .ok (runRules (isGrm kind) (byteLen pre + 3) rs (St.incNl 1 st)) ∧
      (runRules (isGrm kind) (byteLen pre + 3) rs (St.incNl 1 st)).1
        = byteLen pre + 3 + byteLen (renderRules (isGrm kind) rs) := by
  have hat : At (pre ++ '%' :: '%' :: '\n' :: (renderRules (isGrm kind) rs ++ post)) (byteLen pre)
      ('%' :: '%' :: '\n' :: (renderRules (isGrm kind) rs ++ post)) := Header.dropBytes_append _ _
  exact ⟨parseRules_at (kindIs_isGrm kind) rs st post hat hw hp hf, runRules_pos _ _ _ _⟩

/-- **Round trip of the declarations.** Take ANY list `ds` of declarations out of `%start name`,
`%token tok…`, `%left`/`%right`/`%nonassoc tok…`, `%avoid_insert tok…`, `%implicit_tokens tok…` (Eco),
`%expect n`, `%expect-rr n`, `%actiontype type` (Original), `%parse-param name: type`, `%epp tok "text"`
that is well formed
(`wfDecls`, decidable: names and tokens as in the rules section; numbers are non-empty digit strings
below 2⁶⁴; types run to the end of their line and begin with a character that is not white space or
`/`; an `%epp` text has no newline and no backslash, its `"` are written `\"`; the kind-specific
declarations only for their kind) and not repetitive (`runDecls … = some r`:
`none` exactly when the parser would record a `Duplicate…` error — a second `%start`, `%expect`,
`%expect-rr`, `%actiontype`, a token given a precedence / an `%epp` / listed in `%avoid_insert` /
`%implicit_tokens` twice). Render it canonically, one declaration per line (`renderDecls`), after ANY
text `pre` (from which `parse_declarations` is started), followed by `%%` and ANY text. Then the model
of `parse_declarations`, in ANY state, with ANY fuel above the length of the text, returns normally at
the `%%`, records no error, and the state is the image `runDecls`: `%start` with the span of the name;
every `%token` in the token set (at its first appearance, with the span of its text) and in
`token_directives`; every precedence with the level = the number of precedence lines before it and
its kind, in source order; the `%avoid_insert` / `%implicit_tokens` sets in source order (their
tokens also in the token set); `%expect`/`%expect-rr` with the value of the digits and their span; the
`%actiontype` span; the `%parse-param` type; every `%epp` with the span of the token as written, the
UNESCAPED text and the span of the string literal. (`…_partial`: `%expect-unused` and
`%parse-generics`, which the generator does not emit, are not in the abstract syntax; an `%epp` text
is always written with double quotes.) -/
theorem parse_declarations_roundtrip_partial (pre x : List Char) (ds : List RDecl) (kind : YaccParse.Kind)
    (fuel : Nat) (st : YaccParse.St) (r : Nat × Nat × YaccParse.St) (hw : wfDecls kind ds = true)
    (hf : byteLen (pre ++ (renderDecls ds ++ '%' :: '%' :: x)) < fuel)
    (hr : runDecls (byteLen pre) 0 ds st = some r) :
    parseDeclarations (pre ++ (renderDecls ds ++ '%' :: '%' :: x)) kind fuel (byteLen pre) st = .ok (r.1, r.2.2) ∧
      r.1 = byteLen pre + byteLen (renderDecls ds) ∧ r.2.2.errs = st.errs := by
  have hat : At (pre ++ (renderDecls ds ++ '%' :: '%' :: x)) (byteLen pre) (renderDecls ds ++ '%' :: '%' :: x) :=
    Header.dropBytes_append _ _
  exact parseDeclarations_at ds st x r hat hw hf hr

/-- **Round trip of a whole file** `declarations %% rules [%% programs]`, every `YaccKind`. For ANY
well-formed, non-repetitive description (`wfDecls`, `wfRules`, `runFile … = some st'`), the model of
`YaccParser::parse` on the canonical rendering — header parser included: it finds no `%grmtools`
section — returns `Ok` at the end of the text, with NO error in the error vector, and the AST is
exactly the image of the description: the declarations' image, then the rules' image on top of it
(`image_productions`, `image_rule_names`, `image_token_names`, `image_spans` describe it), then the
length of the programs text. The programs text is any text that does not begin with white space or a
comment. -/
theorem parse_roundtrip_partial (kind : YaccParse.Kind) (ds : List RDecl) (rs : List RRule) (post : List Char)
    (st' : YaccParse.St) (hwd : wfDecls kind ds = true) (hwr : wfRules (isGrm kind) rs = true)
    (hp : PostOK post) (hr : runFile (isGrm kind) ds rs post = some st') :
    YaccParse.parse (renderFile (isGrm kind) ds rs post) kind
      = .ok (byteLen (renderFile (isGrm kind) ds rs post), st'.ast) :=
  parse_file (kindIs_isGrm kind) ds rs post st' hwd hwr hp hr

/-- **A whole file, read declaratively.** In the AST of a rendered file the productions are EXACTLY
the productions of the description, in source order (spans forgotten: rule name, symbols with kind,
`%prec`, action presence), where a bare name is a token iff a `%token` declaration OF THIS FILE names
it (`declsDirs ds`, in order of first declaration), and a rule reference otherwise; quoted symbols
are tokens. Together with `parse_roundtrip_partial`: `parse(render d).prods = d.prods`. -/
theorem file_productions (g : Bool) (ds : List RDecl) (rs : List RRule) (post : List Char) (st' : YaccParse.St)
    (h : runFile g ds rs post = some st') :
    st'.ast.prods.map prodView = descProds ((declsDirs ds).foldl addName []) rs :=
  runFile_productions h

/-- **The image, read declaratively: productions.** If the rules section is entered in a state in
which `dirs` are the names declared by `%token` and each of them is in the token set (what the
`%token` loop establishes), then — spans forgotten — the productions the image adds to the AST are
EXACTLY the productions of the description, in source order, each under the name of its rule, with
its symbols in order (a quoted symbol is a token; a bare name is a token iff it is in `dirs`, otherwise
a rule reference), its `%prec` token and the presence of its action: nothing is dropped, duplicated,
reordered or added. The productions that were there before are untouched. -/
theorem image_productions (dirs : List Name) (g : Bool) (rs : List RRule) (i : Nat) (st : YaccParse.St)
    (hd : DirsOK dirs st) :
    (runRules g i rs st).2.ast.prods.map prodView = st.ast.prods.map prodView ++ descProds dirs rs :=
  (runRules_adds g rs i st).prods hd

/-- **The image, read declaratively: rules.** The rule names of the AST after the rules section are
those it had before followed by the names of the description's rules in order of FIRST definition:
a rule defined twice is one rule (its productions are all there, in order of appearance, by
`image_productions`), no rule is invented. -/
theorem image_rule_names (g : Bool) (rs : List RRule) (i : Nat) (st : YaccParse.St) :
    (runRules g i rs st).2.ast.rules.map (·.1)
      = (rs.map (·.name)).foldl addName (st.ast.rules.map (·.1)) :=
  (runRules_adds (dirs := []) g rs i st).rules

/-- **The image, read declaratively: tokens.** The token set after the rules section is the one
before it followed by the tokens first seen in the rules — the quoted symbols and the `%prec`
operands (quoted or bare), in source order, each once (`addName` = `IndexSet::insert`); a bare
SYMBOL never enters the token set. -/
theorem image_token_names (g : Bool) (rs : List RRule) (i : Nat) (st : YaccParse.St) :
    (runRules g i rs st).2.ast.tokens.map (·.1)
      = (rulesToks rs).foldl addName (st.ast.tokens.map (·.1)) :=
  (runRules_adds (dirs := []) g rs i st).toks

/-- **Spans point at the right text.** In ANY text that contains the rendering of a well-formed
description at byte `i`, if every name the AST held before was spelled by its span (`TextOK`:
`src[span] = name` for every symbol of every production, every rule name, every member of the token
set, `%start`), then the same holds of the image: every symbol occurrence, every rule's name span
(first definition), every token first seen in the rules, and the implied start rule are recorded with
the span of exactly their own text (for a quoted token: the text between the quotes). -/
theorem image_spans (src : List Char) (pre post : List Char) (g : Bool) (rs : List RRule) (st : YaccParse.St)
    (hsrc : src = pre ++ (renderRules g rs ++ post)) (hw : wfRules g rs = true)
    (ht : TextOK src st.ast) : TextOK src (runRules g (byteLen pre) rs st).2.ast := by
  subst hsrc
  exact runRules_text g rs _ st post ht hw (Header.dropBytes_append _ _)

/-- **Nothing else is.** Started on an AST without productions, rules and tokens (what
`parse_declarations` leaves when no token is declared), the AST of a rendered description has no
production, no rule and no token that the description does not have: every production of the AST is
the image of a production of the description under its rule's name, every rule name is the name of a
described rule, every token is a quoted symbol or a `%prec` operand of the description. -/
theorem image_nothing_else (g : Bool) (rs : List RRule) (i : Nat) (st : YaccParse.St)
    (h0 : st.ast.prods = [] ∧ st.ast.rules = [] ∧ st.ast.tokens = [] ∧ st.ast.tokenDirs = []) :
    (∀ v ∈ (runRules g i rs st).2.ast.prods.map prodView,
        ∃ r ∈ rs, ∃ p ∈ r.prods, v = descProd [] r.name p) ∧
      (∀ n ∈ (runRules g i rs st).2.ast.rules.map (·.1), ∃ r ∈ rs, n = r.name) ∧
      (∀ n ∈ (runRules g i rs st).2.ast.tokens.map (·.1), n ∈ rulesToks rs) := by
  obtain ⟨h1, h2, h3, h4⟩ := h0
  have hd : DirsOK [] st := ⟨h4, fun _ hn => Bool.noConfusion hn⟩
  refine ⟨?_, ?_, ?_⟩
  · rw [image_productions [] g rs i st hd, h1]
    exact fun v hv => mem_descProds hv
  · rw [image_rule_names, h2]
    intro n hn
    obtain ⟨r, hr, rfl⟩ := List.mem_map.mp ((mem_foldl_addName.mp hn).resolve_left List.not_mem_nil)
    exact ⟨r, hr, rfl⟩
  · intro n hn
    rw [image_token_names, h3] at hn
    exact (mem_foldl_addName.mp hn).resolve_left List.not_mem_nil

/-- **Rendering is injective up to what the AST keeps** (a corollary of `parse ∘ render = image`): two
well-formed descriptions with the same rendering have the same productions (rule name, symbols with
their kinds, `%prec`, action presence, in order), the same rules in order of first definition and the
same tokens in order of first appearance. (The quote character of a token and the action text are
not in the model's AST; for the action text see `action_text_roundtrip`.) -/
theorem render_injective_on_image (dirs : List Name) (g : Bool) (rs rs' : List RRule)
    (hw : wfRules g rs = true) (hw' : wfRules g rs' = true) (h : renderRules g rs = renderRules g rs') :
    descProds dirs rs = descProds dirs rs' ∧
      (rs.map (·.name)).foldl addName [] = (rs'.map (·.name)).foldl addName [] ∧
      (rulesToks rs).foldl addName dirs = (rulesToks rs').foldl addName dirs := by
  let st : YaccParse.St := { ast := { tokens := dirs.map (fun n => (n, (0, 0))), tokenDirs := dirs } }
  have hd : DirsOK dirs (St.incNl 1 st) := by
    refine ⟨rfl, fun n hn => ?_⟩
    simp only [st, St.incNl, Ast.hasToken, List.any_map, List.any_eq_true]
    exact ⟨n, List.contains_iff_mem.mp hn, beq_self_eq_true n⟩
  have e : (St.incNl 1 st).ast.tokens.map (·.1) = dirs := (List.map_map ..).trans (List.map_id' dirs)
  obtain ⟨kind, rfl⟩ : ∃ kind : YaccParse.Kind, isGrm kind = g := by
    cases g
    · exact ⟨.original, rfl⟩
    · exact ⟨.grmtools, rfl⟩
  have h1 := (parse_rules_roundtrip [] [] rs kind _ st hw (.inl rfl) (Nat.lt_succ_self _)).1
  have h2 := (parse_rules_roundtrip [] [] rs' kind _ st hw' (.inl rfl) (Nat.lt_succ_self _)).1
  rw [h] at h1
  have heq := Header.Res.ok.inj (h1.symm.trans h2)
  exact ⟨(image_productions dirs _ rs _ _ hd).symm.trans
      ((congrArg (fun x => x.2.ast.prods.map prodView) heq).trans (image_productions dirs _ rs' _ _ hd)),
    (image_rule_names _ rs _ (St.incNl 1 st)).symm.trans
      ((congrArg (fun x => x.2.ast.rules.map (·.1)) heq).trans (image_rule_names _ rs' _ _)),
    e ▸ (image_token_names _ rs _ (St.incNl 1 st)).symm.trans
      ((congrArg (fun x => x.2.ast.tokens.map (·.1)) heq).trans (image_token_names _ rs' _ _))⟩

/-- **The span of a production.** The production the image records for a well-formed `pr` written
at the end of `pre` (`mkProd … (runProd …)` is what `runRules` appends to `prods`, under any rule name,
in any state) has the span that begins at the production's first byte and delimits `prodSpanText pr`:
the items `%empty`, symbols, `%prec tok` with single spaces between them — WITHOUT the space after the
last item when no action follows, and up to the `{` of the action, that space INCLUDED, when one
follows (this is how `parse_rule` sets `pos_prod_end`; an empty production without `%empty` has the
empty span at its `|`/`;`). -/
theorem image_production_span (pre k : List Char) (rn : Name) (pr : RProd) (st : YaccParse.St)
    (hw : wfProd pr = true) :
    (mkProd rn (runProd (byteLen pre) pr st).2.1 (runProd (byteLen pre) pr st).1).span
        = (byteLen pre, byteLen pre + byteLen (prodSpanText pr)) ∧
      (sliceRange (pre ++ (renderProd pr ++ k)) (byteLen pre) (byteLen pre + byteLen (prodSpanText pr))
        : Header.Res YErr _) = .ok (prodSpanText pr) := by
  refine ⟨runProd_span rn _ pr st, ?_⟩
  obtain ⟨tail, ht⟩ := prodSpanText_prefix pr
  rw [ht, List.append_assoc]
  exact At.range (Header.dropBytes_append pre _)

/-- **The action text is read back exactly.** An action `{a}` with balanced braces, wherever it is
in a text, is consumed by `parse_action` up to and including ITS closing brace (the braces inside `a`
are paired off, newlines inside `a` are counted), and the text the parser slices out for the AST,
`src[i+1 .. j]`, is `a`, character for character. -/
theorem action_text_roundtrip (pre a rest : List Char) (fuel : Nat) (st : YaccParse.St) (ha : wfAction a = true)
    (hf : a.length + 2 ≤ fuel) :
    parseAction (pre ++ '{' :: (a ++ '}' :: rest)) fuel (byteLen pre) st
        = .ok (byteLen pre + byteLen a + 2, St.incNl (YaccLex.countEol a) st) ∧
      (sliceRange (pre ++ '{' :: (a ++ '}' :: rest)) (byteLen pre + 1) (byteLen pre + 1 + byteLen a)
        : Header.Res YErr _) = .ok a := by
  have hat : At (pre ++ '{' :: (a ++ '}' :: rest)) (byteLen pre) ('{' :: (a ++ '}' :: rest)) :=
    Header.dropBytes_append _ _
  exact ⟨parseAction_at st hat ha hf, (hat.adv1 (by decide)).range⟩

end StageT

/-- test: the extracted start-rule constant is non-empty, so `start_rule_name_fresh` applies -/
example : Extracted.YACC_START_RULE ≠ [] := by decide +kernel

/-- test: the extracted constants `"^"`, `"~"`, `"^~"` satisfy `cfgOk` -/
example : cfgOk ⟨Extracted.YACC_START_RULE, Extracted.YACC_IMPLICIT_RULE, Extracted.YACC_IMPLICIT_START_RULE⟩ = true := by
  decide +kernel

/-- test: a concrete AST (`%start A  A: 'a';`) satisfies `refsOk`, has distinct rule names, and builds -/
example : refsOk exampleAst = true ∧ (exampleAst.rules.map (·.name)).Nodup ∧
    (buildGrammar ⟨[94], [126], [94, 126]⟩ exampleAst .original).isSome = true := by decide +kernel

/-- test: an AST whose production references the added start rule's name violates `refsOk` -/
example : refsOk { exampleAst with prods := [⟨[.rule [94] (4, 5)], none, none, (3, 6)⟩] } = false := by decide +kernel

/-- test: `A: 'a'` with a rule that is itself called `^` gets `^^` as the added rule -/
example : fresh [[94], [65]] [94] = [94, 94] := by decide +kernel

/-- test: a tiny AST builds (`%start A  A: 'a';`), start production `[rule 1]` at index 1 -/
example :
    (buildGrammar ⟨[94], [126], [94, 126]⟩
      { start := some ([65], (0, 1)), rules := [⟨[65], (0, 1), [0], none⟩],
        prods := [⟨[.tok [97] (4, 5)], none, none, (3, 6)⟩], tokens := [([97], (4, 5))], precs := [],
        avoidInsert := none, implicitTokens := none, epp := [], expect := none, expectrr := none }
      .original).map (fun g => (g.startProd, g.prods, g.eof)) = some (1, [[.tok 0], [.rule 1]], 1) := by
  decide +kernel

section StageTTests
open GrmVerif.YaccRender GrmVerif.YaccParse

/-- test description: two rules, `S` defined twice, an empty production, `%empty`, a `%prec`, quoted
tokens of both kinds, a bare reference, an action with nested braces and a newline -/
def exampleRules : List RRule :=
  [ { name := "S".toList,
      first := { syms := [.bare "A".toList, .quoted '\'' "+".toList], prec := some (.quoted '"' "p".toList),
                 action := some "$$ = { f({1}) };\n".toList },
      more := [{}] },
    { name := "A".toList, first := { empty := true } },
    { name := "S".toList, first := { syms := [.quoted '"' "y".toList, .bare "T".toList] } } ]

private theorem exampleRules_wf : wfRules false exampleRules = true := by decide +kernel

/-- test: the description satisfies the hypothesis of `parse_rules_roundtrip` -/
example : wfRules false exampleRules = true := exampleRules_wf

/-- test: its rendering -/
example : String.ofList (renderRules false exampleRules)
    = "S: A '+' %prec \"p\" {$$ = { f({1}) };\n} | ;\nA: %empty ;\nS: \"y\" T ;\n" :=
  -- compared as lists of characters: evaluating `String.ofList` is the dear part
  congrArg String.ofList (by decide +kernel)

/-- test: the parse of the rendering, evaluated through the theorem: no error, and the productions,
rules and tokens of the AST (`T` was declared by `%token`, so the bare `T` is a token; `A` is not) -/
example :
    let st : YaccParse.St := { ast := { tokens := [("T".toList, (7, 8))], tokenDirs := ["T".toList] } }
    let src := "%token T\n".toList ++ '%' :: '%' :: '\n' :: (renderRules (isGrm .eco) exampleRules ++ [])
    ∃ i st', parseRules src .eco (Header.byteLen src + 1) 9 st = .ok (i, st') ∧ i = Header.byteLen src ∧
      st'.ast.prods.map prodView =
        [⟨"S".toList, [(false, "A".toList), (true, "+".toList)], some "p".toList, true⟩,
         ⟨"S".toList, [], none, false⟩, ⟨"A".toList, [], none, false⟩,
         ⟨"S".toList, [(true, "y".toList), (true, "T".toList)], none, false⟩] ∧
      st'.ast.rules = [("S".toList, (12, 13)), ("A".toList, (55, 56))] ∧
      st'.ast.tokens.map (·.1) = ["T".toList, "+".toList, "p".toList, "y".toList] := by
  intro st src
  have h := parse_rules_roundtrip "%token T\n".toList [] exampleRules .eco (Header.byteLen src + 1) st
    exampleRules_wf (.inl rfl) (Nat.lt_succ_self _)
  exact ⟨_, _, h.1, by decide +kernel⟩

/-- test: a whole file with declarations of six kinds satisfies the hypotheses of
`parse_roundtrip_partial`, and its image has the expected declarations -/
def exampleDecls : List RDecl :=
  [.token (.bare "T".toList) [.quoted '\'' "+".toList], .start "S".toList,
   .prec .left (.quoted '\'' "+".toList) [], .prec .nonassoc (.bare "T".toList) [], .expect "2".toList,
   .avoidInsert (.bare "T".toList) [], .parseParam "p".toList "&mut u8".toList]

example : wfDecls .eco exampleDecls = true ∧ wfRules false exampleRules = true ∧
    (match runFile false exampleDecls exampleRules [] with
      | none => false
      | some st =>
        st.ast.start.map (·.1) == some "S".toList && st.ast.tokenDirs == ["T".toList, "+".toList] &&
        st.ast.precs.map (fun p => (p.1, p.2.1)) == [("+".toList, 0), ("T".toList, 1)] &&
        st.ast.expect.map (·.1) == some 2 && (st.ast.avoidInsert.getD []).map (·.1) == ["T".toList] &&
        st.ast.parseParam == some "&mut u8".toList &&
        st.ast.tokens.map (·.1) == ["T".toList, "+".toList, "p".toList, "y".toList] && st.errs.length == 0) = true :=
  ⟨by decide +kernel, exampleRules_wf, by decide +kernel⟩

end StageTTests

end GrmVerif.C10
