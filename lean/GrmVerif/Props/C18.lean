import GrmVerif.Lemmas.Build
/-! # C18 — an incremental compile-time build ends in the state a clean build would

All theorems quantify over every generator `G` (what `CTParserBuilder`/`CTLexerBuilder` compute from
texts and settings is abstract), every initial configuration, and **every** sequence of operations
{edit grammar (incl. make invalid / restore / delete), edit lexer, change option, build} with arbitrary
non-negative time steps. The model (`Model/Build.lean`) is the control flow of the repaired builders.

`KeyCovers G` is the explicit hypothesis on the cache string (see `Lemmas/Build.lean`).
-/
namespace GrmVerif.C18
open GrmVerif.Build

/-- **Every build, successful or not, ends in the clean build's state — for the outputs of the builders
that the build script invoked.** After any history, the observable result of `build` (status kinds, and
existence + text of each invoked builder's output) is that of the same build into an empty directory. -/
theorem build_state_equals_clean_invoked (G : Gen) (hk : KeyCovers G) (g l : Nat) (s : Settings)
    (ops : List Op) (dt : Nat) :
    let st := tick (run G (init g l s) ops) dt
    obs (buildAll G st) = obs (buildAll G (wipe st)) := by
  intro st
  have hi : Inv G st := inv_tick (inv_run ops (inv_init G g l s)) dt
  exact obs_buildAll_of_inv hk (inv_wipe hi) hi rfl

/-- **build_equals_clean**: if the cache string covers what the parser generator depends on, then after
*any* sequence of operations a build in which both builders succeed leaves exactly the parser and lexer
texts that a build of the current sources and settings into an empty output directory leaves (and that
clean build succeeds too). -/
theorem build_equals_clean (G : Gen) (hk : KeyCovers G) (g l : Nat) (s : Settings)
    (ops : List Op) (dt : Nat) :
    let st := tick (run G (init g l s) ops) dt
    let r := buildAll G st
    let c := buildAll G (wipe st)
    pKind r.2.1 = 0 → lKind r.2.2 = 0 →
      pContent r.1 = pContent c.1 ∧ lContent r.1 = lContent c.1 ∧ pKind c.2.1 = 0 ∧ lKind c.2.2 = 0 := by
  intro st r c hp hl
  have h : obs r = obs c := build_state_equals_clean_invoked G hk g l s ops dt
  simp only [obs, Prod.mk.injEq] at h
  obtain ⟨h1, h2, h3, h4⟩ := h
  have e1 : pKind c.2.1 = 0 := h1 ▸ hp
  have e2 : lKind c.2.2 = 0 := h2 ▸ hl
  -- a builder of kind 0 was invoked, so its output is part of the observation
  have np : ∀ {p : PStatus}, pKind p = 0 → p ≠ .notInvoked := fun h e => by rw [e] at h; cases h
  have nl : ∀ {p : LStatus}, lKind p = 0 → p ≠ .notInvoked := fun h e => by rw [e] at h; cases h
  rw [if_neg (np hp), if_neg (np e1)] at h3
  rw [if_neg (nl hl), if_neg (nl e2)] at h4
  exact ⟨h3, h4, e1, e2⟩

/-- **unchanged_not_regenerated**: take any state (reachable or not), run a build in which the parser
builder reports success, then any operations that neither edit the grammar nor build (lexer edits, option
changes — including changing an option and changing it back), then build again. If the parser generator's
result for the configuration is the same as at the first build, the parser builder (when the script
invokes it) reports `regenerated = false` and the output file is untouched (same text, same mtime).
If moreover the lexer builder succeeded the first time and the lexer generator's result is unchanged,
it does not rewrite its output either. Side condition (`hstrict`): the first build runs at a strictly
later time than the last grammar edit (`mtime(out) > mtime(grammar)` is a strict test in the code). -/
theorem unchanged_not_regenerated (G : Gen) (st : State) (dt dt2 : Nat) (mid : List Op)
    (hstrict : st.gmt < st.clock + dt)
    (hmid : ∀ op ∈ mid, isBuild op = false ∧ isEditGrammar op = false) :
    let st1 := tick st dt
    let r1 := buildAll G st1
    let st2 := tick (run G r1.1 mid) dt2
    let r2 := buildAll G st2
    pKind r1.2.1 = 0 → G.p st2.world = G.p st1.world →
      (r2.2.1 = .ok false ∨ r2.2.1 = .notInvoked) ∧ r2.1.pout = r1.1.pout ∧
      (lKind r1.2.2 = 0 → G.l st2.world = G.l st1.world → G.nested st2.s = G.nested st1.s →
        r2.2.2 = .ok false ∧ r2.1.lout = r1.1.lout) := by
  intro st1 r1 st2 r2 hp1 hgp
  -- the first build ran both builders and left a parser output that is up to date for its key
  obtain ⟨hnf, (hr1 : r1 = _)⟩ := buildAll_of_parser_ok hp1
  obtain ⟨k, hk, hu⟩ := buildParser_upToDate (st := st1) hstrict hnf
  have hr1p : r1.1 = (finishLexer (G.l st1.world) (buildParser G st1).1).1 := congrArg (·.1) hr1
  have hpo : r1.1.pout = (buildParser G st1).1.pout := by rw [hr1p, finishLexer_frame]
  have hgm : r1.1.gmt = st1.gmt := by rw [hr1p, finishLexer_frame, buildParser_frame]
  -- nothing in between touches it, so the second parser build skips
  obtain ⟨(kp : st2.pout = _), (kg : st2.gmt = _), (kl : st2.lout = _)⟩ :=
    run_keeps_parser G mid r1.1 hmid
  have hskip : buildParser G st2 = (st2, .ok false) :=
    buildParser_skip (hgp ▸ hk) (by rw [kp, kg, hpo, hgm]; exact hu)
  have hr2 : r2 = _ := buildAll_of_skip hskip
  refine ⟨?_, ?_, ?_⟩
  · rw [hr2]; split <;> simp
  · rw [hr2]; split
    · exact kp
    · rw [finishLexer_frame]; exact kp
  · intro hl1 hgl _
    obtain ⟨out, ho, hsame⟩ := finishLexer_ok (show lKind (finishLexer _ _).2 = 0 from hr1 ▸ hl1)
    rw [← hr1p] at hsame
    have hpre : ¬ (G.nested st2.s = true ∧ isPre (G.l st2.world) = true) := by
      rw [hgl, ho]; exact fun h => nomatch h.2
    rw [hr2, if_neg hpre, hgl, ho, finishLexer_same (st := st2) (kl ▸ hsame)]
    exact ⟨rfl, kl⟩

/-- **changed_regenerated** (grammar): after any history, edit the grammar (any new text, also the same
text again, any time step ≥ 0), do anything except building, then build: the parser builder never answers
"not regenerated" — it regenerates or fails (or, under `lrpar_config` with an unparsable lexer, is not
reached). -/
theorem changed_regenerated (G : Gen) (g l : Nat) (s : Settings) (ops mid : List Op)
    (g' dt dt2 : Nat) (hmid : ∀ op ∈ mid, isBuild op = false) :
    let st := run G (init g l s) ops
    let st2 := tick (run G (step G st (.editGrammar g' dt)) mid) dt2
    (buildParser G st2).2 ≠ .ok false ∧ (buildAll G st2).2.1 ≠ .ok false := by
  intro st st2
  have hi : Inv G st := inv_run ops (inv_init G g l s)
  obtain ⟨np, ng⟩ := run_nobuild G mid _ (inv_step hi (.editGrammar g' dt)) hmid
  -- an output that is still there is not newer than the edit
  have hbp : (buildParser G st2).2 ≠ .ok false := by
    intro h
    obtain ⟨k, _, hu⟩ := (buildParser_skip_iff G st2).mp h
    obtain ⟨f, hf, hlt, _⟩ := upToDate_some hu
    have := (hi.2 f (np ▸ hf)).1
    have : st.clock + dt ≤ st2.gmt := ng
    omega
  exact ⟨hbp, buildAll_cases (P := fun r => r.2.1 ≠ .ok false) (fun _ _ => nofun)
    (fun _ _ _ => nofun) (fun _ _ => nofun) (fun _ _ => hbp)⟩

/-- **changed_regenerated** (settings): in any state, if the cache string of the current configuration
differs from the one embedded in the existing output, the parser builder does not skip: it regenerates
(writing the current text) or fails. That a change of a builder option changes the cache string is the
extractor's obligation (field list of `rebuild_cache`) and is exercised by the correspondence run. -/
theorem changed_regenerated_settings (G : Gen) (st : State) (f : PFile) (k : Nat)
    (hf : st.pout = some f) (hk : keyOf (G.p st.world) = some k) (hne : f.key ≠ k) :
    (buildParser G st).2 ≠ .ok false ∧
      (∀ out, G.p st.world = .ok k out → buildParser G st = (writeP st k out, .ok true)) := by
  have hns : (buildParser G st).2 ≠ .ok false := by
    intro h
    obtain ⟨k', hk', hu⟩ := (buildParser_skip_iff G st).mp h
    obtain ⟨f', hf', _, hkey⟩ := upToDate_some hu
    cases hf.symm.trans hf'
    exact hne (hkey.trans (Option.some.inj (hk'.symm.trans hk)))
  refine ⟨hns, fun out hp => ?_⟩
  rw [buildParser_of_not_skip hns, hp]

/-- **changed_regenerated** (lexer): in any state a successful lexer build leaves the text generated
from the current sources and settings, and reports "rewritten" exactly when that differs from what was
there (there is no cache on the lexer side: the text is always generated and compared). -/
theorem changed_regenerated_lexer (st : State) (out : Nat) :
    lContent (finishLexer (.ok out) st).1 = some out ∧
      ((finishLexer (.ok out) st).2 = .ok true ↔ lContent st ≠ some out) := by
  refine ⟨(finishLexer_obs (.ok out) st).2, ?_⟩
  simp only [finishLexer]
  split
  · next hs => exact ⟨nofun, fun h => absurd (sameText_iff.mp hs) h⟩
  · next hs => exact ⟨fun _ h => hs (sameText_iff.mpr h), fun _ => rfl⟩

/-- **failed_build_leaves_no_stale_file** (`_partial`: covers the output of every builder that the build
script *invoked*; see `full_statement_refuted` for what is missing). In every state — reachable or not —
a builder that reports an error (or panics) has removed its own output file. -/
theorem failed_build_leaves_no_stale_file_partial (G : Gen) (st : State) :
    let r := buildAll G st
    (r.2.1 = .err → r.1.pout = none) ∧ ((r.2.2 = .err ∨ r.2.2 = .panic) → r.1.lout = none) := by
  refine buildAll_cases (P := fun r => (r.2.1 = .err → r.1.pout = none) ∧
    ((r.2.2 = .err ∨ r.2.2 = .panic) → r.1.lout = none)) ?_ ?_ ?_ ?_
  · intro _ _; exact ⟨nofun, fun _ => rfl⟩
  · intro _ _ he; exact ⟨fun _ => buildParser_err he, fun _ => rfl⟩
  · intro _ he; exact ⟨fun _ => buildParser_err he, fun h => by simp at h⟩
  · intro _ _
    exact ⟨fun he => by rw [finishLexer_frame]; exact buildParser_err he, finishLexer_err⟩

/-- over all histories, as the property is worded -/
theorem failed_build_leaves_no_stale_file_all_histories_partial (G : Gen) (g l : Nat) (s : Settings) (ops : List Op) (dt : Nat) :
    let r := buildAll G (tick (run G (init g l s) ops) dt)
    (r.2.1 = .err → r.1.pout = none) ∧ ((r.2.2 = .err ∨ r.2.2 = .panic) → r.1.lout = none) :=
  failed_build_leaves_no_stale_file_partial G _

/-- The full statement "after a failed build no output of an earlier build remains" does **not** hold of
the builders, because a builder that the failing build never invoked cannot remove its output: in the
two-builder pipeline a failing `CTParserBuilder::build` ends the build script before `CTLexerBuilder`
runs, so the lexer module generated from the earlier grammar stays. Concrete model history: build (ok),
make the grammar invalid, build (parser fails) — the lexer output of the first build is still there. -/
theorem full_statement_refuted :
    ∃ (G : Gen) (g l : Nat) (s : Settings) (ops : List Op),
      let r := buildAll G (run G (init g l s) ops)
      r.2.1 = .err ∧ r.1.lout ≠ none := by
  refine ⟨⟨fun w => if w.g = 1 then .ok 7 8 else .early, fun _ => .ok 9, fun _ => false⟩, 1, 1, [],
    [.build 1, .makeInvalid 2 1], ?_⟩
  decide

/-! ## tests: the hypotheses are satisfiable and the model distinguishes the cases -/

/-- a generator whose cache string is the settings' first entry and whose text depends on it only -/
def exG : Gen := ⟨fun w => if w.g = 0 then .early else .ok (w.s.headD 0) (10 * w.g + w.s.headD 0),
  fun w => if w.l = 0 then .pre else .ok (100 + w.l), fun _ => false⟩

example : KeyCovers exG := by
  intro w w' hg k h1 h2
  simp only [exG] at *
  rw [← hg] at h2 ⊢
  split at h1
  · simp [keyOf] at h1
  · simp only [keyOf, Option.some.injEq] at h1 h2
    simp_all

-- test: build, rebuild unchanged (not regenerated), toggle option (regenerated), break (removed)
example : (trace exG (init 1 1 [0]) [.build 1, .build 1, .changeOption 0 1 1, .build 1, .makeInvalid 0 1, .build 1]).map
    (fun r => (r.2.1, r.2.2, pContent r.1, lContent r.1)) =
    [(.ok true, .ok true, some 10, some 101), (.ok false, .ok false, some 10, some 101),
     (.ok true, .ok false, some 11, some 101), (.err, .notInvoked, none, some 101)] := by decide +kernel

end GrmVerif.C18
