import GrmVerif.Lemmas.LexLoop
import GrmVerif.Lemmas.LexRef
import GrmVerif.Lemmas.LexTiles
import GrmVerif.Lemmas.LexSync
/-!
# C09 — longest match, earliest rule on ties, start states; the lexemes tile the input

The property theorems, and at the end their tests (helper lemmas: `GrmVerif/Lemmas/Lex*.lean`).
Model: `GrmVerif/Model/Lex.lean`, a transcription of the scan loop of `LRNonStreamingLexerDef::lexer`,
of `state_matches` and of `set_rule_ids_spanned` (lrlex/src/lib/lexer.rs). The regex engine is the
parameter `ml : rule index → byte offset → Option length` (`none` = no match); all theorems hold for
every `ml`, every definition `cfg` and every input length `n`.
Specification: `GrmVerif/Lemmas/Lex.lean` (`plainOp`, `Active`, `LongestEarliest`, `Stuck`, `Tiles`, the reference lexer
`specRun`, the reported name sets); what the statements say of an event list and of the encoded stack is defined beside its
first lemmas: `Chain`, `stackAfter`, `TargetsOK`, `AllIds`, `MlBounded` in `Lemmas/LexTiles.lean`, `StackOK`, `rleRun`,
`plainRun` in `Lemmas/LexStack.lean`.
-/
namespace GrmVerif.C09
open GrmVerif.Lex

/-- **One operation.** On a well-formed encoded stack (positive counts, states are the ones
`get_start_state_by_id` returns) push/pop/replace never take the error arm and have exactly the
effect of the plain-stack operation on the decoded stack; well-formedness is preserved. -/
theorem rle_refines_plain (ss : List St) (init : St) (stk : Stack) (s : St) (op : Op)
    (hok : StackOK ss stk) (hne : stk ≠ [])
    (hs : getState ss s.id = some s) (hi : getState ss init.id = some init) :
    ∃ stk', applyOp init stk s op = some stk' ∧ decode stk' = plainOp init (decode stk) s op ∧
      StackOK ss stk' ∧ stk' ≠ [] :=
  applyOp_refines ss init stk s op hok hne hs hi

/-- **Every operation sequence**, starting from the lexer's initial stack `[(1, INITIAL)]`: the
encoded run succeeds and decodes to the plain run from `[INITIAL]`. The states are those looked up by
id in the definition, as in the lexer. -/
theorem rle_refines_plain_run (ss : List St) (init : St) (ops : List (St × Op))
    (hi : getState ss init.id = some init) (hops : ∀ p ∈ ops, getState ss p.1.id = some p.1) :
    ∃ stk, rleRun init [(1, init)] ops = some stk ∧ decode stk = plainRun init [init] ops := by
  obtain ⟨stk, h1, h2, _, _⟩ := rleRun_refines ss init hi ops [(1, init)] (stackOK_init hi) nofun hops
  exact ⟨stk, h1, h2⟩

/-- `state_matches` is the specification's `Active`: an unqualified rule is active exactly in the
inclusive states, a qualified rule exactly in the states it lists. -/
theorem state_matches_spec (cur : St) (r : Rule) : stateMatches cur r.states = true ↔ Active cur r :=
  stateMatches_iff cur r

/-- **Longest match, earliest rule on ties.** If the scan over all rules ends with `longest > 0`, the
pair `(longest_ridx, longest)` is the active rule with the maximal non-empty match length, of least
index among those of that length; if it ends with `longest = 0`, no active rule has a non-empty match. -/
theorem choose_spec (cfg : Cfg) (ml : Nat → Nat → Option Nat) (cur : St) (i : Nat) :
    (0 < (scanRules cur (fun r => ml r i) cfg.rules 0 (0, 0)).1 →
      LongestEarliest cfg ml cur i (scanRules cur (fun r => ml r i) cfg.rules 0 (0, 0)).2
        (scanRules cur (fun r => ml r i) cfg.rules 0 (0, 0)).1) ∧
    ((scanRules cur (fun r => ml r i) cfg.rules 0 (0, 0)).1 = 0 → Stuck cfg ml cur i) := by
  rw [scanRules_eq_bestFrom]
  cases hb : bestFrom cur (fun r => ml r i) cfg.rules 0 with
  | none => exact ⟨fun h => absurd h (Nat.lt_irrefl 0), fun _ => bestFrom_none hb⟩
  | some p =>
    have hle := bestFrom_some hb
    simp only [if_pos hle.pos]
    exact ⟨fun _ => hle, fun h => absurd hle.pos (h ▸ Nat.lt_irrefl 0)⟩

/-- the specification determines the choice: there is at most one longest/earliest pair, and a
position with one is not stuck -/
theorem choice_unique (cfg : Cfg) (ml : Nat → Nat → Option Nat) (cur : St) (i a la b lb : Nat)
    (h1 : LongestEarliest cfg ml cur i a la) (h2 : LongestEarliest cfg ml cur i b lb) :
    a = b ∧ la = lb ∧ ¬ Stuck cfg ml cur i :=
  ⟨(h1.unique h2).1, (h1.unique h2).2, h1.not_stuck⟩

/-- **Termination.** With `|input|` units of fuel the loop never runs out: every continuing iteration
consumes at least one byte. -/
theorem lex_terminates (cfg : Cfg) (ml : Nat → Nat → Option Nat) (n : Nat) :
    ∃ res, lexRun cfg ml n = some res :=
  let ⟨_, h, _⟩ := lexRun_eq_specRun cfg ml n
  ⟨_, h⟩

/-- progress, stated on one iteration -/
theorem step_progress (cfg : Cfg) (ml : Nat → Nat → Option Nat) (init : St) (i i' : Nat)
    (stk stk' : Stack) (ev : Ev) (h : step cfg ml init i stk = .cont ev i' stk') : i < i' :=
  step_cont_progress h

/-- **Tiling (run relation).** The events of a run (lexemes, skipped matches, errors) satisfy the
declarative relation `Tiles` from offset 0 with the plain stack `[INITIAL]`: each step is the
longest/earliest choice among the rules active in the current state, starts where the previous one
ended, named rules emit a lexeme carrying the id assigned to the name and unnamed rules nothing, the
rule's operation is applied to the plain stack, and the run stops at the end of the input or with one
error at the first position where the current state is stuck (or the winner's id is unset, or — only
through `from_rules` — its target state does not exist). The final encoded stack is well-formed. -/
theorem tiling (cfg : Cfg) (ml : Nat → Nat → Option Nat) (n : Nat) (init : St) (evs : List Ev) (fin : Stack)
    (hinit : getState cfg.states 0 = some init) (h : lexRun cfg ml n = some (evs, fin)) :
    Tiles cfg ml n init 0 [init] evs ∧ StackOK cfg.states fin ∧ fin ≠ [] := by
  obtain ⟨_, h1, _, h3, h4⟩ := lexRun_eq_specRun cfg ml n
  cases h1.symm.trans h
  exact ⟨specRun_tiles ml n hinit, h3, h4 (hinit ▸ rfl)⟩

/-- without an initial state (only through `from_rules`): a single error at offset 0 -/
theorem no_initial_state (cfg : Cfg) (ml : Nat → Nat → Option Nat) (n : Nat)
    (hinit : getState cfg.states 0 = none) : lexRun cfg ml n = some ([.err 0 none], []) := by
  simp only [lexRun, hinit]

/-- **Tiling (shape).** When the target states exist (parsed definitions): the events are a chain of
non-empty lexemes/skips, contiguous and in order from offset 0 to some offset `e`, followed by
nothing — then `e ≥ n`, and `e = n` when matches lie inside the input — or by exactly one error placed
at `e < n`. -/
theorem tiling_contiguous (cfg : Cfg) (ml : Nat → Nat → Option Nat) (n : Nat) (init : St) (evs : List Ev)
    (fin : Stack) (htg : TargetsOK cfg)
    (hinit : getState cfg.states 0 = some init) (h : lexRun cfg ml n = some (evs, fin)) :
    ∃ steps e, Chain 0 steps e ∧ (MlBounded ml n → e ≤ n) ∧
      ((evs = steps ∧ n ≤ e) ∨ (∃ st, evs = steps ++ [.err e st] ∧ e < n)) := by
  obtain ⟨steps, e, h1, h2, h3⟩ := tiles_shape htg (tiling cfg ml n init evs fin hinit h).1
  exact ⟨steps, e, h1, fun hb => h2 hb (Nat.zero_le _), h3⟩

/-- **Tiling (positions).** Every lexeme/skip of the run is the longest/earliest choice in the state
on top of the plain stack reached by the preceding events (so no earlier position is stuck), and a
final error carrying a state id sits at a position where exactly that state — the top of the plain
stack at that moment — is stuck: the first position of the run where no active rule matches. -/
theorem tiling_error_first_stuck (cfg : Cfg) (ml : Nat → Nat → Option Nat) (n : Nat) (init : St)
    (evs : List Ev) (fin : Stack)
    (hinit : getState cfg.states 0 = some init) (h : lexRun cfg ml n = some (evs, fin)) :
    (∀ pre ev post, evs = pre ++ ev :: post → ev.isStep = true →
      ∃ cur rest, stackAfter cfg init [init] pre = cur :: rest ∧
        LongestEarliest cfg ml cur ev.start ev.ridx ev.len ∧ ¬ Stuck cfg ml cur ev.start) ∧
    (∀ pre e id, evs = pre ++ [.err e (some id)] →
      ∃ cur rest, stackAfter cfg init [init] pre = cur :: rest ∧ id = cur.id ∧ Stuck cfg ml cur e) := by
  have ht := tiles_positions (tiling cfg ml n init evs fin hinit h).1
  refine ⟨?_, fun pre e id he => (ht pre _ [] he).2 e id rfl⟩
  intro pre ev post he hs
  obtain ⟨cur, rest, h1, h2⟩ := (ht pre ev post he).1 hs
  exact ⟨cur, rest, h1, h2, h2.not_stuck⟩

/-- with all target states present and an id on every named rule, every error of a run carries the
lexing state (i.e. it is the stuck error) -/
theorem errors_are_stuck_errors (cfg : Cfg) (ml : Nat → Nat → Option Nat) (n : Nat) (init : St)
    (evs : List Ev) (fin : Stack) (htg : TargetsOK cfg) (hids : AllIds cfg)
    (hinit : getState cfg.states 0 = some init) (h : lexRun cfg ml n = some (evs, fin)) :
    (∀ e st, Ev.err e st ∈ evs → ∃ id, st = some id) :=
  tiles_error_kind htg hids (tiling cfg ml n init evs fin hinit h).1

/-- no run ever hits the `get_rule(longest_ridx).unwrap()` panic -/
theorem no_panic (cfg : Cfg) (ml : Nat → Nat → Option Nat) (n : Nat) (evs : List Ev) (fin : Stack)
    (h : lexRun cfg ml n = some (evs, fin)) : Ev.panic ∉ evs := by
  cases hinit : getState cfg.states 0 with
  | none => rw [no_initial_state cfg ml n hinit] at h; cases h; exact fun h => nomatch List.mem_singleton.mp h
  | some init => exact tiles_no_panic (tiling cfg ml n init evs fin hinit h).1

/-- **The specification fixes the output.** Two event lists that are both correct for the same
definition, matcher, input length, offset and plain stack are equal: any lexeme stream that differs from
the model's violates the specification. -/
theorem tiling_unique (cfg : Cfg) (ml : Nat → Nat → Option Nat) (n : Nat) (init : St) (i : Nat) (ps : List St)
    (evs evs' : List Ev) (h : Tiles cfg ml n init i ps evs) (h' : Tiles cfg ml n init i ps evs') : evs = evs' :=
  (h.eq_specLoop n (Nat.le_add_left n i)).symm.trans (h'.eq_specLoop n (Nat.le_add_left n i))

/-- The reference lexer behind the `S` line of the check (plain stack, right-to-left choice function
`bestFrom`) produces exactly the model's events, for every definition (well-formed or not). -/
theorem spec_lexer_eq_model (cfg : Cfg) (ml : Nat → Nat → Option Nat) (n : Nat) (evs : List Ev) (fin : Stack)
    (h : lexRun cfg ml n = some (evs, fin)) : (specRun cfg ml n).1 = evs := by
  obtain ⟨_, h1, _⟩ := lexRun_eq_specRun cfg ml n
  cases h1.symm.trans h
  rfl

/-! ## synchronising ids with a parser (`set_rule_ids_spanned`, `set_rule_ids`)
`map` is the parser's name → id map (distinct keys); rule names are naturals (interned). -/

/-- every named rule gets the id the map assigns to its name, or none; unnamed rules keep theirs -/
theorem ids_sync_ids (rules : List Rule) (map : List (Nat × Nat)) :
    (setRuleIdsSpanned rules map).rules.map (·.tokId) = specIds rules map :=
  (syncLoop_spec map rules 0 [] rfl).1

/-- **Names missing from the parser** (second component): `None` iff there is none, otherwise exactly
the (name, name span) of the named rules whose name is not a key of the map — for all rule lists. -/
theorem ids_sync_missing_from_parser (rules : List Rule) (map : List (Nat × Nat)) :
    (setRuleIdsSpanned rules map).missingFromParser =
      if (specMissingFromParser rules map).isEmpty then none else some (specMissingFromParser rules map) := by
  obtain ⟨_, _, _, hl, hn⟩ := syncLoop_spec map rules 0 [] rfl
  have he : (syncLoop map rules 0).2.1.isEmpty = (specMissingFromParser rules map).isEmpty := by
    rw [Bool.eq_iff_iff, List.isEmpty_iff_length_eq_zero, List.isEmpty_iff_length_eq_zero, hl]
  rw [List.nil_append] at hn
  simp only [setRuleIdsSpanned, hn, he]

/-- what the executable `specMissingFromParser` holds: the (name, span) of every named rule whose name is no
key of the map -/
theorem missing_from_parser_mem (rules : List Rule) (map : List (Nat × Nat)) (nm : Nat) (sp : Nat × Nat) :
    (nm, sp) ∈ specMissingFromParser rules map ↔
      ∃ r ∈ rules, r.name = some nm ∧ r.span = sp ∧ nm ∉ map.map (·.1) := by
  rw [specMissingFromParser, List.mem_filterMap]
  refine exists_congr fun r => and_congr_right fun _ => ?_
  cases r.name with
  | none => exact ⟨nofun, fun h => nomatch h.1⟩
  | some nm' =>
    by_cases hc : (map.map (·.1)).contains nm' = true
    · simp only [if_pos hc]
      exact ⟨nofun, fun h => absurd (List.contains_iff_mem.mp hc) (Option.some.inj h.1 ▸ h.2.2)⟩
    · simp only [if_neg hc, Option.some.injEq, Prod.mk.injEq]
      exact ⟨fun h => ⟨h.1, h.2, h.1 ▸ fun hm => hc (List.contains_iff_mem.mpr hm)⟩, fun h => ⟨h.1, h.2.1⟩⟩

/-- **Names missing from the lexer** (first component), when rule names are pairwise distinct (what the
`.l` parser guarantees) and the map's keys are distinct (a `HashMap`): `None` iff there is none,
otherwise exactly the keys of the map that name no rule. (With duplicate rule names — only through
`from_rules` — the counting shortcut of the code can report `None` although a key is missing;
see the `example` below.) -/
theorem ids_sync_spec (rules : List Rule) (map : List (Nat × Nat))
    (hn : (ruleNames rules).Nodup) (hk : (map.map (·.1)).Nodup) :
    (setRuleIdsSpanned rules map).missingFromLexer =
      if (specMissingFromLexer rules map).isEmpty then none else some (specMissingFromLexer rules map) := by
  obtain ⟨_, hrn, hcnt, hlen, _⟩ := syncLoop_spec map rules 0 [] rfl
  unfold ruleNames at hrn
  simp only [setRuleIdsSpanned, hcnt, hlen, hrn]
  rw [count_test rules map hn hk]
  rfl

/-- the executable `specMissingFromLexer` lists the declarative set `MissingFromLexer` -/
theorem missing_from_lexer_mem (rules : List Rule) (map : List (Nat × Nat)) (nm : Nat) :
    nm ∈ specMissingFromLexer rules map ↔ MissingFromLexer rules map nm := by
  rw [specMissingFromLexer, MissingFromLexer, List.mem_filter, Bool.not_eq_true', List.contains_eq_mem,
    decide_eq_false_iff_not]

/-- the names in `specMissingFromParser` are the declarative set `MissingFromParser` -/
theorem missing_from_parser_names (rules : List Rule) (map : List (Nat × Nat)) (nm : Nat) :
    (∃ sp, (nm, sp) ∈ specMissingFromParser rules map) ↔ MissingFromParser rules map nm := by
  constructor
  · rintro ⟨sp, h⟩
    obtain ⟨r, hr, hn, _, hc⟩ := (missing_from_parser_mem rules map nm sp).mp h
    exact ⟨by simp only [ruleNames, List.mem_filterMap]; exact ⟨r, hr, hn⟩, hc⟩
  · rintro ⟨h1, h2⟩
    simp only [ruleNames, List.mem_filterMap] at h1
    obtain ⟨r, hr, hn⟩ := h1
    exact ⟨r.span, (missing_from_parser_mem rules map nm r.span).mpr ⟨r, hr, hn, rfl, h2⟩⟩

/-- `set_rule_ids` is `set_rule_ids_spanned` with the spans dropped -/
theorem set_rule_ids_projection (rules : List Rule) (map : List (Nat × Nat)) :
    setRuleIds rules map = ((setRuleIdsSpanned rules map).rules, (setRuleIdsSpanned rules map).missingFromLexer,
      (setRuleIdsSpanned rules map).missingFromParser.map (fun l => l.map (·.1))) := rfl

/-! ## tests (non-vacuity): concrete instances, evaluated by `decide` -/

/-- rules `a|ab 'X'`, `ab 'Y'`, `b 'Z'` on "abab" (the alternation matches only "a"): Y(0,2) Y(2,2) -/
example :
    let cfg : Cfg := ⟨[⟨0, false⟩], [⟨some 0, some 0, [], none, (0, 0)⟩, ⟨some 1, some 1, [], none, (0, 0)⟩,
      ⟨some 2, some 2, [], none, (0, 0)⟩]⟩
    let ml : Nat → Nat → Option Nat := fun r i =>
      if r = 0 then (if i % 2 = 0 then some 1 else none)
      else if r = 1 then (if i % 2 = 0 then some 2 else none) else (if i % 2 = 1 then some 1 else none)
    lexRun cfg ml 4 = some ([.tok 1 1 0 2, .tok 1 1 2 2], [(1, ⟨0, false⟩)]) := by decide +kernel

/-- the hypotheses of `rle_refines_plain` are satisfiable with a count > 1: pushing state 1 twice -/
example : applyOp ⟨0, false⟩ [(2, ⟨1, true⟩), (1, ⟨0, false⟩)] ⟨1, true⟩ .pop
    = some [(1, ⟨1, true⟩), (1, ⟨0, false⟩)] := by decide +kernel

example : StackOK [⟨0, false⟩, ⟨1, true⟩] [(2, ⟨1, true⟩), (1, ⟨0, false⟩)] := by
  unfold StackOK; decide +kernel

/-- TEST documenting why `ids_sync_spec` needs distinct rule names: two rules named 0, map {0 ↦ 5, 1 ↦ 6}:
name 1 is missing from the lexer but the model (like the code) reports `None` -/
example : (setRuleIdsSpanned [⟨some 0, none, [], none, (0, 0)⟩, ⟨some 0, none, [], none, (0, 0)⟩] [(0, 5), (1, 6)]).missingFromLexer = none
    ∧ specMissingFromLexer [⟨some 0, none, [], none, (0, 0)⟩, ⟨some 0, none, [], none, (0, 0)⟩] [(0, 5), (1, 6)] = [1] := by decide +kernel

/-- TEST: hypotheses of `ids_sync_spec` satisfiable with both sets non-empty -/
example : (setRuleIdsSpanned [⟨some 0, none, [], none, (2, 3)⟩, ⟨none, none, [], none, (0, 0)⟩] [(7, 5)]).missingFromLexer = some [7]
    ∧ (setRuleIdsSpanned [⟨some 0, none, [], none, (2, 3)⟩, ⟨none, none, [], none, (0, 0)⟩] [(7, 5)]).missingFromParser = some [(0, (2, 3))] := by decide +kernel

end GrmVerif.C09
