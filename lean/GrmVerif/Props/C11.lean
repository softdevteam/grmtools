import GrmVerif.Lemmas.LexUnescape
import GrmVerif.Lemmas.LexParse
import GrmVerif.Lemmas.LexTables
import GrmVerif.Lemmas.LexSpecDup
/-!
# C11 — a lexer definition is a faithful image of its `.l` source

Property theorems, then tests (with the two private lemmas the tests use). Models:
`Model/LexUnescape.lean` (the escape scanner and `trim_end_unescaped` of `lrlex/src/lib/parser.rs`),
`Model/LexParse.lean` (rule-line splitting, flag combination). Specifications: `Lemmas/LexUnescape.lean` (`unescapeSpec`),
`Lemmas/LexParse.lean` (`ruleLineSpec`), `Model/LexTables.lean` (`flagSpec`, the extracted tables).
Whole specifications: model `Model/LexSpecParse.lean` (`parseSpec`: the loops of `LexParser::parse`
over byte offsets, with fuel, slices that may panic), specification `Lemmas/LexSpecParse.lean`
(`specParse`: structural recursion over the lines of the text); that the model computes the
specification: `Lemmas/LexSpecLines.lean` (positions), `Lemmas/LexSpecStep.lean` (one line),
`Lemmas/LexSpecLoop.lean` (the loops); what the specification says: layout `Lemmas/LexSpecProps.lean`,
the two sections `Lemmas/LexSpecDecls.lean`, `Lemmas/LexSpecRules.lean` (error records:
`Lemmas/LexSpecErrs.lean`), whole specifications `Lemmas/LexSpecDup.lean`.
-/
namespace GrmVerif.C11
open GrmVerif.LexUnescape GrmVerif.LexParse GrmVerif.LexTables GrmVerif.LexSpecParse

/-- **Escape rewriting, any tables.** For every text, the two-phase offset-based scanner returns —
without any slice panicking — the one-pass reading: `\c` ↦ `c` unless `c` is a regex meta
character or starts a lex escape (then `\c` stays), `\b` ↦ `\x08` under `posix_escapes`, everything
else (a final lone backslash included) unchanged. -/
theorem unescape_eq_spec (cfg : Cfg) (hb : cfg.BOk) (re : List Char) :
    unescape cfg re = some (unescapeSpec cfg re) :=
  unescape_spec cfg hb re

/-- the tables extracted from the sources satisfy the two side conditions -/
theorem realCfg_ok (posix : Bool) : (realCfg posix).BOk := by
  constructor
  · show GrmVerif.Extracted.B_PLAIN.map Char.ofNat = ['\\', 'b']
    decide
  · intro s
    have h1 : metaTable 'b' = false := by decide
    have h2 : escTable ('b' :: s) = false :=
      no_match_of_firstClassExcludes 'b' GrmVerif.Extracted.RE_LEX_ESC_LITERAL (by decide) s
    show (metaTable 'b' || escTable ('b' :: s)) = false
    rw [h1, h2]; rfl

/-- **Escape rewriting, the tables of the sources.** -/
theorem unescape_eq_spec_extracted (posix : Bool) (re : List Char) :
    unescape (realCfg posix) re = some (unescapeSpec (realCfg posix) re) :=
  unescape_spec _ (realCfg_ok posix) re

/-- **`trim_end_unescaped`.** Write the text before the separator as `body ++ tail`, `tail` its
trailing white space (`body` empty or ending in a non-blank). The regular expression is `body`,
plus the first blank of `tail` exactly when `body` ends in an odd number of backslashes (that blank
is escaped). -/
theorem trim_end_unescaped_spec (ws : Char → Bool) (body tail : List Char)
    (hbody : ∀ c, body.getLast? = some c → ws c = false) (htail : ∀ c ∈ tail, ws c = true) :
    trimEndUnescaped ws (body ++ tail) =
      if tail = [] then body
      else if trailingBackslashes body % 2 = 1 then body ++ tail.take 1 else body :=
  trimEndUnescaped_eq ws body tail hbody htail

/-- **Rule-line splitting.** For every line, the model of `parse_rule` (last-blank search from the
right, offsets by subtraction, byte slices) does not panic and returns what `ruleLineSpec` says:
the line without trailing white space is split at its LAST space or tab; before it the regular
expression (`trim_end_unescaped`, optional `<a,b>` restriction, escapes rewritten by the one-pass
specification — also in restricted rules); after it an optional `<[+-]state>` and `;`, `""`, `''`
or a quoted name; errors `MissingSpace`, `InvalidStartState`, `InvalidName` at the offsets of the
specification. -/
theorem rule_line_spec (posix : Bool) (raw : List Char) :
    parseRuleLine (realCfg posix) isPWS isSpaceSep raw
      = some (ruleLineSpec (realCfg posix) isPWS isSpaceSep raw) :=
  parseRuleLine_eq _ (realCfg_ok posix) isPWS isSpaceSep LexSpecParse.spaceSep_size raw

/-- **Spans index the source.** Whatever text precedes and follows a rule line (a `%grmtools`
section, declarations, other rules), if the line parses to a named rule then the returned name
span, shifted by the offset of the line, cuts exactly the name out of the text the user wrote. -/
theorem spans_index_source (posix : Bool) (raw : List Char) (r : RuleLine) (n : List Char)
    (h : parseRuleLine (realCfg posix) isPWS isSpaceSep raw = some (.ok r)) (hn : r.name = some n)
    (before after : List Char) :
    sliceB (before ++ raw ++ after) (byteLen before + r.spanStart) (byteLen before + r.spanEnd)
      = some n := by
  rw [rule_line_spec] at h
  exact ruleLineSpec_span _ isPWS isSpaceSep raw r n (Option.some.inj h) hn before after

/-- **Declaration lines.** For every line, the model of `parse_declaration`/`declare_start_states`
(keyword cut at the first blank, `RE_WS.split` with pointer offsets, empty pieces skipped) computes
`declLineSpec`: the first maximal run of non-blanks is the `%s…`/`%x…` keyword, every further maximal
run is a declared name with the offsets at which it starts and ends; no name, a line that does not
start with such a keyword → `UnknownDeclaration`; a name that is not `[a-zA-Z][a-zA-Z0-9_.]*` →
`InvalidStartStateName` at its start. -/
theorem decl_line_spec (raw : List Char) : parseDeclLine isPWS raw = declLineSpec isPWS raw :=
  parseDeclLine_eq isPWS raw

/-- **Spans of start-state declarations index the source.** For every declaration line that is
accepted, every declared name is cut out of the text the user wrote by its span (shifted by the
offset of the line) — however many blanks separate the names. -/
theorem decl_spans_index_source (raw : List Char) (excl : Bool)
    (names : List (List Char × Nat × Nat)) (h : parseDeclLine isPWS raw = .ok (excl, names))
    (n : List Char) (a b : Nat) (hm : (n, a, b) ∈ names) (before after : List Char) :
    sliceB (before ++ raw ++ after) (byteLen before + a) (byteLen before + b) = some n :=
  parseDeclLine_span isPWS raw excl names h n a b hm before after

/-- a rule without a name (`;`, `""`, `''`) carries an empty span -/
theorem skip_rule_span_empty (posix : Bool) (raw : List Char) (r : RuleLine)
    (h : parseRuleLine (realCfg posix) isPWS isSpaceSep raw = some (.ok r)) (hn : r.name = none) :
    r.spanStart = r.spanEnd := by
  rw [rule_line_spec] at h
  exact ruleLineSpec_skip_span _ isPWS isSpaceSep raw r (Option.some.inj h) hn

/-- **Flags in force.** For every flag: what the builder set, else what the `%grmtools` section
set, else grmtools' default, else (no default) the regex crate's own default `r`.
`LexerDef::from_str` is the case `bld[i] = none`. -/
theorem flags_in_force (dflt hdr bld : List (Option Bool)) (i : Nat) (d h b : Option Bool) (r : Bool)
    (hd : dflt[i]? = some d) (hh : hdr[i]? = some h) (hb : bld[i]? = some b) :
    ((effectiveFlags dflt hdr bld)[i]?).map (fun e => e.getD r) = some (flagSpec r d h b) := by
  rw [effectiveFlags_getElem? dflt hdr bld i d h b hd hh hb]
  cases b <;> cases h <;> cases d <;> rfl

/-! ## Whole specifications

`pre` is the text up to the end of the `%grmtools` section (where the real section parser stops:
the `start` argument of `LexParser::new_with_lex_flags` is `byteLen pre`, a character boundary by
construction), `body` the rest. `posix`, `comments` are the two flags the parse consults, `compiles`
is the regex engine (`Rule::new` succeeds on a `re_str`). -/

/-- **The loops terminate and nothing panics.** For every text, every flag setting, every regex
engine and every fuel above the length of the text, the model of `LexParser::parse` — byte offsets,
`&src[i..]` slices that panic off a character boundary, the `assert_eq!` at the end, two fuelled
loops — returns (no slice panics, the assertion holds, the fuel is not used up), and what it returns
is the specification over the lines of the text. -/
theorem parse_total (posix comments : Bool) (compiles : List Char → Bool) (pre body : List Char)
    (fuel : Nat) (hf : byteLen (pre ++ body) < fuel) :
    parseWith (lexEnv posix comments compiles) fuel (pre ++ body) (byteLen pre)
      = some (specParse (lexEnv posix comments compiles) pre body) :=
  parseWith_eq _ (realCfg_ok posix) pre body fuel hf

/-- **The parser computes the line specification** (fuel `|src| + 1`): start states, rules and the
complete error list, for accepted and rejected texts alike. -/
theorem parse_eq_spec (posix comments : Bool) (compiles : List Char → Bool) (pre body : List Char) :
    parseSpec (lexEnv posix comments compiles) (pre ++ body) (byteLen pre)
      = some (specParse (lexEnv posix comments compiles) pre body) :=
  parseSpec_eq _ (realCfg_ok posix) pre body

/-- **Rules in source order.** If a text is accepted then it has a `%%` line, and its rules are
exactly the rule lines of the rules section (the lines up to the next `%%` line that are not empty,
not comments, do not start with a blank), in order: the `k`-th rule is the `k`-th rule line as the
line-level model `parseRuleLine` reads it — name, `re_str`, name span shifted by the offset of the
line — with its restriction and target looked up in the start states of the definition, and its
token id is `k`. -/
theorem rules_in_source_order (posix comments : Bool) (compiles : List Char → Bool) (pre body : List Char)
    (sts : List StartState) (rules : List Rule)
    (h : parseSpec (lexEnv posix comments compiles) (pre ++ body) (byteLen pre) = some (.ok (sts, rules))) :
    ∃ sec, rulesSectionOf comments (splitLinesAt body (byteLen pre)) = some sec ∧
      ((ruleLinesOf comments sec).zipIdx).map
          (fun p => ruleOfLineM (lexEnv posix comments compiles) sts p.1 p.2)
        = rules.map some := by
  rw [parse_eq_spec] at h
  obtain ⟨sec, hsec, _, _, hmap⟩ := specParse_ok _ pre body sts rules (Option.some.inj h)
  refine ⟨sec, hsec, ?_⟩
  rw [← hmap]
  apply List.map_congr_left
  intro p _
  exact ruleOfLineM_eq _ (realCfg_ok posix) sts p.1 p.2

/-- **Rule `k` is rule line `k`**, field by field (`rules_in_source_order` read at one index): there
are as many rules as rule lines; the `k`-th rule has token id `k`, the name, `re_str` and (shifted)
name span that `parseRuleLine` reads off the `k`-th rule line; the ids of its restriction are those
of the states its `<a,b>` names are found under, and its target is the id of the state its
`<s>`/`<+s>`/`<-s>` names, with the operation written. -/
theorem rule_k_is_line_k (posix comments : Bool) (compiles : List Char → Bool) (pre body : List Char)
    (sts : List StartState) (rules : List Rule) (sec : List Line)
    (h : parseSpec (lexEnv posix comments compiles) (pre ++ body) (byteLen pre) = some (.ok (sts, rules)))
    (hsec : rulesSectionOf comments (splitLinesAt body (byteLen pre)) = some sec) :
    rules.length = (ruleLinesOf comments sec).length ∧
    ∀ (k : Nat) (ln : Line) (r : Rule), (ruleLinesOf comments sec)[k]? = some ln → rules[k]? = some r →
      ∃ rl, parseRuleLine (realCfg posix) isPWS isSpaceSep ln.2 = some (.ok rl) ∧
        r.tokId = k ∧ r.name = rl.name ∧ r.re = rl.re ∧
        r.span = (ln.1 + rl.spanStart, ln.1 + rl.spanEnd) ∧
        rl.states.map (fun n => (findState sts n).map (·.id)) = r.states.map some ∧
        (match rl.target with
          | none => r.target = none
          | some (op, n) => ∃ s, findState sts n = some s ∧ r.target = some (s.id, op)) := by
  obtain ⟨sec', hsec', hmap⟩ := rules_in_source_order posix comments compiles pre body sts rules h
  rw [hsec] at hsec'
  obtain rfl := Option.some.inj hsec'
  refine ⟨?_, ?_⟩
  · have := congrArg List.length hmap
    simpa using this.symm
  · intro k ln r hln hr
    have hk := congrArg (fun l => l[k]?) hmap
    simp only [List.getElem?_map, List.getElem?_zipIdx, hln, hr, Option.map_some, Nat.zero_add] at hk
    have hk' := Option.some.inj hk
    unfold ruleOfLineM at hk'
    split at hk'
    · next rl hp =>
      obtain ⟨tgt, ids, hrt, hra, rfl⟩ := resolveRule_some hk'
      refine ⟨rl, hp, rfl, rfl, rfl, rfl, resolveAll_some sts rl.states ids hra, ?_⟩
      cases htg : rl.target with
      | none => simp only [htg, resolveTarget, Option.some.injEq] at hrt ⊢; exact hrt.symm
      | some on =>
        obtain ⟨op, n⟩ := on
        simp only [htg, resolveTarget, Option.map_eq_some_iff] at hrt ⊢
        obtain ⟨s, hs, hst⟩ := hrt
        exact ⟨s, hs, hst.symm⟩
    · cases hk'

/-- **Start states.** If a text is accepted then every declaration line (the lines before the `%%`
line that are not blank and not comments, from their first non-blank character) is accepted by the
line-level model `parseDeclLine`, and the start states are `INITIAL` (id 0, inclusive, empty span)
followed by the names of the declaration lines, in order of declaration, each with the span of its
declaration (shifted by the offset of the line) and the exclusive flag of its line, numbered 0, 1, 2, …. -/
theorem states_declared (posix comments : Bool) (compiles : List Char → Bool) (pre body : List Char)
    (sts : List StartState) (rules : List Rule)
    (h : parseSpec (lexEnv posix comments compiles) (pre ++ body) (byteLen pre) = some (.ok (sts, rules))) :
    (∀ ln ∈ declLinesOf comments (splitLinesAt body (byteLen pre)), ∃ d, parseDeclLine isPWS ln.2 = .ok d) ∧
      sts = numberFrom 0 (stateOccs comments (splitLinesAt body (byteLen pre))) ∧
      ∀ (j : Nat) (s : StartState), sts[j]? = some s → s.id = j := by
  rw [parse_eq_spec] at h
  obtain ⟨_, _, hall, hsts, _⟩ := specParse_ok _ pre body sts rules (Option.some.inj h)
  refine ⟨hall, hsts, ?_⟩
  intro j s hj
  rw [hsts] at hj
  have := (numberFrom_getElem? 0 _ j s hj).1
  omega

/-- **Restrictions and targets resolve to these states.** In an accepted text every rule line is
accepted by the line-level model, and every state named in its `<a,b>` restriction or in its
`<s>`/`<+s>`/`<-s>` target is a start state of the definition (the ids stored in the rule are the ids
of these states: `rules_in_source_order`, `resolveRule`). -/
theorem rule_states_resolve (posix comments : Bool) (compiles : List Char → Bool) (pre body : List Char)
    (sts : List StartState) (rules : List Rule) (sec : List Line)
    (h : parseSpec (lexEnv posix comments compiles) (pre ++ body) (byteLen pre) = some (.ok (sts, rules)))
    (hsec : rulesSectionOf comments (splitLinesAt body (byteLen pre)) = some sec) :
    ∀ ln ∈ ruleLinesOf comments sec, ∃ rl,
      parseRuleLine (realCfg posix) isPWS isSpaceSep ln.2 = some (.ok rl) ∧
      (∀ n ∈ rl.states, ∃ s ∈ sts, s.name = n) ∧
      (∀ op n, rl.target = some (op, n) → ∃ s ∈ sts, s.name = n) := by
  rw [parse_eq_spec] at h
  intro ln hln
  obtain ⟨rl, hrl, h1, h2⟩ := specParse_ok_names _ pre body sts rules (Option.some.inj h) sec hsec ln hln
  exact ⟨rl, by rw [rule_line_spec]; exact congrArg some hrl, h1, h2⟩

/-- **Unknown target state.** A rule line that the line-level model accepts and whose target state
is not among the start states declared so far stops the parse with `UnknownStartState` located right
after the last blank of the line (at the `<` of the target) — in the model of `parse_rule`, without
panic. -/
theorem unknown_target_state (posix comments : Bool) (compiles : List Char → Bool) (off : Nat)
    (raw : List Char) (rl : RuleLine) (st : PState) (op : Nat) (n : List Char)
    (hrl : parseRuleLine (realCfg posix) isPWS isSpaceSep raw = some (.ok rl))
    (ht : rl.target = some (op, n)) (hu : findState st.states n = none) :
    ruleLineStep (lexEnv posix comments compiles) off raw st
      = some (.error (st.errs ++ [mkErr .unknownStartState (off + nameOffOf raw)])) := by
  rw [rule_line_spec] at hrl
  rw [ruleLineStep_eq _ (realCfg_ok posix)]
  exact congrArg some (step_unknown_target _ off raw rl st op n (Option.some.inj hrl) ht hu)

/-- **Unknown state in a restriction.** A rule line that the line-level model accepts, whose target
(if any) is known and whose name is not taken, but whose `<a,b>` restriction names a state that is
not declared, stops the parse with `UnknownStartState` at the start of the line. -/
theorem unknown_restriction_state (posix comments : Bool) (compiles : List Char → Bool) (off : Nat)
    (raw : List Char) (rl : RuleLine) (st : PState) (tgt : Option (Nat × Nat))
    (hrl : parseRuleLine (realCfg posix) isPWS isSpaceSep raw = some (.ok rl))
    (htgt : resolveTarget st.states rl.target = some tgt)
    (hfresh : ∀ n, rl.name = some n → findRule st.rules n = none)
    (hu : ∃ n ∈ rl.states, findState st.states n = none) :
    ruleLineStep (lexEnv posix comments compiles) off raw st
      = some (.error (st.errs ++ [mkErr .unknownStartState off])) := by
  rw [rule_line_spec] at hrl
  rw [ruleLineStep_eq _ (realCfg_ok posix)]
  exact congrArg some (step_unknown_restriction _ off raw rl st tgt (Option.some.inj hrl) htgt hfresh hu)

/-- **A text that names an undeclared start state is rejected.** If a rule line that the line-level
model accepts names, in its restriction or as its target, a state that is neither `INITIAL` nor
declared on a declaration line, then the text is not accepted (for a target, and for the restriction
of a rule whose name is not taken, the error that stops the parse at that line is
`unknown_target_state` / `unknown_restriction_state`). -/
theorem undeclared_state_rejected (posix comments : Bool) (compiles : List Char → Bool) (pre body : List Char)
    (sec : List Line) (ln : Line) (rl : RuleLine) (n : List Char)
    (hsec : rulesSectionOf comments (splitLinesAt body (byteLen pre)) = some sec)
    (hln : ln ∈ ruleLinesOf comments sec)
    (hrl : parseRuleLine (realCfg posix) isPWS isSpaceSep ln.2 = some (.ok rl))
    (hnamed : n ∈ rl.states ∨ ∃ op, rl.target = some (op, n))
    (hund : n ∉ (stateOccs comments (splitLinesAt body (byteLen pre))).map (·.1)) :
    ∃ es, parseSpec (lexEnv posix comments compiles) (pre ++ body) (byteLen pre) = some (.error es) := by
  have hp := parse_eq_spec posix comments compiles pre body
  cases hres : specParse (lexEnv posix comments compiles) pre body with
  | error es => exact ⟨es, by rw [hp, hres]⟩
  | ok v =>
    exfalso
    obtain ⟨sts, rules⟩ := v
    rw [hres] at hp
    obtain ⟨rl', hrl', h1, h2⟩ := rule_states_resolve posix comments compiles pre body sts rules sec hp hsec ln hln
    rw [hrl] at hrl'
    obtain rfl : rl = rl' := by simpa using hrl'
    obtain ⟨_, hsts, _⟩ := states_declared posix comments compiles pre body sts rules hp
    have hnames : ∀ s ∈ sts, s.name ∈ (stateOccs comments (splitLinesAt body (byteLen pre))).map (·.1) := by
      intro s hs
      rw [← numberFrom_names 0, ← hsts]
      exact List.mem_map_of_mem hs
    rcases hnamed with hn | ⟨op, ht⟩
    · obtain ⟨s, hs, rfl⟩ := h1 n hn; exact hund (hnames s hs)
    · obtain ⟨s, hs, rfl⟩ := h2 op n ht; exact hund (hnames s hs)

/-- **Two rules of the same name are rejected.** If two rule lines of the rules section, in this
order, are accepted by the line-level model with the same name `n`, then the text is rejected, and
the error list either contains one `DuplicateName` error that lists the name spans of both lines —
spans that cut exactly `n` out of the text the user wrote — or is `errs ++ [e]` with `e` an error of
a kind that stops the parse (every kind but duplicates and verbatim lines), located at or before the
end of the second line: the parse was stopped before the second occurrence was done. (An error that
stops the parse later leaves the `DuplicateName` error in the list.) -/
theorem duplicate_names_rejected (posix comments : Bool) (compiles : List Char → Bool) (pre body : List Char)
    (sec A B : List Line) (ln1 ln2 : Line) (r1 r2 : RuleLine) (n : List Char)
    (hsec : rulesSectionOf comments (splitLinesAt body (byteLen pre)) = some sec)
    (hA : ruleLinesOf comments sec = A ++ ln1 :: B) (hB : ln2 ∈ B)
    (h1 : parseRuleLine (realCfg posix) isPWS isSpaceSep ln1.2 = some (.ok r1)) (hn1 : r1.name = some n)
    (h2 : parseRuleLine (realCfg posix) isPWS isSpaceSep ln2.2 = some (.ok r2)) (hn2 : r2.name = some n) :
    (∃ es, parseSpec (lexEnv posix comments compiles) (pre ++ body) (byteLen pre) = some (.error es) ∧
      (HasDup .duplicateName (ln1.1 + r1.spanStart, ln1.1 + r1.spanEnd)
          (ln2.1 + r2.spanStart, ln2.1 + r2.spanEnd) es ∨
        ∃ errs, StoppedAt (· ≤ ln2.1 + byteLen ln2.2) errs es)) ∧
    sliceB (pre ++ body) (ln1.1 + r1.spanStart) (ln1.1 + r1.spanEnd) = some n ∧
    sliceB (pre ++ body) (ln2.1 + r2.spanStart) (ln2.1 + r2.spanEnd) = some n := by
  have hs1 := spans_index_source posix ln1.2 r1 n h1 hn1
  have hs2 := spans_index_source posix ln2.2 r2 n h2 hn2
  rw [rule_line_spec] at h1 h2
  have hsub := pair_sublist hA hB
  have hloc : ∀ ln ∈ [ln1, ln2], ∃ x y, pre ++ body = x ++ ln.2 ++ y ∧ byteLen x = ln.1 := by
    intro ln hln
    apply (text_layout comments pre body).2
    rw [itemsOf, hsec]
    exact List.mem_append_right _ ((hsub.trans (ruleLinesOf_sublist (lexEnv posix comments compiles) sec)).subset hln)
  refine ⟨?_, ?_, ?_⟩
  · rw [parse_eq_spec]
    obtain ⟨es, hes, hd⟩ := specParse_dup_rules_at (lexEnv posix comments compiles) pre body sec ln1 ln2 n _ _
      hsec hsub (by rw [nameOcc_of_spec _ ln1 r1 (Option.some.inj h1), hn1]; rfl)
      (by rw [nameOcc_of_spec _ ln2 r2 (Option.some.inj h2), hn2]; rfl)
    exact ⟨es, congrArg some hes, hd⟩
  · obtain ⟨a, b, hab, ha⟩ := hloc ln1 (by simp)
    rw [hab, ← ha]; exact hs1 a b
  · obtain ⟨a, b, hab, ha⟩ := hloc ln2 (by simp)
    rw [hab, ← ha]; exact hs2 a b

/-- **Two start states of the same name are rejected.** The occurrences of start-state names are
the implicit `INITIAL` (empty span 0..0) and then the names of the declaration lines in order
(`stateOccs`). If two occurrences, in this order, carry the same name, then the text is rejected, and
the error list either contains one `DuplicateStartState` error that lists the spans of both
occurrences, or is `errs ++ [e]` with `e` an error that stops the parse, located at or before the
start of the second occurrence. (That the span of a declared name cuts the name out of the text is
`decl_spans_index_source` / `state_spans_index_source`; the span of `INITIAL` is empty.) -/
theorem duplicate_states_rejected (posix comments : Bool) (compiles : List Char → Bool) (pre body : List Char)
    (A B : List Occ) (oc1 oc2 : Occ)
    (hA : stateOccs comments (splitLinesAt body (byteLen pre)) = A ++ oc1 :: B) (hB : oc2 ∈ B)
    (hn : oc1.1 = oc2.1) :
    ∃ es, parseSpec (lexEnv posix comments compiles) (pre ++ body) (byteLen pre) = some (.error es) ∧
      (HasDup .duplicateStartState oc1.2.1 oc2.2.1 es ∨ ∃ errs, StoppedAt (· ≤ oc2.2.1.1) errs es) := by
  rw [parse_eq_spec]
  obtain ⟨es, hes, hd⟩ := specParse_dup_states_at (lexEnv posix comments compiles) pre body oc1 oc2
    (pair_sublist hA hB) hn
  exact ⟨es, congrArg some hes, hd⟩

/-- **No accepted definition carries a name twice**: the named rules of an accepted text have
pairwise distinct names, and so have its start states. -/
theorem names_distinct (posix comments : Bool) (compiles : List Char → Bool) (pre body : List Char)
    (sts : List StartState) (rules : List Rule)
    (h : parseSpec (lexEnv posix comments compiles) (pre ++ body) (byteLen pre) = some (.ok (sts, rules))) :
    (rules.filterMap (·.name)).Nodup ∧ (sts.map (·.name)).Nodup := by
  rw [parse_eq_spec] at h
  exact specParse_distinct _ pre body sts rules (Option.some.inj h)

/-- **The spans of the declared states of an accepted text index the source**: the span of every
start state but `INITIAL` cuts its name out of the text the user wrote. -/
theorem state_spans_index_source (posix comments : Bool) (compiles : List Char → Bool) (pre body : List Char)
    (sts : List StartState) (rules : List Rule)
    (h : parseSpec (lexEnv posix comments compiles) (pre ++ body) (byteLen pre) = some (.ok (sts, rules)))
    (j : Nat) (s : StartState) (hj : sts[j + 1]? = some s) :
    sliceB (pre ++ body) s.span.1 s.span.2 = some s.name := by
  obtain ⟨_, hsts, _⟩ := states_declared posix comments compiles pre body sts rules h
  rw [hsts] at hj
  obtain ⟨_, hocc⟩ := numberFrom_getElem? 0 _ (j + 1) s hj
  simp only [stateOccs, List.getElem?_cons_succ] at hocc
  have hmem := List.mem_of_getElem? hocc
  simp only [List.mem_flatMap] at hmem
  obtain ⟨ln, hln, hin⟩ := hmem
  obtain ⟨a, b, hab, ha⟩ := (text_layout comments pre body).2 ln (List.mem_append_left _ hln)
  obtain ⟨excl, names, t, hpd, ht, heq⟩ := mem_declaredOn hin
  rw [hab, (Prod.mk.inj heq).1, (Prod.mk.inj (Prod.mk.inj heq).2).1, ← ha]
  exact decl_spans_index_source ln.2 excl names hpd t.1 t.2.1 t.2.2 ht a b

/-! ## Tests

The kernel reads `"…".toList` by encoding the literal into bytes and decoding them again, far slower
than running the parser on the text; that a literal is `String.ofList` of its characters it sees at
once. So the longer texts are first rewritten with `String.toList_ofList` — with `conv` when the text
is the discriminant of a `match`, since a plain `rw` makes the kernel evaluate the discriminant twice. -/

/-- a result is read off its projection, which (unlike `Except`) has decidable equality -/
private theorem ok_of_proj {ε α} {r : Option (Except ε α)} {v : α}
    (h : (match r with | some (.ok x) => some x | _ => none) = some v) : r = some (.ok v) := by
  match r, h with
  | some (.ok x), h => rw [Option.some.inj h]

/-- the text of the first two tests, read once -/
private theorem accepted_text :
    GrmVerif.LexSpecParse.parseSpec (GrmVerif.LexSpecParse.lexEnv false true (fun _ => true))
      "%grmtools{é}\n%x ST  a_b\n%s Q\n%%\n// c\n<ST,Q>a+ <+a_b>'A'\n\\! ;\n".toList 14
    = some (.ok ([⟨0, "INITIAL".toList, (0, 0), false⟩, ⟨1, "ST".toList, (17, 19), true⟩,
                  ⟨2, "a_b".toList, (21, 24), true⟩, ⟨3, "Q".toList, (28, 29), false⟩],
                 [⟨0, some "A".toList, (54, 55), "a+".toList, [1, 3], some (2, 1)⟩,
                  ⟨1, none, (60, 60), "!".toList, [], none⟩])) := by
  apply ok_of_proj
  conv in String.toList _ => rw [String.toList_ofList]
  decide +kernel

/-- test: an accepted text after a `%grmtools` section of 14 bytes: two declaration lines with
several blanks, a comment, a restricted rule with a target, a skip rule; ids, flags, spans -/
example : (match GrmVerif.LexSpecParse.parseSpec (GrmVerif.LexSpecParse.lexEnv false true (fun _ => true))
      "%grmtools{é}\n%x ST  a_b\n%s Q\n%%\n// c\n<ST,Q>a+ <+a_b>'A'\n\\! ;\n".toList 14 with
    | some (.ok (sts, _)) => some sts
    | _ => none)
    = some [⟨0, "INITIAL".toList, (0, 0), false⟩, ⟨1, "ST".toList, (17, 19), true⟩,
            ⟨2, "a_b".toList, (21, 24), true⟩, ⟨3, "Q".toList, (28, 29), false⟩] := by
  rw [accepted_text]
example : (match GrmVerif.LexSpecParse.parseSpec (GrmVerif.LexSpecParse.lexEnv false true (fun _ => true))
      "%grmtools{é}\n%x ST  a_b\n%s Q\n%%\n// c\n<ST,Q>a+ <+a_b>'A'\n\\! ;\n".toList 14 with
    | some (.ok (_, rules)) => some rules
    | _ => none)
    = some [⟨0, some "A".toList, (54, 55), "a+".toList, [1, 3], some (2, 1)⟩,
            ⟨1, none, (60, 60), "!".toList, [], none⟩] := by
  rw [accepted_text]
/-- test: errors are collected — a duplicate state, a duplicate name, a verbatim line — until an
unknown start state stops the parse -/
example : (match GrmVerif.LexSpecParse.parseSpec (GrmVerif.LexSpecParse.lexEnv false false (fun _ => true))
      "%s A  B\n%x A\n%%\n<A>a <+B>'X'\nb 'X'\n c ;\n<Q>d 'D'\n".toList 0 with
    | some (.error es) => some es
    | _ => none)
    = some [⟨.duplicateStartState, [(3, 4), (11, 12)]⟩, ⟨.duplicateName, [(26, 27), (32, 33)]⟩,
            ⟨.verbatimNotSupported, [(35, 39)]⟩, ⟨.unknownStartState, [(40, 40)]⟩] := by
  conv in String.toList _ => rw [String.toList_ofList]
  decide +kernel
/-- test: the hypotheses of `duplicate_names_rejected` / `duplicate_states_rejected` are satisfiable -/
example : GrmVerif.LexSpecParse.rulesSectionOf false
      (GrmVerif.LexSpecParse.splitLinesAt "%%\na 'X'\nb 'X'".toList 0)
    = some [(2, []), (3, "a 'X'".toList), (9, "b 'X'".toList)] := by
  repeat rw [String.toList_ofList]
  decide +kernel
example : GrmVerif.LexSpecParse.ruleLinesOf false [(2, []), (3, "a 'X'".toList), (9, "b 'X'".toList)]
    = [] ++ (3, "a 'X'".toList) :: [(9, "b 'X'".toList)] := by decide +kernel
example : GrmVerif.LexSpecParse.stateOccs false
      (GrmVerif.LexSpecParse.splitLinesAt "%s A\n%x B A\n%%".toList 0)
    = [(GrmVerif.LexSpecParse.initialName, (0, 0), false)] ++ ("A".toList, (3, 4), false)
        :: [("B".toList, (8, 9), true), ("A".toList, (10, 11), true)] := by
  repeat rw [String.toList_ofList]
  decide +kernel
/-- test: a start offset inside a character is the panic the theorems exclude -/
example : GrmVerif.LexSpecParse.parseSpec (GrmVerif.LexSpecParse.lexEnv false false (fun _ => true))
    "é%%".toList 1 = none := by decide +kernel

/-- the tables are the ones the model was written against (a change of the sources shows here) -/
example : GrmVerif.Extracted.RE_LEX_ESC_LITERAL_SRC
    = "^(([xuU][[:xdigit:]])|[[:digit:]]|[afnrtv\\\\]|[pP]|[dDsSwW]|[Az])" := rfl
example : GrmVerif.Extracted.RE_SPACE_SEP_SRC = "[\\p{Pattern_White_Space}&&[\\p{Zs}\\t]]" := rfl
example : GrmVerif.Extracted.RE_LINE_SEP_SRC = "[\\p{Pattern_White_Space}&&[\\p{Zl}\\p{Zp}\\n\\r\\v]]" := rfl
example : GrmVerif.Extracted.RE_WS_SRC = "\\p{Pattern_White_Space}" := rfl
example : GrmVerif.Extracted.RE_START_STATE_NAME_SRC = "^[a-zA-Z][a-zA-Z0-9_.]*$" := rfl
example : GrmVerif.Extracted.RE_INCLUSIVE_START_STATE_DECLARATION_SRC = "^%[sS][a-zA-Z0-9]*$" := rfl
example : GrmVerif.Extracted.RE_EXCLUSIVE_START_STATE_DECLARATION_SRC = "^%[xX][a-zA-Z0-9]*$" := rfl
example : GrmVerif.Extracted.LEX_FLAG_NAMES.length = GrmVerif.Extracted.DEFAULT_LEX_FLAGS.length := by
  decide +kernel

/-- test: `\!abc\` — the scanner keeps the tail after the lone final backslash; the loop without that arm
(`unescapeOrig`) loses it -/
example : unescape (realCfg false) "\\!abc\\".toList = some "!abc\\".toList := by decide +kernel
example : unescapeOrig (realCfg false) "\\!abc\\".toList = some "!".toList := by decide +kernel
/-- test: escapes next to multi-byte characters, `\b` with and without `posix_escapes` -/
example : unescape (realCfg true) "\\é\\b\\❤\\x4\\xg".toList = some "é\\x08❤\\x4xg".toList := by
  repeat rw [String.toList_ofList]
  decide +kernel
example : unescape (realCfg false) "\\é\\b\\❤".toList = some "é\\b❤".toList := by decide +kernel

/-- test (hypotheses of `trim_end_unescaped_spec` are satisfiable, both outcomes occur) -/
example : trimEndUnescaped isPWS "x\\  ".toList = "x\\ ".toList := by decide +kernel
example : trimEndUnescaped isPWS "x\\\\  ".toList = "x\\\\".toList := by decide +kernel
/-- test: a rule line with a restriction, an escaped multi-byte character, a target and a name;
the span (relative to the line) spells the name -/
example : (match parseRuleLine (realCfg true) isPWS isSpaceSep "<ST, a>\\é\\b+  <+ST>\"kn\" ".toList with
      | some (.ok r) => some r
      | _ => none)
    = some ⟨["ST".toList, "a".toList], "é\\x08+".toList, some (1, "ST".toList), some "kn".toList, 21, 23⟩ := by
  conv in String.toList _ => rw [String.toList_ofList]
  decide +kernel
example : sliceB "<ST, a>\\é\\b+  <+ST>\"kn\" ".toList 21 23 = some "kn".toList := by
  repeat rw [String.toList_ofList]
  decide +kernel
example : (match parseRuleLine (realCfg false) isPWS isSpaceSep "abc".toList with
      | some (.error e) => some e
      | _ => none) = some (.missingSpace, 0) := by decide +kernel
/-- test: a declaration line with several blanks between the names -/
example : (match parseDeclLine isPWS "%x  ST a_b\t\tQ9 ".toList with
      | .ok r => some r
      | _ => none)
    = some (true, [("ST".toList, 4, 6), ("a_b".toList, 7, 10), ("Q9".toList, 12, 14)]) := by
  conv in String.toList _ => rw [String.toList_ofList]
  decide +kernel
/-- test: flags — builder beats section beats default -/
example : effectiveFlags GrmVerif.Extracted.DEFAULT_LEX_FLAGS
    [none, none, none, some true, none, some true, none, none, none]
    [none, none, some false, some false, none, none, none, none, none]
    = [some true, some true, some false, some false, some false, some true, none, none, none] := by decide +kernel

end GrmVerif.C11
