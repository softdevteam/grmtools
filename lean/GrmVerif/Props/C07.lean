import GrmVerif.Props.C05
import GrmVerif.Lemmas.NoPanicRecover
/-!
# C07 — error recovery always progresses and the error list matches the outcome

Model: `Rec.recRun` (the loop of `Parser::lr` with a recoverer, on state stacks, parametric in the
recoverer). `RecovererOK` is what C05/C06 establish per reported error for the real recoverer
(the first sequence applies and a plain parse then continues over `N` lexemes or to acceptance);
the theorems derive the shape of the error list for EVERY input. The shape itself is also checked
directly on every `(value, errors)` the real parser returns.

Liveness: `recRun` is total by construction (constant fuel for `feed`, answer `(false, errs)` when a
fuel runs out or the driver would crash). `Rec.recRunO` (`Model/RecLive.lean`) is the same loop with
these cases reported as `none`; `recovering_parse_returns` shows that on an automaton that passes
`Cert.check` and the termination certificate `Term.termCheckAdj` the answer is never `none` once the
fuels are large enough (`2·|w| + 2` loop iterations), `recRunO_mono`/`recRunO_unique` that the answer
does not depend on the fuels, `recovering_parse_result` that this one answer has the whole shape the
property describes. The vocabulary (`Runs`, `RecovererOK`, `Spaced`, `AllButLastRepaired`) is defined
in `Lemmas/RecSpec.lean`.
-/
namespace GrmVerif.C07
open Rec

/-- the run from `c` appends errors that are spaced, start no earlier than `c.pos + k` when the
plain parse runs `k` lexemes from `c`, all but the last repaired, and all repaired when a value is
produced -/
theorem recRun_shape (G : Grammar) (A : Automaton) (w : List Nat) (N : Nat)
    (recover : Pos → Option (Pos × List (List Repair))) (hok : RecovererOK G A w N recover) :
    ∀ (fuel : Nat) (c : Pos) (errs : List Err) (k : Nat) (v : Bool) (errs' : List Err),
      Runs G A w k c → recRun G A w recover fuel c errs = (v, errs') →
      ∃ new, errs' = errs ++ new ∧ Spaced N new ∧ AllButLastRepaired new ∧
        (∀ e, new.head? = some e → c.pos + k ≤ e.pos) ∧
        (v = true → ∀ e ∈ new, e.repairs ≠ []) := by
  intro fuel c errs k v errs' hr h
  obtain ⟨new, v', he, hs⟩ := recRun_seg G A w recover fuel c errs
  cases h.symm.trans he
  obtain ⟨h2, h3, h4⟩ := hs.shape hok (Nat.le_refl _) k hr
  exact ⟨new, rfl, h2, h3, h4, hs.repaired⟩

/-- **Errors are reported in strictly increasing position, at least `N` lexemes apart; every error
but the last carries a repair sequence; a value implies every error does.** For every input and
every recoverer satisfying `RecovererOK`. -/
theorem errors_shape (G : Grammar) (A : Automaton) (w : List Nat) (N : Nat)
    (recover : Pos → Option (Pos × List (List Repair))) (hok : RecovererOK G A w N recover)
    (fuel : Nat) (v : Bool) (errs : List Err)
    (h : recRun G A w recover fuel ⟨[A.start], 0⟩ [] = (v, errs)) :
    Spaced N errs ∧ AllButLastRepaired errs ∧ (v = true → ∀ e ∈ errs, e.repairs ≠ []) := by
  obtain ⟨new, h1, h2, h3, _, h5⟩ := recRun_shape G A w N recover hok fuel _ [] 0 v errs (.zero _) h
  simp only [List.nil_append] at h1
  subst h1
  exact ⟨h2, h3, h5⟩

/-- a spaced list within the input has at most `|w| / N + 1` entries -/
theorem spaced_length_bound (N : Nat) (hN : 0 < N) (len : Nat) :
    ∀ (errs : List Err) (lo : Nat), Spaced N errs → (∀ e ∈ errs, lo ≤ e.pos ∧ e.pos ≤ len) →
      errs.length * N ≤ (len - lo) + N
  | [], _, _, _ => by simp
  | e :: rest, lo, hs, hb => by
    have := spaced_span hs (fun x hx => (hb x hx).2)
    have := (hb e (by simp)).1
    rw [List.length_cons, Nat.succ_mul]
    omega

/-- **The number of errors is bounded by the input length.** -/
theorem errors_bounded (G : Grammar) (A : Automaton) (w : List Nat) (N : Nat) (hN : 0 < N)
    (recover : Pos → Option (Pos × List (List Repair))) (hok : RecovererOK G A w N recover)
    (fuel : Nat) (v : Bool) (errs : List Err)
    (h : recRun G A w recover fuel ⟨[A.start], 0⟩ [] = (v, errs))
    (hpos : ∀ e ∈ errs, e.pos ≤ w.length) : errs.length * N ≤ w.length + N := by
  have hs := (errors_shape G A w N recover hok fuel v errs h).1
  have := spaced_length_bound N hN w.length errs 0 hs (fun e he => ⟨Nat.zero_le _, hpos e he⟩)
  simpa using this

/-- **A value together with an empty error list means the input was accepted unchanged**: the run
never consulted the recoverer, so it is the plain parse. -/
theorem clean_accept (G : Grammar) (A : Automaton) (w : List Nat)
    (recover recover' : Pos → Option (Pos × List (List Repair))) :
    ∀ (fuel : Nat) (c : Pos) (errs : List Err) (v : Bool),
      recRun G A w recover fuel c errs = (v, errs) → recRun G A w recover' fuel c errs = (v, errs) := by
  intro fuel c errs v h
  rcases recRun_first_error G A w fuel c errs with ⟨v', hv⟩ | ⟨p, -, hp⟩
  · rw [hv recover] at h; rw [hv recover']; exact h
  · -- an error would have lengthened the error list
    obtain ⟨rs, rest, hh⟩ := hp recover
    rw [h] at hh
    simp at hh

/-- **With recovery on, the first error is where recovery off reports its error** (the last clause
of C04, at the level of the driver model): whatever the recoverer does, if the recovering driver
reports a first error `e`, the same driver with a recoverer that always gives up — i.e. recovery
off — stops with exactly one error at `e.pos`. -/
theorem first_error_is_plain_error (G : Grammar) (A : Automaton) (w : List Nat)
    (recover : Pos → Option (Pos × List (List Repair))) :
    ∀ (fuel : Nat) (c : Pos) (v : Bool) (e : Err) (es : List Err),
      recRun G A w recover fuel c [] = (v, e :: es) →
      recRun G A w (fun _ => none) fuel c [] = (false, [⟨e.pos, []⟩]) := by
  intro fuel c v e es h
  rcases recRun_first_error G A w fuel c [] with ⟨v', hv⟩ | ⟨p, hnone, hp⟩
  · rw [hv recover] at h; cases h
  · obtain ⟨rs, rest, hh⟩ := hp recover
    rw [h] at hh
    simp only [List.nil_append, List.cons.injEq] at hh
    rw [hh.1]; exact hnone

/-! ## Liveness: the recovering parse returns -/

/-- **An answer of the instrumented driver is the model's answer.** `recRunO` differs from `recRun`
only in reporting "a fuel ran out / the driver would crash" as `none` instead of `(false, errs)`: when
it answers `some r`, the totalised driver with the same fuel for `feed` answers `r`; at the constant
`FUEL` this is `recRun` itself, so every theorem about `recRun` applies to `r`. No hypothesis. -/
theorem recRunO_sound (G : Grammar) (A : Automaton) (w : List Nat)
    (recover : Pos → Option (Pos × List (List Repair))) (ff fuel : Nat) (c : Pos) (errs : List Err)
    (r : Bool × List Err) (h : recRunO G A w recover ff fuel c errs = some r) :
    recRunF G A w recover ff fuel c errs = r ∧ (ff = FUEL → recRun G A w recover fuel c errs = r) := by
  have h1 := recRunO_some_recRunF G A w recover ff fuel c errs r h
  refine ⟨h1, ?_⟩
  intro hff; subst hff
  rw [← recRunF_FUEL]; exact h1

/-- **More fuel gives the same answer**: once the instrumented driver answers `some r`, it answers
`some r` for every larger fuel of the loop and every larger fuel of `feed`. For every automaton, input
and recoverer. -/
theorem recRunO_mono (G : Grammar) (A : Automaton) (w : List Nat)
    (recover : Pos → Option (Pos × List (List Repair))) (ff ff' fuel fuel' : Nat) (c : Pos)
    (errs : List Err) (r : Bool × List Err) (hff : ff ≤ ff') (hfuel : fuel ≤ fuel')
    (h : recRunO G A w recover ff fuel c errs = some r) :
    recRunO G A w recover ff' fuel' c errs = some r :=
  recRunO_mono' G A w recover ff ff' hff fuel c errs r h fuel' hfuel

/-- **The answer is unique**: whatever fuels make the instrumented driver answer, the answer is the
same — "the result of the recovering parse" is well defined. -/
theorem recRunO_unique (G : Grammar) (A : Automaton) (w : List Nat)
    (recover : Pos → Option (Pos × List (List Repair))) (ff₁ ff₂ fuel₁ fuel₂ : Nat) (c : Pos)
    (errs : List Err) (r₁ r₂ : Bool × List Err)
    (h₁ : recRunO G A w recover ff₁ fuel₁ c errs = some r₁)
    (h₂ : recRunO G A w recover ff₂ fuel₂ c errs = some r₂) : r₁ = r₂ := by
  have a := recRunO_mono G A w recover ff₁ (max ff₁ ff₂) fuel₁ (max fuel₁ fuel₂) c errs r₁
    (Nat.le_max_left _ _) (Nat.le_max_left _ _) h₁
  have b := recRunO_mono G A w recover ff₂ (max ff₁ ff₂) fuel₂ (max fuel₁ fuel₂) c errs r₂
    (Nat.le_max_right _ _) (Nat.le_max_right _ _) h₂
  exact Option.some.inj (a.symm.trans b)

/-- **A recoverer that continues from a valid sequence satisfies the hypotheses of liveness**
(`recovering_parse_returns`). If, whenever the recoverer reports sequences, the configuration it continues from is the
one `applySeq` reaches with a sequence that repairs (`validSeq`, which C05 validates for every
sequence the real recoverer reports; the real parser continues from the first one) and that inserts
only tokens of the grammar, then on a certified automaton and an input of real tokens it is
`RecovererOK` (by `C05.validSeq_runs`) and it hands back stacks that are paths of the automaton
whenever it is given one (`applySeq_isPath`, through `feed_path`). -/
theorem valid_recoverer_ok (G : Grammar) (A : Automaton) (hc : Cert.check G A = true) (w : List Nat)
    (hw : Cert.InputOk G w) (K : Nat) (recover : Pos → Option (Pos × List (List Repair)))
    (hv : ContinuesFromValid G A w K recover) :
    RecovererOK G A w K recover ∧
    (∀ c c' rs, Term.IsPath A c.stack → recover c = some (c', rs) → rs ≠ [] → Term.IsPath A c'.stack) := by
  have P := Cert.check_props G A hc
  constructor
  · intro c c' rs hrec hne
    obtain ⟨r, _, hval, happ⟩ := hv c c' rs hrec hne
    obtain ⟨c'', happ', hpos, hruns⟩ := C05.validSeq_runs G A w K c r hval
    cases happ.symm.trans happ'
    exact ⟨hpos, hruns⟩
  · intro c c' rs hp hrec hne
    obtain ⟨r, hins, _, happ⟩ := hv c c' rs hrec hne
    exact applySeq_isPath P hw r c c' hins hp happ

/-- **A parse with recovery always returns** (liveness of the driver model). On an automaton that
passes `Cert.check` and the termination certificate `Term.termCheckAdj G A N` (`N` = the number of steps
within which the certified runs of reductions under one lookahead end; both evaluated by the
driver on the automaton of every case; the certificate holds exactly when the table has no reduction
loop, cf. `C01.cert_cycle_parse_diverges`), for every input `w` of real tokens and every recoverer
that is `RecovererOK` with `K ≥ 1` (the real one: `K = 3`) and hands back path stacks (both hold for
recoverers that continue from a valid sequence: `valid_recoverer_ok`), the instrumented driver
`recRunO` — `none` = loop fuel exhausted, `feed` out of fuel, or crash — answers: there is a threshold
`ff0` for the fuel of `feed` and a result `r` such that every `ff ≥ ff0` and every loop fuel
`≥ 2·|w| + 2` give `some r`. The bound: an iteration shifts a real lexeme, accepts, gives up, or
recovers, and the iteration after a recovery shifts or accepts because the plain parse `Runs K ≥ 1`
lexemes from there. The recoverer's own search is a parameter here: that IT returns is the time
budget of the real code, outside this model. -/
theorem recovering_parse_returns (G : Grammar) (A : Automaton) (hc : Cert.check G A = true) (N : Nat)
    (ht : Term.termCheckAdj G A N = true) (w : List Nat) (hw : Cert.InputOk G w) (K : Nat) (hK : 1 ≤ K)
    (recover : Pos → Option (Pos × List (List Repair))) (hok : RecovererOK G A w K recover)
    (hpath : ∀ c c' rs, Term.IsPath A c.stack → recover c = some (c', rs) → rs ≠ [] → Term.IsPath A c'.stack) :
    ∃ ff0 r, ∀ ff fuel, ff0 ≤ ff → 2 * w.length + 2 ≤ fuel →
      recRunO G A w recover ff fuel ⟨[A.start], 0⟩ [] = some r := by
  obtain ⟨ff0, r, h⟩ := recRunO_returns (Cert.check_props G A hc) ht hw K hK recover hok hpath
    (2 * w.length + 2) ⟨[A.start], 0⟩ [] (Term.IsPath.start A) (Or.inl (by simp))
  exact ⟨ff0, r, fun ff fuel hff hfuel =>
    recRunO_mono G A w recover ff ff _ fuel _ [] r (Nat.le_refl _) hfuel (h ff hff)⟩

/-- **A value is returned iff every error carries a repair sequence**, for a run that really ended
(`recRunO … = some (v, errs)`, i.e. not by a fuel): with a value every error has a repair sequence;
without a value the LAST error has none — the driver gave up there — so not every error has one. For
every automaton, input and recoverer; no certificate needed. (For the totalised `recRun` only the
first direction holds: it also answers "no value" when a fuel runs out.) -/
theorem value_iff_all_repaired (G : Grammar) (A : Automaton) (w : List Nat)
    (recover : Pos → Option (Pos × List (List Repair))) (ff fuel : Nat) (v : Bool) (errs : List Err)
    (h : recRunO G A w recover ff fuel ⟨[A.start], 0⟩ [] = some (v, errs)) :
    (v = true ↔ ∀ e ∈ errs, e.repairs ≠ []) ∧
    (v = false → ∃ e, errs.getLast? = some e ∧ e.repairs = []) := by
  obtain ⟨new, v', he, hs⟩ := recRunO_seg G A w recover ff fuel _ [] _ h
  cases he
  refine ⟨⟨hs.repaired, ?_⟩, hs.outcome⟩
  intro hall
  cases v with
  | true => rfl
  | false =>
    obtain ⟨e, hl, hrep⟩ := hs.outcome rfl
    exact absurd hrep (hall e (List.mem_of_getLast? hl))

/-- **The shape of a run that ended** (`errors_shape`, `errors_bounded` for `recRunO`, any fuels):
if the instrumented driver answers `some (v, errs)` then the errors are `K` lexemes apart in strictly
increasing position, all but the last carry a repair sequence, and a value is returned iff all do.
Hypothesis: `RecovererOK` only. -/
theorem recRunO_shape (G : Grammar) (A : Automaton) (w : List Nat) (K : Nat)
    (recover : Pos → Option (Pos × List (List Repair))) (hok : RecovererOK G A w K recover)
    (ff fuel : Nat) (v : Bool) (errs : List Err)
    (h : recRunO G A w recover ff fuel ⟨[A.start], 0⟩ [] = some (v, errs)) :
    Spaced K errs ∧ AllButLastRepaired errs ∧ (v = true ↔ ∀ e ∈ errs, e.repairs ≠ []) := by
  have h' := recRunO_mono G A w recover ff (max ff FUEL) fuel fuel _ [] _ (Nat.le_max_left _ _)
    (Nat.le_refl _) h
  obtain ⟨new, v', he, hs⟩ := recRunO_seg G A w recover _ fuel _ [] _ h'
  cases he
  obtain ⟨h2, h3, _⟩ := hs.shape hok (Nat.le_max_right _ _) 0 (.zero _)
  exact ⟨h2, h3, (value_iff_all_repaired G A w recover ff fuel v _ h).1⟩

/-- **The recovering parse has one result, and it has the shape the property describes.** Under the
hypotheses of `recovering_parse_returns` there is a pair `(v, errs)` such that
(1) the instrumented driver returns it for all sufficiently large fuels (`2·|w| + 2` loop iterations
    suffice), and whenever it returns anything, with any fuels, it returns this pair;
(2) the errors are at least `K` lexemes apart in strictly increasing position, all within the input
    (position `|w|` = end of input), so there are at most `|w|/K + 1` of them;
(3) every error except possibly the last carries a repair sequence;
(4) a value is returned iff every error carries a repair sequence, and if no value is returned the
    last error carries none. -/
theorem recovering_parse_result (G : Grammar) (A : Automaton) (hc : Cert.check G A = true) (N : Nat)
    (ht : Term.termCheckAdj G A N = true) (w : List Nat) (hw : Cert.InputOk G w) (K : Nat) (hK : 1 ≤ K)
    (recover : Pos → Option (Pos × List (List Repair))) (hok : RecovererOK G A w K recover)
    (hpath : ∀ c c' rs, Term.IsPath A c.stack → recover c = some (c', rs) → rs ≠ [] → Term.IsPath A c'.stack) :
    ∃ v errs,
      (∃ ff0, ∀ ff fuel, ff0 ≤ ff → 2 * w.length + 2 ≤ fuel →
        recRunO G A w recover ff fuel ⟨[A.start], 0⟩ [] = some (v, errs)) ∧
      (∀ ff fuel r, recRunO G A w recover ff fuel ⟨[A.start], 0⟩ [] = some r → r = (v, errs)) ∧
      Spaced K errs ∧ (∀ e ∈ errs, e.pos ≤ w.length) ∧ errs.length * K ≤ w.length + K ∧
      AllButLastRepaired errs ∧
      (v = true ↔ ∀ e ∈ errs, e.repairs ≠ []) ∧
      (v = false → ∃ e, errs.getLast? = some e ∧ e.repairs = []) := by
  obtain ⟨ff0, ⟨v, errs⟩, h⟩ := recovering_parse_returns G A hc N ht w hw K hK recover hok hpath
  have h0 := h (max ff0 FUEL) (2 * w.length + 2) (Nat.le_max_left _ _) (Nat.le_refl _)
  obtain ⟨hs, hab, hiff⟩ := recRunO_shape G A w K recover hok _ _ v errs h0
  obtain ⟨new, hn1, hn2⟩ := recRunO_err_pos (Cert.check_props G A hc) hw K hK recover hok hpath
    (max ff0 FUEL) (Nat.le_max_right _ _) _ ⟨[A.start], 0⟩ [] (v, errs) (Term.IsPath.start A)
    (Or.inl (Nat.zero_le _)) h0
  simp only [List.nil_append] at hn1
  subst hn1
  refine ⟨v, errs, ⟨ff0, h⟩, ?_, hs, hn2, ?_, hab, hiff, (value_iff_all_repaired G A w recover _ _ v errs h0).2⟩
  · intro ff fuel r hr
    exact recRunO_unique G A w recover _ _ _ _ _ [] _ _ hr h0
  · have := spaced_length_bound K hK w.length errs 0 hs (fun e he => ⟨Nat.zero_le _, hn2 e he⟩)
    simpa using this

/-! ## Capstone: the modelled recoverer satisfies the hypotheses of liveness and shape

`Cpct.cpctRecover` (`Model/Cpct.lean`) is the model of `CPCTPlus::recover` (`SearchImpl.recoverImpl`,
proved in C06) seen through the interface of the recovering driver; `Cpct.cpctRecoverAt` is its
restriction to the configurations at which `Parser::lr` calls `recover` (`Cpct.errCfg`; the restriction
cannot be observed in a run: `C05.cpct_restriction_invisible`). The recoverer is a function — total —
whatever its search budget `sfuel`: a search that runs out of budget reports nothing, like the real one
that runs out of time. A modelled PANIC of the recoverer would also count as "reports nothing"
(`Cpct.cpctOutcome` tells the cases apart) — but it does not occur: every configuration a run hands to
the recoverer is an error configuration whose stack is a path of the automaton, and there the model of
`recover` never panics (`C06.recover_never_panics`, `Lemmas/NoPanicSearch.lean`, `NoPanicRecover.lean`); the capstones below say
so for every call of the run. -/

section Capstone
open Cpct SearchImpl RankImpl

/-- **The modelled recoverer is a well-behaved recoverer.** On an automaton that passes
`Cert.check`, with `stateActionsExactB` (decidable), every token costing at least 1 and
`PARSE_AT_LEAST = E.N ≥ 1`, for an input of real tokens, any `HashSet` order, `%avoid_insert` set,
lexeme offsets, window and search budget: `cpctRecoverAt` is `ContinuesFromValid` (it continues from
`applySeq` of its first sequence, which satisfies `validSeq … PARSE_AT_LEAST` and inserts only tokens
of the grammar), hence `RecovererOK … PARSE_AT_LEAST` (never moves backwards; from where it leaves the
parser a plain parse runs `PARSE_AT_LEAST` lexemes or accepts) and hands back path stacks; and the
same holds of the unrestricted `cpctRecover` at every configuration at which `Parser::lr` calls
`recover`. -/
theorem cpct_recoverer_ok (E : Env) (hc : Cert.check E.G E.A = true)
    (hsa : stateActionsExactB E.G E.A = true) (hcost : ∀ t, 1 ≤ E.cost t) (hN : 1 ≤ E.N)
    (hs : List Seq → List Seq) (hhs : HashSetLike hs) (avoid : Nat → Bool) (lexStart : Nat → Nat)
    (win sfuel : Nat) (hw : Cert.InputOk E.G E.w) :
    ContinuesFromValid E.G E.A E.w E.N (cpctRecoverAt E hs avoid lexStart win sfuel) ∧
    RecovererOK E.G E.A E.w E.N (cpctRecoverAt E hs avoid lexStart win sfuel) ∧
    (∀ c c' rs, Term.IsPath E.A c.stack → cpctRecoverAt E hs avoid lexStart win sfuel c = some (c', rs) →
      rs ≠ [] → Term.IsPath E.A c'.stack) ∧
    (∀ c c' rs, errCfg E.G E.A E.w c = true → cpctRecover E hs avoid lexStart win sfuel c = some (c', rs) →
      c.pos ≤ c'.pos ∧ Runs E.G E.A E.w E.N c' ∧ (Term.IsPath E.A c.stack → Term.IsPath E.A c'.stack)) := by
  have hT := tableOK_of_cert hc hsa hcost hN
  have hv := cpctAt_continuesFromValid (avoid := avoid) (lexStart := lexStart) (win := win)
    (fuel := sfuel) hT hhs
  obtain ⟨h1, h2⟩ := valid_recoverer_ok E.G E.A hc E.w hw E.N _ hv
  refine ⟨hv, h1, h2, ?_⟩
  intro c c' rs he h
  rw [← cpctAt_of_errCfg he] at h
  obtain ⟨out, _, hne, rfl⟩ := cpct_some_unpack (cpctAt_some h).2
  have hne' : eraseAll out ≠ [] := by
    intro e; simp only [eraseAll, List.map_eq_nil_iff] at e; exact hne e
  obtain ⟨ha, hb⟩ := h1 c c' _ h hne'
  exact ⟨ha, hb, fun hp => h2 c c' _ hp h hne'⟩

/-- **Capstone: the model of the whole recovering parser returns.** `recovering_parse_returns` for
`recover := cpctRecover …`: on an automaton that passes `Cert.check` and the termination certificate
`Term.termCheckAdj`, with `stateActionsExactB`, costs ≥ 1 and `PARSE_AT_LEAST ≥ 1`, for every input of
real tokens, `HashSet` order, `%avoid_insert` set, window and search budget, the instrumented driver
answers: there are a threshold `ff0` for the fuel of `feed` and a result `r` such that every `ff ≥ ff0`
and every loop fuel `≥ 2·|w| + 2` give `some r`. AND NO CALL OF THE RECOVERER PANICS: for every driver
fuel, every configuration at which the run consults the recoverer (`Cpct.recCalls`) is an error
configuration whose stack is a path of the automaton, and the outcome of the modelled `recover` there is
`repaired`, `noRepair` or `outOfBudget`, never `panicked` — so "the model returns" is not owed to the
totalisation of a panic. Hypotheses on the table and the costs only. -/
theorem cpct_recovering_parse_returns (E : Env) (hc : Cert.check E.G E.A = true) (M : Nat)
    (ht : Term.termCheckAdj E.G E.A M = true) (hsa : stateActionsExactB E.G E.A = true)
    (hcost : ∀ t, 1 ≤ E.cost t) (hN : 1 ≤ E.N)
    (hs : List Seq → List Seq) (hhs : HashSetLike hs) (avoid : Nat → Bool) (lexStart : Nat → Nat)
    (win sfuel : Nat) (hw : Cert.InputOk E.G E.w) :
    (∃ ff0 r, ∀ ff fuel, ff0 ≤ ff → 2 * E.w.length + 2 ≤ fuel →
      recRunO E.G E.A E.w (cpctRecover E hs avoid lexStart win sfuel) ff fuel ⟨[E.A.start], 0⟩ [] = some r) ∧
    (∀ fuel, ∀ c ∈ recCalls E.G E.A E.w (cpctRecover E hs avoid lexStart win sfuel) fuel ⟨[E.A.start], 0⟩,
      errCfg E.G E.A E.w c = true ∧ Term.IsPath E.A c.stack ∧
      cpctOutcome E hs avoid lexStart win sfuel c ≠ .panicked) := by
  have hT := tableOK_of_cert hc hsa hcost hN
  obtain ⟨_, h1, h2, _⟩ := cpct_recoverer_ok E hc hsa hcost hN hs hhs avoid lexStart win sfuel hw
  obtain ⟨ff0, r, h⟩ := recovering_parse_returns E.G E.A hc M ht E.w hw E.N hN _ h1 h2
  refine ⟨⟨ff0, r, fun ff fuel hff hfuel => ?_⟩, fun fuel =>
    cpct_calls_never_panic hT (Cert.check_props E.G E.A hc) hw hhs fuel _ (Term.IsPath.start E.A)
      (Nat.zero_le _)⟩
  rw [recRunO_cpct_guard hT hhs ff fuel _ [] (Nat.zero_le _)]
  exact h ff fuel hff hfuel

/-- **Capstone: the model of the whole recovering parser has one result, of the documented shape.**
`recovering_parse_result` for `recover := cpctRecover …` and `K = PARSE_AT_LEAST`; hypotheses as in
`cpct_recovering_parse_returns`. There is a pair `(v, errs)` such that the run returns it for all
large enough fuels (`2·|w| + 2` iterations suffice) and never anything else; the errors are at least
`PARSE_AT_LEAST` lexemes apart in strictly increasing position, all within the input, at most
`|w|/PARSE_AT_LEAST + 1` of them; every error but possibly the last carries a repair sequence; a value
is returned iff every error does, and without a value the last error carries none; and at no call of
the recoverer during the run (any driver fuel) did the model of `recover` panic — an error without
repair sequences is one where no repair exists or the budget ran out. -/
theorem cpct_recovering_parse_result (E : Env) (hc : Cert.check E.G E.A = true) (M : Nat)
    (ht : Term.termCheckAdj E.G E.A M = true) (hsa : stateActionsExactB E.G E.A = true)
    (hcost : ∀ t, 1 ≤ E.cost t) (hN : 1 ≤ E.N)
    (hs : List Seq → List Seq) (hhs : HashSetLike hs) (avoid : Nat → Bool) (lexStart : Nat → Nat)
    (win sfuel : Nat) (hw : Cert.InputOk E.G E.w) :
    ∃ v errs,
      (∃ ff0, ∀ ff fuel, ff0 ≤ ff → 2 * E.w.length + 2 ≤ fuel →
        recRunO E.G E.A E.w (cpctRecover E hs avoid lexStart win sfuel) ff fuel ⟨[E.A.start], 0⟩ [] =
          some (v, errs)) ∧
      (∀ ff fuel r, recRunO E.G E.A E.w (cpctRecover E hs avoid lexStart win sfuel) ff fuel
        ⟨[E.A.start], 0⟩ [] = some r → r = (v, errs)) ∧
      Spaced E.N errs ∧ (∀ e ∈ errs, e.pos ≤ E.w.length) ∧ errs.length * E.N ≤ E.w.length + E.N ∧
      AllButLastRepaired errs ∧
      (v = true ↔ ∀ e ∈ errs, e.repairs ≠ []) ∧
      (v = false → ∃ e, errs.getLast? = some e ∧ e.repairs = []) ∧
      (∀ fuel, ∀ c ∈ recCalls E.G E.A E.w (cpctRecover E hs avoid lexStart win sfuel) fuel ⟨[E.A.start], 0⟩,
        cpctOutcome E hs avoid lexStart win sfuel c ≠ .panicked) := by
  have hT := tableOK_of_cert hc hsa hcost hN
  obtain ⟨_, h1, h2, _⟩ := cpct_recoverer_ok E hc hsa hcost hN hs hhs avoid lexStart win sfuel hw
  obtain ⟨v, errs, ⟨ff0, ha⟩, hb, r1, r2, r3, r4, r5, r6⟩ :=
    recovering_parse_result E.G E.A hc M ht E.w hw E.N hN _ h1 h2
  have hnp := (cpct_recovering_parse_returns E hc M ht hsa hcost hN hs hhs avoid lexStart win sfuel hw).2
  refine ⟨v, errs, ⟨ff0, fun ff fuel hff hfuel => ?_⟩, fun ff fuel r hr => ?_, r1, r2, r3, r4, r5, r6,
    fun fuel c hc' => (hnp fuel c hc').2.2⟩
  · rw [recRunO_cpct_guard hT hhs ff fuel _ [] (Nat.zero_le _)]
    exact ha ff fuel hff hfuel
  · rw [recRunO_cpct_guard hT hhs ff fuel _ [] (Nat.zero_le _)] at hr
    exact hb ff fuel r hr

end Capstone

/-! ### tests: the hypotheses are satisfiable (non-vacuity)

`^ : S; S : 'a' 'b';` (tokens `a` = 0, `b` = 1, end of input = 2) with its LR(0) automaton and table,
and the recoverer `recoverBy` that tries four fixed candidate sequences and keeps those that repair. -/
private def exG : Grammar := ⟨3, 2, 2, 0, [(0, [.rule 1]), (1, [.tok 0, .tok 1])], [], []⟩
private def exA : Automaton :=
  ⟨0, [⟨[⟨0, 0, [2]⟩], [⟨0, 0, [2]⟩, ⟨1, 0, [2]⟩], [(.rule 1, 1), (.tok 0, 2)], [.shift 2, .error, .error], [none, some 1], [], [], [], false⟩,
       ⟨[⟨0, 1, [2]⟩], [⟨0, 1, [2]⟩], [], [.error, .error, .accept], [none, none], [], [], [], false⟩,
       ⟨[⟨1, 1, [2]⟩], [⟨1, 1, [2]⟩], [(.tok 1, 3)], [.error, .shift 3, .error], [none, none], [], [], [], false⟩,
       ⟨[⟨1, 2, [2]⟩], [⟨1, 2, [2]⟩], [], [.error, .error, .reduce 1], [none, none], [], [], [], true⟩], [], []⟩
private def exCands : Pos → List (List Repair) :=
  fun _ => [[.insert 1], [.delete], [.insert 0], [.delete, .delete]]

private theorem ex_check : Cert.check exG exA = true := by decide +kernel
private theorem ex_term : Term.termCheckAdj exG exA 8 = true := by decide +kernel

example : Cert.check exG exA = true := ex_check
example : Term.termCheckAdj exG exA 8 = true := ex_term

private theorem exCands_ok : ∀ c, ∀ r ∈ exCands c, InsertsOk exG r := by
  intro c r hr t ht
  simp only [exCands, List.mem_cons, List.not_mem_nil, or_false] at hr
  rcases hr with rfl | rfl | rfl | rfl <;> simp at ht <;> subst ht <;> decide

/-- test: for EVERY input of this grammar the hypotheses of `recovering_parse_returns` hold for the
recoverer `recoverBy … exCands` with `K = 3`, so its parse returns -/
example (w : List Nat) (hw : Cert.InputOk exG w) :
    ∃ ff0 r, ∀ ff fuel, ff0 ≤ ff → 2 * w.length + 2 ≤ fuel →
      recRunO exG exA w (recoverBy exG exA w 3 exCands) ff fuel ⟨[exA.start], 0⟩ [] = some r :=
  have hv := valid_recoverer_ok exG exA ex_check w hw 3 _
    (recoverBy_continues exG exA w 3 exCands exCands_ok)
  recovering_parse_returns exG exA ex_check 8 ex_term w hw 3 (by omega) _ hv.1 hv.2

/-- the positions and the number of repair sequences of each error, for comparison by `decide` -/
private def summary (r : Option (Bool × List Err)) : Option (Bool × List (Nat × Nat)) :=
  r.map (fun x => (x.1, x.2.map (fun e => (e.pos, e.repairs.length))))

/-- tests: `a` (the `b` is missing: one error at end of input, repaired by inserting `b`, a value);
`b a b` (a stray `b` first: deleted, a value); `b b` (no candidate repairs: one error without repairs,
no value); within the bound `2·|w| + 2`, and `none` with loop fuel 2 on the first (3 iterations are what it needs) -/
example : summary (recRunO exG exA [0] (recoverBy exG exA [0] 3 exCands) FUEL 4 ⟨[0], 0⟩ []) = some (true, [(1, 1)]) := by decide +kernel
example : summary (recRunO exG exA [0] (recoverBy exG exA [0] 3 exCands) FUEL 2 ⟨[0], 0⟩ []) = none := by decide +kernel
example : summary (recRunO exG exA [1, 0, 1] (recoverBy exG exA [1, 0, 1] 3 exCands) FUEL 8 ⟨[0], 0⟩ []) = some (true, [(0, 1)]) := by decide +kernel
example : summary (recRunO exG exA [1, 1] (recoverBy exG exA [1, 1] 3 exCands) FUEL 6 ⟨[0], 0⟩ []) = some (false, [(0, 0)]) := by decide +kernel


/-! ### tests for the capstone (`Lemmas/CpctEx.lean`: the certified merged LALR table of
`S: x A c | y A d | x B f | y B g; A: a; B: a e` with its `state_actions` view; input `x a d`) -/

section CapstoneTests
open Cpct RankImpl C05

private theorem ex3_term : Term.termCheckAdj exG2 exA3 20 = true := by decide +kernel

example : Cert.check exG2 exA3 = true := (wholeRunCert_unpack ex3_cert).1
example : Term.termCheckAdj exG2 exA3 20 = true := ex3_term
/-- the modelled recoverer satisfies the hypotheses of liveness on this instance, from the theorem -/
example : RecovererOK exG2 exA3 [0, 2, 4] 3 (cpctRecoverAt exE dedup (fun _ => false) (fun i => 3 * i + 1) 250 200) :=
  (cpct_recoverer_ok exE (wholeRunCert_unpack ex3_cert).1 ex3_sa ex3_cost (by decide) dedup hashSetLike_dedup
    (fun _ => false) (fun i => 3 * i + 1) 250 200 ex3_inputOk).2.1
/-- the parse returns (from the theorem), within `2·|w| + 2 = 8` iterations … -/
example : ∃ ff0 r, ∀ ff fuel, ff0 ≤ ff → 8 ≤ fuel →
    recRunO exG2 exA3 [0, 2, 4] exRec ff fuel ⟨[0], 0⟩ [] = some r :=
  (cpct_recovering_parse_returns exE (wholeRunCert_unpack ex3_cert).1 20 ex3_term ex3_sa ex3_cost (by decide) dedup
    hashSetLike_dedup (fun _ => false) (fun i => 3 * i + 1) 250 200 ex3_inputOk).1
/-- … and the one call of the recoverer during the run did not panic (from the theorem; by evaluation its
outcome is `repaired`) -/
example : ∀ c ∈ recCalls exG2 exA3 [0, 2, 4] exRec 10 ⟨[0], 0⟩,
    cpctOutcome exE dedup (fun _ => false) (fun i => 3 * i + 1) 250 200 c ≠ .panicked := fun c hc =>
  ((cpct_recovering_parse_returns exE (wholeRunCert_unpack ex3_cert).1 20 ex3_term ex3_sa ex3_cost (by decide) dedup
    hashSetLike_dedup (fun _ => false) (fun i => 3 * i + 1) 250 200 ex3_inputOk).2 10 c hc).2.2
example : (recCalls exG2 exA3 [0, 2, 4] exRec 10 ⟨[0], 0⟩).map
    (cpctOutcome exE dedup (fun _ => false) (fun i => 3 * i + 1) 250 200) = [.repaired] := by decide +kernel
/-- … and by evaluation: one error at `d`, repaired, a value; `none` with too few iterations -/
example : recRunO exG2 exA3 [0, 2, 4] exRec FUEL 8 ⟨[0], 0⟩ [] = some (true, [⟨2, [[.insert 3, .delete]]⟩]) := by
  decide +kernel
example : recRunO exG2 exA3 [0, 2, 4] exRec FUEL 3 ⟨[0], 0⟩ [] = none := by decide +kernel
/-- a search budget that is too small: the recoverer reports nothing, the parse still returns — without
a value, its last error unrepaired -/
example : recRunO exG2 exA3 [0, 2, 4] (cpctRecover exE dedup (fun _ => false) (fun i => 3 * i + 1) 250 3) FUEL 8
    ⟨[0], 0⟩ [] = some (false, [⟨2, []⟩]) := by decide +kernel

end CapstoneTests

end GrmVerif.C07
