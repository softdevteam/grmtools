import GrmVerif.Lemmas.LRError
import GrmVerif.Lemmas.Viable
import GrmVerif.Props.C01
/-!
# C04 — a syntax error is reported at the first lexeme that cannot continue a sentence

Model: `LR.parse` (recovery off). Certificates: `Cert.check` and its lookahead half `Cert.checkLA`
(a conflict-free, LR(1)-complete table) for "not premature", `Cert.check` and `Cert.checkVP` (closed states hold
closure items only, every rule productive) for "the prefix is viable"; all evaluated on the dumped automaton of every
generated grammar. `Sentence` is `C01.Sentence` (a valid derivation tree of the input from the start rule).
-/
namespace GrmVerif.C04
open GrmVerif Cert LR Ref C01

/-- **One error, no value.** With recovery off the outcome of a parse is either a value and no
error, or no value and exactly one error (position and state) — by construction of the driver —
and the error position is a lexeme index of the input or its end. -/
theorem one_error_no_value (G : Grammar) (A : Automaton) (hc : check G A = true) (w : List Nat)
    (hw : InputOk G w) (fuel i st : Nat) (h : parse G A w fuel = .error i st) : i ≤ w.length := by
  obtain ⟨c, hs, hd⟩ := steps_of_run fuel (init A) _ h nofun
  obtain ⟨_, _, _, rfl⟩ := step_error_inv hd
  exact (steps_inv (check_props G A hc) hw hs (inv_init w)).inRange

/-- **The error is not premature** (lexeme case): if the parser reports its error at lexeme `i`,
then the lexemes up to and including `i` are not a prefix of any sentence. -/
theorem error_not_premature (G : Grammar) (A : Automaton) (hc : check G A = true)
    (An : Analyses) (hAn : analyses G = some An)
    (hla : checkLA G A (An.nullable.contains ·) (An.first.contains ·) = true)
    (w : List Nat) (fuel i st : Nat) (hi : i < w.length)
    (h : parse G A w fuel = .error i st) :
    ¬ ∃ v, InputOk G (w.take (i + 1) ++ v) ∧ Sentence G (w.take (i + 1) ++ v) := by
  rintro ⟨v, hw', T, S, hv, hS, hr, hy⟩
  have hagree : ∀ k, k ≤ i → nextTok G w k = nextTok G (w.take (i + 1) ++ v) k := by
    intro k hk
    unfold nextTok
    have h1 : k < (w.take (i + 1)).length := by
      rw [List.length_take, Nat.min_eq_left (Nat.succ_le_of_lt hi)]; exact Nat.lt_succ_of_le hk
    rw [List.getElem?_append_left h1, List.getElem?_take_of_lt (Nat.lt_succ_of_le hk)]
  obtain ⟨c, hs, hd⟩ := steps_of_run fuel (init A) _ h nofun
  obtain ⟨_, _, _, rfl⟩ := step_error_inv hd
  obtain ⟨fuel1, herr⟩ := run_of_steps (hs.congr hagree) (step_congr (hagree _ (Nat.le_refl _)) ▸ hd)
  obtain ⟨fuel', T', hacc, _⟩ := lr_complete G A hc An hAn hla _ hw' T S hv hS hr hy
  cases run_deterministic herr nofun hacc nofun

/-- **The error is not premature** (end of input): an error reported at the end of the input means
the input is not a sentence. -/
theorem error_at_end_not_sentence (G : Grammar) (A : Automaton) (hc : check G A = true)
    (An : Analyses) (hAn : analyses G = some An)
    (hla : checkLA G A (An.nullable.contains ·) (An.first.contains ·) = true)
    (w : List Nat) (hw : InputOk G w) (fuel i st : Nat)
    (h : parse G A w fuel = .error i st) : ¬ Sentence G w := by
  rintro ⟨T, S, hv, hS, hr, hy⟩
  obtain ⟨fuel', T', hacc, _⟩ := lr_complete G A hc An hAn hla w hw T S hv hS hr hy
  cases run_deterministic h nofun hacc nofun

/-- **Everything before the error is a prefix of a sentence** (viable-prefix half). On an automaton
that passes `check` and `checkVP` (closed states hold only items of the closure of their core; every
rule of the grammar is productive — the hypothesis of the property), an error reported at position `i`
means that the `i` lexemes consumed so far can be completed to a sentence. No lookahead condition
is needed: the LR driver never SHIFTS a lexeme that leaves the viable prefixes. -/
theorem error_prefix_is_viable (G : Grammar) (A : Automaton) (hc : check G A = true)
    (hvp : checkVP G A = true) (w : List Nat) (hw : InputOk G w) (fuel i st : Nat)
    (h : parse G A w fuel = .error i st) :
    ∃ v, InputOk G (w.take i ++ v) ∧ Sentence G (w.take i ++ v) := by
  have P := check_props G A hc
  have PV := checkVP_props G A hvp
  obtain ⟨S, hS⟩ := P.startShape
  obtain ⟨c, hs, hd⟩ := steps_of_run fuel (init A) _ h nofun
  obtain ⟨rest, hps, _, rfl⟩ := step_error_inv hd
  obtain ⟨hpath, htrees, hyield, _⟩ := steps_inv P hw hs (inv_init w)
  rw [hps] at hpath
  obtain ⟨p, d, hitem⟩ := path_top_item P hpath
  have hp : p < G.nprods := by
    obtain ⟨it, him, hip, _⟩ := hitem
    exact hip ▸ (P.itemOk st (hpath.states_lt P st (by simp)) it (List.mem_append_left _ him)).1
  obtain ⟨v, hv, hctx⟩ := viable P PV S hS hpath st rest rfl p d hitem
  obtain ⟨us, huv, hum, huok⟩ := tail_trees P PV hp d
  obtain ⟨T, hT, hr, hy⟩ := hctx c.astack us htrees rfl huv hum
  refine ⟨Tree.yieldList us ++ v, ?_, T, S, hT, hS, hr, by rw [hy, hyield, List.append_assoc]⟩
  intro t ht
  rcases List.mem_append.mp ht with ht | ht
  · exact hw t (List.mem_of_mem_take ht)
  · rcases List.mem_append.mp ht with ht | ht
    · exact huok t ht
    · exact hv t ht

/-- **The error position is characterised by the language alone**: under all three certificate
parts it is the unique `i` such that the first `i` lexemes are a prefix of a sentence and the first
`i + 1` are not (or the input ends there). Hence any two certified automata of a grammar report
their error at the same lexeme (used by C02). -/
theorem error_position_unique (G : Grammar) (A B : Automaton)
    (hcA : check G A = true) (hcB : check G B = true) (hvB : checkVP G B = true)
    (An : Analyses) (hAn : analyses G = some An)
    (hlaA : checkLA G A (An.nullable.contains ·) (An.first.contains ·) = true)
    (w : List Nat) (hw : InputOk G w) (f1 f2 i j s1 s2 : Nat)
    (h1 : parse G A w f1 = .error i s1) (h2 : parse G B w f2 = .error j s2) : j ≤ i := by
  -- if A's error came first (i < j) then B's viable prefix w[0..j) contains w[0..i], contradicting A
  by_cases hij : j ≤ i
  · exact hij
  · exfalso
    have hjle : j ≤ w.length := one_error_no_value G B hcB w hw f2 j s2 h2
    obtain ⟨v, hok, hsent⟩ := error_prefix_is_viable G B hcB hvB w hw f2 j s2 h2
    have hi : i < w.length := Nat.lt_of_lt_of_le (Nat.lt_of_not_le hij) hjle
    have hsplit : w.take (i + 1) ++ ((w.take j).drop (i + 1) ++ v) = w.take j ++ v := by
      have ht : (w.take j).take (i + 1) = w.take (i + 1) := by
        rw [List.take_take, Nat.min_eq_left (Nat.succ_le_of_lt (Nat.lt_of_not_le hij))]
      rw [← List.append_assoc, ← ht, List.take_append_drop]
    exact error_not_premature G A hcA An hAn hlaA w f1 i s1 hi h1
      ⟨(w.take j).drop (i + 1) ++ v, hsplit ▸ hok, hsplit ▸ hsent⟩

end GrmVerif.C04
