import GrmVerif.Lemmas.LRSound
import GrmVerif.Lemmas.LRTreeLemma
import GrmVerif.Lemmas.TermAdj
/-!
# C01 — a generated parser recognises exactly the grammar's language

`Cert.check G A` is the validator evaluated on the automaton and table the real code built
(`Model/Cert.lean`); `LR.parse` is the model of `Parser::lr` (`Model/LR.lean`), compared with the
real parser on every generated input. The theorems hold for EVERY input `w`, every fuel; `Cert.InputOk G w`
(`Lemmas/LRSound.lean`: every token of `w` is a token of the grammar other than end-of-input, which is what a lexer
hands over) is their one assumption about the input.
-/
namespace GrmVerif.C01
open GrmVerif Cert LR Spec Ref

theorem run_inv {G : Grammar} {A : Automaton} (P : Props G A) {w : List Nat} (hw : InputOk G w) :
    ∀ (fuel : Nat) (c : Cfg), Inv G A w c →
      (∀ n, run G A w fuel c ≠ .crash n) ∧
      (∀ t, run G A w fuel c = .accept t →
        Tree.valid G t = true ∧ (∃ S, G.rhs G.startProd = [.rule S] ∧ Tree.root G t = .rule S) ∧
          Tree.yield t = w) := by
  intro fuel c hinv
  refine ⟨fun n h => ?_, fun t h => ?_⟩
  · obtain ⟨c', hs, hd⟩ := steps_of_run fuel c _ h nofun
    exact (step_inv P hw (steps_inv P hw hs hinv)).2.1 n hd
  · obtain ⟨c', hs, hd⟩ := steps_of_run fuel c _ h nofun
    exact (step_inv P hw (steps_inv P hw hs hinv)).2.2 t hd

/-- **Soundness.** On a certified automaton, whatever the parser accepts is a valid derivation of
exactly the input from the user's start rule: every node's children spell one production of its
rule (`Tree.valid`), the root is the start rule `S` of `^ : S`, and the leaves are the input
lexemes in order. -/
theorem lr_sound (G : Grammar) (A : Automaton) (hc : check G A = true) (w : List Nat) (hw : InputOk G w)
    (fuel : Nat) (t : Tree) (h : parse G A w fuel = .accept t) :
    Tree.valid G t = true ∧ (∃ S, G.rhs G.startProd = [.rule S] ∧ Tree.root G t = .rule S) ∧
      Tree.yield t = w :=
  (run_inv (check_props G A hc) hw fuel (init A) (inv_init w)).2 t h

/-- **No crash.** On a certified automaton the driver never hits a stack underflow, a missing goto
or a malformed accept, for any input. -/
theorem lr_no_crash (G : Grammar) (A : Automaton) (hc : check G A = true) (w : List Nat) (hw : InputOk G w)
    (fuel : Nat) (n : Nat) : parse G A w fuel ≠ .crash n :=
  (run_inv (check_props G A hc) hw fuel (init A) (inv_init w)).1 n

/-- `w` is a sentence: some valid tree rooted at the user's start rule has yield `w` -/
def Sentence (G : Grammar) (w : List Nat) : Prop :=
  ∃ T S, Tree.valid G T = true ∧ G.rhs G.startProd = [.rule S] ∧ Tree.root G T = .rule S ∧ Tree.yield T = w

/-- **Completeness.** On an automaton that passes the certificate and its lookahead half `checkLA`
(LR(1) closure/edge lookaheads, and a table that holds every candidate action — which is what
"construction reports no conflicts" means for a table without precedence-resolved cells), every
sentence is accepted, and the tree returned is the sentence's own derivation tree (same shape:
the grammar is unambiguous). `N`, `F` are the verified nullable/FIRST sets of C17. -/
theorem lr_complete (G : Grammar) (A : Automaton) (hc : check G A = true)
    (An : Analyses) (hAn : analyses G = some An)
    (hla : checkLA G A (An.nullable.contains ·) (An.first.contains ·) = true)
    (w : List Nat) (hw : InputOk G w) (T : Tree) (S : Nat)
    (hv : Tree.valid G T = true) (hS : G.rhs G.startProd = [.rule S]) (hroot : Tree.root G T = .rule S)
    (hy : Tree.yield T = w) :
    ∃ fuel T', parse G A w fuel = .accept T' ∧ shape T' = shape T := by
  have P := check_props G A hc
  have PL := checkLA_props G A _ _ hla
  obtain ⟨hN, hF⟩ := analyses_contains P.wf hAn
  -- the start item with end-of-input in its lookahead
  obtain ⟨k, hk, hkp, hkd⟩ := P.startHas
  obtain ⟨i, hi, hip, hid, hila⟩ := PL.coreLA A.start P.startLt k hk
  rw [hkp] at hip
  rw [hkd] at hid
  have heof : G.eof ∈ i.la := hila _ (PL.startLA k hk)
  have hsym : symAt G i.p i.dot = some (Tree.root G T) := by
    rw [hip, hid, hroot]; simp [symAt, hS]
  have hdrop : w.drop (init A).laidx = Tree.yield T ++ [] := by simp [init, hy]
  have hnext : nextTok G w ((init A).laidx + (Tree.yield T).length) = G.eof := by
    rw [hy]; exact (nextTok_eof hw _).mpr (by simp [init])
  have hcompat : firstSeqL (fun x => An.nullable.contains x) (fun x => An.first.contains x)
      ((G.rhs i.p).drop (i.dot + 1)) i.la (nextTok G w ((init A).laidx + (Tree.yield T).length)) = true := by
    rw [hnext, hip, hid, hS]
    exact firstSeqL_eq_true.mpr (Or.inr ⟨rfl, heof⟩)
  obtain ⟨s', T', he, hshape, hsteps⟩ :=
    (tree_trees_run P PL hN hF hw).1 T hv (init A) A.start [] i [] rfl P.startLt hi hsym hdrop hcompat
  obtain ⟨hs', j, hj, hjp, hjd, hjla⟩ := advance P PL P.startLt hi hsym he
  -- in the reached state `[^ → S .]` with end-of-input: accept
  have hcomplete : symAt G j.p j.dot = none := by
    rw [hjp, hip, hjd, hid]; simp [symAt, hS]
  have hacc := PL.actAcceptC s' hs' j hj hcomplete (hjp.trans hip) G.eof (hjla _ heof)
  have hT' : ∃ p kids, T' = .node p kids := by
    cases T with
    | leaf t i => simp [Tree.root] at hroot
    | node p kids =>
      cases T' with
      | leaf t i => simp [shape] at hshape
      | node p' kids' => exact ⟨p', kids', rfl⟩
  obtain ⟨p', kids', rfl⟩ := hT'
  have hdone : step G A w ⟨[s', A.start], [.node p' kids'], (init A).laidx + (Tree.yield T).length⟩ =
      .done (.accept (.node p' kids')) := by
    simp only [step, hnext, hacc, List.getLast?_singleton]
  obtain ⟨fuel, hfuel⟩ := run_of_steps (by simpa [init] using hsteps) hdone
  exact ⟨fuel, _, hfuel, hshape⟩

/-- **The parser recognises exactly the language** (certified, conflict-free table): an input is
accepted (for some fuel) iff it is a sentence. In particular every non-sentence is rejected. -/
theorem lr_accepts_iff_sentence (G : Grammar) (A : Automaton) (hc : check G A = true)
    (An : Analyses) (hAn : analyses G = some An)
    (hla : checkLA G A (An.nullable.contains ·) (An.first.contains ·) = true)
    (w : List Nat) (hw : InputOk G w) :
    (∃ fuel t, parse G A w fuel = .accept t) ↔ Sentence G w := by
  constructor
  · rintro ⟨fuel, t, h⟩
    obtain ⟨h1, ⟨S, hS, hr⟩, h3⟩ := lr_sound G A hc w hw fuel t h
    exact ⟨t, S, h1, hS, hr, h3⟩
  · rintro ⟨T, S, hv, hS, hr, hy⟩
    obtain ⟨fuel, T', h, _⟩ := lr_complete G A hc An hAn hla w hw T S hv hS hr hy
    exact ⟨fuel, T', h⟩

/-- **Termination.** On an automaton that passes `check` and the termination certificate
`Term.termCheckAdj` (the run of reductions under one lookahead started from the stack `[start]`, and
from every two stacked states `[s, b]` where `b` has an edge to `s`, ends within `N` steps —
evaluated on every dumped automaton), the driver ends on EVERY input: some amount of fuel gives an
answer. Only these pairs are asked for because parse stacks are paths of the automaton from the start
state (`Term.stepClosed_isPath`: a reduction's goto target is an edge target). The
certificate over ALL pairs of states implies this one (`Term.termCheckAdj_of_termCheck`). -/
theorem lr_terminates (G : Grammar) (A : Automaton) (hc : check G A = true) (N : Nat)
    (ht : Term.termCheckAdj G A N = true) (w : List Nat) (hw : InputOk G w) :
    ∃ fuel, parse G A w fuel ≠ .fuelOut :=
  Term.run_total_adj (check_props G A hc) ht hw (init A) (inv_init w)

/-- **Every non-sentence is rejected with an error** (second half of the property's last sentence;
needs termination): on an automaton that passes all of `check`, `checkLA` and `termCheckAdj`, an
input that is not a sentence makes the driver report an error. -/
theorem lr_rejects_non_sentence (G : Grammar) (A : Automaton) (hc : check G A = true) (N : Nat)
    (ht : Term.termCheckAdj G A N = true) (w : List Nat) (hw : InputOk G w) (hns : ¬ Sentence G w) :
    ∃ fuel i st, parse G A w fuel = .error i st := by
  obtain ⟨fuel, hf⟩ := lr_terminates G A hc N ht w hw
  cases ho : parse G A w fuel with
  | accept t =>
    obtain ⟨h1, ⟨S, hS, hr⟩, h3⟩ := lr_sound G A hc w hw fuel t ho
    exact absurd ⟨t, S, h1, hS, hr, h3⟩ hns
  | error i st => exact ⟨fuel, i, st, ho⟩
  | crash n => exact absurd ho (lr_no_crash G A hc w hw fuel n)
  | fuelOut => exact absurd ho hf

/-- **The parser decides the language**: with all three certificates, for every input exactly one of
"accepted with some fuel" and "rejected with an error with some fuel" holds, according to whether
the input is a sentence. -/
theorem lr_decides (G : Grammar) (A : Automaton) (hc : check G A = true)
    (An : Analyses) (hAn : analyses G = some An)
    (hla : checkLA G A (An.nullable.contains ·) (An.first.contains ·) = true)
    (N : Nat) (ht : Term.termCheckAdj G A N = true) (w : List Nat) (hw : InputOk G w) :
    (Sentence G w ∧ ∃ fuel t, parse G A w fuel = .accept t) ∨
    (¬ Sentence G w ∧ ∃ fuel i st, parse G A w fuel = .error i st) := by
  by_cases hs : Sentence G w
  · exact Or.inl ⟨hs, (lr_accepts_iff_sentence G A hc An hAn hla w hw).mpr hs⟩
  · exact Or.inr ⟨hs, lr_rejects_non_sentence G A hc N ht w hw hs⟩

/-! ### What a failing termination certificate means

The driver reports a pair `[s, b]` that fails `termCheckAdj` as a defect only together with a witness
from `Term.findCycle`: the local run from `[s, b]` under `la` reaches a local stack `ts ++ bs` such that
the run from the top part `ts` alone leads, without popping below `ts`, to `ts ++ vs` — the same top part
again (`vs = []`: back at the same stack; `vs ≠ []`: the stack grows for ever, as with hidden left
recursion). Informally (not proved here) every local run that goes on for ever has such a witness with
`ts` of one or two states: either the stack height tends to infinity — then the top states at the last
visits of two heights coincide — or some lowest height is visited infinitely often and the top state
there repeats over an unchanged rest. -/

/-- **A cycling pair loops the parser** whenever the parser gets there: if the parser, on input `w`,
reaches a configuration whose stack has `s` on top of `b` with next token `la`, and `findCycle` reports a
cycle of the local run from `[s, b]` under `la`, then the parse of `w` never ends — no amount of fuel
gives an answer. No certificate is assumed of the automaton. -/
theorem cert_cycle_parse_diverges (G : Grammar) (A : Automaton) (la s b W steps pre0 : Nat) (c : Nat × Nat × Nat)
    (hcyc : Term.findCycle G A la W steps pre0 [s, b] = some c)
    (w : List Nat) (rest : List Nat) (astack : List Tree) (i : Nat)
    (hreach : Steps G A w (init A) ⟨s :: b :: rest, astack, i⟩) (hla : nextTok G w i = la) :
    ∀ fuel, parse G A w fuel = .fuelOut := by
  have hf : ∀ fuel, Rec.feed G A (nextTok G w i) fuel (s :: b :: rest) = .fuelOut := by
    rw [hla]; exact Term.findCycle_diverges hcyc rest
  exact steps_diverge hreach (fun fuel => Rec.feed_fuelOut_run i fuel _ _ (hf fuel))

/-- **A cycle from the start state is an input on which the parser loops**: the one-lexeme input
`[la]` (the empty input when `la` is end-of-input). -/
theorem cert_cycle_at_start_parse_diverges (G : Grammar) (A : Automaton) (la W steps pre0 : Nat) (c : Nat × Nat × Nat)
    (hcyc : Term.findCycle G A la W steps pre0 [A.start] = some c) :
    ∀ fuel, parse G A (if la = G.eof then [] else [la]) fuel = .fuelOut := by
  intro fuel
  have hla : nextTok G (if la = G.eof then [] else [la]) 0 = la := by
    by_cases h : la = G.eof <;> simp [nextTok, h]
  have hf := Term.findCycle_diverges hcyc [] fuel
  rw [← hla] at hf
  exact Rec.feed_fuelOut_run 0 fuel _ _ hf

/-- **A cycling adjacent pair over a reachable state is a stack on which the driver's reduction loop
never ends** (`_partial`: a stack, not an input). If `b` is reachable from the start state
(`Term.reachable`), has an edge to `s`, and `findCycle` reports a cycle of the local run from `[s, b]`
under `la`, then there is a stack `s :: b :: rest` that is a path of the automaton from the start state
on which `feed` under `la` returns no answer for any fuel.
Missing for the full converse ("there is an INPUT on which `parse` loops"): an input whose parse
reaches that very stack with next token `la` (then `cert_cycle_parse_diverges` applies). That needs
every symbol on the path to derive a token string AND the reductions on the way to be taken under the
lookaheads that string supplies AND `la` to be a possible next token there; for a table with merged
states (Pager/LALR) `action s la` can be a reduction although no viable prefix puts `la` after that
path, and neither `check` nor `checkLA` says otherwise. -/
theorem cert_cycle_feed_diverges_partial (G : Grammar) (A : Automaton) (la s b W steps pre0 : Nat) (c : Nat × Nat × Nat)
    (hb : b ∈ Term.reachable A) (hadj : Term.adj A b s = true)
    (hcyc : Term.findCycle G A la W steps pre0 [s, b] = some c) :
    ∃ rest, Term.IsPath A (s :: b :: rest) ∧ ∀ fuel, Rec.feed G A la fuel (s :: b :: rest) = .fuelOut := by
  obtain ⟨rest, hp⟩ := Term.reachable_sound hb
  obtain ⟨X, hX⟩ := (Term.adj_iff A b s).mp hadj
  exact ⟨rest, hp.push hX, Term.findCycle_diverges hcyc rest⟩

/-- the same with the certificate's own fuel instead of a cycle witness: a pair that fails
`termCheckAdj` at `N` keeps the reduction loop busy for at least `N` steps on every stack that ends in
that pair (exact, but says nothing beyond `N`). -/
theorem cert_failure_feed_busy (G : Grammar) (A : Automaton) (la N : Nat) (xs ys : List Nat)
    (h : Term.localRun G A la N xs = .fuelOut) : Rec.feed G A la N (xs ++ ys) = .fuelOut := by
  obtain ⟨ps, b, hr, hl⟩ := Rec.feed_eq_fuelOut.mp ((Term.localRun_eq_fuelOut N xs).mp h)
  exact Rec.feed_eq_fuelOut.mpr ⟨ps, _, hr.append ys, hl⟩

/-! test: the hypotheses of the three `cert_cycle…` theorems are satisfiable — `^ : A; A : A | 'a';`
with the (wrong) table that reduces `A : A` in the state after `A` -/
private def exG : Grammar := ⟨2, 2, 1, 0, [(0, [.rule 1]), (1, [.rule 1]), (1, [.tok 0])], [], []⟩
private def exA : Automaton :=
  ⟨0, [⟨[], [], [(.rule 1, 1), (.tok 0, 2)], [.shift 2, .error], [none, some 1], [], [], [], false⟩,
       ⟨[], [], [], [.error, .reduce 1], [none, none], [], [], [], false⟩,
       ⟨[], [], [], [.reduce 2, .reduce 2], [none, none], [], [], [], false⟩], [], []⟩
example : Term.findCycle exG exA 1 8 4 0 [1, 0] = some (0, 2, 1) := by decide +kernel
example : Term.adj exA 0 1 = true ∧ 0 ∈ Term.reachable exA := by decide +kernel
example : Term.termCheckAdj exG exA 50 = false := by decide +kernel
example : Term.failAdj exG exA 50 = some (1, 1, some 0) := by decide +kernel

end GrmVerif.C01
